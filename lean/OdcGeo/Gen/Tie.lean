/-
Tactics shared by the tie theorems (`OdcGeo/Props/GenCxx.lean`): each theorem states that a definition
regenerated from the Python source (`OdcGeo/Gen/Cxx.lean`) equals the hand model for all inputs.  The
generated text changes with every harmless rewrite of the source, so the proofs are a *portfolio*: unfold
both sides, split every `if` / `match`, then close each leaf with whichever of `rfl`, `omega`,
`simp_all`, `grind` (with the floor-division facts) works.  Not imported by any driver.
-/
import OdcGeo.Gen.PyPrelude
import Mathlib.Tactic.Linarith
import Mathlib.Tactic.Ring
import Mathlib.Tactic.FieldSimp
import Mathlib.Tactic.NormNum
import Mathlib.Algebra.Order.Field.Rat

namespace OdcGeo.Gen

/-- closes one leaf goal of a tie proof.  `contradiction` compares every pair of hypotheses up to unfolding, which
is slow on order facts over `Rat` when it fails: the reducible form goes first, the full one after `simp_all`.
Python's `//` and `%` are `Int.fdiv` / `Int.fmod` in the generated text and `/` / `%` in the models, which agree
for a positive divisor (`Py.fdiv_pos`, `Py.fmod_pos`): a hypothesis or `omega` supplies the sign.
A leaf that equates two `Bool` results (`decide (p ∨ q)` against `a == 0 && …`) is compared as propositions. -/
syntax "tie_fin" : tactic
macro_rules
  | `(tactic| tie_fin) => `(tactic| first
      | with_reducible rfl
      | with_reducible contradiction
      | omega
      | (simp (disch := first | assumption | omega) only [Py.fdiv_pos, Py.fmod_pos]; done)
      | (simp_all; done)
      | (rw [Bool.eq_iff_iff]; simp_all; done)
      | contradiction
      | (simp_all <;> omega)
      | (exfalso; norm_num at *; linarith)
      | grind [Int.fdiv_eq_ediv, Int.fmod_eq_emod, Int.emod_def]
      | (simp_all [Int.fdiv_eq_ediv, Int.fmod_eq_emod, Int.emod_def] <;> grind)
      | (simp_all <;> (first | ring1 | linarith | (constructor <;> first | ring1 | linarith | omega)))
      | (norm_num at * <;> (first | linarith | ring1 | grind)))

/-- `tie_auto [defs, lemmas]`: unfold, sequence the error monad, split all branches, close the leaves.
The generated text tests the same condition again and again (a flag `needs_flip := decide (s < 0)` re-read in every
branch, `assert s > 0` followed by the guard `s = 0` of `1 / s`, a `match` on a call that the model matches too), and
a condition is only recognised as one already decided when it is spelt the same.  So the unfolding also brings both
sides to one spelling (`decide p = true` is `p`, `¬(true = true)` is `False`; of the literals, `-1 / 2` is `-(1 / 2)`
and `x * (1 / 2)`, the translation of `x * 0.5`, is `x / 2`), and after every case distinction the goal is rewritten
with the new hypothesis: the repeated tests disappear instead of doubling the number of leaves, most of which would
be contradictory.
A translated function body is a decision tree, so the left side usually has its `if` at the head: that one is taken
apart by `ite_eq_iff'`, which looks at nothing else.  `split` is the fallback (a `match`, an `if` inside a result or
on the model's side): it searches the whole goal and compares every condition in it with the new hypothesis up to
unfolding, many times the price on a long body over `Rat`. -/
syntax "tie_auto" "[" Lean.Parser.Tactic.simpLemma,* "]" : tactic
macro_rules
  | `(tactic| tie_auto [$ls,*]) => `(tactic|
      ((try simp only [gen_helpers, $ls,*, bind, Except.bind, pure, Except.pure,
          decide_eq_true_eq, not_true_eq_false, not_false_eq_true, neg_div, mul_one_div])
       (repeat' (first
          | (with_reducible refine ite_eq_iff'.2 ⟨fun _ => ?_, fun _ => ?_⟩ <;>
              try simp only [*, ↓reduceIte, not_true_eq_false, not_false_eq_true])
          | (split <;> try simp only [*, ↓reduceIte, not_true_eq_false, not_false_eq_true])))
       (all_goals tie_fin)))

end OdcGeo.Gen
