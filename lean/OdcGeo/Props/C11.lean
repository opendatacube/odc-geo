/-
C11 — the output grid computed for another CRS encloses the source.

`computeOutput` is the model of `compute_output_geobox` for a `GeoBox`
source (Model/C11.lean); everything pyproj computes (`Captured`: footprint bbox in the destination
CRS, CRS / unit equality, source resolution, centre-pixel fit) is universally quantified.
-/
import OdcGeo.Model.C11
import OdcGeo.Lemmas.C11
import OdcGeo.Lemmas.Affine

namespace OdcGeo.C11
open OdcGeo

/-- world extent of an output grid on each axis -/
def Grid.xLo (g : Grid) : Rat := gridLo g.A.c g.A.a g.nx
def Grid.xHi (g : Grid) : Rat := gridHi g.A.c g.A.a g.nx
def Grid.yLo (g : Grid) : Rat := gridLo g.A.f g.A.e g.ny
def Grid.yHi (g : Grid) : Rat := gridHi g.A.f g.A.e g.ny

theorem fromBboxRes_ok (b : BBox) (rx ry : Rat) (snap : Option (Rat × Rat)) (tol : Rat) (g : Grid)
    (h : fromBboxRes b rx ry snap tol = .ok g) :
    ∃ offx nx offy ny, snapGrid b.left b.right rx (snap.map (·.1)) tol = .ok (offx, nx) ∧
      snapGrid b.bottom b.top ry (snap.map (·.2)) tol = .ok (offy, ny) ∧
      g = ⟨ny, nx, Aff.translation offx offy * Aff.scale rx ry⟩ := by
  obtain ⟨⟨offx, nx⟩, hp, h⟩ := bind_ok_iff.1 h
  obtain ⟨⟨offy, ny⟩, hq, h⟩ := bind_ok_iff.1 h
  cases h
  exact ⟨offx, nx, offy, ny, hp, hq, rfl⟩

theorem fromBbox_none_some (b : BBox) (rx ry : Rat) (anchor : Anchor) (tight : Bool) (tol : Rat) :
    fromBbox b .none (some (rx, ry)) anchor tight tol = fromBboxRes b rx ry (snapOf anchor tight) tol := rfl

theorem out_grid_form (c : Captured) (mode : ResMode) (tight : Bool) (anchor : Anchor) (tol : Rat)
    (rnd : Rounding) (g : Grid) (h : computeOutput c mode .none tight anchor tol rnd = .ok (.grid g)) :
    ∃ rx ry offx nx offy ny, chooseRes c mode .none rnd = .ok (some (rx, ry)) ∧
      snapGrid c.bbox.left c.bbox.right rx ((snapOf anchor tight).map (·.1)) tol = .ok (offx, nx) ∧
      snapGrid c.bbox.bottom c.bbox.top ry ((snapOf anchor tight).map (·.2)) tol = .ok (offy, ny) ∧
      g = ⟨ny, nx, ⟨rx, 0, offx, 0, ry, offy⟩⟩ := by
  obtain ⟨res, hres, hf⟩ := computeOutput_grid h
  cases res with
  | none => cases hf
  | some r =>
    rw [fromBbox_none_some] at hf
    obtain ⟨offx, nx, offy, ny, hx, hy, hg⟩ := fromBboxRes_ok _ _ _ _ _ _ hf
    exact ⟨r.1, r.2, offx, nx, offy, ny, hres, hx, hy, by rw [hg, Aff.translation_mul_scale]⟩

/-- Asking for the source's own CRS with default options
(`resolution` auto or same, no shape, anchor "default"; any `tight`/`tol`/rounding) returns the
source GeoBox itself. -/
theorem out_same_crs_identity (c : Captured) (mode : ResMode) (tight : Bool) (tol : Rat) (rnd : Rounding)
    (hc : c.sameCrs = true) (hm : mode = .auto ∨ mode = .same) :
    computeOutput c mode .none tight .dflt tol rnd = .ok .source := by
  unfold computeOutput
  simp [hc, hm]

/-- Every grid computed for a resolution-driven request is axis-aligned
(pure scale + translation) with exactly the chosen pixel size. -/
theorem out_axis_aligned (c : Captured) (mode : ResMode) (tight : Bool) (anchor : Anchor) (tol : Rat)
    (rnd : Rounding) (g : Grid) (h : computeOutput c mode .none tight anchor tol rnd = .ok (.grid g)) :
    g.A.b = 0 ∧ g.A.d = 0 ∧ ∃ rx ry, chooseRes c mode .none rnd = .ok (some (rx, ry)) ∧ g.A.a = rx ∧ g.A.e = ry := by
  obtain ⟨rx, ry, _, _, _, _, hres, _, _, rfl⟩ := out_grid_form c mode tight anchor tol rnd g h
  exact ⟨rfl, rfl, rx, ry, hres, rfl, rfl⟩

/-- The output grid contains the bounding box of the projected
(buffered, densified) footprint up to `tol` of an output pixel on every side, and has at least one
pixel on each axis; for every mode, anchor, `tight`, sign of the pixel size. -/
theorem out_contains_bbox_up_to_tol (c : Captured) (mode : ResMode) (tight : Bool) (anchor : Anchor) (tol : Rat)
    (rnd : Rounding) (g : Grid) (ht : 0 ≤ tol) (hbx : c.bbox.left ≤ c.bbox.right) (hby : c.bbox.bottom ≤ c.bbox.top)
    (h : computeOutput c mode .none tight anchor tol rnd = .ok (.grid g)) :
    g.xLo ≤ c.bbox.left + tol * rabs g.A.a ∧ c.bbox.right - tol * rabs g.A.a ≤ g.xHi ∧
    g.yLo ≤ c.bbox.bottom + tol * rabs g.A.e ∧ c.bbox.top - tol * rabs g.A.e ≤ g.yHi ∧
    1 ≤ g.nx ∧ 1 ≤ g.ny := by
  obtain ⟨rx, ry, offx, nx, offy, ny, _, hx, hy, rfl⟩ := out_grid_form c mode tight anchor tol rnd g h
  obtain ⟨x1, x2, x3, _⟩ := snapGrid_spec _ _ _ _ _ _ _ ht hbx hx
  obtain ⟨y1, y2, y3, _⟩ := snapGrid_spec _ _ _ _ _ _ _ ht hby hy
  exact ⟨x1, x2, y1, y2, x3, y3⟩

/-- Unless `tight` / floating, the lower pixel edges of the output are
`(k + o)·|pixel size|` for integers `k`, where `o` is the requested anchor fraction per axis:
`0` for the default / edge anchor (edges are multiples of the pixel size from the CRS origin),
`½` for centre, the given fractions for an explicit anchor. -/
theorem out_alignment (c : Captured) (mode : ResMode) (anchor : Anchor) (tol : Rat)
    (rnd : Rounding) (g : Grid) (ox oy : Rat) (ht : 0 ≤ tol) (hbx : c.bbox.left ≤ c.bbox.right)
    (hby : c.bbox.bottom ≤ c.bbox.top) (hs : snapOf anchor false = some (ox, oy))
    (h : computeOutput c mode .none false anchor tol rnd = .ok (.grid g)) :
    (∃ k : Int, g.xLo = ((k : Rat) + ox) * rabs g.A.a) ∧ (∃ k : Int, g.yLo = ((k : Rat) + oy) * rabs g.A.e) := by
  obtain ⟨rx, ry, offx, nx, offy, ny, _, hx, hy, rfl⟩ := out_grid_form c mode false anchor tol rnd g h
  rw [hs] at hx hy
  obtain ⟨_, _, _, x4⟩ := snapGrid_spec _ _ _ _ _ _ _ ht hbx hx
  obtain ⟨_, _, _, y4⟩ := snapGrid_spec _ _ _ _ _ _ _ ht hby hy
  exact ⟨x4 ox rfl, y4 oy rfl⟩

theorem snapOf_default : snapOf .dflt false = some (0, 0) := rfl
theorem snapOf_center : snapOf .center false = some (1 / 2, 1 / 2) := rfl

theorem computeOutput_ne_source (c : Captured) (mode : ResMode) (shape : ShapeReq) (tight : Bool)
    (anchor : Anchor) (tol : Rat) (rnd : Rounding)
    (hslow : ¬ (c.sameCrs ∧ (mode = .auto ∨ mode = .same) ∧ shape = .none ∧ anchor = .dflt)) :
    computeOutput c mode shape tight anchor tol rnd ≠ .ok .source := by
  unfold computeOutput
  rw [if_neg hslow]
  split
  · simp
  · cases fromBbox c.bbox shape _ anchor tight tol <;> simp [Except.map]

/-- The identity fast path is taken **only** for the literal default
anchor: with any explicitly given anchor (edge, centre, floating, fractions — whatever they normalise to)
the source object is never returned, the grid is always recomputed. -/
theorem explicit_anchor_never_source (c : Captured) (mode : ResMode) (shape : ShapeReq) (tight : Bool)
    (anchor : Anchor) (tol : Rat) (rnd : Rounding) (ha : anchor ≠ .dflt) :
    computeOutput c mode shape tight anchor tol rnd ≠ .ok .source :=
  computeOutput_ne_source c mode shape tight anchor tol rnd fun h => ha h.2.2.2

/-- An explicitly requested snapping anchor is honoured also in the own-CRS /
auto-resolution / no-shape corner (where the default anchor would return the source unchanged): whenever
the call succeeds the result is a recomputed grid whose lower pixel edges are `(k + o)·|pixel|` for the
requested fractions `o`, even if the source was registered differently. -/
theorem out_alignment_explicit (c : Captured) (mode : ResMode) (anchor : Anchor) (tol : Rat)
    (rnd : Rounding) (o : Out) (ox oy : Rat) (ha : anchor ≠ .dflt) (ht : 0 ≤ tol)
    (hbx : c.bbox.left ≤ c.bbox.right) (hby : c.bbox.bottom ≤ c.bbox.top)
    (hs : snapOf anchor false = some (ox, oy))
    (h : computeOutput c mode .none false anchor tol rnd = .ok o) :
    ∃ g, o = .grid g ∧
      (∃ k : Int, g.xLo = ((k : Rat) + ox) * rabs g.A.a) ∧ (∃ k : Int, g.yLo = ((k : Rat) + oy) * rabs g.A.e) := by
  cases o with
  | source => exact absurd h (explicit_anchor_never_source c mode .none false anchor tol rnd ha)
  | grid g => exact ⟨g, rfl, out_alignment c mode anchor tol rnd g ox oy ht hbx hby hs h⟩

/-- With `resolution="auto"` and equal CRS units the output pixel
size is the source resolution (sign included); same for `resolution="same"` whatever the units. -/
theorem out_same_units_resolution (c : Captured) (mode : ResMode) (tight : Bool) (anchor : Anchor) (tol : Rat)
    (rnd : Rounding) (g : Grid) (hm : (mode = .auto ∧ c.sameUnits = true) ∨ mode = .same)
    (h : computeOutput c mode .none tight anchor tol rnd = .ok (.grid g)) :
    g.A.a = c.srcRes.1 ∧ g.A.e = c.srcRes.2 := by
  obtain ⟨_, _, rx, ry, hres, ha, he⟩ := out_axis_aligned c mode tight anchor tol rnd g h
  have hsrc : chooseRes c mode .none rnd = .ok (some c.srcRes) := by
    rcases hm with ⟨rfl, hu⟩ | rfl
    · simp [chooseRes, hu]
    · rfl
  rw [hsrc] at hres
  rw [Option.some.inj (Except.ok.inj hres), ha, he]
  exact ⟨rfl, rfl⟩

theorem out_explicit_resolution (c : Captured) (rx ry : Rat) (tight : Bool) (anchor : Anchor) (tol : Rat)
    (rnd : Rounding) (g : Grid)
    (h : computeOutput c (.explicit rx ry) .none tight anchor tol rnd = .ok (.grid g)) :
    g.A.a = rx ∧ g.A.e = ry := by
  obtain ⟨_, _, rx', ry', hres, ha, he⟩ := out_axis_aligned c _ tight anchor tol rnd g h
  cases hres
  exact ⟨ha, he⟩

/-- `resolution="fit"` (and `"auto"` across different units),
without custom rounding, when the centre-pixel estimate is not zero on both axes: the output pixels are square,
positive in x and inverted in y; the size is the average of the two centre-pixel estimates. -/
theorem out_resolution_positive_square (c : Captured) (mode : ResMode) (tight : Bool) (anchor : Anchor) (tol : Rat)
    (g : Grid) (hm : mode = .fit ∨ (mode = .auto ∧ c.sameUnits = false))
    (hcp : c.cpRes.1 ≠ 0 ∨ c.cpRes.2 ≠ 0)
    (h : computeOutput c mode .none tight anchor tol .none = .ok (.grid g)) :
    0 < g.A.a ∧ g.A.e = -g.A.a ∧
      g.A.a = (rabs (c.cpRes.1 / c.fitScale.1) + rabs (c.cpRes.2 / c.fitScale.2)) / 2 := by
  obtain ⟨_, _, rx, ry, hres, ha, he⟩ := out_axis_aligned c mode tight anchor tol .none g h
  have hfit : chooseRes.fit c .none = .ok (some (rx, ry)) := by
    rcases hm with rfl | ⟨rfl, hu⟩
    · exact hres
    · simpa [chooseRes, hu] using hres
  unfold chooseRes.fit at hfit
  split at hfit
  · cases hfit
  · rename_i hz
    obtain ⟨hz1, hz2⟩ := not_or.1 hz
    cases hfit
    rw [ha, he]
    refine ⟨half_pos ?_, rfl, rfl⟩
    rw [rabs_eq_abs, rabs_eq_abs]
    rcases hcp with hne | hne
    · exact add_pos_of_pos_of_nonneg (abs_pos.2 (div_ne_zero hne hz1)) (abs_nonneg _)
    · exact add_pos_of_nonneg_of_pos (abs_nonneg _) (abs_pos.2 (div_ne_zero hne hz2))

/-- The full statement "a single-integer shape request yields that
longest side" is false for snapping anchors: the pixel size is derived first (`span / n`) and the
edges are then snapped outwards.  Witness: bbox `[1/2, 17/2] × [0, 4]`, `shape=8`, default anchor
→ 4 × 9, longest side 9.  (Known finding `int-shape-longest-side-plus-one`; exact with `tight=True`.) -/
theorem int_shape_plus_one_cex :
    fromBbox ⟨1 / 2, 0, 17 / 2, 4⟩ (.side 8) none .dflt false (1 / 100)
      = .ok ⟨4, 9, ⟨1, 0, 0, 0, -1, 4⟩⟩ ∧
    fromBbox ⟨1 / 2, 0, 17 / 2, 4⟩ (.side 8) none .dflt true (1 / 100)
      = .ok ⟨4, 8, ⟨1, 0, 1 / 2, 0, -1, 4⟩⟩ := by
  constructor <;> decide +kernel

/-- If the bounding box of the buffered, densified footprint
contains the projected position `p` of a source pixel (the hypothesis about projection curvature
that is sampled, not proved), then `p` lies inside the output grid up to `tol` of an output pixel. -/
theorem out_encloses_every_pixel_partial (c : Captured) (mode : ResMode) (tight : Bool) (anchor : Anchor)
    (tol : Rat) (rnd : Rounding) (g : Grid) (p : Rat × Rat) (ht : 0 ≤ tol)
    (hin : c.bbox.left ≤ p.1 ∧ p.1 ≤ c.bbox.right ∧ c.bbox.bottom ≤ p.2 ∧ p.2 ≤ c.bbox.top)
    (h : computeOutput c mode .none tight anchor tol rnd = .ok (.grid g)) :
    g.xLo - tol * rabs g.A.a ≤ p.1 ∧ p.1 ≤ g.xHi + tol * rabs g.A.a ∧
    g.yLo - tol * rabs g.A.e ≤ p.2 ∧ p.2 ≤ g.yHi + tol * rabs g.A.e := by
  obtain ⟨h1, h2, h3, h4⟩ := hin
  obtain ⟨c1, c2, c3, c4, _, _⟩ :=
    out_contains_bbox_up_to_tol c mode tight anchor tol rnd g ht (h1.trans h2) (h3.trans h4) h
  exact ⟨sub_le_iff_le_add.2 (c1.trans (add_le_add h1 le_rfl)), h2.trans (sub_le_iff_le_add.1 c2),
    sub_le_iff_le_add.2 (c3.trans (add_le_add h3 le_rfl)), h4.trans (sub_le_iff_le_add.1 c4)⟩

theorem rect_in_bbox (A : Aff) (nx ny : Nat) (b : BBox) (hc : ∀ p ∈ extentCorners A nx ny, b.contains p)
    (x y : Rat) (hx : 0 ≤ x ∧ x ≤ nx) (hy : 0 ≤ y ∧ y ≤ ny) : b.contains (A.apply (x, y)) := by
  simp only [extentCorners, List.forall_mem_cons] at hc
  obtain ⟨h00, h10, h11, h01, _⟩ := hc
  exact A.apply_mem_box hx hy h00 h10 h11 h01

/-- The full enclosure claim whenever the change of coordinates
between source and destination is affine (in particular when the destination CRS is the source's own and the
identity fast path is not taken; the source may be rotated, mirrored or sheared): if the
footprint bounding box the code works from contains the **four corners** of the source extent — a fact
about four points, checked exactly by the harness on the captured box of every same-CRS run — then the
position of *every* point of *every* source pixel (all `0 ≤ x ≤ nx`, `0 ≤ y ≤ ny`, no sampling, no
curvature hypothesis) lies inside the output grid up to `tol` of an output pixel. -/
theorem out_encloses_every_pixel_linear (c : Captured) (mode : ResMode) (tight : Bool) (anchor : Anchor)
    (tol : Rat) (rnd : Rounding) (g : Grid) (A : Aff) (nx ny : Nat) (ht : 0 ≤ tol)
    (hc : ∀ p ∈ extentCorners A nx ny, c.bbox.contains p)
    (h : computeOutput c mode .none tight anchor tol rnd = .ok (.grid g))
    (x y : Rat) (hx : 0 ≤ x ∧ x ≤ nx) (hy : 0 ≤ y ∧ y ≤ ny) :
    g.xLo - tol * rabs g.A.a ≤ (A.apply (x, y)).1 ∧ (A.apply (x, y)).1 ≤ g.xHi + tol * rabs g.A.a ∧
    g.yLo - tol * rabs g.A.e ≤ (A.apply (x, y)).2 ∧ (A.apply (x, y)).2 ≤ g.yHi + tol * rabs g.A.e := by
  have hin := rect_in_bbox A nx ny c.bbox hc x y hx hy
  unfold BBox.contains at hin
  generalize A.apply (x, y) = p at hin ⊢
  exact out_encloses_every_pixel_partial c mode tight anchor tol rnd g p ht hin h

/-- For the WGS 84 UTM CRS of zone `z` found for the raster (EPSG `326zz`
north, `327zz` south): `utm` keeps it, `utm-n` resolves to `326zz`, `utm-s` to `327zz` — same zone,
requested hemisphere. -/
theorem utm_hemisphere (z : Int) (south : Bool) (_hz : 1 ≤ z ∧ z ≤ 60) :
    let epsg := (if south then 32700 else 32600) + z
    normUtm .utm epsg south = epsg ∧ normUtm .utmN epsg south = 32600 + z ∧
      normUtm .utmS epsg south = 32700 + z := by
  cases south <;> simp [normUtm] <;> omega

/-- Among several candidates the chosen CRS has the maximal key: the
largest overlap with the raster's polygon, or — for rasters too small to have a measurable area (a few
metres across; the ranking of branch fix-C11, which `pickBest` models) — a zone whose valid region contains the raster's location whenever
one of the candidates does; with a single candidate that one is returned.  (The statement is about a call that
returned: without candidates `pickBest` raises.) -/
theorem pick_best_is_max_overlap (cands : List (Nat × Rat)) (big : Bool) (r : Nat)
    (h : pickBest cands big = .ok r) :
    ∃ v, (r, v) ∈ cands ∧
      (∀ x ∈ cands, x.2 ≤ v) ∧
      (cands.length ≤ 1 → cands.head? = some (r, v)) := by
  cases cands with
  | nil => cases h
  | cons first rest =>
    cases rest with
    | nil =>
      cases h
      exact ⟨first.2, List.mem_cons_self, fun x hx => by rw [List.mem_singleton.1 hx], fun _ => rfl⟩
    | cons y ys =>
      obtain ⟨cmax, ha⟩ := argmaxFirst_cons first (y :: ys)
      obtain ⟨hm, hmax⟩ := argmaxFirst_spec _ _ ha
      simp only [pickBest, ha] at h
      cases h
      exact ⟨cmax.2, hm, hmax, fun hn => by simp at hn⟩

/-- The 'utm*' zone choice and enclosure: whenever *any* candidate CRS has a
valid area overlapping the raster's footprint (key > 0: a positive overlap fraction, or for a point-like
footprint "contains the location"), the chosen CRS has one too — for every number and order of
candidates.  (With the pyproj query returning exactly the zones that intersect the footprint, the chosen
UTM CRS's valid area therefore always overlaps the raster.) -/
theorem pick_best_overlaps (cands : List (Nat × Rat)) (big : Bool) (r : Nat)
    (h : pickBest cands big = .ok r) (hex : ∃ x ∈ cands, 0 < x.2) :
    ∃ v, (r, v) ∈ cands ∧ 0 < v := by
  obtain ⟨v, hm, hmax, _⟩ := pick_best_is_max_overlap cands big r h
  obtain ⟨x, hx, hpos⟩ := hex
  exact ⟨v, hm, lt_of_lt_of_le hpos (hmax x hx)⟩

/-- non-vacuity: the wrong-side first candidate (key 0) loses against the containing zone -/
example : pickBest [(32643, 0), (32644, 1)] false = .ok 32644 := by decide +kernel

end OdcGeo.C11
