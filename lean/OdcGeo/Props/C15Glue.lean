/-
C15 — theorems about the GLUE of `odc/geo/cog/_rio.py` (`Model/C15Glue.lean`): the option dictionaries handed to
GDAL, the order of effects of a call (overwrite guard → resampling check → open → write → overviews → copy), what a
window-by-window write leaves in the dataset, the supplied-overviews path (`write_cog_layers`) with the binding of first-pass
options to the named parameters of `_write_cog` (`layerArgsFull`), and a GCP geobox, which never reaches GDAL (`gcp_*`).

These theorems speak about the CALLS odc-geo makes; what GDAL does with them is the round trip of the harness.
-/
import OdcGeo.Lemmas.C15Glue
import OdcGeo.Props.C05
import OdcGeo.Props.C15

set_option linter.unusedVariables false

namespace OdcGeo.C15
open OdcGeo.C05 (adjustBlocksize YX)

/-- the 12 options `_write_cog` computes itself, before `nodata` and the caller's extra options -/
def baseOpts (l : Layout) (dtype : String) (isFloat : Bool) (b : Nat) : Dict :=
  [("width", .int l.w), ("height", .int l.h), ("count", .int l.nbands), ("dtype", .str dtype), ("crs", .ext "crs"),
   ("transform", .ext "transform"), ("tiled", .bool true), ("blockxsize", .int (adjustBlocksize b l.w)),
   ("blockysize", .int (adjustBlocksize b l.h)), ("zlevel", .int 6), ("predictor", .int (if isFloat then 3 else 2)),
   ("compress", .str "DEFLATE")]

theorem rioOpts_eq (l : Layout) (dtype : String) (isFloat : Bool) (b : Nat) (nodata : V) (extra : Dict) :
    rioOpts l dtype isFloat b nodata extra =
      (if nodata = .none then baseOpts l dtype isFloat b else (baseOpts l dtype isFloat b).set "nodata" nodata).update extra := by
  -- none of the six `_default_cog_opts` keys is in the dict literal, so the `update` appends them one by one
  simp only [rioOpts, defaultCogOpts, baseOpts, Dict.update, Dict.set, Dict.has, List.foldl_nil, List.foldl_cons,
    List.any_cons, List.any_nil, String.reduceBEq, Bool.or_self, Bool.false_eq_true, ↓reduceIte, List.cons_append,
    List.nil_append]

theorem baseOpts_grid (l : Layout) (dtype : String) (isFloat : Bool) (b : Nat) :
    Dict.get (baseOpts l dtype isFloat b) "width" = some (.int l.w) ∧
    Dict.get (baseOpts l dtype isFloat b) "height" = some (.int l.h) ∧
    Dict.get (baseOpts l dtype isFloat b) "blockxsize" = some (.int (adjustBlocksize b l.w)) ∧
    Dict.get (baseOpts l dtype isFloat b) "blockysize" = some (.int (adjustBlocksize b l.h)) ∧
    Dict.get (baseOpts l dtype isFloat b) "transform" = some (.ext "transform") ∧
    Dict.get (baseOpts l dtype isFloat b) "crs" = some (.ext "crs") := by
  simp only [baseOpts, Dict.get_cons, String.reduceEq, if_false, if_true, and_self]

/-- `default_cog_opts_precedence`: `_default_cog_opts(..., **other)` — a key of `other` replaces the computed default -/
theorem default_cog_opts_precedence (b w h : Nat) (fl : Bool) (other : Dict) (k : String) :
    Dict.get (defaultCogOpts b w h fl other) k =
      match other.lastGet k with
      | some v => some v
      | none => Dict.get [("tiled", .bool true), ("blockxsize", .int (adjustBlocksize b w)), ("blockysize", .int (adjustBlocksize b h)),
                  ("zlevel", .int 6), ("predictor", .int (if fl then 3 else 2)), ("compress", .str "DEFLATE")] k := by
  unfold defaultCogOpts
  rw [Dict.get_update]
  cases other.lastGet k <;> rfl

/-- `rio_opts_precedence`: what GDAL is told for key `k` — the caller's extra option if given, else (for `nodata`) the resolved
nodata when there is one, else odc-geo's own value -/
theorem rio_opts_precedence (l : Layout) (dtype : String) (isFloat : Bool) (b : Nat) (nodata : V) (extra : Dict) (k : String) :
    Dict.get (rioOpts l dtype isFloat b nodata extra) k =
      match extra.lastGet k with
      | some v => some v
      | none => if k = "nodata" then (if nodata = .none then none else some nodata)
                else Dict.get (baseOpts l dtype isFloat b) k := by
  rw [rioOpts_eq, Dict.get_update]
  cases extra.lastGet k with
  | some v => rfl
  | none =>
    simp only
    by_cases hn : nodata = .none
    · simp only [hn, if_true]
      by_cases hk : k = "nodata"
      · subst hk; rfl
      · simp only [hk, if_false]
    · simp only [hn, if_false, Dict.get_set]

theorem rio_opts_default (l : Layout) (dtype : String) (isFloat : Bool) (b : Nat) (nodata : V) (extra : Dict) (k : String)
    (hx : extra.lastGet k = none) (hk : k ≠ "nodata") :
    Dict.get (rioOpts l dtype isFloat b nodata extra) k = Dict.get (baseOpts l dtype isFloat b) k := by
  rw [rio_opts_precedence, hx]
  exact if_neg hk

/-- the block sizes in the dictionary are those of the decision core (`cogOpts`, multiples of 16 by `blocksize_mult16_le`)
unless the caller overrides them -/
theorem rio_opts_blocks (l : Layout) (dtype : String) (isFloat : Bool) (b : Nat) (nodata : V) (extra : Dict)
    (hx : extra.lastGet "blockxsize" = none) (hy : extra.lastGet "blockysize" = none) :
    Dict.get (rioOpts l dtype isFloat b nodata extra) "blockxsize" = some (.int (cogOpts (some b) l.w l.h isFloat).blockxsize) ∧
    Dict.get (rioOpts l dtype isFloat b nodata extra) "blockysize" = some (.int (cogOpts (some b) l.w l.h isFloat).blockysize) := by
  obtain ⟨_, _, bx, by', _⟩ := baseOpts_grid l dtype isFloat b
  exact ⟨(rio_opts_default l dtype isFloat b nodata extra _ hx (by decide)).trans bx,
    (rio_opts_default l dtype isFloat b nodata extra _ hy (by decide)).trans by'⟩

/-- `tmp_opts_spec`: options of the temporary (first pass) image: the intermediate-compression options win; otherwise
`compress` / `predictor` / `zlevel` are gone (also the caller's own) and everything else is as in `rio_opts` -/
theorem tmp_opts_spec (rio : Dict) (ic : IComp) (k : String) :
    Dict.get (tmpOpts rio ic) k =
      match ic.norm.lastGet k with
      | some v => some v
      | none => if k = "compress" ∨ k = "predictor" ∨ k = "zlevel" then none else Dict.get rio k := by
  unfold tmpOpts
  rw [Dict.get_update, Dict.get_without]
  cases ic.norm.lastGet k with
  | some v => rfl
  | none =>
    simp only [List.mem_cons, List.not_mem_nil, or_false]

/-- by default (`intermediate_compression=False`) the temporary image is written with `compress=None` -/
theorem tmp_opts_default_uncompressed (rio : Dict) : Dict.get (tmpOpts rio (.flag false)) "compress" = some .none := by
  rw [tmp_opts_spec]; rfl

/-- `mem_copy_agrees_with_file_copy`: the copy to memory is given `rio_opts` minus the seven keys that describe the dataset
(`width … nodata`); the temporary image it copies FROM carries exactly those seven with the same values — so the memory
destination ends up described like the file destination — PROVIDED the intermediate-compression dict does not itself
contain one of the seven (`hic`; it is meant to hold compression settings only).  At the excluded point (e.g.
`intermediate_compression={"nodata": 7}`) the two option dictionaries differ, but run on the real code the two destinations
still agree: GDAL's copy takes the dataset description from the temporary image on both routes (pinned by the harness,
key `mem-and-file-destinations-differ`) -/
theorem mem_copy_agrees_with_file_copy (rio : Dict) (ic : IComp) (k : String)
    (hic : k ∈ datasetKeys → ic.norm.lastGet k = none) :
    (match Dict.get (rio.without datasetKeys) k with
     | some v => some v
     | none => if k ∈ datasetKeys then Dict.get (tmpOpts rio ic) k else none) = Dict.get rio k := by
  rw [Dict.get_without]
  by_cases hk : k ∈ datasetKeys
  · have hne : ¬(k = "compress" ∨ k = "predictor" ∨ k = "zlevel") :=
      (by decide : ∀ k ∈ datasetKeys, ¬(k = "compress" ∨ k = "predictor" ∨ k = "zlevel")) k hk
    simp only [hk, if_true, tmp_opts_spec, hic hk, hne, if_false]
  · simp only [hk, if_false]
    cases Dict.get rio k <;> rfl

example : (∀ k, k ∈ datasetKeys → (IComp.dict [("compress", .str "lzw")]).norm.lastGet k = none) := by
  decide

/-- cell `(y, x)` lies in window `wn` -/
def Win.has (wn : Win) (y x : Nat) : Prop := wn.row ≤ y ∧ y < wn.row + wn.h ∧ wn.col ≤ x ∧ x < wn.col + wn.w

instance (wn : Win) (y x : Nat) : Decidable (wn.has y x) := by unfold Win.has; infer_instance

theorem mem_blockWindows (h w bh bw : Nat) (wn : Win) :
    wn ∈ blockWindows h w bh bw ↔
      ∃ i, i < (h + bh - 1) / bh ∧ ∃ j, j < (w + bw - 1) / bw ∧
        ⟨i * bh, j * bw, min bh (h - i * bh), min bw (w - j * bw)⟩ = wn := by
  simp only [blockWindows, List.mem_flatMap, List.mem_map, List.mem_range]

/-- `block_windows_cover`: every cell of the image lies in some block window -/
theorem block_windows_cover (h w bh bw y x : Nat) (hbh : 0 < bh) (hbw : 0 < bw) (hy : y < h) (hx : x < w) :
    ∃ wn ∈ blockWindows h w bh bw, wn.has y x := by
  obtain ⟨y1, y2, y3⟩ := OdcGeo.C05.block_extents_partition h bh y hbh hy
  obtain ⟨x1, x2, x3⟩ := OdcGeo.C05.block_extents_partition w bw x hbw hx
  refine ⟨_, (mem_blockWindows ..).mpr ⟨y / bh, y1, x / bw, x1, rfl⟩, ?_⟩
  simp only [OdcGeo.C05.blockExtent] at y3 x3
  exact ⟨y2, y3, x2, x3⟩

/-- `block_windows_disjoint`: no cell lies in two block windows — two windows that share a cell are the same window -/
theorem block_windows_disjoint (h w bh bw y x : Nat) (hbh : 0 < bh) (hbw : 0 < bw) (a b : Win)
    (ha : a ∈ blockWindows h w bh bw) (hb : b ∈ blockWindows h w bh bw) (hay : a.has y x) (hby : b.has y x) : a = b := by
  obtain ⟨i, _, j, _, rfl⟩ := (mem_blockWindows ..).mp ha
  obtain ⟨i', _, j', _, rfl⟩ := (mem_blockWindows ..).mp hb
  obtain ⟨a1, a2, a3, a4⟩ := hay
  obtain ⟨b1, b2, b3, b4⟩ := hby
  -- both windows are the one of row `y / bh`, column `x / bw`
  rw [← ((OdcGeo.C05.mem_block_iff h bh y i hbh).mp ⟨a1, a2⟩).1, ← ((OdcGeo.C05.mem_block_iff h bh y i' hbh).mp ⟨b1, b2⟩).1,
    ← ((OdcGeo.C05.mem_block_iff w bw x j hbw).mp ⟨a3, a4⟩).1, ← ((OdcGeo.C05.mem_block_iff w bw x j' hbw).mp ⟨b3, b4⟩).1]

/-- windows stay inside the image and are not empty -/
theorem block_windows_inside (h w bh bw : Nat) (hbh : 0 < bh) (hbw : 0 < bw) (wn : Win) (hm : wn ∈ blockWindows h w bh bw) :
    wn.row + wn.h ≤ h ∧ wn.col + wn.w ≤ w ∧ 0 < wn.h ∧ 0 < wn.w ∧ wn.h ≤ bh ∧ wn.w ≤ bw := by
  obtain ⟨i, hi, j, hj, rfl⟩ := (mem_blockWindows ..).mp hm
  obtain ⟨y1, y2, y3⟩ := OdcGeo.C05.blockExtent_bounds h bh i hbh hi
  obtain ⟨x1, x2, x3⟩ := OdcGeo.C05.blockExtent_bounds w bw j hbw hj
  exact ⟨y1, x1, y2, x2, y3, x3⟩

theorem writtenBy_spec {α : Type} (pix : Nat → Nat → Nat → α) (wins : List Win) (k y x : Nat) :
    writtenBy pix wins k y x = if ∃ wn ∈ wins, wn.has y x then some (pix k y x) else none := by
  unfold writtenBy
  generalize (none : Option α) = acc
  induction wins generalizing acc with
  | nil => exact (if_neg fun ⟨_, h, _⟩ => nomatch h).symm
  | cons w ws ih =>
    rw [List.foldl_cons, ih]
    by_cases hw : w.row ≤ y ∧ y < w.row + w.h ∧ w.col ≤ x ∧ x < w.col + w.w
    · -- inside a window, `row + (y - row)` is `y`
      rw [if_pos hw, Nat.add_sub_cancel' hw.1, Nat.add_sub_cancel' hw.2.2.1, ite_self, if_pos ⟨w, List.mem_cons_self, hw⟩]
    · rw [if_neg hw]
      simp only [List.exists_mem_cons_iff, Win.has, hw, false_or]
      rfl

/-- `windowed_write_complete`: after `_write` went through `dst.block_windows()` every cell of every band holds the pixel of
the band-first array at that position — the window-by-window write equals the one-shot write (`dst.write(pix, band)`) -/
theorem windowed_write_complete {α : Type} (pix : Nat → Nat → Nat → α) (h w bh bw k y x : Nat)
    (hbh : 0 < bh) (hbw : 0 < bw) (hy : y < h) (hx : x < w) :
    writtenBy pix (blockWindows h w bh bw) k y x = some (pix k y x) := by
  rw [writtenBy_spec, if_pos (block_windows_cover h w bh bw y x hbh hbw hy hx)]

/-- and nothing outside the image is touched -/
theorem windowed_write_inside {α : Type} (pix : Nat → Nat → Nat → α) (h w bh bw k y x : Nat)
    (hbh : 0 < bh) (hbw : 0 < bw) (ho : h ≤ y ∨ w ≤ x) :
    writtenBy pix (blockWindows h w bh bw) k y x = none := by
  rw [writtenBy_spec, if_neg]
  rintro ⟨wn, hm, h1, h2, h3, h4⟩
  obtain ⟨i1, i2, _⟩ := block_windows_inside h w bh bw hbh hbw wn hm
  omega

example : writtenBy (fun k y x => 100 * k + 10 * y + x) (blockWindows 5 7 2 4) 1 4 6 = some 146 := by decide +kernel

/-- the grid GDAL is told in `rio_opts` is the image size and the decision core's block sizes (no overriding extras) -/
theorem ds_grid_of_rio_opts (l : Layout) (dtype : String) (isFloat : Bool) (b : Nat) (nodata : V) (extra : Dict)
    (hk : ∀ k ∈ ["height", "width", "blockysize", "blockxsize"], extra.lastGet k = none) :
    dsGrid (rioOpts l dtype isFloat b nodata extra) = some (l.h, l.w, adjustBlocksize b l.h, adjustBlocksize b l.w) := by
  obtain ⟨gw, gh, gx, gy, _⟩ := baseOpts_grid l dtype isFloat b
  have hd := fun k hm =>
    rio_opts_default l dtype isFloat b nodata extra k (hk k hm) (by rintro rfl; exact absurd hm (by decide))
  unfold dsGrid
  rw [hd "height" (by decide), hd "width" (by decide), hd "blockysize" (by decide), hd "blockxsize" (by decide), gw, gh, gx, gy]
  rfl

/-- `windowed_write_is_normalised_image`: END TO END for `use_windowed_writes=True` — for an array in any accepted layout
(2-D, band-first, band-last) over a GeoBox of shape `g`, with any block size `b ≥ 1` and any extra options that do not
override the grid, the windows of the dataset opened with `rio_opts` leave in cell `[k, y, x]` exactly `src[y, x, k]`
(band-last input) resp. `src[k, y, x]` -/
theorem windowed_write_is_normalised_image {α : Type} (src : Nat → Nat → Nat → α) (shape : List Nat) (g : YX) (l : Layout)
    (hl : normLayout shape g = .ok l) (dtype : String) (isFloat : Bool) (b : Nat) (hb : 0 < b) (nodata : V) (extra : Dict)
    (hk : ∀ k ∈ ["height", "width", "blockysize", "blockxsize"], extra.lastGet k = none)
    (k y x : Nat) (hy : y < l.h) (hx : x < l.w) :
    ∃ H W BH BW, dsGrid (rioOpts l dtype isFloat b nodata extra) = some (H, W, BH, BW) ∧
      writtenBy (normalise l src) (blockWindows H W BH BW) k y x = some (if l.transposed then src y x k else src k y x) := by
  refine ⟨_, _, _, _, ds_grid_of_rio_opts l dtype isFloat b nodata extra hk, ?_⟩
  rw [windowed_write_complete _ _ _ _ _ _ _ _ (OdcGeo.C05.blocksize_pos b l.h hb) (OdcGeo.C05.blocksize_pos b l.w hb) hy hx,
    normalised_pixel]

theorem mem_writeEvents (l : Layout) (ndim : Nat) (win : Bool) (opts : Dict) (ev : Ev) (h : ev ∈ writeEvents l ndim win opts) :
    ∃ sh b w, ev = .write sh b w := by
  unfold writeEvents at h
  cases win with
  | false => exact ⟨_, _, _, List.mem_singleton.1 h⟩
  | true =>
    simp only [Bool.not_true, Bool.false_eq_true, if_false] at h
    split at h
    · cases h
    · obtain ⟨wn, _, rfl⟩ := List.mem_map.1 h
      exact ⟨_, _, _, rfl⟩

/-- "every event of the trace has `P`", by kind of event: a dataset is opened with `rio_opts` (in memory / on disk) or, the
temporary one, with `tmp_opts`; the overview events occur only where there are levels -/
theorem forall_mem_writeCogFrom {P : Ev → Prop} (k0 : Nat) (a : WArgs)
    (hu : ∀ p, a.dst = .path p true → a.overwrite = true → P (.unlink p)) (hw : P .warnBlock)
    (hwr : ∀ sh b w, P (.write sh b w)) (hcl : P .close)
    (ho : ∀ l loc, layoutOf a.shape a.g = .ok l →
      let rio := rioOpts l a.dtype a.isFloat (a.blocksize.getD 512) a.nodata a.extra
      P (.openW loc (memOpenKw rio)) ∧ P (.openW loc (pathOpenKw rio)) ∧ P (.openW loc (memOpenKw (tmpOpts rio a.icomp))))
    (hv : ∀ l rs, layoutOf a.shape a.g = .ok l → levelsFor a.levels l.w l.h ≠ [] →
      (∀ o, P (.envEnter o)) ∧ P (.buildOverviews (levelsFor a.levels l.w l.h) rs) ∧ (∀ s d o, P (.copy s d o)) ∧ P .envExit) :
    ∀ ev ∈ (writeCogFrom k0 a).1, P ev := by
  rw [writeCogFrom_eq]
  cases hl : layoutOf a.shape a.g with
  | error e => exact fun _ h => nomatch h
  | ok l =>
    refine forall_mem_checked a _ hu hw fun rs => ?_
    have hwe : ∀ o, ∀ ev ∈ writeEvents l a.shape.length a.windowed o, P ev := fun o ev h => by
      obtain ⟨sh, b, w, rfl⟩ := mem_writeEvents _ _ _ _ _ h
      exact hwr sh b w
    unfold gdalCalls
    split
    · cases a.dst <;>
        simp only [List.forall_mem_cons, List.forall_mem_append, List.not_mem_nil, false_imp_iff, implies_true, and_true]
      · exact ⟨⟨(ho l _ hl).1, hwe _⟩, hcl⟩
      · exact ⟨⟨(ho l _ hl).2.1, hwe _⟩, hcl⟩
    · rename_i hne
      obtain ⟨he, hb, hc, hx⟩ := hv l rs hl hne
      simp only [List.forall_mem_cons, List.forall_mem_append, List.not_mem_nil, false_imp_iff, implies_true, and_true]
      exact ⟨⟨he _, (ho l _ hl).2.2, hwe _⟩, hb, hc _ _ _, hcl, hx⟩

/-- `write_cog_guard`: an existing destination without `overwrite` — the call raises `IOError` and has done NOTHING: nothing
unlinked, no dataset opened (whatever the other arguments, once the array / GeoBox pair is acceptable) -/
theorem write_cog_guard (a : WArgs) (l : Layout) (p : String) (hl : layoutOf a.shape a.g = .ok l)
    (hd : a.dst = .path p true) (ho : a.overwrite = false) : writeCog a = ([], .error .osError) := by
  rw [writeCog, writeCogFrom_eq, hl]
  exact if_pos (pathGuard_raises.mpr ⟨p, hd, ho⟩)

/-- a layout error comes first of all: nothing is checked on disk, nothing removed -/
theorem write_cog_layout_error_first (a : WArgs) (e : GErr) (hl : layoutOf a.shape a.g = .error e) :
    writeCog a = ([], .error e) := by
  rw [writeCog, writeCogFrom_eq, hl]

/-- `write_cog_unlink_iff`: the destination is removed exactly when it exists, overwriting was requested and the input was
acceptable -/
theorem write_cog_unlink_iff (a : WArgs) (q : String) :
    Ev.unlink q ∈ (writeCog a).1 ↔ (∃ l, layoutOf a.shape a.g = .ok l) ∧ a.dst = .path q true ∧ a.overwrite = true := by
  constructor
  · intro h
    cases hl : layoutOf a.shape a.g with
    | error e => rw [write_cog_layout_error_first a e hl] at h; cases h
    | ok l =>
      exact ⟨⟨l, rfl⟩, forall_mem_writeCogFrom (P := fun ev => ev = .unlink q → _) 0 a
        (fun p hd ho e => by cases e; exact ⟨hd, ho⟩) nofun (fun _ _ _ => nofun) nofun (fun _ _ _ => ⟨nofun, nofun, nofun⟩)
        (fun _ _ _ _ => ⟨fun _ => nofun, nofun, fun _ _ _ => nofun, nofun⟩) _ h rfl⟩
  · rintro ⟨⟨l, hl⟩, hd, ho⟩
    have hg := mem_pathGuard.2 ⟨q, rfl, hd, ho⟩
    rw [writeCog, writeCogFrom_eq, hl]
    dsimp only
    obtain ⟨_, _, ho', h⟩ | ⟨_, h⟩ | ⟨_, _, h⟩ := checked_cases a _ <;> rw [h]
    · cases ho.symm.trans ho'
    · exact hg
    · exact List.mem_append_left _ (List.mem_append_left _ hg)

/-- `write_cog_error_touches_gdal_never`: when `_write_cog` raises, GDAL has not been called at all — no dataset opened, nothing
written or copied; the only thing that can have happened is the removal of the destination the caller asked to overwrite
(then the error is the `ValueError` of an unknown resampling name).  An `IOError` (the overwrite guard) leaves no event. -/
theorem write_cog_error_touches_gdal_never (a : WArgs) (e : GErr) (he : (writeCog a).2 = .error e) :
    (∀ ev ∈ (writeCog a).1, ∃ p, ev = .unlink p) ∧ (e = .osError → (writeCog a).1 = []) ∧
    ((writeCog a).1 ≠ [] → e = .valueError ∧ resamplingS2rio (a.resampling.getD "nearest") = none) := by
  rw [writeCog, writeCogFrom_eq] at he ⊢
  cases hl : layoutOf a.shape a.g with
  | error e' => exact ⟨(fun _ h => nomatch h), fun _ => rfl, fun h => absurd rfl h⟩
  | ok l =>
    rw [hl] at he
    dsimp only at he ⊢
    obtain ⟨p, _, _, h⟩ | ⟨hr, h⟩ | ⟨rs, _, h⟩ := checked_cases a _ <;> rw [h] at he ⊢
    · exact ⟨(fun _ h => nomatch h), fun _ => rfl, fun h => absurd rfl h⟩
    · cases he
      exact ⟨fun ev hev => (mem_pathGuard.1 hev).imp fun _ h => h.1, (fun h => nomatch h), fun _ => ⟨rfl, hr⟩⟩
    · cases he

/-- `write_cog_returns`: a successful call returns the destination it was given: the path, or the bytes of a memory file -/
theorem write_cog_returns (a : WArgs) (r : Ret) (h : (writeCog a).2 = .ok r) :
    (a.dst = .mem → ∃ k, r = .bytesOf (.anon k)) ∧ (∀ p ex, a.dst = .path p ex → r = .path p) := by
  rw [writeCog, writeCogFrom_eq] at h
  cases hl : layoutOf a.shape a.g with
  | error e => rw [hl] at h; cases h
  | ok l =>
    rw [hl] at h
    dsimp only at h
    obtain ⟨_, _, _, hc⟩ | ⟨_, hc⟩ | ⟨rs, _, hc⟩ := checked_cases a _ <;> rw [hc] at h <;> cases h
    obtain ⟨k, hk⟩ : ∃ k, (gdalCalls 0 a l rs).2 = a.dst.ret k := by
      unfold gdalCalls
      split <;> exact ⟨_, rfl⟩
    rw [hk]
    exact ⟨fun hd => ⟨k, by rw [hd]; rfl⟩, fun p ex hd => by rw [hd]; rfl⟩

theorem buildOverviews_mem_gdalCalls (k0 : Nat) (a : WArgs) (l : Layout) (rs : String)
    (hne : levelsFor a.levels l.w l.h ≠ []) :
    Ev.buildOverviews (levelsFor a.levels l.w l.h) rs ∈ (gdalCalls k0 a l rs).1 := by
  unfold gdalCalls
  rw [if_neg hne]
  exact List.mem_cons_of_mem _ (List.mem_cons_of_mem _ (List.mem_append_right _ List.mem_cons_self))

/-- `write_cog_default_overviews`: END TO END for the default pyramid — an array in ANY accepted layout (2-D, band-first,
band-last) whose smaller SPATIAL side is at least 512, written to memory with every option left at its default: GDAL is asked
for `build_overviews([2, 4, 8, 16, 32], nearest)`; with a smaller side it is asked for none -/
theorem write_cog_default_overviews (shape : List Nat) (g : YX) (l : Layout) (hl : normLayout shape g = .ok l)
    (dtype : String) (fl : Bool) :
    let a : WArgs := { shape := shape, g := some g, dtype := dtype, isFloat := fl, dst := .mem }
    (512 ≤ min l.w l.h → Ev.buildOverviews [2, 4, 8, 16, 32] "nearest" ∈ (writeCog a).1) ∧
    (min l.w l.h < 512 → ∀ ev ∈ (writeCog a).1, ∀ ls rs, ev ≠ .buildOverviews ls rs) := by
  intro a
  have hlo : layoutOf a.shape a.g = .ok l := by simp only [a, layoutOf, hl]
  constructor
  · intro h512
    have hlev : levelsFor a.levels l.w l.h = [2, 4, 8, 16, 32] := (default_levels l.w l.h).2.1 h512
    have hrs : resamplingS2rio (a.resampling.getD "nearest") = some "nearest" :=
      show resamplingS2rio "nearest" = some "nearest" by decide
    rw [writeCog, writeCogFrom_eq, hlo]
    dsimp only
    obtain ⟨_, hd, _⟩ | ⟨hr, _⟩ | ⟨rs, hr, h⟩ := checked_cases a _
    · cases hd
    · cases hrs.symm.trans hr
    · cases hrs.symm.trans hr
      rw [h, ← hlev]
      exact List.mem_append_right _ (buildOverviews_mem_gdalCalls 0 a l _ (by rw [hlev]; exact List.cons_ne_nil _ _))
  · intro hsm
    refine forall_mem_writeCogFrom 0 a (fun _ _ _ => nofun) nofun (fun _ _ _ => nofun) nofun (fun _ _ _ => ⟨nofun, nofun, nofun⟩)
      fun l' rs hl' hne => ?_
    cases hlo.symm.trans hl'
    exact absurd ((default_levels l.w l.h).1.mpr hsm) hne

example : Ev.buildOverviews [2, 4, 8, 16, 32] "nearest" ∈
    (writeCog { shape := [600, 513, 3], g := some ⟨600, 513⟩, dtype := "uint8", isFloat := false, dst := .mem }).1 :=
  (write_cog_default_overviews [600, 513, 3] ⟨600, 513⟩ ⟨3, 600, 513, true⟩ (by decide) "uint8" false).1 (by decide)

/-- an empty layer list: `None`, and nothing at all is looked at or touched (also an existing destination) -/
theorem layers_empty (a : LArgs) (h : a.layers = []) : writeCogLayers a = ([], .ok .none) := by
  unfold writeCogLayers writeCogLayersWith; simp [h]

/-- `layers_guard`: an existing destination without `overwrite` is refused before any layer is written -/
theorem layers_guard (a : LArgs) (p : String) (hne : a.layers ≠ []) (hd : a.dst = .path p true) (ho : a.overwrite = false) :
    writeCogLayers a = ([], .error .osError) := by
  unfold writeCogLayers writeCogLayersWith
  cases hl : a.layers with
  | nil => exact absurd hl hne
  | cons f rest => simp [hd, ho]

/-- `layers_nodata_flow`: on the supplied-overviews path the `nodata` of the final copy is the caller's `nodata=` option if
present in `extra` (whatever its value — also an explicit `None`), else the FIRST layer's `attrs['nodata']`; and every
first-pass `_write_cog` is handed that same value (the intermediate-compression options cannot change it unless they themselves
carry a `nodata` key).  `extra` is the dictionary `write_cog_layers` merges in, i.e. `layersExtra repaired a.extra`: with
`repaired = true` an explicit `None` has been dropped before (`layers_nodata_resolution`), with `false` it gets here
(`explicit_none_overrides_attrs_asfound_cex`) -/
theorem layers_nodata_flow (b w h : Nat) (fl : Bool) (attrs : V) (extra : Dict) :
    let rio := (defaultCogOpts b w h fl [("nodata", attrs)]).update extra
    Dict.get rio "nodata" = (match extra.lastGet "nodata" with | some v => some v | none => some attrs) ∧
    ∀ (win : Bool) (ic : IComp) (ly : Layer) (name : String), ic.norm.lastGet "nodata" = none →
      (layerArgs (firstPassCfg b rio win ic) ly name).nodata = rio.getNone "nodata" := by
  intro rio
  constructor
  · show Dict.get (Dict.update _ _) _ = _
    rw [Dict.get_update, default_cog_opts_precedence]
    cases extra.lastGet "nodata" <;> rfl
  · intro win ic ly name hic
    show (firstPassCfg b rio win ic).getNone "nodata" = _
    unfold firstPassCfg Dict.getNone
    rw [Dict.get_update, hic]
    rfl

/-- nodata options of the dataset the direct path (`write_cog` / `to_cog` without supplied overviews) creates: the resolved
value — keyword if not `None`, else attribute — and nothing else: the keyword was popped from the extra options -/
theorem entry_nodata_direct (l : Layout) (dtype : String) (fl : Bool) (b : Nat) (attrs : V) (extra : Dict) :
    let kw := extra.getNone "nodata"
    let nd := if kw = .none then attrs else kw
    Dict.get (rioOpts l dtype fl b nd (extra.without ["nodata"])) "nodata" = if nd = .none then none else some nd := by
  intro kw nd
  rw [rio_opts_precedence]
  rw [Dict.lastGet_without]
  rfl

/-- options of the dataset a finished trace leaves at the destination: those of the last `rio_copy`, else of the first
dataset opened -/
def finalOpts (evs : List Ev) : Option Dict :=
  match evs.reverse.find? (fun e => match e with | .copy _ _ _ => true | _ => false) with
  | some (.copy _ _ o) => some o
  | _ => match evs.find? (fun e => match e with | .openW _ _ => true | _ => false) with
    | some (.openW _ o) => some o
    | _ => none

/-- `explicit_none_overrides_attrs_asfound_cex` (the code AS FOUND, before fix 4344a79 / finding F65): for an array with
`attrs['nodata'] = 255`, `to_cog(xx, nodata=None)` created the file with `nodata=255`, but `to_cog(xx, overviews=[ov],
nodata=None)` created it with `nodata=None` — the explicit `None` meant "not given" on one path and "no nodata" on the other -/
theorem explicit_none_overrides_attrs_asfound_cex :
    let im : Layer := { shape := [4, 4], g := some ⟨4, 4⟩, dtype := "uint8", isFloat := false, attrsNodata := .int 255 }
    let ov : Layer := { shape := [2, 2], g := some ⟨2, 2⟩, dtype := "uint8", isFloat := false, attrsNodata := .int 255 }
    ((finalOpts (toCogAsFound { im := im, dst := .mem, levels := some [], extra := [("nodata", .none)] }).1).map (Dict.get · "nodata")
      = some (some (.int 255))) ∧
    ((finalOpts (toCogAsFound { im := im, dst := .mem, overviews := some [ov], extra := [("nodata", .none)] }).1).map (Dict.get · "nodata")
      = some (some .none)) := by
  decide +kernel

/-- the same calls on the repaired code: the attribute's value on both paths -/
theorem explicit_none_keeps_attrs_witness :
    let im : Layer := { shape := [4, 4], g := some ⟨4, 4⟩, dtype := "uint8", isFloat := false, attrsNodata := .int 255 }
    let ov : Layer := { shape := [2, 2], g := some ⟨2, 2⟩, dtype := "uint8", isFloat := false, attrsNodata := .int 255 }
    ((finalOpts (toCog { im := im, dst := .mem, levels := some [], extra := [("nodata", .none)] }).1).map (Dict.get · "nodata")
      = some (some (.int 255))) ∧
    ((finalOpts (toCog { im := im, dst := .mem, overviews := some [ov], extra := [("nodata", .none)] }).1).map (Dict.get · "nodata")
      = some (some (.int 255))) ∧
    ((finalOpts (toCog { im := im, dst := .mem, overviews := some [ov], extra := [("nodata", .int 7)] }).1).map (Dict.get · "nodata")
      = some (some (.int 7))) := by
  decide +kernel

/-- `layers_nodata_resolution` (repaired code, all inputs): on the supplied-overviews path the `nodata` option of the final
copy is the caller's keyword when it is given and not `None`, else the first layer's `attrs['nodata']` (the `nodata` key is
always present there: `_default_cog_opts(nodata=attrs.get("nodata"))`) — the same rule as the direct path
(`entry_nodata_direct`); unique keyword names assumed as Python guarantees (`hu`: the last `nodata` entry is the first) -/
theorem layers_nodata_resolution (b w h : Nat) (fl : Bool) (attrs : V) (extra : Dict)
    (hu : extra.lastGet "nodata" = Dict.get extra "nodata") :
    Dict.get ((defaultCogOpts b w h fl [("nodata", attrs)]).update (layersExtra true extra)) "nodata" =
      some (if extra.getNone "nodata" = .none then attrs else extra.getNone "nodata") := by
  rw [(layers_nodata_flow b w h fl attrs (layersExtra true extra)).1]
  unfold layersExtra
  by_cases hn : extra.getNone "nodata" = .none
  · simp only [hn, Bool.true_and, decide_true, if_true, Dict.lastGet_without]
    rfl
  · simp only [hn, Bool.true_and, decide_false, Bool.false_eq_true, if_false, hu]
    unfold Dict.getNone at hn ⊢
    cases hg : Dict.get extra "nodata" with
    | none => simp [hg] at hn
    | some v => simp

/-- with supplied overviews `overview_levels` / `overview_resampling` are not forwarded: they have no effect at all -/
theorem entry_overviews_ignore_levels (a : CArgs) (ovs : List Layer) (h : a.overviews = some ovs)
    (rs : Option String) (lv : Option (List Nat)) :
    writeCogEntry { a with resampling := rs, levels := lv } = writeCogEntry a := by
  unfold writeCogEntry writeCogEntryWith; simp [h]

/-- `to_cog` without supplied overviews never removes anything from the file system -/
theorem to_cog_direct_never_unlinks (a : CArgs) (h : a.overviews = none) (q : String) : Ev.unlink q ∉ (toCog a).1 := by
  unfold toCog writeCogEntry writeCogEntryWith
  simp only [h]
  cases hg : a.im.g with
  | none => simp
  | some g =>
    simp only
    intro hm
    have := (write_cog_unlink_iff _ q).mp hm
    simp at this

/-- `ovr_chain`: the memory files of the layers form GDAL's side-car chain — the file of layer `i + 1` is the file of layer `i`
with `.ovr` appended (that is how the final `rio_copy(..., copy_src_overviews=True)` finds layer `i + 1` as the overview of
layer `i`) -/
theorem ovr_chain (tt : String) (n i : Nat) (hi : i + 1 < n) :
    (memfilesOvr tt n)[i + 1]? = ((memfilesOvr tt n)[i]?).map (· ++ ".ovr") := by
  have hj : ∀ k, String.join (List.replicate (k + 1) ".ovr") = String.join (List.replicate k ".ovr") ++ ".ovr" := by
    intro k
    rw [List.replicate_succ', String.join, String.join, List.foldl_append]
    rfl
  unfold memfilesOvr
  simp only [List.getElem?_map, List.getElem?_range hi, List.getElem?_range (Nat.lt_of_succ_lt hi), Option.map_some]
  simp only [vsimemName, hj, String.append_assoc]

/-- a first-pass configuration with none of the keys that bind to named parameters of `_write_cog` (`namedFirstPassKeys`) is
bound by `layerArgsFull` as by `layerArgs` -/
theorem layer_args_full_eq (cfg : Dict) (ly : Layer) (name : String)
    (h : ∀ k ∈ namedFirstPassKeys, Dict.get cfg k = none) : layerArgsFull cfg ly name = layerArgs cfg ly name := by
  have h1 := h "overwrite" (by simp [namedFirstPassKeys])
  have h2 := h "ovr_blocksize" (by simp [namedFirstPassKeys])
  have h3 := h "overview_resampling" (by simp [namedFirstPassKeys])
  have hw : (layerArgs cfg ly name).extra.without namedFirstPassKeys = (layerArgs cfg ly name).extra := by
    unfold Dict.without
    rw [List.filter_eq_self]
    intro p hp
    simp only [layerArgs, Dict.without, List.mem_filter] at hp
    by_contra hc
    have hk : p.1 ∈ namedFirstPassKeys := by simpa using hc
    have hget := h p.1 hk
    unfold Dict.get at hget
    rw [Option.map_eq_none_iff, List.find?_eq_none] at hget
    exact hget p hp.1 (by simp)
  unfold layerArgsFull
  simp only [Dict.getNone, h1, h2, h3, Option.getD_none, hw]
  rfl

/-- `first_pass_overwrite_is_inert`: an `overwrite` smuggled into the first pass through `intermediate_compression` cannot remove
anything: the first-pass images live under fresh `/vsimem/` names, which do not exist -/
theorem first_pass_overwrite_is_inert (cfg : Dict) (ly : Layer) (name q : String) :
    Ev.unlink q ∉ (writeCogFrom 0 (layerArgsFull cfg ly name)).1 := by
  intro hm
  have := (write_cog_unlink_iff (layerArgsFull cfg ly name) q).mp hm
  simp [layerArgsFull, layerArgs] at this

example : (layerArgsFull [("overwrite", .bool true), ("compress", .str "lzw")] ⟨[2, 2], some ⟨2, 2⟩, "uint8", false, .none⟩ "n").overwrite = true ∧
    (layerArgsFull [("overwrite", .bool true), ("compress", .str "lzw")] ⟨[2, 2], some ⟨2, 2⟩, "uint8", false, .none⟩ "n").extra =
      [("compress", .str "lzw")] := by decide +kernel

/-- `gcp_geobox_never_reaches_gdal`: an array registered by ground control points cannot be written by `write_cog` / `to_cog`:
the call always ends in an error, GDAL is never called (no dataset, no gcps handed over) — the only things that can have
happened are the block-size warning and the removal of the destination the caller asked to overwrite -/
theorem gcp_geobox_never_reaches_gdal (a : WArgs) :
    (∃ e, (writeCogGcp a).2 = .error e) ∧ ∀ ev ∈ (writeCogGcp a).1, ev = .warnBlock ∨ ∃ p, ev = .unlink p := by
  rw [writeCogGcp_eq]
  cases layoutOf a.shape a.g with
  | error e => exact ⟨⟨e, rfl⟩, fun _ h => nomatch h⟩
  | ok l =>
    refine ⟨?_, forall_mem_checked a _ (fun p _ _ => .inr ⟨p, rfl⟩) (.inl rfl) fun _ _ h => nomatch h⟩
    obtain ⟨_, _, _, h⟩ | ⟨_, h⟩ | ⟨_, _, h⟩ := checked_cases a fun _ => ([], .error .attributeError) <;>
      exact ⟨_, congrArg Prod.snd h⟩

/-- `gcp_overwrite_removes_destination_cex` (code as it is): with an existing destination and `overwrite=True` the file is removed
BEFORE the missing `transform` is noticed — the call fails and the old file is gone, nothing written in its place -/
theorem gcp_overwrite_removes_destination_cex :
    writeCogGcp { shape := [4, 5], g := some ⟨4, 5⟩, dtype := "uint8", isFloat := false, dst := .path "out.tif" true, overwrite := true } =
      ([.unlink "out.tif"], .error .attributeError) := by decide +kernel

/-- up to the missing attribute a GCP geobox is treated like any other: same layout errors, same overwrite guard, same
resampling check as `_write_cog` on a linear GeoBox -/
theorem gcp_same_checks_first (a : WArgs) (e : GErr) (h : (writeCog a).2 = .error e) : (writeCogGcp a).2 = .error e := by
  rw [writeCog, writeCogFrom_eq] at h
  rw [writeCogGcp_eq]
  cases hl : layoutOf a.shape a.g with
  | error e' => rw [hl] at h; exact h
  | ok l =>
    -- both calls are `checked a _`, and the body of `writeCog` does not fail
    simp only [hl, checked] at h ⊢
    split
    · rwa [if_pos ‹_›] at h
    · rw [if_neg ‹_›] at h
      cases hr : resamplingS2rio (a.resampling.getD "nearest") with
      | none => rw [hr] at h; exact h
      | some rs => rw [hr] at h; cases h

end OdcGeo.C15
