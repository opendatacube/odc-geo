/-
C17 — ROI (slice) helpers agree with array slicing semantics: the one-axis core and the N-D
zips of `Model/C17.lean`.

`Sel n s i` ("index `i` of a length-`n` array is selected by the index expression `s`") is
the reference numpy semantics of `Spec/PySlice.lean`.  Most statements about closed slices
with non-negative bounds go through `sel_closed`, which turns `Sel` into three inequalities;
those about `roi_from_points` go through its normal form `fromPoints_eq` (a clipped box).
-/
import OdcGeo.Model.C17
import OdcGeo.Spec.PySlice
import OdcGeo.Lemmas.C17
import OdcGeo.Lemmas.C17MapM
import OdcGeo.Lemmas.Py
import Mathlib.Tactic.ByContra
import Mathlib.Algebra.Order.Field.Rat

namespace OdcGeo.C17
open OdcGeo.PySlice

theorem not_sel_same (n x i : Int) : ¬ Sel n (.slc (some x) (some x)) i :=
  fun h => absurd h.2 (Int.not_lt.mpr h.1)

theorem clampBound_zero (x : Int) : clampBound 0 x = 0 := by
  unfold clampBound
  split <;> omega

theorem bounds_normSlice (n : Int) (hn : 0 ≤ n) (a b : Option Int) :
    bounds n (some (normSlice (.slc a b) n).start) (some (normSlice (.slc a b) n).stop) = bounds n a b :=
  (congrArg₂ Prod.mk (clampBound_of_nonneg n (wrapNeg_nonneg n _)) (clampBound_of_nonneg n (wrapNeg_nonneg n _))).trans
    (bounds_eq n hn a b).symm

/-- A normalised slice selects the same elements as the original (every length, every
open / negative / out-of-range bound). -/
theorem normalise_same_elements (n : Int) (_hn : 0 ≤ n) (a b : Option Int) (i : Int) :
    Sel n (normSlice (.slc a b) n).toPIdx i ↔ Sel n (.slc a b) i := by
  simp only [Sel, NSlice.toPIdx, bounds_normSlice n _hn]

/-- An in-range integer index normalises to the one-element slice selecting that element. -/
theorem normalise_int_index (n : Int) (k : Int) (hk : -n ≤ k ∧ k < n) (i : Int) :
    Sel n (normSlice (.idx k) n).toPIdx i ↔ Sel n (.idx k) i := by
  have hj : 0 ≤ (if k < 0 then n + k else k) := by split <;> omega
  show Sel n (.slc (some (if k < 0 then n + k else k)) (some (_ + 1))) i ↔ _ = i ∧ 0 ≤ i ∧ i < n
  rw [sel_closed n _ _ i hj (by omega)]
  omega

/-- Normalised bounds are never negative and never `None`. -/
theorem normalise_nonneg (n : Int) (hn : 0 ≤ n) (a b : Option Int) :
    0 ≤ (normSlice (.slc a b) n).start ∧ 0 ≤ (normSlice (.slc a b) n).stop :=
  ⟨wrapNeg_nonneg _ _, wrapNeg_nonneg _ _⟩

/-- `_norm_slice_or_error` accepts exactly the slices with a stop and no negative bound,
and returns them unchanged (an open start as 0). -/
theorem norm_or_error_spec (a : Option Int) (b : Option Int) :
    normSliceOrError (.slc a b) =
      match b with
      | none => .error .valueError
      | some o =>
        let st := match a with | none => 0 | some v => v
        if o < 0 ∨ st < 0 then .error .valueError else .ok ⟨st, o⟩ := by
  cases a <;> cases b <;> simp [normSliceOrError]

/-- `roi_intersect` (one axis, operands as `_norm_slice_or_error` passes them) selects exactly the
indices both operands select; the two disjoint conventions give `x:x`, which selects nothing. -/
theorem intersect_eq_set (n : Int) (a b : NSlice) (i : Int)
    (_ha : 0 ≤ a.start ∧ 0 ≤ a.stop) (_hb : 0 ≤ b.start ∧ 0 ≤ b.stop) :
    Sel n (intersectN a b).toPIdx i ↔ (Sel n a.toPIdx i ∧ Sel n b.toPIdx i) := by
  unfold intersectN NSlice.toPIdx
  rw [sel_closed n _ _ i _ha.1 _ha.2, sel_closed n _ _ i _hb.1 _hb.2]
  split
  · exact iff_of_false (not_sel_same n _ i) (by omega)
  · split
    · exact iff_of_false (not_sel_same n _ i) (by omega)
    · show Sel n (.slc (some (max a.start b.start)) (some (min a.stop b.stop))) i ↔ _
      rw [sel_closed n _ _ i (le_max_of_le_left _ha.1) (le_min _ha.2 _hb.2), max_le_iff, lt_min_iff]
      omega

/-- `roi_intersect` agrees with the third component of `slice_intersect3`. -/
theorem intersect_eq_intersect3 (a b : NSlice) : intersectN a b = (intersect3N a b).2.2 := by
  simp only [intersectN, intersect3N]
  split
  · rfl
  · split <;> rfl

/-- `ab'` is exactly the common index set. -/
theorem intersect3_common (n : Int) (a b : NSlice) (i : Int)
    (_ha : 0 ≤ a.start ∧ 0 ≤ a.stop) (_hb : 0 ≤ b.start ∧ 0 ≤ b.stop) :
    Sel n (intersect3N a b).2.2.toPIdx i ↔ (Sel n a.toPIdx i ∧ Sel n b.toPIdx i) :=
  intersect_eq_intersect3 a b ▸ intersect_eq_set n a b i _ha _hb

/-- Indices of the original array that `X[a][a']` selects, for `a` with non-negative
closed bounds: `lo a + j` for the `j` selected by `a'` in the (clamped) array `X[a]`. -/
def SelTwo (n : Int) (a a' : NSlice) (i : Int) : Prop :=
  ∃ j, Sel (max 0 ((bounds n (some a.start) (some a.stop)).2 -
                  (bounds n (some a.start) (some a.stop)).1)) a'.toPIdx j ∧
       i = (bounds n (some a.start) (some a.stop)).1 + j

theorem not_selTwo_same (n : Int) (a : NSlice) (x i : Int) : ¬ SelTwo n a ⟨x, x⟩ i :=
  fun ⟨_, h, _⟩ => not_sel_same _ x _ h

theorem selTwo_iff (n : Int) (a : NSlice) (x y i : Int) (ha : 0 ≤ a.start ∧ 0 ≤ a.stop) (hx : 0 ≤ x) (hy : 0 ≤ y) :
    SelTwo n a ⟨x, y⟩ i ↔ a.start + x ≤ i ∧ i < a.start + y ∧ i < a.stop ∧ i < n := by
  unfold SelTwo
  simp only [bounds, clampBound_of_nonneg n ha.1, clampBound_of_nonneg n ha.2, NSlice.toPIdx, sel_closed _ x y _ hx hy]
  constructor
  · rintro ⟨j, hj, rfl⟩
    omega
  · intro h
    exact ⟨i - min a.start n, by omega, by omega⟩

theorem not_selTwo_of_stop_le (n : Int) (a a' : NSlice) (i : Int) (ha : 0 ≤ a.start ∧ 0 ≤ a.stop)
    (h : a.stop ≤ a.start) : ¬ SelTwo n a a' i := by
  rintro ⟨j, ⟨h1, h2⟩, -⟩
  have hm : max 0 (min a.stop n - min a.start n) = 0 := by omega
  simp only [bounds, clampBound_of_nonneg n ha.1, clampBound_of_nonneg n ha.2, hm, clampBound_zero] at h1 h2
  omega

/-- `X[a][c - a.start] = X[c]` for `c` inside `a` (an inverted `a` selects nothing, and then neither does `c`). -/
theorem selTwo_sub (n : Int) (a c : NSlice) (i : Int) (ha : 0 ≤ a.start ∧ 0 ≤ a.stop) (hc : 0 ≤ c.stop)
    (h1 : a.start ≤ c.start) (h2 : c.stop ≤ a.stop) (h3 : a.start ≤ a.stop → a.start ≤ c.stop) :
    SelTwo n a ⟨c.start - a.start, c.stop - a.start⟩ i ↔ Sel n c.toPIdx i := by
  rw [NSlice.toPIdx, sel_closed n _ _ i (ha.1.trans h1) hc]
  by_cases h : a.start ≤ a.stop
  · rw [selTwo_iff n a _ _ i ha (sub_nonneg.2 h1) (sub_nonneg.2 (h3 h)), add_sub_cancel, add_sub_cancel]
    omega
  · exact iff_of_false (not_selTwo_of_stop_le n a _ i ha (by omega)) (by omega)

/-- `X[a][a'] = X[ab']` (as sets of original indices). -/
theorem intersect3_left (n : Int) (_hn : 0 ≤ n) (a b : NSlice) (i : Int)
    (ha : 0 ≤ a.start ∧ 0 ≤ a.stop) (hb : 0 ≤ b.start ∧ 0 ≤ b.stop) :
    SelTwo n a (intersect3N a b).1 i ↔ Sel n (intersect3N a b).2.2.toPIdx i := by
  unfold intersect3N
  split
  · exact iff_of_false (not_selTwo_same n a _ i) (not_sel_same n _ i)
  · split
    · exact iff_of_false (not_selTwo_same n a _ i) (not_sel_same n _ i)
    · exact selTwo_sub n a ⟨max a.start b.start, min a.stop b.stop⟩ i ha (le_min ha.2 hb.2) (le_max_left ..)
        (min_le_left ..) fun h => le_min h (by omega)

/-- `X[b][b'] = X[ab']` (as sets of original indices). -/
theorem intersect3_right (n : Int) (_hn : 0 ≤ n) (a b : NSlice) (i : Int)
    (ha : 0 ≤ a.start ∧ 0 ≤ a.stop) (hb : 0 ≤ b.start ∧ 0 ≤ b.stop) :
    SelTwo n b (intersect3N a b).2.1 i ↔ Sel n (intersect3N a b).2.2.toPIdx i := by
  unfold intersect3N
  split
  · exact iff_of_false (not_selTwo_same n b _ i) (not_sel_same n _ i)
  · split
    · exact iff_of_false (not_selTwo_same n b _ i) (not_sel_same n _ i)
    · exact selTwo_sub n b ⟨max a.start b.start, min a.stop b.stop⟩ i hb (le_min ha.2 hb.2) (le_max_right ..)
        (min_le_right ..) fun h => le_min (by omega) h

theorem shape_closed (s e : Int) : sliceDim (.slc (some s) (some e)) = .ok (e - s) := rfl
theorem shape_open_left (e : Int) : sliceDim (.slc none (some e)) = .ok e := rfl
theorem shape_int (k : Int) : sliceDim (.idx k) = .ok 1 := rfl
theorem shape_open_right_errors (a : Option Int) : sliceDim (.slc a none) = .error .valueError := by
  cases a <;> rfl

/-- The selected set of an in-range region is the interval of `roi_shape` many indices
starting at `start`. -/
theorem shape_counts_selected (n : Int) (s e : Int) (h : 0 ≤ s ∧ s ≤ e ∧ e ≤ n) (i : Int) :
    Sel n (.slc (some s) (some e)) i ↔ s ≤ i ∧ i < s + (e - s) := by
  rw [sel_closed n s e i h.1 (by omega)]
  omega

/-- One axis of `roi_is_empty`: "dimension ≤ 0" ⇔ the described index interval is empty. -/
theorem is_empty_iff (s e : Int) :
    (e - s ≤ 0) ↔ ¬ ∃ i, s ≤ i ∧ i < e := by
  constructor
  · rintro h ⟨i, hi⟩; omega
  · intro h
    by_contra hc
    exact h ⟨s, by omega⟩

/-- N-D `roi_is_empty` is "some axis is empty". -/
theorem roi_is_empty_closed (roi : List (Int × Int)) :
    roiIsEmpty (roi.map fun p => .slc (some p.1) (some p.2)) =
      .ok (roi.any fun p => decide (p.2 - p.1 ≤ 0)) := by
  rw [roiIsEmpty, mapM_map_ok _ sliceDim (fun p => p.2 - p.1) roi fun _ _ => rfl]
  simp [bind, Except.bind, pure, Except.pure, List.any_map, Function.comp_def]

/-- `roi_is_full` (one axis, closed in-range bounds, non-empty axis): full ⇔ every element
is selected. -/
theorem is_full_iff (n : Int) (hn : 0 < n) (s e : Int) (h : 0 ≤ s ∧ 0 ≤ e ∧ e ≤ n) :
    sliceFull (.slc (some s) (some e)) n = true ↔ ∀ i, 0 ≤ i ∧ i < n → Sel n (.slc (some s) (some e)) i := by
  simp only [sliceFull, Bool.and_eq_true, beq_iff_eq, sel_closed n s e _ h.1 h.2.1]
  constructor
  · rintro ⟨rfl, rfl⟩ i hi
    omega
  · intro hall
    have h0 := hall 0 (by omega)
    have h1 := hall (n - 1) (by omega)
    omega

/-- Open bounds count as full on that side. -/
theorem is_full_open (n : Int) : sliceFull (.slc none none) n = true := rfl

/-- N-D normalisation has one entry per axis that both the region and the shape describe … -/
theorem roi_normalise_nd_length (roi : List PIdx) (shape : List Int) :
    (roiNormalise roi shape).length = min roi.length shape.length := by
  simp [roiNormalise]

/-- … and on every such axis the normalised slice selects the same elements as the original. -/
theorem roi_normalise_nd_same_elements (roi : List PIdx) (shape : List Int) (k : Nat)
    (hr : k < roi.length) (hs : k < shape.length) (a b : Option Int) (hk : roi[k] = .slc a b)
    (hn : 0 ≤ shape[k]) (i : Int) :
    Sel shape[k] ((roiNormalise roi shape)[k]'(by simp [roiNormalise]; omega)).toPIdx i ↔ Sel shape[k] roi[k] i := by
  simp only [roiNormalise, List.getElem_map, List.getElem_zip, hk]
  exact normalise_same_elements _ hn a b i

/-- N-D fullness is fullness on every described axis. -/
theorem roi_is_full_nd_iff (roi : List PIdx) (shape : List Int) :
    roiIsFull roi shape = true ↔
      ∀ k (hr : k < roi.length) (hs : k < shape.length), sliceFull roi[k] shape[k] = true := by
  simp only [roiIsFull, List.all_eq_true, List.forall_mem_iff_forall_getElem, List.length_zip, List.getElem_zip, Nat.lt_min]
  exact ⟨fun h k hr hs => h k ⟨hr, hs⟩, fun h k hk => h k hk.1 hk.2⟩

/-- Index-set meaning of N-D fullness (closed in-range bounds, no empty axis, one slice per axis):
`roi_is_full` ⇔ on every axis every element is selected, i.e. `X[roi]` is all of `X`. -/
theorem roi_is_full_nd_selects_all (roi : List (Int × Int)) (shape : List Int) (_hlen : roi.length = shape.length)
    (hshape : ∀ k (hs : k < shape.length), 0 < shape[k])
    (hroi : ∀ k (hr : k < roi.length) (hs : k < shape.length),
      0 ≤ (roi[k]).1 ∧ 0 ≤ (roi[k]).2 ∧ (roi[k]).2 ≤ shape[k]) :
    roiIsFull (roi.map fun p => .slc (some p.1) (some p.2)) shape = true ↔
      ∀ k (hr : k < roi.length) (hs : k < shape.length) (i : Int), 0 ≤ i ∧ i < shape[k] →
        Sel shape[k] (.slc (some (roi[k]).1) (some (roi[k]).2)) i := by
  simp only [roi_is_full_nd_iff, List.length_map, List.getElem_map]
  exact forall_congr' fun k => forall_congr' fun hr => forall_congr' fun hs =>
    is_full_iff _ (hshape k hs) _ _ (hroi k hr hs)

/-- the hypotheses are satisfiable and the answer is not constant: a full and a cropped 2-D region -/
example : roiIsFull [.slc (some 0) (some 3), .slc none none] [3, 4] = true
    ∧ roiIsFull [.slc (some 0) (some 3), .slc (some 1) (some 4)] [3, 4] = false := by decide

/-- N-D padding pads every described axis (`pad_spec` applies to each entry). -/
theorem roi_pad_nd_axis (roi : List PIdx) (pad : Int) (shape : List Int) (k : Nat)
    (hr : k < roi.length) (hs : k < shape.length) :
    (roiPad roi pad shape)[k]'(by simp [roiPad]; omega) = padSlice roi[k] pad shape[k] := by
  simp [roiPad]

/-- `roi_center` is the mid-point of the described interval. -/
theorem center_eq (s e : Int) (h : 0 ≤ s ∧ 0 ≤ e) :
    sliceCenter (.slc (some s) (some e)) = .ok (((s + e : Int) : Rat) / 2) := by
  rw [sliceCenter, normSliceOrError_closed s e h.1 h.2]
  rfl

/-- Padding grows the (normalised) region by `pad` on each side, clamped to the array. -/
theorem pad_spec (n : Int) (_hn : 0 ≤ n) (a b : Option Int) (pad : Int) (_hp : 0 ≤ pad) (i : Int) :
    ((padSlice (.slc a b) pad n).start ≤ i ∧ i < (padSlice (.slc a b) pad n).stop) ↔
      (0 ≤ i ∧ i < n ∧ (normSlice (.slc a b) n).start - pad ≤ i ∧
        i < (normSlice (.slc a b) n).stop + pad) := by
  simp only [padSlice, max_le_iff, lt_min_iff]
  omega

/-- The padded region always lies within the array. -/
theorem pad_within (n : Int) (_hn : 0 ≤ n) (s : PIdx) (pad : Int) :
    0 ≤ (padSlice s pad n).start ∧ (padSlice s pad n).stop ≤ n := by
  simp only [padSlice]
  omega

theorem align_down_spec (x a : Int) (ha : 0 < a) :
    a ∣ alignDown x a ∧ alignDown x a ≤ x ∧ x - alignDown x a < a := by
  unfold alignDown
  refine ⟨?_, ?_, ?_⟩
  · exact Int.dvd_self_sub_emod
  · have := Int.emod_nonneg x (by omega : a ≠ 0); omega
  · have := Int.emod_lt_of_pos x ha; omega

theorem align_up_spec (x a : Int) (ha : 0 < a) :
    a ∣ alignUp x a ∧ x ≤ alignUp x a ∧ alignUp x a - x < a := by
  obtain ⟨h1, h2, h3⟩ := align_down_spec (x + (a - 1)) a ha
  unfold alignUp
  exact ⟨h1, by omega, by omega⟩

theorem alignUp_ediv_mul (x a : Int) (ha : 0 < a) : alignUp x a / a * a = alignUp x a :=
  Int.ediv_mul_cancel (align_up_spec x a ha).1

theorem ediv_mul_eq_alignDown (x a : Int) : x / a * a = alignDown x a := by
  rw [alignDown, Int.emod_def, Int.sub_sub_self, Int.mul_comm]

/-- Scaling a region down and then up by `k` contains the original and exceeds it by
less than `k` on each side. -/
theorem scale_down_up (s : NSlice) (k : Int) (hk : 0 < k) :
    let r := scaledUpSlice (scaledDownSlice s k) k none
    r.start ≤ s.start ∧ s.start - r.start < k ∧ s.stop ≤ r.stop ∧ r.stop - s.stop < k := by
  simp only [scaledUpSlice, scaledDownSlice, fdiv, alignUp_ediv_mul s.stop k hk, ediv_mul_eq_alignDown]
  exact ⟨(align_down_spec s.start k hk).2.1, (align_down_spec s.start k hk).2.2,
    (align_up_spec s.stop k hk).2.1, (align_up_spec s.stop k hk).2.2⟩

/-- With a clamp shape the scaled-up region stays inside the image. -/
theorem scale_up_clamped (s : NSlice) (k d : Int) :
    (scaledUpSlice s k (some d)).start ≤ d ∧ (scaledUpSlice s k (some d)).stop ≤ d := by
  simp only [scaledUpSlice]
  omega

/-- `scaled_down_shape`: the smallest overview size that covers the image. -/
theorem scaled_down_dim_spec (n k : Int) (hk : 0 < k) :
    n ≤ scaledDownDim n k * k ∧ scaledDownDim n k * k - n < k := by
  simp only [scaledDownDim, fdiv, alignUp_ediv_mul n k hk]
  exact (align_up_spec n k hk).2

theorem from_points_axis_within (lo hi : Rat) (n pad : Int) (al : Option Int) (hn : 0 ≤ n) :
    0 ≤ (fromPointsAxis lo hi n pad al).start ∧ (fromPointsAxis lo hi n pad al).start ≤ n ∧
    0 ≤ (fromPointsAxis lo hi n pad al).stop ∧ (fromPointsAxis lo hi n pad al).stop ≤ n := by
  cases al <;> exact ⟨(clip_within _ n hn).1, (clip_within _ n hn).2, (clip_within _ n hn).1, (clip_within _ n hn).2⟩

/-- `roi_from_points` on one axis: `[lo, hi]` widened by `pad`, rounded outward to integers (further out to multiples
of `align`, if any), clipped to the image. -/
theorem fromPointsAxis_eq (lo hi : Rat) (n pad : Int) (al : Option Int) (hal : ∀ a, al = some a → 0 < a) :
    ∃ i o : Int, (∀ x : Rat, lo ≤ x → x ≤ hi → (i : Rat) ≤ x - pad ∧ x + pad ≤ o) ∧
      fromPointsAxis lo hi n pad al = ⟨clip i 0 n, clip o 0 n⟩ := by
  have h : ∀ i o : Int, i ≤ lo.floor - pad → hi.ceil + pad ≤ o →
      ∀ x : Rat, lo ≤ x → x ≤ hi → (i : Rat) ≤ x - pad ∧ x + pad ≤ o := by
    intro i o hi' ho' x hlo hhi
    have h1 : (i : Rat) ≤ lo.floor - pad := by exact_mod_cast hi'
    have h2 : (hi.ceil : Rat) + pad ≤ o := by exact_mod_cast ho'
    exact ⟨h1.trans (sub_le_sub_right ((Rat.floor_le lo).trans hlo) _),
      (add_le_add_left (hhi.trans Rat.le_ceil) _).trans h2⟩
  cases al with
  | none => exact ⟨_, _, h _ _ le_rfl le_rfl, rfl⟩
  | some a =>
    exact ⟨_, _, h _ _ (align_down_spec _ a (hal a rfl)).2.1 (align_up_spec _ a (hal a rfl)).2.1, rfl⟩

/-- `roi_from_points`: a clipped box whose unclipped bounds bracket every finite sample with its `pad` neighbourhood;
no bound on the magnitude of the samples is needed. -/
theorem fromPoints_eq (pts : List (Coord × Coord)) (ny nx pad : Int) (al : Option Int) (hal : ∀ a, al = some a → 0 < a)
    (hne : finitePts pts ≠ []) :
    ∃ iy oy ix ox : Int,
      fromPoints pts ny nx pad al = (⟨clip iy 0 ny, clip oy 0 ny⟩, ⟨clip ix 0 nx, clip ox 0 nx⟩) ∧
      ∀ p ∈ finitePts pts, ((ix : Rat) ≤ p.1 - pad ∧ p.1 + pad ≤ ox) ∧ ((iy : Rat) ≤ p.2 - pad ∧ p.2 + pad ≤ oy) := by
  unfold fromPoints
  generalize finitePts pts = l at hne
  match l, hne with
  | q :: qs, _ =>
    obtain ⟨iy, oy, hy, ey⟩ := fromPointsAxis_eq (minL 0 ((q :: qs).map (·.2))) (maxL 0 ((q :: qs).map (·.2))) ny pad al hal
    obtain ⟨ix, ox, hx, ex⟩ := fromPointsAxis_eq (minL 0 ((q :: qs).map (·.1))) (maxL 0 ((q :: qs).map (·.1))) nx pad al hal
    exact ⟨iy, oy, ix, ox, Prod.ext ey ex, fun p hp =>
      ⟨hx p.1 (minL_le 0 _ _ (List.mem_map_of_mem hp)) (le_maxL 0 _ _ (List.mem_map_of_mem hp)),
       hy p.2 (minL_le 0 _ _ (List.mem_map_of_mem hp)) (le_maxL 0 _ _ (List.mem_map_of_mem hp))⟩⟩

/-- Alignment is honoured: each bound is a multiple of `align` unless it was clipped to the
far image edge. -/
theorem from_points_axis_aligned (lo hi : Rat) (n pad a : Int) (ha : 0 < a) :
    (a ∣ (fromPointsAxis lo hi n pad (some a)).start ∨ (fromPointsAxis lo hi n pad (some a)).start = n) ∧
    (a ∣ (fromPointsAxis lo hi n pad (some a)).stop ∨ (fromPointsAxis lo hi n pad (some a)).stop = n) :=
  ⟨clip_dvd_or_eq a _ n (align_down_spec (lo.floor - pad) a ha).1,
   clip_dvd_or_eq a _ n (align_up_spec (hi.ceil + pad) a ha).1⟩

/-- **Region from sample points contains every finite in-image point**, with its padding
neighbourhood, whatever other points (non-finite, or arbitrarily far outside) are present. -/
theorem from_points_contains (pts : List (Coord × Coord)) (ny nx pad : Int) (al : Option Int)
    (x y : Rat) (hmem : (Coord.fin x, Coord.fin y) ∈ pts)
    (hx : 0 ≤ x ∧ x ≤ nx) (hy : 0 ≤ y ∧ y ≤ ny) (hp : 0 ≤ pad)
    (hal : ∀ a, al = some a → 0 < a) :
    let r := fromPoints pts ny nx pad al
    ((r.2.start : Rat) ≤ max 0 (x - pad) ∧ min (nx : Rat) (x + pad) ≤ r.2.stop) ∧
    ((r.1.start : Rat) ≤ max 0 (y - pad) ∧ min (ny : Rat) (y + pad) ≤ r.1.stop) := by
  have hm : (x, y) ∈ finitePts pts := List.mem_filterMap.2 ⟨_, hmem, rfl⟩
  obtain ⟨iy, oy, ix, ox, e, h⟩ := fromPoints_eq pts ny nx pad al hal (List.ne_nil_of_mem hm)
  obtain ⟨⟨hx1, hx2⟩, hy1, hy2⟩ := h (x, y) hm
  rw [e]
  exact ⟨⟨clip_le_of_le (hx1.trans (le_max_right _ _)) (le_max_left _ _),
      le_clip_of_le ((min_le_right _ _).trans hx2) (min_le_left _ _)⟩,
    clip_le_of_le (hy1.trans (le_max_right _ _)) (le_max_left _ _),
    le_clip_of_le ((min_le_right _ _).trans hy2) (min_le_left _ _)⟩

/-- The region never leaves the image. -/
theorem from_points_within_image (pts : List (Coord × Coord)) (ny nx pad : Int) (al : Option Int)
    (hny : 0 ≤ ny) (hnx : 0 ≤ nx) :
    let r := fromPoints pts ny nx pad al
    (0 ≤ r.1.start ∧ r.1.start ≤ ny ∧ 0 ≤ r.1.stop ∧ r.1.stop ≤ ny) ∧
    (0 ≤ r.2.start ∧ r.2.start ≤ nx ∧ 0 ≤ r.2.stop ∧ r.2.stop ≤ nx) := by
  simp only [fromPoints]
  cases finitePts pts with
  | nil => simp [hny, hnx]
  | cons p ps =>
    exact ⟨from_points_axis_within _ _ ny pad al hny, from_points_axis_within _ _ nx pad al hnx⟩

/-- Non-finite points are ignored: the result is a function of the finite points only. -/
theorem from_points_ignores_nonfinite (pts : List (Coord × Coord)) (ny nx pad : Int) (al : Option Int) :
    fromPoints pts ny nx pad al =
      fromPoints (pts.filter fun p => p.1.isFinite && p.2.isFinite) ny nx pad al := by
  refine fromPoints_congr (Eq.symm ?_) ny nx pad al
  unfold finitePts
  rw [List.filterMap_filter]
  congr 1
  funext ⟨a, b⟩
  cases a <;> cases b <;> rfl

/-- No finite point at all gives the empty region `0:0, 0:0`. -/
theorem from_points_no_finite (pts : List (Coord × Coord)) (ny nx pad : Int) (al : Option Int)
    (h : finitePts pts = []) : fromPoints pts ny nx pad al = (⟨0, 0⟩, ⟨0, 0⟩) := by
  rw [fromPoints, h]

example : Sel 5 (normSlice (.slc none (some (-7))) 5).toPIdx 0 ↔ Sel 5 (.slc none (some (-7))) 0 :=
  normalise_same_elements 5 (by decide) none (some (-7)) 0
example : (intersect3N ⟨2, 9⟩ ⟨5, 12⟩) = (⟨3, 7⟩, ⟨0, 4⟩, ⟨5, 9⟩) := by decide
example : (fromPoints [(.fin 5, .fin 5), (.fin 1000000000000, .fin 7), (.nonfinite, .fin 3)]
    100 100 0 none) = (⟨5, 7⟩, ⟨5, 100⟩) := by decide +kernel

end OdcGeo.C17
