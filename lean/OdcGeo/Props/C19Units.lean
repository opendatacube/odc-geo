/-
C19 — `CRS.dimensions` / `CRS.units` (`Model/C19Units.lean`): the dispatch over pyproj's `axis_info`.
-/
import OdcGeo.Model.C19Units
import Batteries.Lean.Except

namespace OdcGeo.C19

theorem getLast_some (k v : String) : ∀ l : List (String × String), getLast k l = some v →
    ∃ i : Nat, l[i]? = some (k, v)
  | [], h => nomatch h
  | (k', v') :: t, h => by
    unfold getLast at h
    split at h
    · next r ht =>
      obtain ⟨i, hi⟩ := getLast_some k r t ht
      exact ⟨i + 1, (Option.some.inj h) ▸ hi⟩
    · split at h
      · next hk => exact ⟨0, by rw [← hk, ← Option.some.inj h]; rfl⟩
      · cases h

/-- `dimensions` and `units` of a geographic CRS are fixed; anything neither geographic nor
projected is a `ValueError` in both -/
theorem dims_units_spec (axes : List Axis) :
    dimensionsOf .geographic = .ok ("latitude", "longitude") ∧ dimensionsOf .projected = .ok ("y", "x") ∧
    unitsOf .geographic axes = .ok ("degrees_north", "degrees_east") ∧
    dimensionsOf .other = .error .valueError ∧ unitsOf .other axes = .error .valueError :=
  ⟨rfl, rfl, rfl, rfl, rfl⟩

/-- **A projected CRS with at least two axes always reports the units of two DIFFERENT axes** as
`(y, x)` — by direction when the directions tell x from y, else by abbreviation, else by position
(polar CRSs, whose two axes both point north or both south, take the fall-back); never `""` for a
missing name -/
theorem unitsOf_two_distinct_axes (axes : List Axis) (hn : 2 ≤ axes.length) :
    ∃ (i j : Nat) (a b : Axis), i ≠ j ∧ axes[i]? = some a ∧ axes[j]? = some b ∧
      unitsOf .projected axes = .ok (a.uname, b.uname) := by
  match axes, hn with
  | a0 :: a1 :: rest, _ =>
    simp only [unitsOf, unitsDict]
    split
    · -- fall back: abbreviation, else position
      split
      · rename_i hab
        rcases hab with ⟨h0, h1⟩ | ⟨h0, h1⟩
        · exact ⟨1, 0, a1, a0, by decide, rfl, rfl, by rw [h0, h1]; rfl⟩
        · exact ⟨0, 1, a0, a1, by decide, rfl, rfl, by rw [h0, h1]; rfl⟩
      · exact ⟨1, 0, a1, a0, by decide, rfl, rfl, rfl⟩
    · rename_i hc
      -- the directions name both x and y
      have h2 : decide (2 ≤ (a0 :: a1 :: rest).length) = true := decide_eq_true (Nat.le_add_left 2 _)
      rw [h2, Bool.and_true, Bool.or_eq_true, not_or, Option.isNone_iff_eq_none,
        Option.isNone_iff_eq_none] at hc
      obtain ⟨vx, hx⟩ := Option.ne_none_iff_exists'.1 hc.1
      obtain ⟨vy, hy⟩ := Option.ne_none_iff_exists'.1 hc.2
      rw [hx, hy]
      obtain ⟨j, hj⟩ := getLast_some _ _ _ hx
      obtain ⟨i, hi⟩ := getLast_some _ _ _ hy
      rw [List.getElem?_map, Option.map_eq_some_iff] at hi hj
      obtain ⟨a, ha, hda⟩ := hi
      obtain ⟨b, hb, hdb⟩ := hj
      refine ⟨i, j, a, b, ?_, ha, hb, ?_⟩
      · -- one axis cannot be named both `y` and `x`
        intro e
        subst e
        cases ha.symm.trans hb
        exact absurd ((Prod.mk.inj hda).1.symm.trans (Prod.mk.inj hdb).1) (by decide)
      · rw [← (Prod.mk.inj hda).2, ← (Prod.mk.inj hdb).2]
        rfl

example : unitsOf .projected [⟨"north", "N", "metre"⟩, ⟨"north", "E", "foot"⟩] = .ok ("metre", "foot") := by
  decide +kernel
example : unitsOf .projected [⟨"south", "?", "a"⟩, ⟨"south", "?", "b"⟩] = .ok ("b", "a") := by decide +kernel
example : unitsOf .projected [⟨"east", "E", "a"⟩, ⟨"north", "N", "b"⟩] = .ok ("b", "a") := by decide +kernel

end OdcGeo.C19
