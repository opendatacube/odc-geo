/-
C05 ∘ C15 — where the dask writer's geo-registration tags come from.

`_tifffile.geotiff_metadata(geobox, nodata)` does not compute GeoTIFF tags: it writes a tiny image through the GDAL writer of
property C15 — `to_cog(xr_zeros(geobox[:2, :2]), nodata=nodata, compress=None, overview_levels=[])` — and copies the tags GDAL
produced (`_shared.GEOTIFF_TAGS`) into its own header.  Composed with the C15 call-trace model (`Model/C15Glue.lean`) this
says what GDAL is asked for: ONE in-memory dataset of the cropped GeoBox's size, carrying the GeoBox's transform and CRS, the
`nodata` of the array when there is one, uncompressed, written once, no overviews, nothing touched on disk.  Together with
`Cog.encodeTransform` / `tags_encode_affine` (GDAL reference semantics) the copied tags decode to the GeoBox's affine.
-/
import OdcGeo.Props.C15Glue

namespace OdcGeo.C05
open OdcGeo.C15 (V Dict Ev Loc Ret toCog writeCogEntry writeCogEntryWith writeCog writeCogFrom)

/-- the call `geotiff_metadata` makes; `h × w` is the shape of `geobox[:2, :2]` (1 or 2 per side), `xr_zeros` is float64 -/
def geotiffMetadataCall (nodata : V) (h w : Nat) : OdcGeo.C15.CArgs :=
  { im := { shape := [h, w], g := some ⟨h, w⟩, dtype := "float64", isFloat := true },
    dst := .mem, levels := some [], extra := [("nodata", nodata), ("compress", .none)] }

/-- `geotiff_metadata_via_rio`: the GDAL writer is asked for exactly one uncompressed in-memory dataset of the cropped size with
the GeoBox's transform / CRS and the array's nodata, written in one shot; the call cannot fail and leaves nothing behind -/
theorem geotiff_metadata_via_rio (nodata : V) (h w : Nat) (hh : 1 ≤ h ∧ h ≤ 2) (hw : 1 ≤ w ∧ w ≤ 2) :
    ∃ opts, toCog (geotiffMetadataCall nodata h w) =
        ([.openW (.anon 0) opts, .write [h, w] none none, .close], .ok (.bytesOf (.anon 0))) ∧
      Dict.get opts "nodata" = (if nodata = .none then none else some nodata) ∧
      Dict.get opts "compress" = some .none ∧
      Dict.get opts "transform" = some (.ext "transform") ∧ Dict.get opts "crs" = some (.ext "crs") ∧
      Dict.get opts "width" = some (.int w) ∧ Dict.get opts "height" = some (.int h) ∧
      Dict.get opts "blockxsize" = some (.int 16) ∧ Dict.get opts "blockysize" = some (.int 16) := by
  have hl : OdcGeo.C15.layoutOf [h, w] (some ⟨h, w⟩) = .ok ⟨1, h, w, false⟩ := by
    simp [OdcGeo.C15.layoutOf, OdcGeo.C15.normLayout]
  have hrs : OdcGeo.C15.resamplingS2rio "nearest" = some "nearest" := by decide
  have hkw : Dict.getNone [("nodata", nodata), ("compress", V.none)] "nodata" = nodata := by
    simp [Dict.getNone, Dict.get]
  have hwo : Dict.without [("nodata", nodata), ("compress", V.none)] ["nodata"] = [("compress", V.none)] := by
    simp [Dict.without]
  refine ⟨OdcGeo.C15.memOpenKw (OdcGeo.C15.rioOpts ⟨1, h, w, false⟩ "float64" true 512 nodata [("compress", V.none)]), ?_, ?_⟩
  · have hnd : (if nodata = V.none then V.none else nodata) = nodata := ite_eq_right_iff.mpr Eq.symm
    unfold toCog writeCogEntry writeCogEntryWith geotiffMetadataCall
    simp only [hkw, hwo, hnd]
    rw [writeCog, OdcGeo.C15.writeCogFrom_eq]
    simp [hl, OdcGeo.C15.checked, OdcGeo.C15.pathGuard, OdcGeo.C15.gdalCalls, OdcGeo.C15.blockWarn,
      OdcGeo.C15.levelsFor, OdcGeo.C15.writeEvents, OdcGeo.C15.Dst.loc, OdcGeo.C15.Dst.ret, hrs]
  · have hb : ∀ d, 1 ≤ d ∧ d ≤ 2 → adjustBlocksize 512 d = 16 := by
      intro d hd
      have : d = 1 ∨ d = 2 := by omega
      rcases this with rfl | rfl <;> decide
    obtain ⟨gw, gh, gx, gy, gt, gc⟩ := OdcGeo.C15.baseOpts_grid ⟨1, h, w, false⟩ "float64" true 512
    rw [hb w hw] at gx
    rw [hb h hh] at gy
    -- `driver` is the only key `mem.open` adds; `compress` is the only extra option
    have base : ∀ k ∈ ["transform", "crs", "width", "height", "blockxsize", "blockysize"],
        Dict.get (OdcGeo.C15.memOpenKw (OdcGeo.C15.rioOpts ⟨1, h, w, false⟩ "float64" true 512 nodata [("compress", V.none)])) k =
        Dict.get (OdcGeo.C15.baseOpts ⟨1, h, w, false⟩ "float64" true 512) k := by
      intro k hk
      have hne : k ≠ "driver" ∧ "compress" ≠ k ∧ k ≠ "nodata" := by
        revert k
        decide
      rw [OdcGeo.C15.get_memOpenKw _ _ hne.1]
      exact OdcGeo.C15.rio_opts_default _ _ _ _ _ _ k (by rw [Dict.lastGet, List.reverse_singleton, OdcGeo.C15.Dict.get_cons, if_neg hne.2.1]; rfl) hne.2.2
    refine ⟨?_, ?_, (base _ (by decide)).trans gt, (base _ (by decide)).trans gc, (base _ (by decide)).trans gw,
      (base _ (by decide)).trans gh, (base _ (by decide)).trans gx, (base _ (by decide)).trans gy⟩
    · rw [OdcGeo.C15.get_memOpenKw _ _ (by decide), OdcGeo.C15.rio_opts_precedence]
      rfl
    · rw [OdcGeo.C15.get_memOpenKw _ _ (by decide), OdcGeo.C15.rio_opts_precedence]
      rfl

example : ∃ opts, toCog (geotiffMetadataCall (.int 255) 2 2) =
    ([.openW (.anon 0) opts, .write [2, 2] none none, .close], .ok (.bytesOf (.anon 0))) ∧ Dict.get opts "nodata" = some (.int 255) := by
  obtain ⟨o, h1, h2, _⟩ := geotiff_metadata_via_rio (.int 255) 2 2 (by decide) (by decide)
  exact ⟨o, h1, by simpa using h2⟩

end OdcGeo.C05
