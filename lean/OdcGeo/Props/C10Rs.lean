/- C10 — theorems about the dispatch tables of warp.py (`OdcGeo.Model.C10Rs`). -/
import OdcGeo.Model.C10Rs
namespace OdcGeo.C10

theorem lookup_eq_some_iff {t : String} {v : Nat} :
    ∀ l : List (String × Nat), (l.map (·.1)).Nodup → (l.lookup t = some v ↔ (t, v) ∈ l)
  | [], _ => by simp
  | (k, w) :: l, hnd => by
    rw [List.map_cons, List.nodup_cons] at hnd
    rw [List.lookup_cons, List.mem_cons, Prod.mk.injEq]
    by_cases hk : t = k
    · subst hk
      rw [beq_self_eq_true]
      constructor
      · intro h; exact Or.inl ⟨rfl, (Option.some.inj h).symm⟩
      · rintro (h | h)
        · rw [h.2]
        · exact absurd (List.mem_map_of_mem (f := (·.1)) h) hnd.1
    · rw [beq_false_of_ne hk, lookup_eq_some_iff l hnd.2]
      exact ⟨Or.inr, fun h => h.resolve_left (fun c => hk c.1)⟩

/-- `resampling_s2rio` succeeds exactly on the 15 member names (case-insensitively) and returns the member's value. -/
theorem s2rio_ok_iff (name : String) (c : Nat) :
    resamplingS2Rio name = .ok c ↔ (name.toLower, c) ∈ resamplingTable := by
  rw [← lookup_eq_some_iff resamplingTable (by decide +kernel)]
  unfold resamplingS2Rio
  cases resamplingTable.lookup name.toLower <;> simp

/-- **The two routes to "is this nearest?" agree**: for a string, `is_resampling_nn` says yes exactly when
`resampling_s2rio` yields the member with value 0; for an enum member / integer, exactly for the value 0. -/
theorem nn_iff_code_zero (a : RsArg) : isResamplingNN a = true ↔ rioResampling a = .ok 0 := by
  cases a with
  | code n => simp [isResamplingNN, rioResampling]
  | str s =>
    simp only [isResamplingNN, rioResampling, beq_iff_eq]
    constructor
    · intro h
      have : resamplingS2Rio s = .ok 0 := (s2rio_ok_iff s 0).mpr (by rw [h]; decide)
      rw [this]; rfl
    · intro h
      cases hr : resamplingS2Rio s with
      | error e => rw [hr] at h; cases h
      | ok c =>
        rw [hr] at h
        obtain rfl : c = 0 := by exact_mod_cast Except.ok.inj h
        -- `nearest` is the only member with value 0
        have only : ∀ p ∈ resamplingTable, p.2 = 0 → p.1 = "nearest" := by decide
        exact only _ ((s2rio_ok_iff s 0).mp hr) rfl

/-- The backend call: exactly one of `src_transform` / `gcps` is given (by the class of the source GeoBox); the
`XSCALE = YSCALE = 1` work-around is added exactly when the caller passed neither; a raster that needs the conversion
detour is handed over in its working type with its nodata stretched alike; and the call fails exactly when
`rioResampling` does (a string that is not a resampling name). -/
theorem rio_call_contract (srcT dstT : PixT) (f : Bool) (nan : Int) (gcp : Bool) (rs : RsArg) (hasX hasY : Bool)
    (sn dn : Option Int) :
    ((∃ e, rioCall srcT dstT f nan gcp rs hasX hasY sn dn = .error e) ↔ (∃ e, rioResampling rs = .error e)) ∧
    (∀ c, rioCall srcT dstT f nan gcp rs hasX hasY sn dn = .ok c →
      (c.srcTransform = !c.gcps) ∧ c.gcps = gcp ∧ (c.scaleInjected = true ↔ (hasX = false ∧ hasY = false)) ∧
      rioResampling rs = .ok c.resampling ∧ (isResamplingNN rs = true ↔ c.resampling = 0) ∧
      c.srcWork = workType srcT ∧ c.dstWork = workType dstT ∧
      c.srcNodata = stretchNodata srcT sn ∧ c.dstNodata = stretchNodata dstT (rioDstNodata f nan dn)) := by
  unfold rioCall
  cases hr : rioResampling rs with
  | error e => simp
  | ok r =>
    simp only [reduceCtorEq, exists_false, Except.ok.injEq, true_and]
    intro c hc
    subst hc
    refine ⟨by simp, rfl, by simp, rfl, ?_, rfl, rfl, rfl, rfl⟩
    rw [nn_iff_code_zero, hr]
    simp

example (s : String) (h : s.toLower = "cubic_spline") : resamplingS2Rio s = .ok 3 :=
  (s2rio_ok_iff s 3).mpr (by rw [h]; decide)
example : isResamplingNN (.code 0) = true ∧ isResamplingNN (.code 2) = false := by decide
example : (rioCall .bool .int8 false 0 true (.code 0) false true (some 1) none).toOption =
    some ⟨0, false, true, false, some 255, none, .uint8, .int16⟩ := by decide +kernel

end OdcGeo.C10
