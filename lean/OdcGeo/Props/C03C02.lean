/-
C03 × C02 — the overview path of `compute_reproject_roi` against C02's model of `GeoBox.zoom_out`.

On the paste path with read-shrink `k > 1` the code computes the overlap against `src.zoom_out(k)`, but it takes only
the SHAPE from that object; the transform into overview pixels is written down independently as
`Affine.scale(1 / k) * A`.  These theorems show that the two agree: the shape the planner uses is the shape of C02's
zoomed-out grid, and `scale(1/k) * A` is exactly the destination-pixel → overview-pixel transform of that grid.
-/
import OdcGeo.Props.C03Top
import OdcGeo.Model.C02
namespace OdcGeo.C03
open OdcGeo.C17

/-- `src.zoom_out(k)` succeeds for `k ≥ 1`, has the shape the planner's overview path uses, and the transform
`Affine.scale(1/k) * A` (with `A = (D⁻¹ S)⁻¹` the destination → source pixel transform) maps a destination pixel
location through the destination grid into the world and through the inverse of the ZOOMED-OUT grid into overview
pixels. -/
theorem overview_is_zoom_out (ny nx : Int) (S D : Aff) (crs : Nat) (k : Int) (hk : 1 ≤ k) (hS : S.det ≠ 0)
    (hD : D.det ≠ 0) :
    ∃ g' : C02.GeoBox, C02.zoomOut ⟨ny, nx, S, crs⟩ (k : Rat) = .ok g' ∧
      (g'.ny, g'.nx) = (zoomOutDim ny k, zoomOutDim nx k) ∧ g'.A.det ≠ 0 ∧
      ∀ q, (Aff.scale (1 / (k : Rat)) (1 / (k : Rat)) * (D.inv * S).inv).apply q = g'.A.inv.apply (D.apply q) := by
  have hkq : (k : Rat) ≠ 0 := by exact_mod_cast (by omega : k ≠ 0)
  have hsc : (Aff.scale (k : Rat) k).det ≠ 0 := by rw [Aff.det_scale]; exact mul_ne_zero hkq hkq
  have hG : (S * Aff.scale k k).det ≠ 0 := by rw [Aff.det_mul]; exact mul_ne_zero hS hsc
  refine ⟨⟨C02.ceil1 ((ny : Rat) / k), C02.ceil1 ((nx : Rat) / k), S * Aff.scale k k, crs⟩, ?_, rfl, hG, fun q => ?_⟩
  · simp only [C02.zoomOut, hkq, if_false]
  · show _ = (S * Aff.scale k k).inv.apply (D.apply q)
    -- both sides are `scale(1/k) · ~S · D`
    rw [Aff.inv_inv_mul hS hD, Aff.inv_mul S _ hS hsc, Aff.inv_scale hkq hkq, ← Aff.apply_mul, Aff.mul_assoc']

example : C02.zoomOut ⟨10, 7, ⟨2, 0, 5, 0, -2, 9⟩, 0⟩ ((3 : Int) : Rat) = .ok ⟨4, 3, ⟨6, 0, 5, 0, -6, 9⟩, 0⟩ := by
  decide +kernel

end OdcGeo.C03
