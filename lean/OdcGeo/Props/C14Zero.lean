/-
C14 — signed zeros in `Bin1D` and the valid-region pipeline of `geojson()` (`Model/C14Zero.lean`).
-/
import OdcGeo.Model.C14Zero
import OdcGeo.Props.C14

namespace OdcGeo.C14

/-- the sign of a zero never changes a VALUE or an INDEX: bin edges and point lookup with signed zeros are those of the model
    without them (so `-0.0` as origin or as point coordinate is the same grid and the same tile) -/
theorem signed_zeros_change_no_value (b : Bin1D) (oz : Bool) (k x : SZ) :
    (b.loZ oz k).v = k.v * b.sz * (b.dir : Rat) + b.origin ∧
    (b.hiZ oz k).v = k.v * b.sz * (b.dir : Rat) + b.origin + b.sz ∧
    b.binZ oz x = b.bin id x.v := by
  refine ⟨rfl, rfl, ?_⟩
  simp [Bin1D.binZ, Bin1D.bin, SZ.sub, SZ.add, SZ.neg, SZ.divPos, sub_eq_add_neg]

/-- a sum is `-0.0` only as `-0.0 + -0.0` -/
theorem SZ.add_negz (a b : SZ) :
    (a.add b).negz = true ↔ a.v = 0 ∧ b.v = 0 ∧ a.negz = true ∧ b.negz = true := by
  unfold SZ.add
  by_cases ha : a.v = 0 <;> by_cases hb : b.v = 0 <;> simp [ha, hb]

/-- WHEN a tile's lower edge is `-0.0`: exactly for the tile with index (value) zero whose product `idx·sz·direction` is a negative
    zero — index `-0.0` with direction `+1`, or index `0` / `+0.0` with direction `-1` — on a grid whose origin is `-0.0`. -/
theorem signed_zero_lower_edge (b : Bin1D) (hs : 0 < b.sz) (hd : b.dir = 1 ∨ b.dir = -1) (oz : Bool) (k : SZ) :
    (b.loZ oz k).negz = true ↔
      k.v = 0 ∧ b.origin = 0 ∧ oz = true ∧ (k.negz != decide (b.dir = -1)) = true := by
  have hsz : b.sz ≠ 0 := hs.ne'
  have hd' : (b.dir : Rat) ≠ 0 := by rcases hd with h | h <;> rw [h] <;> norm_num
  -- the product `idx·sz·direction` is zero only for index zero; its sign is then the index's, flipped by a negative direction
  have hv : ((k.mul (SZ.ofRat b.sz)).mul (SZ.ofRat (b.dir : Rat))).v = 0 ↔ k.v = 0 := by
    simp [SZ.mul, SZ.ofRat, hsz, hd']
  have hn : k.v = 0 →
      ((k.mul (SZ.ofRat b.sz)).mul (SZ.ofRat (b.dir : Rat))).negz = (k.negz != decide (b.dir = -1)) := by
    intro hk
    have h10 : ¬ (1 : Rat) < 0 := by norm_num
    rcases hd with h | h <;> simp [SZ.mul, SZ.ofRat, SZ.sgn, hk, hsz, not_lt.mpr hs.le, h, h10]
  rw [Bin1D.loZ, SZ.add_negz, hv]
  simp only [Bool.and_eq_true, decide_eq_true_eq]
  constructor
  · rintro ⟨hk, ho, hp, hz, _⟩
    exact ⟨hk, ho, hz, hn hk ▸ hp⟩
  · rintro ⟨hk, ho, hz, hx⟩
    exact ⟨hk, ho, (hn hk).symm ▸ hx, hz, ho⟩

/-- the upper edge `_x + sz` is never a negative zero -/
theorem signed_zero_upper_edge (b : Bin1D) (hs : 0 < b.sz) (oz : Bool) (k : SZ) : (b.hiZ oz k).negz = false := by
  have hsz : b.sz ≠ 0 := hs.ne'
  simp [Bin1D.hiZ, SZ.add, SZ.ofRat, hsz]

/-- `geojson()` without arguments, with pyproj (`proj`) and the 0.5-degree segmentation (`densify`) as parameters: it fails with
    `ValueError` exactly when the densified ring is empty; otherwise the document lists the tiles of ONE bounding box `q`, that box
    contains the projection of EVERY vertex of the densified, 0.05-degree-shrunk valid region (whole globe when the CRS has no
    area of use), and the document repeats the grid's tile shape and resolution. -/
theorem geojson_default_structure (fl : Rnd) (tol : Rat) (g : GridSpec) (proj : Rat × Rat → Rat × Rat)
    (densify : List (Rat × Rat) → List (Rat × Rat)) (valid : Option (Rat × Rat × Rat × Rat)) :
    let v := valid.getD (-180, -90, 180, 90)
    let ring := densify (shrunkBox v.1 v.2.1 v.2.2.1 v.2.2.2 (1 / 20))
    (ring = [] → g.geojsonDefault fl tol proj densify valid = .error .valueError) ∧
    (ring ≠ [] → ∃ q, validRegionBox proj densify valid = some q ∧
      g.geojsonDefault fl tol proj densify valid = .ok (g.geojson fl tol none none q) ∧
      (g.geojson fl tol none none q).ids.length = (g.tiles fl tol q).length ∧
      (g.geojson fl tol none none q).shape = (g.ny, g.nx) ∧
      ∀ p ∈ ring, q.left ≤ (proj p).1 ∧ (proj p).1 ≤ q.right ∧ q.bottom ≤ (proj p).2 ∧ (proj p).2 ≤ q.top) := by
  intro v ring
  have hbox : validRegionBox proj densify valid =
      hullBBox ((ring.map proj).map (fun p => (⟨p.1, p.2, p.1, p.2⟩ : BBox))) := rfl
  constructor
  · intro h
    simp [GridSpec.geojsonDefault, hbox, h, hullBBox]
  · intro h
    obtain ⟨a, as, hr⟩ := List.exists_cons_of_ne_nil h
    obtain ⟨q, hq⟩ : ∃ q, validRegionBox proj densify valid = some q := by rw [hbox, hr]; exact ⟨_, rfl⟩
    refine ⟨q, hq, by simp [GridSpec.geojsonDefault, hq], by simp [GridSpec.geojson], rfl, fun p hp => ?_⟩
    have := hull_contains_parts _ q (hbox ▸ hq) ⟨(proj p).1, (proj p).2, (proj p).1, (proj p).2⟩
      (List.mem_map.mpr ⟨proj p, List.mem_map.mpr ⟨p, hp, rfl⟩, rfl⟩)
    exact ⟨this.1, this.2.2.1, this.2.1, this.2.2.2⟩

example : (⟨5 / 2, 0, -1⟩ : Bin1D).loZ true (SZ.ofRat 0) = SZ.negZero ∧ (⟨5 / 2, 0, 1⟩ : Bin1D).loZ true (SZ.ofRat 0) = ⟨0, false⟩ := by
  decide +kernel

example : ∃ q, validRegionBox (fun p => (p.1 * 2, p.2 + 1)) id (some (0, 0, 10, 5)) = some q ∧ q.left = 1 / 10 := by
  refine ⟨_, rfl, ?_⟩; decide +kernel

end OdcGeo.C14
