/-
C12 — the linear path of the public `grid_intersect` with the map that `snap_affine` actually
returns (tolerances `ttol = 1e-3` px on the translation, `stol = 1e-6` on the scale).

`grid_intersect_same_crs_complete` covers maps that snapping leaves alone.  Here: completeness is
proved against the *snapped* map `A` (what the code uses), then transferred to the true map
`M = ~S·D` for every overlap that is at least as deep as the displacement `|A·u − M·u|`, and the
displacement of each coefficient is bounded by its tolerance (`maybeInt_close`, `snapScale_close` in `Lemmas/C12GiSnap`).
-/
import OdcGeo.Props.C12Gi
import Mathlib.Tactic.Linarith
import Mathlib.Algebra.Order.Field.Rat
import Mathlib.Algebra.Order.AbsoluteValue.Basic
import Mathlib.Tactic.Ring
namespace OdcGeo.C12
open OdcGeo OdcGeo.C17 OdcGeo.C04

/-- **linear path, the map the code uses.**  Two GeoBoxes of one CRS for which `_check_linear`
returns `A` (snapped or not): source tile `s` is listed for destination tile `d` whenever a point `u`
inside a pixel of `d` has its image `A·u` inside a pixel of `s`. -/
theorem grid_intersect_linear_snapped_complete (dst src : TGB) (hd : dst.WF) (hs : src.WF)
    (ttol stol tol sttol : Rat) (ht : sttol ≤ tol) (fr : Foreign)
    (hc : src.crs = dst.crs) (hld : dst.linear = true) (hls : src.linear = true)
    (A : Aff) (hr : checkLinear src.W dst.W ttol stol tol sttol = .ok (some A))
    (d s : Int × Int) (hvd : ValidTile dst.g d) (hvs : ValidTile src.g s)
    (sy1 sx1 sy2 sx2 : NSlice)
    (gy1 : dst.g.tiles.y.getItem (.idx d.1) = .ok sy1) (gx1 : dst.g.tiles.x.getItem (.idx d.2) = .ok sx1)
    (gy2 : src.g.tiles.y.getItem (.idx s.1) = .ok sy2) (gx2 : src.g.tiles.x.getItem (.idx s.2) = .ok sx2)
    (jy jx : Int) (my : sy2.Has jy) (mx : sx2.Has jx) (bjy : 0 ≤ jy ∧ jy < src.g.ny) (bjx : 0 ≤ jx ∧ jx < src.g.nx)
    (u v : Rat) (hu : (sx1.start : Rat) ≤ u ∧ u ≤ sx1.stop) (hv : (sy1.start : Rat) ≤ v ∧ v ≤ sy1.stop)
    (hx : (jx : Rat) < (A.apply (u, v)).1 ∧ (A.apply (u, v)).1 < jx + 1)
    (hy : (jy : Rat) < (A.apply (u, v)).2 ∧ (A.apply (u, v)).2 < jy + 1) :
    ∃ l deps, gridIntersect dst src ttol stol tol sttol fr = .ok l ∧ (d, deps) ∈ l ∧ s ∈ deps := by
  rw [grid_intersect_same_crs_dispatch dst src ttol stol tol sttol fr hc hld hls _ hr]
  exact linear_path_complete dst.g src.g hd.g hs.g A (pixBBox_ok gy1 gx1) ((mem_allTiles dst.g d).2 hvd) (u := (u, v))
    ⟨hu, hv⟩ ⟨hvs, sy2, sx2, jy, jx, gy2, gx2, my, mx, bjy, bjx, hx, hy⟩

/-- **transfer to the true map.**  If the true source coordinates `q` of the point lie at least `m`
inside source pixel `(jx, jy)` and snapping displaces the image by at most `m` in each coordinate,
then the snapped image is strictly inside that pixel – the premise of
`grid_intersect_linear_snapped_complete`.  (Overlaps shallower than the displacement – at most the
tolerances, see `maybeInt_close` – are the slivers the property excludes.) -/
theorem snapped_image_inside (A : Aff) (u v : Rat) (q : Rat × Rat) (m : Rat) (jx jy : Int)
    (hdx : rabs ((A.apply (u, v)).1 - q.1) ≤ m) (hdy : rabs ((A.apply (u, v)).2 - q.2) ≤ m)
    (hx : (jx : Rat) + m < q.1 ∧ q.1 < jx + 1 - m) (hy : (jy : Rat) + m < q.2 ∧ q.2 < jy + 1 - m) :
    ((jx : Rat) < (A.apply (u, v)).1 ∧ (A.apply (u, v)).1 < jx + 1) ∧
    ((jy : Rat) < (A.apply (u, v)).2 ∧ (A.apply (u, v)).2 < jy + 1) := by
  rw [rabs_eq_abs, abs_le] at hdx hdy
  exact ⟨⟨by linarith only [hdx.1, hx.1], by linarith only [hdx.2, hx.2]⟩,
    by linarith only [hdy.1, hy.1], by linarith only [hdy.2, hy.2]⟩

/-- the translation of the snapped map differs from the true one by less than `ttol` (when the
rotation terms are within `tol`, i.e. whenever `snap_affine` snaps at all) -/
theorem snap_translation_close (M : Aff) (ttol stol tol : Rat) (ht : 0 < ttol)
    (hb : ¬ (rabs M.b > tol ∨ rabs M.d > tol)) :
    rabs ((snapAffine M ttol stol tol).c - M.c) < ttol ∧ rabs ((snapAffine M ttol stol tol).f - M.f) < ttol := by
  simp only [snapAffine, if_neg hb]
  exact ⟨maybeInt_close M.c ttol ht, maybeInt_close M.f ttol ht⟩

theorem row_displacement_le {a' a b c' c u v sa sb sc : Rat} (ha : |a' - a| ≤ sa) (hb : |b| ≤ sb)
    (hc : |c' - c| ≤ sc) : |a' * u + c' - (a * u + b * v + c)| ≤ sa * |u| + sb * |v| + sc := by
  have e : a' * u + c' - (a * u + b * v + c) = (a' - a) * u + -b * v + (c' - c) := by ring
  have t := abs_add_three ((a' - a) * u) (-b * v) (c' - c)
  rw [abs_mul, abs_mul, abs_neg] at t
  have m1 := mul_le_mul_of_nonneg_right ha (abs_nonneg u)
  have m2 := mul_le_mul_of_nonneg_right hb (abs_nonneg v)
  rw [e]
  linarith only [t, m1, m2, hc]

/-- **how far snapping moves the image of a point**: at destination pixel coordinates `(u, v)` the
snapped map differs from the true one by at most `stol·|u| + tol·|v| + ttol` source pixels in x
(`tol·|u| + stol·|v| + ttol` in y) – with `snapped_image_inside` and `grid_intersect_linear_snapped_complete`: every overlap
deeper than that is a dependency -/
theorem snap_displacement_le (M : Aff) (ttol stol tol : Rat) (h1 : 0 < ttol) (h2 : 0 < stol)
    (hb : ¬ (rabs M.b > tol ∨ rabs M.d > tol)) (u v : Rat) :
    rabs (((snapAffine M ttol stol tol).apply (u, v)).1 - (M.apply (u, v)).1) ≤ stol * rabs u + tol * rabs v + ttol ∧
    rabs (((snapAffine M ttol stol tol).apply (u, v)).2 - (M.apply (u, v)).2) ≤ tol * rabs u + stol * rabs v + ttol := by
  obtain ⟨ca, ce, cc, cf⟩ := snap_affine_close M ttol stol tol h1 h2 hb
  obtain ⟨hbb, hdd⟩ := not_or.1 hb
  have e : (snapAffine M ttol stol tol).b = 0 ∧ (snapAffine M ttol stol tol).d = 0 := by
    simp only [snapAffine, if_neg hb, and_self]
  rw [Aff.apply_of_st e.1 e.2]
  simp only [rabs_eq_abs, gt_iff_lt, not_lt, Aff.apply] at *
  refine ⟨row_displacement_le ca.le hbb cc.le, ?_⟩
  rw [add_comm (M.d * u), add_comm (tol * |u|)]
  exact row_displacement_le ce.le hdd cf.le

/-- **the footprint pad is at least `buffer` pixels on BOTH axes, mirrored rasters included**: the
distance handed to `buffer()` is `buffer · max(|res.x|, |res.y|)` (never negative, never the finer axis) -/
theorem footprint_pad_covers_pixels (t : TGB) (b n : Rat) (hb : 0 < b) :
    ∃ dist, (footprintParams t b n).1 = some dist ∧ b * rabs t.W.a ≤ dist ∧ b * rabs t.W.e ≤ dist ∧ 0 ≤ dist := by
  refine ⟨b * max (rabs t.W.a) (rabs t.W.e), by simp only [footprintParams, if_neg (ne_of_gt hb)], ?_, ?_, ?_⟩
  · exact mul_le_mul_of_nonneg_left (le_max_left _ _) hb.le
  · exact mul_le_mul_of_nonneg_left (le_max_right _ _) hb.le
  · exact mul_nonneg hb.le (le_trans ((abs_nonneg _).trans_eq (rabs_eq_abs _).symm) (le_max_left _ _))

/-- the different-CRS branch of `grid_intersect` pads both rasters by two of their own pixels -/
theorem cross_footprints_padded_two_pixels (dst src : TGB) :
    (∃ d, (crossFootprintParams dst src).1.1 = some d ∧ 2 * rabs src.W.a ≤ d ∧ 2 * rabs src.W.e ≤ d) ∧
    (∃ d, (crossFootprintParams dst src).2.1 = some d ∧ 2 * rabs dst.W.a ≤ d ∧ 2 * rabs dst.W.e ≤ d) := by
  obtain ⟨d1, h1, a1, b1, _⟩ := footprint_pad_covers_pixels src 2 100 two_pos
  obtain ⟨d2, h2, a2, b2, _⟩ := footprint_pad_covers_pixels dst 2 100 two_pos
  exact ⟨⟨d1, h1, a1, b1⟩, ⟨d2, h2, a2, b2⟩⟩

example : rabs ((maybeInt (1000001 / 1000000) (1 / 1000)).1 - 1000001 / 1000000) < 1 / 1000 :=
  maybeInt_close _ _ (by decide +kernel)

end OdcGeo.C12
