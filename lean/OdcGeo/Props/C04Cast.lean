/-
C04 — the `casting=` argument and an explicit `dtype=` of `BlockAssembler.extract`
(model: `extractFull` in `Model/C04Dtype.lean`).
-/
import OdcGeo.Props.C04Dtype
namespace OdcGeo.C04

theorem canCast_of_safe (a b : DT) (h : safeCast a b = true) :
    canCast .safe a b = true ∧ canCast .sameKind a b = true ∧ canCast .anyCast a b = true := by
  simp [canCast, h]

/-- **with the dtype left to `extract`, the default rule (`same_kind`) – and even `safe` – never
refuses a block**, whatever the fill: the only way to fail is numpy's refusal of an out-of-range
integer fill -/
theorem extract_auto_dtype_never_type_error (blocks : List DT) (hv : ∀ d ∈ blocks, d.Valid) (fill : FillArg)
    (hf : ∀ m, fillMinType fill = some m → m.Valid) (d : DT)
    (h : extractAlloc blocks none fill = .ok d) :
    extractFull blocks none fill .sameKind = .ok d ∧ extractFull blocks none fill .safe = .ok d := by
  have hd : d = extractDtype (assemblerDtype blocks) none (fillMinType fill) := by
    simp only [extractAlloc] at h
    split at h
    · cases h
    · cases h; rfl
  have hall : ∀ a ∈ blocks, safeCast a d = true := fun a ha => by
    rw [hd]; exact extract_dtype_holds_blocks blocks hv (fillMinType fill) hf a ha
  constructor
  · simp only [extractFull, h]
    rw [if_pos (List.all_eq_true.2 fun a ha => (canCast_of_safe a d (hall a ha)).2.1)]
  · simp only [extractFull, h]
    rw [if_pos (List.all_eq_true.2 fun a ha => (canCast_of_safe a d (hall a ha)).1)]

theorem extract_any_cast_never_type_error (blocks : List DT) (dt : Option DT) (fill : FillArg) :
    extractFull blocks dt fill .anyCast ≠ .error .typeError := by
  simp only [extractFull]
  split
  · exact nofun
  · next d _ =>
    have : (blocks.all fun a => canCast Casting.anyCast a d) = true := List.all_eq_true.2 fun a _ => rfl
    rw [if_pos this]
    exact nofun

/-- `casting="no"` / `"equiv"`: accepted exactly when every block already has the window's dtype -/
theorem extract_no_cast_iff (blocks : List DT) (dt : Option DT) (fill : FillArg) (d : DT)
    (h : extractAlloc blocks dt fill = .ok d) :
    (extractFull blocks dt fill .no = .ok d ↔ ∀ a ∈ blocks, a = d) ∧
    (extractFull blocks dt fill .equiv = extractFull blocks dt fill .no) := by
  refine ⟨?_, rfl⟩
  simp only [extractFull, h, canCast, List.all_eq_true, beq_iff_eq]
  constructor
  · intro hx
    split at hx
    · assumption
    · cases hx
  · exact fun hall => if_pos hall

/-- **an explicit `dtype=` of a lower kind than some block is refused under the default rule** (float
tiles cannot be extracted into an integer window by accident); the block need not even meet the
requested window: numpy checks the rule before looking at the slices -/
theorem extract_lower_kind_dtype_refused (blocks : List DT) (d a : DT) (fill : FillArg) (ha : a ∈ blocks)
    (hk : d.kind.rank < a.kind.rank) (hs : safeCast a d = false)
    (hfull : fullRaises d fill = false) :
    extractFull blocks (some d) fill .sameKind = .error .typeError := by
  have hal : extractAlloc blocks (some d) fill = .ok d := by
    simp only [extractAlloc, extract_dtype_explicit, hfull]; rfl
  simp only [extractFull, hal]
  rw [if_neg]
  intro hall
  have := List.all_eq_true.1 hall a ha
  simp only [canCast, hs, Bool.false_or, decide_eq_true_eq] at this
  omega

/-- narrowing *within* a kind is let through by the default rule (`float64` tiles into a `float32`
window): pinned – values are rounded by numpy, nothing is refused -/
theorem extract_same_kind_narrowing_allowed_cex :
    extractFull [⟨.f, 64⟩] (some ⟨.f, 32⟩) .none .sameKind = .ok ⟨.f, 32⟩ ∧
    extractFull [⟨.f, 64⟩] (some ⟨.f, 32⟩) .none .safe = .error .typeError ∧
    extractFull [⟨.f, 32⟩, ⟨.u, 8⟩] (some ⟨.u, 8⟩) .none .sameKind = .error .typeError := by decide

example : extractAlloc [⟨.u, 8⟩, ⟨.i, 16⟩] none (.float .nonfinite) = .ok ⟨.f, 32⟩ := by decide
example : safeCast ⟨.f, 32⟩ ⟨.u, 8⟩ = false ∧ fullRaises ⟨.u, 8⟩ .none = false := by decide

end OdcGeo.C04
