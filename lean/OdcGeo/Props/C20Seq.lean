/-
C20 — `edge_index` and `quasi_random_r2` (`Model/C20Seq.lean`): `edge_index` walks the boundary of an `ny × nx` array
exactly once for `ny, nx ≥ 2` (and is C03's closed form there), `closed=True` appends the start; what the loop-variable
leak does on degenerate shapes; `quasi_random_r2` stays in the unit square (scaled: inside the array).
-/
import OdcGeo.Model.C20Seq
import OdcGeo.Model.C03
import OdcGeo.Lemmas.C20Scalar
import Mathlib.Data.List.Nodup

namespace OdcGeo.C20

/-- For `ny, nx ≥ 2` the loop model is the closed form used by C03 (`roi_boundary`). -/
theorem edge_index_eq_c03 (ny nx : Nat) (hy : 2 ≤ ny) (hx : 2 ≤ nx) :
    edgeIndex ny nx false = C03.edgeIndex nx ny := by
  unfold edgeIndex C03.edgeIndex
  simp only [if_pos hy, Bool.false_eq_true, if_false, List.append_nil]
  rfl

/-- The open walk for sides `my + 2`, `mx + 2`: top row, right column, bottom row backwards, left column upwards. -/
theorem edgeIndex_open (my mx : Nat) :
    edgeIndex (my + 2) (mx + 2) false =
      ((List.range (mx + 2)).map fun ix => (0, ix)) ++ ((List.range (my + 1)).map fun k => (k + 1, mx + 1)) ++
      ((List.range (mx + 1)).map fun k => (my + 1, mx - k)) ++ ((List.range my).map fun k => (my - k, 0)) := by
  unfold edgeIndex
  simp only [if_pos (Nat.le_add_left 2 my), Bool.false_eq_true, if_false, List.append_nil, Nat.add_one_sub_one]

theorem edgeIndex_nodup (my mx : Nat) : (edgeIndex (my + 2) (mx + 2) false).Nodup := by
  rw [edgeIndex_open]
  -- each side is an injective image of a range; a later side never meets the earlier ones
  have n1 : ((List.range (mx + 2)).map fun ix => ((0 : Nat), ix)).Nodup :=
    List.Nodup.map (fun a b h => (Prod.mk.inj h).2) List.nodup_range
  have n2 : ((List.range (my + 1)).map fun k => (k + 1, mx + 1)).Nodup :=
    List.Nodup.map (fun a b h => Nat.succ.inj (Prod.mk.inj h).1) List.nodup_range
  have n3 : ((List.range (mx + 1)).map fun k => (my + 1, mx - k)).Nodup :=
    (List.nodup_range).map_on (fun a ha b hb h => by
      have := (Prod.mk.inj h).2; rw [List.mem_range] at ha hb; omega)
  have n4 : ((List.range my).map fun k => (my - k, (0 : Nat))).Nodup :=
    (List.nodup_range).map_on (fun a ha b hb h => by
      have := (Prod.mk.inj h).1; rw [List.mem_range] at ha hb; omega)
  simp only [List.nodup_append, List.mem_append, List.mem_map, List.mem_range]
  refine ⟨⟨⟨n1, n2, ?_⟩, n3, ?_⟩, n4, ?_⟩
  · rintro _ ⟨a, _, rfl⟩ _ ⟨b, _, rfl⟩ h
    cases h
  · rintro _ (⟨a, _, rfl⟩ | ⟨a, _, rfl⟩) _ ⟨b, _, rfl⟩ h
    · cases h
    · have := (Prod.mk.inj h).2; omega
  · rintro _ ((⟨a, _, rfl⟩ | ⟨a, _, rfl⟩) | ⟨a, _, rfl⟩) _ ⟨b, _, rfl⟩ h
    · have := (Prod.mk.inj h).1; omega
    · have := (Prod.mk.inj h).2; omega
    · have := (Prod.mk.inj h).1; omega

theorem mem_edgeIndex (my mx iy ix : Nat) :
    (iy, ix) ∈ edgeIndex (my + 2) (mx + 2) false ↔
      iy < my + 2 ∧ ix < mx + 2 ∧ (iy = 0 ∨ iy = my + 1 ∨ ix = 0 ∨ ix = mx + 1) := by
  rw [edgeIndex_open]
  simp only [List.mem_append, List.mem_map, List.mem_range, Prod.mk.injEq]
  constructor
  · rintro (((⟨k, hk, rfl, rfl⟩ | ⟨k, hk, rfl, rfl⟩) | ⟨k, hk, rfl, rfl⟩) | ⟨k, hk, rfl, rfl⟩)
    · exact ⟨Nat.succ_pos _, hk, .inl rfl⟩
    · exact ⟨Nat.succ_lt_succ hk, Nat.lt_succ_self _, .inr (.inr (.inr rfl))⟩
    · exact ⟨Nat.lt_succ_self _, by omega, .inr (.inl rfl)⟩
    · exact ⟨by omega, Nat.succ_pos _, .inr (.inr (.inl rfl))⟩
  · rintro ⟨h1, h2, h3⟩
    rcases Nat.eq_zero_or_pos iy with rfl | a
    · exact .inl (.inl (.inl ⟨ix, h2, rfl, rfl⟩))
    · rcases Nat.lt_succ_iff_lt_or_eq.mp h2 with b | rfl
      · rcases Nat.lt_succ_iff_lt_or_eq.mp h1 with c | rfl
        · exact .inr ⟨my - iy, by omega, by omega, by omega⟩
        · exact .inl (.inr ⟨mx - ix, by omega, rfl, by omega⟩)
      · exact .inl (.inl (.inr ⟨iy - 1, by omega, by omega, rfl⟩))

/-- **`edge_index` enumerates the boundary once** (`ny, nx ≥ 2`): exactly the cells of the first / last row / column, each
exactly once, `2(nx + ny) − 4` of them. -/
theorem edge_index_boundary_once (ny nx : Nat) (hy : 2 ≤ ny) (hx : 2 ≤ nx) :
    (edgeIndex ny nx false).Nodup ∧ (edgeIndex ny nx false).length = 2 * (nx + ny) - 4 ∧
    ∀ iy ix, (iy, ix) ∈ edgeIndex ny nx false ↔
      iy < ny ∧ ix < nx ∧ (iy = 0 ∨ iy = ny - 1 ∨ ix = 0 ∨ ix = nx - 1) := by
  obtain ⟨my, rfl⟩ : ∃ m, ny = m + 2 := ⟨ny - 2, by omega⟩
  obtain ⟨mx, rfl⟩ : ∃ m, nx = m + 2 := ⟨nx - 2, by omega⟩
  refine ⟨edgeIndex_nodup my mx, ?_, mem_edgeIndex my mx⟩
  rw [edgeIndex_open]
  simp only [List.length_append, List.length_map, List.length_range]
  omega

/-- `closed=True` is the open walk followed by the starting cell `(0, 0)`. -/
theorem edge_index_closed (ny nx : Nat) : edgeIndex ny nx true = edgeIndex ny nx false ++ [(0, 0)] := by
  unfold edgeIndex
  simp

/-- **What the loop-variable leak does on one-cell-wide and empty shapes** (as found; replayed by the correspondence):
a single row is walked forth and back, a single column down and up again (interior cells twice), and an array with
**no rows** still yields the cells of a row `0` that does not exist. -/
theorem edge_index_degenerate_cex :
    edgeIndex 1 3 false = [(0, 0), (0, 1), (0, 2), (0, 1), (0, 0)] ∧
    edgeIndex 3 1 false = [(0, 0), (1, 0), (2, 0), (1, 0)] ∧
    edgeIndex 0 3 false = [(0, 0), (0, 1), (0, 2), (0, 1), (0, 0)] ∧
    edgeIndex 3 0 false = [(1, 0), (2, 0), (1, 0)] ∧
    edgeIndex 1 1 false = [(0, 0)] ∧ edgeIndex 0 0 true = [(0, 0)] := by decide

/-- **`quasi_random_r2(n, offset=k ≥ 0)` returns `n` points of the unit square `[0, 1)²`** — for every rounding of the
products that keeps non-negative values non-negative (binary64 round-to-nearest does). -/
theorem quasi_random_r2_unit_square (fl : Rat → Rat) (hfl : ∀ x, 0 ≤ x → 0 ≤ fl x) (n : Nat) (offset : Int)
    (ho : 0 ≤ offset) :
    (quasiRandomR2 fl n none offset).length = n ∧
      ∀ p ∈ quasiRandomR2 fl n none offset, 0 ≤ p.1 ∧ p.1 < 1 ∧ 0 ≤ p.2 ∧ p.2 < 1 := by
  refine ⟨by simp [quasiRandomR2], ?_⟩
  intro p hp
  simp only [quasiRandomR2, List.mem_map, List.mem_range] at hp
  obtain ⟨i, _, rfl⟩ := hp
  have hidx : (0 : Rat) ≤ ((offset + (i : Int) : Int) : Rat) := Int.cast_nonneg (by omega)
  have h1 : (0 : Rat) ≤ r2a1 := by decide +kernel
  have h2 : (0 : Rat) ≤ r2a2 := by decide +kernel
  have a := fmod1_nonneg (hfl _ (mul_nonneg hidx h1))
  have b := fmod1_nonneg (hfl _ (mul_nonneg hidx h2))
  exact ⟨a.1, a.2, b.1, b.2⟩

theorem quasiRandomR2_shape (n ny nx : Nat) (offset : Int) :
    quasiRandomR2 id n (some (ny, nx)) offset =
      (quasiRandomR2 id n none offset).map fun q => (q.1 * (nx : Rat), q.2 * (ny : Rat)) := by
  simp only [quasiRandomR2, List.map_map, Function.comp_def, id]

/-- With a `shape` the points are scaled into the array: in exact arithmetic `0 ≤ x < nx`, `0 ≤ y < ny`. -/
theorem quasi_random_r2_in_shape (n ny nx : Nat) (offset : Int) (ho : 0 ≤ offset) :
    ∀ p ∈ quasiRandomR2 id n (some (ny, nx)) offset,
      0 ≤ p.1 ∧ (0 < nx → p.1 < nx) ∧ 0 ≤ p.2 ∧ (0 < ny → p.2 < ny) := by
  intro p hp
  rw [quasiRandomR2_shape] at hp
  obtain ⟨q, hq, rfl⟩ := List.mem_map.mp hp
  obtain ⟨x0, x1, y0, y1⟩ := (quasi_random_r2_unit_square id (fun _ h => h) n offset ho).2 q hq
  exact ⟨mul_nonneg x0 (Nat.cast_nonneg nx), fun h => mul_lt_of_lt_one_left (Nat.cast_pos.mpr h) x1,
    mul_nonneg y0 (Nat.cast_nonneg ny), fun h => mul_lt_of_lt_one_left (Nat.cast_pos.mpr h) y1⟩

example : edgeIndex 3 4 false =
    [(0, 0), (0, 1), (0, 2), (0, 3), (1, 3), (2, 3), (2, 2), (2, 1), (2, 0), (1, 0)] := by decide
example : (quasiRandomR2 id 2 none 0).length = 2 := by decide

end OdcGeo.C20
