/-
C14 × C12 — `GeoboxTiles.grid_intersect` between the tilings of two DIFFERENT tiles of one GridSpec is empty.

* `gridspec_tiles_pixel_shift`: the pixel grids of two tiles of a grid differ by a whole number of tiles: pixel `(u, v)` of tile
  `k` is pixel `(u + tx·nx, v + ty·ny)` of tile `k + (j, i)`, `tx = ∓j`, `ty = ∓i` (signs from index direction and resolution sign);
* `neighbour_tilings_do_not_intersect` (C12 linear path `linearDeps`, imported read-only): under such a whole-tile shift
  `(tx, ty) ≠ (0, 0)` no sub-tile of one tile depends on any sub-tile of the other, for every regular chunking of both.
-/
import OdcGeo.Props.C14
import OdcGeo.Props.C12
import OdcGeo.Lemmas.Except

namespace OdcGeo.C14
open OdcGeo.C17 OdcGeo.C04 OdcGeo.C12

section
variable {ny nx : Int} {rx ry ox oy : Rat} {fx fy : Bool} {g : GridSpec}

/-- whole-tile pixel shift between two tiles of a grid -/
theorem gridspec_tiles_pixel_shift (hg : GridSpec.new id ny nx rx ry ox oy fx fy = .ok g) (k : Int × Int) (j i : Int)
    (u v : Rat) :
    (g.tileGeobox id (k.1 + j, k.2 + i)).aff.apply
        (u + ((if 0 < rx then -(j * g.xbin.dir) else j * g.xbin.dir : Int) : Rat) * (nx : Rat),
         v + ((if 0 < ry then -(i * g.ybin.dir) else i * g.ybin.dir : Int) : Rat) * (ny : Rat)) =
      (g.tileGeobox id k).aff.apply (u, v) := by
  obtain ⟨e, w⟩ := GridSpec.new_ok hg
  have hgx : g.rx = rx := by rw [e]
  have hgy : g.ry = ry := by rw [e]
  have sx : g.xbin.sz = (nx : Rat) * rabs rx := by rw [w.szx, e]
  have sy : g.ybin.sz = (ny : Rat) * rabs ry := by rw [w.szy, e]
  simp only [GridSpec.tileGeobox, GridSpec.tileTxy, Aff.apply, hgx, hgy, zero_mul, add_zero, zero_add]
  exact Prod.ext (GridSpec.axis_pixel_shift g.xbin sx k.1 j u) (GridSpec.axis_pixel_shift g.ybin sy k.2 i v)

end

/-- an interval inside `[0, M]`, moved by a non-zero multiple of `M`, lies outside `(0, M)` -/
theorem shifted_span_outside {M s e t : Int} (ht : t ≠ 0) (hM : 0 ≤ M) (hs : 0 ≤ s) (hs' : s ≤ M) (he : 0 ≤ e) (he' : e ≤ M) :
    max s e + t * M ≤ 0 ∨ M ≤ min s e + t * M := by
  rcases lt_or_gt_of_ne ht with h | h
  · have := Int.mul_le_mul_of_nonneg_right (show t ≤ -1 by omega) hM
    left; omega
  · have := Int.mul_le_mul_of_nonneg_right (show 1 ≤ t by omega) hM
    right; omega

theorem bbox_transform_translation (b : C12.BBox) (dx dy : Rat) :
    b.transform (Aff.translation dx dy) =
      ⟨min b.x1 b.x2 + dx, min b.y1 b.y2 + dy, max b.x1 b.x2 + dx, max b.y1 b.y2 + dy⟩ := by
  simp only [C12.BBox.transform, Aff.apply_translation, C12.min4, C12.max4, min_self, max_self, min_add_add_right,
    max_add_add_right]

/-- on the linear path of `grid_intersect`, a whole-tile shift `(tx, ty) ≠ (0, 0)` between two regularly chunked images of the same
    shape leaves no dependency: the rounded image box of every destination sub-tile lies outside the source image -/
theorem neighbour_tilings_do_not_intersect (N M a b a' b' : Int) (tx ty : Int) (ht : tx ≠ 0 ∨ ty ≠ 0) (hN : 0 ≤ N) (hM : 0 ≤ M)
    (ha : 0 < a) (hb : 0 < b)
    (idx : Int × Int) (tb : C12.BBox)
    (htb : pixBBox ⟨N, M, ⟨.reg N a, .reg M b⟩⟩ idx = .ok tb) :
    linearDeps ⟨N, M, ⟨.reg N a, .reg M b⟩⟩ ⟨N, M, ⟨.reg N a', .reg M b'⟩⟩
      (Aff.translation ((tx : Rat) * (M : Rat)) ((ty : Rat) * (N : Rat))) idx = .ok [] := by
  -- the pixel box of the destination sub-tile lies inside the image
  obtain ⟨⟨ry', rx'⟩, hrc, e⟩ := bind_ok_iff.mp htb
  obtain ⟨hA, hB⟩ := zip2_ok_iff.mp hrc
  cases e
  obtain ⟨y0, y1, y2⟩ := region_within N a _ _ hA
  obtain ⟨x0, x1, x2⟩ := region_within M b _ _ hB
  obtain ⟨_, ys⟩ := C04.getItem_nonneg N a ha _ _ hA
  obtain ⟨_, xs⟩ := C04.getItem_nonneg M b hb _ _ hB
  apply linear_disjoint_empty _ _ _ idx _ htb
  -- shifted by whole images the box still has integer corners, so rounding does nothing
  have ex : ∀ s : Int, (s : Rat) + (tx : Rat) * (M : Rat) = ((s + tx * M : Int) : Rat) := fun s => by push_cast; rfl
  have ey : ∀ s : Int, (s : Rat) + (ty : Rat) * (N : Rat) = ((s + ty * N : Int) : Rat) := fun s => by push_cast; rfl
  simp only [bbox_transform_translation, C12.BBox.round, ← Int.cast_min, ← Int.cast_max, ex, ey, Rat.floor_intCast,
    Rat.ceil_intCast, Int.cast_le, ge_iff_le, ← Int.cast_zero (R := Rat)]
  rw [← or_assoc]
  exact ht.imp (fun h => shifted_span_outside h hM x0 x1.le xs x2) (fun h => shifted_span_outside h hN y0 y1.le ys y2)

example : ∃ tb, pixBBox ⟨4, 6, ⟨.reg 4 2, .reg 6 3⟩⟩ (1, 1) = .ok tb := ⟨_, rfl⟩

end OdcGeo.C14
