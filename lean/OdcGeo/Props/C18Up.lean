/-
C18 — the public entry points around the lazily initialised S3 writer: the in-process writer
with the bodies of its parts against the storage service's multipart rules, the glue of `upload` / `writer`,
a resumed upload, `_ensure_init(final_write=True)`, `cancel("all")` next to uploads of other keys and against a paged
listing, swallowed `Variable.get` timeouts (`_safe_get`) in the cluster protocol, crash points in both protocols, the
file sink over several rounds and interrupted inside `finalise`, two objects whose writers share names.  Property
theorems only; helpers are in `Lemmas/C18Up.lean`.
-/
import OdcGeo.Model.C18Up
import OdcGeo.Lemmas.C18Up
import OdcGeo.Props.C18


namespace OdcGeo.C18

/-- **s3_writer_contract**: ANY sequence of `writer(part, data)` calls on a fresh in-process writer (any part
numbers, repeats allowed, any order), followed by `finalise` of an ascending non-empty list of parts that were
written (`f p` = the last body written under `p`) whose non-last bodies have the service's minimal size:
no call fails, exactly one upload is initiated, every storage call carries its id, the completion lists exactly
`ps`, and the object the service assembles is the concatenation of the listed bodies in that order. -/
theorem s3_writer_contract (m : Nat) (ws : List (Nat × Bytes)) (ps : List Nat) (f : Nat → Bytes)
    (hne : ps ≠ []) (hasc : ps.Pairwise (· < ·))
    (hw : ∀ p ∈ ps, (ws.foldl Up.put []).lookup p = some (f p))
    (hsz : ∀ b ∈ (ps.map f).dropLast, m ≤ b.length) :
    (Up.runWrites {} ws).2 = none ∧
      (Up.finalise m (Up.runWrites {} ws).1 ps).2 = none ∧
      (Up.finalise m (Up.runWrites {} ws).1 ps).1.object = some (ps.flatMap f) ∧
      (Up.finalise m (Up.runWrites {} ws).1 ps).1.creates = 1 ∧
      (∀ c ∈ (Up.finalise m (Up.runWrites {} ws).1 ps).1.calls, c.id = 1) ∧
      (Up.finalise m (Up.runWrites {} ws).1 ps).1.calls.countP Up.UCall.isCreate = 1 ∧
      (Up.finalise m (Up.runWrites {} ws).1 ps).1.calls.head? = some (.complete 1 ps) := by
  obtain ⟨h1, h2, _⟩ := Up.runWrites_fresh ws
  obtain ⟨g1, g2, g3, g4, g5, g6, _⟩ := Up.finalise_started h2 m ps f hne hasc hw hsz
  exact ⟨h1, g1, g2, g3, g4, g5, g6⟩

/-- End to end for the caller of the S3 writer: parts with strictly increasing numbers, each written once (in
ANY order - `ws` is the order of the calls, `ps` the ascending order), all but the last of at least the minimal
size: the object is the concatenation of the data in part-number order. -/
theorem s3_write_then_finalise (m : Nat) (ws sorted : List (Nat × Bytes)) (hne : sorted ≠ [])
    (hperm : List.Perm ws sorted) (hasc : (sorted.map (·.1)).Pairwise (· < ·))
    (hsz : ∀ w ∈ sorted.dropLast, m ≤ w.2.length) :
    (Up.runWrites {} ws).2 = none ∧
      (Up.finalise m (Up.runWrites {} ws).1 (sorted.map (·.1))).2 = none ∧
      (Up.finalise m (Up.runWrites {} ws).1 (sorted.map (·.1))).1.object = some (sorted.flatMap (·.2)) ∧
      (Up.finalise m (Up.runWrites {} ws).1 (sorted.map (·.1))).1.creates = 1 := by
  have hnds : (sorted.map (·.1)).Nodup := hasc.imp (fun h => Nat.ne_of_lt h)
  have hnd : (ws.map (·.1)).Nodup := (hperm.map (·.1)).nodup_iff.2 hnds
  obtain ⟨f, hf⟩ := Sink.exists_content sorted hnds
  have hw : ∀ p ∈ sorted.map (·.1), (ws.foldl Up.put []).lookup p = some (f p) := by
    intro p hp
    obtain ⟨w, hwm, rfl⟩ := List.mem_map.1 hp
    rw [Up.lookup_foldl_put ws hnd w (hperm.mem_iff.2 hwm), hf w hwm]
  have hsz' : ∀ b ∈ ((sorted.map (·.1)).map f).dropLast, m ≤ b.length := by
    rw [List.map_map, List.map_congr_left (g := (·.2)) hf, ← List.map_dropLast]
    intro b hb
    obtain ⟨w, hwm, rfl⟩ := List.mem_map.1 hb
    exact hsz w hwm
  obtain ⟨h1, h2, h3, h4, _⟩ := s3_writer_contract m ws (sorted.map (·.1)) f (by simpa using hne) hasc hw hsz'
  refine ⟨h1, h2, ?_, h4⟩
  rw [h3, List.flatMap_map]
  exact congrArg some (Sink.flatMap_congr' _ _ _ hf)

/-- non-vacuity of the hypotheses of `s3_write_then_finalise` / `s3_writer_contract`: parts 3, 1, 2 written in
that order, minimal size 2 -/
example :
    let ws : List (Nat × Bytes) := [(3, [9]), (1, [1, 1]), (2, [2, 2])]
    let sorted : List (Nat × Bytes) := [(1, [1, 1]), (2, [2, 2]), (3, [9])]
    sorted ≠ [] ∧ List.Perm ws sorted ∧ (sorted.map (·.1)).Pairwise (· < ·) ∧
      (∀ w ∈ sorted.dropLast, 2 ≤ w.2.length) := by decide +kernel

example : (Up.finalise 2 (Up.runWrites {} [(3, [9]), (1, [1, 1]), (2, [2, 2])]).1 [1, 2, 3]).1.object =
    some [1, 1, 2, 2, 9] := by decide +kernel

/-- what the service's rules reject (each replayed on the fake service through the real writer): a part below
the minimal size that is not the last, a list that is not ascending, an unknown part, an empty list -/
theorem s3_service_rejects :
    (Up.finalise 2 (Up.runWrites {} [(1, [1]), (2, [2, 2])]).1 [1, 2]).2 = some .entityTooSmall ∧
    (Up.finalise 1 (Up.runWrites {} [(1, [1]), (2, [2, 2])]).1 [2, 1]).2 = some .invalidPartOrder ∧
    (Up.finalise 1 (Up.runWrites {} [(1, [1]), (2, [2, 2])]).1 [1, 3]).2 = some .invalidPart ∧
    (Up.finalise 1 (Up.runWrites {} [(1, [1])]).1 []).2 = some .assertion ∧
    (Up.finalise 1 (Up.runWrites {} [(1, [1])]).1 []).1.calls.length = 2 := by decide +kernel

/-- after the completion the object keeps the completed id (the code as it is): a further write goes to the
dead upload and is rejected, nothing new is initiated -/
theorem s3_write_after_finalise_rejected :
    let s := (Up.finalise 1 (Up.runWrites {} [(1, [1])]).1 [1]).1
    (Up.write s (2, [2])).2 = some .noSuchUpload ∧ (Up.write s (2, [2])).1.creates = 1 := by decide +kernel

/-- **sink_round_overwrites_destination**: a sink whose parts directory holds no part file - never used, or left
by a complete earlier round - whatever its destination holds already (an earlier export) and whether or not the
directory exists: parts written once each and finalised in the order written replace the destination by the
concatenation of the new data; nothing fails, the parts directory is removed. -/
theorem sink_round_overwrites_destination (s : Sink) (hs : s.parts = []) (ws : List (Nat × Bytes)) (hne : ws ≠ [])
    (hnd : (ws.map (·.1)).Nodup) :
    (Sink.finalise true (ws.foldl Sink.write s) (ws.map (·.1)) false).2 = none ∧
      (Sink.finalise true (ws.foldl Sink.write s) (ws.map (·.1)) false).1.dst = some (ws.flatMap (·.2)) ∧
      (Sink.finalise true (ws.foldl Sink.write s) (ws.map (·.1)) false).1.dirExists = false ∧
      (Sink.finalise true (ws.foldl Sink.write s) (ws.map (·.1)) false).1.parts = [] := by
  rw [Sink.foldl_write_finalise s hs ws hne hnd]
  exact ⟨rfl, rfl, rfl, rfl⟩

/-- two rounds on one sink: the second export replaces the first -/
example :
    let r1 := (Sink.finalise true ([(1, [1]), (2, [2])].foldl Sink.write {}) [1, 2] false).1
    r1.parts = [] ∧ r1.dst = some [1, 2] ∧
      (Sink.finalise true ([(2, [7]), (1, [8, 8])].foldl Sink.write r1) [2, 1] false).1.dst = some [7, 8, 8] := by decide +kernel

/-- `upload(..., spill_sz=0)` runs `mpu_write` without a writer; any other spill size hands it the lazily
initialised S3 writer, whose limits are those of the S3 multipart API -/
theorem upload_writer_spec (spill : Nat) :
    (spill = 0 → uploadWriter spill = none) ∧
      (spill ≠ 0 → uploadWriter spill = some ⟨5 * 1024 * 1024, 1, 10000⟩) := by
  refine ⟨fun h => by simp [uploadWriter, h], fun h => ?_⟩
  simp only [uploadWriter, h, ne_eq, not_false_eq_true, if_true, s3Writer]
  decide +kernel

/-- `writer(kw, client=c)`: an explicit client wins over the ambient one; the writer is left unprepared (no
shared variable is created or reset) exactly when neither exists -/
theorem writer_prep_spec (explicit ambient : Bool) :
    (writerPrep explicit ambient = none ↔ explicit = false ∧ ambient = false) ∧
      (explicit = true → writerPrep explicit ambient = some true) ∧
      (explicit = false → ambient = true → writerPrep explicit ambient = some false) := by
  cases explicit <;> cases ambient <;> simp [writerPrep]

/-- **resumed_never_initiates**: an object built with the id of an active upload (`uploadId=` argument)
never initiates: every write goes under the resumed id, nothing fails -/
theorem resumed_never_initiates (n : Nat) :
    (Seq.run Seq.resumed (List.replicate n .write)).1.creates = 1 ∧
      (Seq.run Seq.resumed (List.replicate n .write)).1.uploadId = 1 ∧
      (∀ c ∈ (Seq.run Seq.resumed (List.replicate n .write)).2.1, ∃ q, c = Seq.SCall.upload q 1) ∧
      (∀ b ∈ (Seq.run Seq.resumed (List.replicate n .write)).2.2, b = true) := by
  obtain ⟨h1, h2, _, h4, h5⟩ := Seq.writes_started 1 (by decide) n Seq.resumed rfl (by decide)
  exact ⟨h2, h1, h4, h5⟩

/-- **ensure_final_never_initiates**: `_ensure_init(final_write=True)` makes no storage call and leaves the
object as it was - started or not - so the next ordinary first write still initiates exactly once -/
theorem ensure_final_never_initiates (s : Seq.State) :
    Seq.step s .ensureFinal = (s, [], true) ∧
      (Seq.run {} [.ensureFinal, .write, .ensureFinal, .write]).2.1 =
        [.create 1, .upload 1 1, .upload 2 1] := by
  exact ⟨rfl, by decide +kernel⟩

/-- **cancel_all_ignores_other_keys** (the repaired `list_active`, which keeps only the entries of its own
key): whatever uploads of longer keys (`k.ovr`, `k.aux.xml`, …) are active, `cancel("all")` aborts exactly the
object's own active uploads (listed without repetition), succeeds, resets the object and leaves the others alone. -/
theorem cancel_all_ignores_other_keys (s : SeqK.State) (hnd : s.own.active.Nodup) :
    (SeqK.step true s (.own .cancelAll)).2.2 = true ∧
      (SeqK.step true s (.own .cancelAll)).1.own.uploadId = 0 ∧
      (SeqK.step true s (.own .cancelAll)).1.own.active = [] ∧
      (SeqK.step true s (.own .cancelAll)).1.foreign = s.foreign ∧
      (SeqK.step true s (.own .cancelAll)).2.1 = .list :: s.own.active.map .abort := by
  obtain ⟨h1, h2, h3, _⟩ := SeqK.abortLoop_own s.own.active s.own hnd (fun _ h => h)
  simp only [SeqK.step, SeqK.listActive, if_true, h1, h2]
  refine ⟨trivial, trivial, ?_, trivial, trivial⟩
  show (SeqK.abortLoop s.own s.own.active).1.active = []
  rw [h3]
  apply List.filter_eq_nil_iff.2
  intro i hi
  simp [hi]

/-- non-vacuity: one own active upload next to two of longer keys -/
example : (({ own := { uploadId := 2, creates := 3, active := [2] }, foreign := [1, 3] } : SeqK.State).own.active).Nodup ∧
    (SeqK.step true { own := { uploadId := 2, creates := 3, active := [2] }, foreign := [1, 3] } (.own .cancelAll)).1.foreign
      = [1, 3] := by decide +kernel

/-- without active uploads of other keys the code as found and the repaired code agree -/
theorem cancel_all_no_foreign (s : SeqK.State) (h : s.foreign = []) (o : SeqK.Op) :
    SeqK.step false s o = SeqK.step true s o := by
  cases o with
  | own o => cases o <;> simp [SeqK.step, SeqK.listActive, h]
  | foreignStart => rfl
  | foreignDone => rfl

/-- **cancel_all_foreign_prefix_cex** (finding, the code as found): an upload for `k.ovr` is in progress;
this object (key `k`) writes a part, then `cancel("all")`: the listing by PREFIX returns the other key's upload
too, its abort under key `k` is rejected (NoSuchUpload), the exception skips `self.uploadId = ""` - the
object's own upload IS aborted but the object still carries its id, so the next write goes to the dead upload
and fails.  On the repaired code the same sequence initiates a fresh upload and succeeds. -/
theorem cancel_all_foreign_prefix_cex :
    let ops : List SeqK.Op := [.foreignStart, .own .write, .own .cancelAll, .own .write]
    (SeqK.run false {} ops).2.2 = [true, true, false, false] ∧
      (SeqK.run false {} ops).1.own.uploadId = 2 ∧ (SeqK.run false {} ops).1.own.active = [] ∧
      (SeqK.run true {} ops).2.2 = [true, true, true, true] ∧
      (SeqK.run true {} ops).1.own.uploadId = 3 ∧ (SeqK.run true {} ops).1.foreign = [1] := by decide +kernel

/-- `dist_once` (Props/C18.lean) quantifies over every `Dist.Cfg`, hence over every assignment of swallowed
timeouts to FIRST reads (`spurGet1`): a thread whose unlocked read times out although the variable is set
simply takes the lock and reads again.  Example: worker 1's first read times out after worker 0 has published
the id - still one upload, both parts under it. -/
theorem dist_spurious_get1_example :
    let cfg : Dist.Cfg := { kind := fun t => .write (t + 1), worker := fun t => t, spurGet1 := fun t => t = 1 }
    let s := Dist.run cfg (List.replicate 16 0 ++ List.replicate 12 1)
    s.pc 0 = .done ∧ s.pc 1 = .done ∧ s.creates = 1 ∧ s.calls = [.upload 2 1, .upload 1 1, .create 1] ∧
      s.wid 1 = 1 := by decide +kernel

/-- the driver (`Drv/C18.lean`, `traceDist`) always steps with `stepSpur2`: without second-read timeouts that is `step` -/
theorem stepSpur2_none (cfg : Dist.Cfg) (s : Dist.State) (t : Nat) :
    Dist.stepSpur2 (fun _ => false) cfg s t = Dist.step cfg s t := by
  unfold Dist.stepSpur2
  split <;> simp

/-- **dist_spurious_get2_cex**: the protocol does NOT survive a swallowed timeout of the SECOND read (under
the lock): worker 1 takes `None` for "nobody has initiated" and initiates a second upload; its part goes under
the other id.  (`_safe_get` cannot tell "unset" from "scheduler slow": known limitation, listed in `META["note"]` of harness/c18.py.) -/
theorem dist_spurious_get2_cex :
    let cfg : Dist.Cfg := { kind := fun t => .write (t + 1), worker := fun t => t, spurGet1 := fun t => t = 1 }
    let s := Dist.runSpur2 (fun t => t = 1) cfg Dist.init (List.replicate 16 0 ++ List.replicate 16 1)
    s.creates = 2 ∧ s.calls = [.upload 2 2, .create 2, .upload 1 1, .create 1] ∧ s.var = some 2 := by decide +kernel

/-- **dist_once_with_crashes**: a worker may die with a thread at ANY program point outside the publication window
(the three steps between the service's answer to `create_multipart_upload` and `shared_state.set(id)`), any number
of times, anywhere in any schedule - inside the locked block the scheduler frees the lock when the dead worker's
lease expires: still at most one upload is initiated, nobody fails because of it, every storage call carries the
one id, the lock is held exactly by the live thread inside the block - as in `dist_once`, as long as no `finalise`
has deleted the shared variable.  (A thread that is merely never scheduled again - a crash without lease expiry - is
already covered by `dist_once`, which holds for every schedule.) -/
theorem dist_once_with_crashes (cfg : Dist.Cfg) (evs : List Dist.Ev)
    (hc : Dist.crashesOutsideWindow cfg Dist.init evs = true)
    (hd : (Dist.runEv cfg Dist.init evs).deleted = false) : Dist.Once (Dist.runEv cfg Dist.init evs) :=
  (Dist.runEv_inv cfg evs _ (fun _ => Dist.inv_init cfg) hc hd).once

/-- non-vacuity: worker 0 dies inside the locked block before it has called the service (at the second read);
the lease expires, worker 1 initiates the one upload and writes its part -/
example :
    let cfg : Dist.Cfg := { kind := fun t => .write (t + 1), worker := fun t => t }
    let evs : List Dist.Ev := (List.replicate 4 (.step 0)) ++ [.crash 0] ++ List.replicate 16 (.step 1)
    Dist.crashesOutsideWindow cfg Dist.init evs = true ∧ (Dist.runEv cfg Dist.init evs).deleted = false ∧
      (Dist.runEv cfg Dist.init evs).pc 1 = .done ∧ (Dist.runEv cfg Dist.init evs).creates = 1 ∧
      (Dist.runEv cfg Dist.init evs).lock = none := by decide +kernel

/-- **dist_crash_in_window_cex**: the hypothesis is needed.  Worker 0 dies after the service created the upload and
before its id was published: the lease expires, worker 1 finds no id and initiates a SECOND upload.  Upload 1 stays
on the service as an orphan that holds no part (only `cancel("all")` / a lifecycle rule removes it); everything
after the crash goes under upload 2 - the object is still assembled correctly, the exactly-once claim is lost. -/
theorem dist_crash_in_window_cex :
    let cfg : Dist.Cfg := { kind := fun t => .write (t + 1), worker := fun t => t }
    let evs : List Dist.Ev := (List.replicate 7 (.step 0)) ++ [.crash 0] ++ List.replicate 16 (.step 1)
    Dist.crashesOutsideWindow cfg Dist.init evs = false ∧ (Dist.runEv cfg Dist.init evs).creates = 2 ∧
      (Dist.runEv cfg Dist.init evs).calls = [.upload 2 2, .create 2, .create 1] ∧
      (Dist.runEv cfg Dist.init evs).var = some 2 := by decide +kernel

/-- the same crash as the harness injects it (the storage call returns on the service, the worker dies before it
sees the answer: `stepFx`), followed by the re-run of the dead task and a finalise: three calls under upload 2,
the orphan 1 untouched -/
theorem dist_crash_before_publish_cex :
    let cfg : Dist.Cfg := { kind := fun t => if t = 3 then .fin else .write (if t = 2 then 1 else t + 1),
                            worker := fun t => t }
    let s := Dist.runFx (fun _ => false) (fun t => t = 0) cfg Dist.init
      (List.replicate 8 0 ++ List.replicate 16 1 ++ List.replicate 12 2 ++ List.replicate 12 3)
    s.creates = 2 ∧ s.pc 0 = .faulted ∧ s.pc 1 = .done ∧ s.pc 2 = .done ∧ s.pc 3 = .done ∧
      s.calls = [.complete 2, .upload 1 2, .upload 2 2, .create 2, .create 1] := by decide +kernel

/-- **dist_lost_result_retry**: a worker dies between `upload_part` and returning its record (`Cfg.crashCall`,
covered by `dist_once` like every other `Cfg`): dask re-runs the task elsewhere, the part is uploaded again under
the SAME upload id (the service keeps the later body), nothing else is initiated. -/
theorem dist_lost_result_retry :
    let cfg : Dist.Cfg := { kind := fun t => .write (if t = 2 then 1 else t + 1), worker := fun t => t,
                            crashCall := fun t => t = 0 }
    let s := Dist.run cfg (List.replicate 16 0 ++ List.replicate 12 1 ++ List.replicate 12 2)
    s.pc 0 = .faulted ∧ s.pc 1 = .done ∧ s.pc 2 = .done ∧ s.creates = 1 ∧
      s.calls = [.upload 1 1, .upload 2 1, .upload 1 1, .create 1] := by decide +kernel

/-- **local_crash_before_setid_cex**: in-process, a thread killed between the service's answer and
`self.uploadId = uploadId` (the exception leaves the `with` block, the lock is freed): the next thread initiates a
second upload; upload 1 is an orphan without parts. -/
theorem local_crash_before_setid_cex :
    let cfg : Local.Cfg := { kind := fun t => .write (t + 1) }
    let s := (List.replicate 8 0 ++ List.replicate 14 1).foldl (Local.stepCrashC (fun t => t = 0) cfg) Local.init
    s.creates = 2 ∧ s.pc 0 = .faulted ∧ s.pc 1 = .done ∧ s.held = none ∧
      s.calls = [.upload 2 2, .create 2, .create 1] := by decide +kernel

/-- … while a thread killed after its `upload_part` was carried out (`Local.Cfg.crashCall`, inside `local_once`)
changes nothing for the others -/
theorem local_lost_result_retry :
    let cfg : Local.Cfg := { kind := fun t => .write (if t = 2 then 1 else t + 1), crashCall := fun t => t = 0 }
    let s := Local.run cfg (List.replicate 14 0 ++ List.replicate 8 1 ++ List.replicate 8 2)
    s.pc 0 = .faulted ∧ s.pc 1 = .done ∧ s.pc 2 = .done ∧ s.creates = 1 ∧
      s.calls = [.upload 1 1, .upload 2 1, .upload 1 1, .create 1] := by decide +kernel

/-- **local_once_with_crashes**: the in-process counterpart of `dist_once_with_crashes`.  An exception may end a
thread at ANY program point except the single one between the service's answer to `create_multipart_upload` and
`self.uploadId = uploadId` (inside the `with` block the lock is released on the way out), any number of threads, anywhere
in any schedule: every guarantee of `local_once` stays. -/
theorem local_once_with_crashes (cfg : Local.Cfg) (hr : cfg.recheck = true) (ha : cfg.atomicLock = true)
    (evs : List Local.Ev) (hc : Local.crashesOutsideWindow cfg Local.init evs = true) :
    Local.Once (Local.runEv cfg Local.init evs) :=
  (Local.runEv_inv cfg hr ha evs _ (Local.inv_init cfg) hc).once

/-- non-vacuity: thread 0 dies inside the block right before it would call the service; thread 1 initiates the upload -/
example :
    let cfg : Local.Cfg := { kind := fun t => .write (t + 1) }
    let evs : List Local.Ev := List.replicate 7 (.step 0) ++ [.crash 0] ++ List.replicate 14 (.step 1)
    Local.crashesOutsideWindow cfg Local.init evs = true ∧ (Local.runEv cfg Local.init evs).pc 1 = .done ∧
      (Local.runEv cfg Local.init evs).creates = 1 ∧ (Local.runEv cfg Local.init evs).held = none := by decide +kernel

/-- … and the excluded point is needed (one step later the same crash orphans upload 1) -/
theorem local_crash_in_window_cex :
    let cfg : Local.Cfg := { kind := fun t => .write (t + 1) }
    let evs : List Local.Ev := List.replicate 8 (.step 0) ++ [.crash 0] ++ List.replicate 14 (.step 1)
    Local.crashesOutsideWindow cfg Local.init evs = false ∧ (Local.runEv cfg Local.init evs).creates = 2 := by decide +kernel

/-- **sink_crash_keeps_all_bytes**: `MPUFileSink.finalise` interrupted after `k ≥ 1` of the listed parts (distinct,
all written): the destination holds exactly the concatenation of those `k` parts and every later part file is still
in the parts directory with its content - no byte is lost or duplicated: destination ++ remaining parts = the whole. -/
theorem sink_crash_keeps_all_bytes (s : Sink) (ps : List Nat) (k : Nat) (f : Nat → Bytes) (hk : 1 ≤ k)
    (hnd : ps.Nodup) (hne : ps ≠ []) (hw : ∀ p ∈ ps, s.lookup p = some (f p)) :
    (s.finaliseCrash ps k).dst = some ((ps.take k).flatMap f) ∧
      (∀ p ∈ ps.drop k, (s.finaliseCrash ps k).lookup p = some (f p)) ∧
      (ps.take k).flatMap f ++ (ps.drop k).flatMap f = ps.flatMap f := by
  rw [Sink.finaliseCrash_ok s ps k f hk hne hnd hw]
  refine ⟨rfl, fun p hp => ?_, by rw [← List.flatMap_append, List.take_append_drop]⟩
  have hpn : p ∉ ps.take k := fun hin =>
    (List.nodup_append.1 ((List.take_append_drop k ps).symm ▸ hnd)).2.2 p hin p hp rfl
  show List.lookup p _ = _
  rw [lookup_filter_key (fun a => !(ps.take k).contains a), if_pos (by simpa using hpn)]
  exact hw p (List.mem_of_mem_drop hp)

/-- **sink_finalise_retry_after_crash_cex**: what is NOT guaranteed: `finalise` is not restartable.  After a crash
past the rename a second `finalise` of the same list raises FileNotFoundError (the first part file is gone) and the
destination stays a strict prefix - visible under its final name; resuming needs a caller who appends the
remaining parts itself. -/
theorem sink_finalise_retry_after_crash_cex :
    let s := [(1, [97]), (2, [98, 98]), (3, [99])].foldl Sink.write {}
    let c := s.finaliseCrash [1, 2, 3] 2
    c.dst = some [97, 98, 98] ∧ c.lookup 3 = some [99] ∧ c.dirExists = true ∧
      (Sink.finalise true c [1, 2, 3] false).2 = some .fileNotFound ∧
      (Sink.finalise true c [1, 2, 3] false).1.dst = some [97, 98, 98] ∧
      (Sink.finalise true (s.finaliseCrash [1, 2, 3] 0) [1, 2, 3] false).1.dst = some [97, 98, 98, 99] := by decide +kernel

/-- **sink_crash_bytes_prefix**: the append of the next part cut after ANY number `j` of its bytes (after `k ≥ 1`
complete parts): the destination is the first `k` parts followed by the first `j` bytes of the next - always a PREFIX
of the final content - and every part from the interrupted one on is still on disk with its whole content. -/
theorem sink_crash_bytes_prefix (s : Sink) (ps : List Nat) (k j : Nat) (f : Nat → Bytes) (hk : 1 ≤ k)
    (hk2 : k < ps.length) (hnd : ps.Nodup) (hw : ∀ p ∈ ps, s.lookup p = some (f p)) :
    (∃ next tl, ps.drop k = next :: tl ∧
      (s.finaliseCrashBytes ps k j).dst = some ((ps.take k).flatMap f ++ (f next).take j)) ∧
      (∃ b, (s.finaliseCrashBytes ps k j).dst = some b ∧ b <+: ps.flatMap f) ∧
      (∀ p ∈ ps.drop k, (s.finaliseCrashBytes ps k j).lookup p = some (f p)) := by
  have hne : ps ≠ [] := fun e => by rw [e] at hk2; simp at hk2
  obtain ⟨h1, h2, h3⟩ := sink_crash_keeps_all_bytes s ps k f hk hnd hne hw
  cases hd : ps.drop k with
  | nil =>
    exfalso
    have := congrArg List.length hd
    simp at this; omega
  | cons next tl =>
    have hnext : (s.finaliseCrash ps k).lookup next = some (f next) := h2 next (hd ▸ List.mem_cons_self)
    have hdst : (s.finaliseCrashBytes ps k j).dst = some ((ps.take k).flatMap f ++ (f next).take j) := by
      simp only [Sink.finaliseCrashBytes, hd, List.head?_cons, hnext, h1, Option.map_some]
    have hlk : ∀ p, (s.finaliseCrashBytes ps k j).lookup p = (s.finaliseCrash ps k).lookup p := by
      intro p
      simp only [Sink.finaliseCrashBytes, hd, List.head?_cons, hnext]
      rfl
    refine ⟨⟨next, tl, rfl, hdst⟩, ⟨_, hdst, ?_⟩, fun p hp => by rw [hlk]; exact h2 p (hd ▸ hp)⟩
    rw [← h3, hd, List.flatMap_cons, ← List.append_assoc]
    exact (List.prefix_append_right_inj _).2 (List.take_prefix j (f next)) |>.trans (List.prefix_append _ _)

/-- non-vacuity: three parts, crash inside the append of the third -/
example :
    let s := [(1, [97]), (2, [98, 98]), (3, [99, 99, 99])].foldl Sink.write {}
    (s.finaliseCrashBytes [1, 2, 3] 2 1).dst = some [97, 98, 98, 99] ∧
      (s.finaliseCrashBytes [1, 2, 3] 2 1).lookup 3 = some [99, 99, 99] := by decide +kernel

/-- **sink_kill_keeps_all_bytes** (the repaired sink, which flushes before it unlinks): a KILL of the process after `k`
parts is the part-granular crash - destination = first `k` parts, the rest on disk, nothing lost -/
theorem sink_kill_keeps_all_bytes (s : Sink) (ps : List Nat) (k : Nat) (f : Nat → Bytes) (hk : 1 ≤ k)
    (hnd : ps.Nodup) (hne : ps ≠ []) (hw : ∀ p ∈ ps, s.lookup p = some (f p)) :
    (s.finaliseKill true ps k).dst = some ((ps.take k).flatMap f) ∧
      (∀ p ∈ ps.drop k, (s.finaliseKill true ps k).lookup p = some (f p)) := by
  have h := sink_crash_keeps_all_bytes s ps k f hk hnd hne hw
  simp only [Sink.finaliseKill, Bool.true_or, if_true]
  exact ⟨h.1, h.2.1⟩

/-- **sink_kill_loses_buffered_bytes_cex** (finding, the code as found): parts of 3 and 2 bytes after a first part; the
process is killed after part 2 was appended and unlinked: the destination holds the first part only, part 2's file is
gone - its bytes existed only in the process's write buffer.  (The same happens without any kill when the flush at
close fails, e.g. disk full: every part is already unlinked.)  With the flush before the unlink nothing is lost. -/
theorem sink_kill_loses_buffered_bytes_cex :
    let s := [(1, [65, 65, 65, 65]), (2, [98, 98, 98]), (3, [99, 99])].foldl Sink.write {}
    (s.finaliseKill false [1, 2, 3] 2).dst = some [65, 65, 65, 65] ∧
      (s.finaliseKill false [1, 2, 3] 2).lookup 2 = none ∧
      (s.finaliseKill false [1, 2, 3] 2).lookup 3 = some [99, 99] ∧
      (s.finaliseKill true [1, 2, 3] 2).dst = some [65, 65, 65, 65, 98, 98, 98] := by decide +kernel

/-- **cancel_all_pages**: `list_active` asks the service for one page.  With at most `page` active uploads of the
key, `cancel("all")` aborts them all; with more, one call leaves the rest active (`cancel_all_one_page_cex`) and
`⌈n / page⌉` calls are needed: after `m` calls exactly the uploads beyond the first `m·page` remain. -/
theorem cancel_all_pages (page : Nat) (s : Seq.State) (m : Nat) :
    (cancelAllPagedN page m s).active = s.active.drop (m * page) ∧
      (s.active.length ≤ m * page → (cancelAllPagedN page m s).active = []) := by
  refine ⟨cancelAllPagedN_active page m s, fun h => ?_⟩
  rw [cancelAllPagedN_active]
  exact List.drop_eq_nil_of_le h

/-- within one page the paged listing is the listing of `Seq.step`: the same uploads are aborted -/
theorem cancel_all_within_page (page : Nat) (s : Seq.State) (h : s.active.length ≤ page) :
    (cancelAllPaged page s).1.active = [] ∧ (cancelAllPaged page s).2 = (Seq.step s .cancelAll).2.1 ∧
      (cancelAllPaged page s).1.uploadId = 0 := by
  simp [cancelAllPaged, Seq.step, List.take_of_length_le h, List.drop_eq_nil_of_le h]

/-- **cancel_all_one_page_cex** (limit of the code as it is, not repaired): 5 orphaned uploads of the key, a service
that pages by 3: one `cancel("all")` aborts 3, reports nothing, resets the object - 2 uploads stay active -/
theorem cancel_all_one_page_cex :
    (cancelAllPaged 3 { creates := 5, active := [1, 2, 3, 4, 5] }).1.active = [4, 5] ∧
      (cancelAllPagedN 3 2 { creates := 5, active := [1, 2, 3, 4, 5] }).active = [] := by decide +kernel

/-- **dist_objects_sharing_names_cex**: why the names must depend on the object.  Two objects, one writer copy
each (the model's "worker" is a writer copy): if both writers compute the SAME Variable / Lock names, the second
object's first write adopts the first object's upload id and never initiates its own upload; with names of their
own each object initiates exactly one (the correspondence drives the real `_build_name` for keys `k`, `k.ovr`
and a one-letter variation). -/
theorem dist_objects_sharing_names_cex :
    let shared : DistN.Cfg := { kind := fun _ => .write 1, worker := fun t => t, varName := fun _ => 0,
                                lockName := fun _ => 0 }
    let own : DistN.Cfg := { kind := fun _ => .write 1, worker := fun t => t, varName := fun w => w,
                             lockName := fun w => w }
    let sched := List.replicate 16 0 ++ List.replicate 16 1
    (DistN.run shared sched).creates = 1 ∧ (DistN.run shared sched).wid 1 = 1 ∧
      (DistN.run own sched).creates = 2 ∧ (DistN.run own sched).wid 0 = 1 ∧ (DistN.run own sched).wid 1 = 2 := by
  decide +kernel

end OdcGeo.C18
