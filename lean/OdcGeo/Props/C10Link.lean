/-
C10 × C20 / C09 / C02 — the numeric helpers of `odc/geo/math.py` are modelled twice: in `OdcGeo.Model.C03` (planning:
C03, C10) and in `OdcGeo.Model.C20` (helper contracts), `is_affine_st` also in C09 and the tolerance constant in C02.
These theorems show that the copies are the same functions, so a contract proved about one holds for the other
(e.g. C20's `snap_scale_idem` for the `snapScale` the paste plan uses).
-/
import OdcGeo.Model.C03
import OdcGeo.Model.C20
import OdcGeo.Model.C09
import OdcGeo.Model.C02
import OdcGeo.Lemmas.C03Scalar
namespace OdcGeo.C10

theorem link_split_float : C03.splitFloat = C20.splitFloat := rfl
theorem link_is_almost_int : C03.isAlmostInt = C20.isAlmostInt := rfl

/-- `maybe_int`: C03 returns the whole part itself, C20 the `int(...)` of it — the same number. -/
theorem link_maybe_int (x tol : Rat) : C03.maybeInt x tol = C20.maybeInt x tol := C03.maybeInt_eq_C20 x tol

/-- `snap_scale`: whenever C20's (error-aware) model succeeds — always for a positive tolerance, C20.snap_scale_total —
its value is what the planning model computes. -/
theorem link_snap_scale (s tol r : Rat) (h : C20.snapScale s tol = .ok r) : C03.snapScale s tol = r :=
  C03.snapScale_of_C20 h

theorem link_tol_st : C03.tol1em10 = C09.tolST ∧ C03.tol1em10 = C02.tolST := by
  constructor <;> decide +kernel

/-- `is_affine_st` with its default tolerance: the planning model's and C09's are the same predicate -/
theorem link_is_affine_st (A : Aff) : C03.isAffineST A = C09.isAffineST A := by
  have e : C03.tol1em10 = C09.tolST := link_tol_st.1
  unfold C03.isAffineST C09.isAffineST
  rw [e]
  have r : ∀ x, C03.rabs x = C09.rabs x := fun _ => rfl
  rw [r, r]

example : C20.snapScale (1 / 3 + 1 / 3000) (1 / 100) = .ok (1 / 3) := by decide +kernel

end OdcGeo.C10
