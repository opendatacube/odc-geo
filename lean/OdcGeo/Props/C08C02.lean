/-
C08 ∘ C02 — the result of `GeoBox.from_bbox` seen through the public accessors of `GeoBox` as modelled by
C02 (`Model/C02.lean`): `.boundingbox`, `.alignment`, `.resolution`, and followed by C02's `zoom_to` / `pad`.

`Props/C08.lean` states cover / minimal / aligned in its own vocabulary (`g.xmin … g.ymax`); here the same
guarantees are stated on what a user reads off the returned object.
-/
import OdcGeo.Model.C02
import OdcGeo.Lemmas.C02
import OdcGeo.Props.C08

namespace OdcGeo.C08
open OdcGeo.C20 (snapGrid gridLo gridHi)

/-- The C08 result as a C02 geobox (`crs` is carried along, it plays no role here). -/
def toC02 (g : GeoBox) (crs : Nat) : C02.GeoBox := ⟨g.ny, g.nx, g.affine, crs⟩

/-- For an axis-aligned affine the modelled `GeoBox.boundingbox` (hull of the four corner images) is the
extent `xmin … ymax` of C08's vocabulary. -/
theorem boundingbox_of_axis_aligned (g : GeoBox) (crs : Nat) (hb : g.affine.b = 0) (hd : g.affine.d = 0) :
    C02.boundingbox (toC02 g crs) = ⟨g.xmin, g.ymin, g.xmax, g.ymax⟩ := by
  have e1 : g.affine.a * (g.nx : Rat) + g.affine.c = g.affine.c + (g.nx : Rat) * g.affine.a := by ring
  have e2 : g.affine.e * (g.ny : Rat) + g.affine.f = g.affine.f + (g.ny : Rat) * g.affine.e := by ring
  simp only [C02.boundingbox, toC02, Aff.apply, hb, hd, C02.min4, C02.max4, GeoBox.xmin, GeoBox.xmax,
    GeoBox.ymin, GeoBox.ymax, mul_zero, zero_mul, zero_add, add_zero, e1, e2, min_self, max_self]
  rw [min_comm (g.affine.f + _) g.affine.f, min_self, max_comm (g.affine.f + _) g.affine.f, max_self]

section res
variable {bb : BBox} {tight : Bool} {shape : ShapeArg} {res : ResArg} {anchor : AnchorArg}
  {tol rx ry : Rat} {g : GeoBox}

/-- **`from_bbox(region, resolution=…).boundingbox` covers the region** up to `tol` of a pixel per side and is
at most one pixel (+`tol`) larger per side. -/
theorem from_bbox_res_boundingbox (hs : ∀ n, shape ≠ .int n) (hres : res.xy? = some (rx, ry))
    (v : ValidRes bb rx ry tol (snapOf tight (normAnchor anchor)))
    (h : fromBbox bb tight shape res anchor tol = .ok g) (crs : Nat) :
    let B := C02.boundingbox (toC02 g crs)
    B.left ≤ bb.left + tol * |rx| ∧ bb.right - tol * |rx| ≤ B.right ∧
    B.bottom ≤ bb.bottom + tol * |ry| ∧ bb.top - tol * |ry| ≤ B.top ∧
    bb.left - B.left ≤ |rx| * (1 + tol) ∧ B.right - bb.right ≤ |rx| * (1 + tol) ∧
    bb.bottom - B.bottom ≤ |ry| * (1 + tol) ∧ B.top - bb.top ≤ |ry| * (1 + tol) := by
  obtain ⟨_, _, _, hb, hd⟩ := from_bbox_res_pixel_size hs hres h
  have hc := from_bbox_res_covers hs hres v h
  have hm := from_bbox_res_minimal_le hs hres v h
  simp only [boundingbox_of_axis_aligned g crs hb hd]
  exact ⟨hc.1, hc.2.1, hc.2.2.1, hc.2.2.2, hm⟩

/-- `x % m` (Python float modulo, as modelled by C02) of a number sitting `s·m` above a multiple of `m`,
`0 ≤ s < 1`, is `s·m`. -/
theorem pyFMod_of_aligned (x m s : Rat) (k : Int) (hm : 0 < m) (hs : 0 ≤ s ∧ s < 1)
    (hk : (x - s * m) / m = k) : C02.pyFMod x m = .ok (s * m) := by
  have hx : x = ((k : Rat) + s) * m := by rw [add_mul, ← (div_eq_iff hm.ne').mp hk, sub_add_cancel]
  have hfl : (x / m).floor = k := by
    rw [hx, mul_div_cancel_right₀ _ hm.ne']
    exact floor_eq_iff.2 ⟨le_add_of_nonneg_right hs.1, (add_lt_add_iff_left _).mpr hs.2⟩
  unfold C02.pyFMod
  rw [if_neg hm.ne', hfl, hx, add_mul, add_sub_cancel_left]

/-- **`from_bbox(…, anchor=a).alignment` is exactly the anchor**: `(sx·|rx|, sy·|ry|)` for the anchor fractions
`(sx, sy)` — `(0, 0)` for `"edge"` / `"default"`, half a pixel for `"center"`, any fraction in `[0, 1)` per axis —
whatever the sign of either resolution component. -/
theorem from_bbox_res_alignment (hs : ∀ n, shape ≠ .int n) (hres : res.xy? = some (rx, ry)) {sx sy : Rat}
    (hsn : snapOf tight (normAnchor anchor) = some (sx, sy))
    (h : fromBbox bb tight shape res anchor tol = .ok g) (crs : Nat) :
    C02.alignment (toC02 g crs) = .ok (sx * |rx|, sy * |ry|) := by
  obtain ⟨h1, h2, _⟩ := from_bbox_res_axes hs hres h
  obtain ⟨_, ha, he, _, _⟩ := from_bbox_res_pixel_size hs hres h
  rw [hsn] at h1 h2
  obtain ⟨kx, hkx⟩ := snapGrid_origin_lattice h1
  obtain ⟨ky, hky⟩ := snapGrid_origin_lattice h2
  -- that the fractions are in `[0, 1)` and the pixel is not zero is read off the two successful `snap_grid` calls
  obtain ⟨hrx, _, hopx, _⟩ := C20.snapGrid_ok h1
  obtain ⟨hry, _, hopy, _⟩ := C20.snapGrid_ok h2
  unfold C02.alignment
  simp only [toC02, C02.rabs_eq_abs, ha, he]
  rw [pyFMod_of_aligned _ _ sx kx (abs_pos.mpr hrx) (hopx sx rfl).1 hkx,
    pyFMod_of_aligned _ _ sy ky (abs_pos.mpr hry) (hopy sy rfl).1 hky]
  rfl

/-- **`from_bbox(…, resolution=r).resolution == r`**, exactly (no decomposition is involved: the result is
axis aligned). -/
theorem from_bbox_res_resolution (hs : ∀ n, shape ≠ .int n) (hres : res.xy? = some (rx, ry))
    (h : fromBbox bb tight shape res anchor tol = .ok g) (crs : Nat) (n m : Rat) :
    C02.resolution (toC02 g crs) n m = .ok (rx, ry) := by
  obtain ⟨_, ha, he, hb, hd⟩ := from_bbox_res_pixel_size hs hres h
  rw [C02.resolution_of_st (toC02 g crs) n m (C02.isAffineST_of_zero hb hd), ← ha, ← he]
  rfl

end res

/-- **The deprecated `align=` of `from_geopolygon` is what `.alignment` reports**: for `0 ≤ ax < |rx|`,
`0 ≤ ay < |ry|` (not both zero — that case is `anchor="edge"`, alignment `(0, 0)`) the resulting geobox has
`.alignment == (ax, ay)` exactly. -/
theorem from_geopolygon_align_is_alignment (p : Rat × Rat) (ps : List (Rat × Rat)) (rx ry ax ay tol : Rat)
    (shape : ShapeArg) (anchor : AnchorArg) (hs : ∀ n, shape ≠ .int n) (hrx : rx ≠ 0) (hry : ry ≠ 0)
    (hax : 0 ≤ ax ∧ ax < |rx|) (hay : 0 ≤ ay ∧ ay < |ry|) (hnz : ¬ (ax = 0 ∧ ay = 0))
    (ht : 0 ≤ tol) (ht2 : tol < 1 / 2) {g : GeoBox}
    (h : fromGeopolygon p ps (.xy rx ry) (some (ax, ay)) shape false anchor tol = .ok g) (crs : Nat) :
    C02.alignment (toC02 g crs) = .ok (ax, ay) := by
  rw [(from_geopolygon_reduces_to_bbox p ps (.xy rx ry) shape false anchor tol).2.2 ax ay rx ry hnz rfl hrx hry] at h
  rw [from_bbox_res_alignment (res := .xy rx ry) hs rfl rfl h crs, div_mul_cancel₀ _ (abs_ne_zero.mpr hrx),
    div_mul_cancel₀ _ (abs_ne_zero.mpr hry)]

theorem snapCeil_intCast (n : Int) {tol : Rat} (ht : 0 < tol) : C02.snapCeil (n : Rat) tol = n := by
  unfold C02.snapCeil
  rw [Rat.floor_intCast, sub_self, if_pos ht]

theorem snapGridTight_own (c r : Rat) (n : Int) {tol : Rat} (ht : 0 < tol) (hr : r ≠ 0) (hn : 1 ≤ n) :
    C02.snapGridTight (gridLo r c n) (gridHi r c n) r tol = .ok (c, n) := by
  rcases lt_or_gt_of_ne hr with h | h
  · rw [C02.snapGridTight_neg h, gridLo, gridHi, if_neg (not_lt.mpr h.le), if_neg (not_lt.mpr h.le),
      sub_add_cancel_left, neg_div_neg_eq, mul_div_cancel_right₀ _ hr, snapCeil_intCast n ht, max_eq_left hn]
  · rw [C02.snapGridTight_pos h, gridLo, gridHi, if_pos h, if_pos h, add_sub_cancel_left, mul_div_cancel_right₀ _ hr,
      snapCeil_intCast n ht, max_eq_right hn]

/-- **`zoom_to(resolution=own resolution)` is the identity** on every axis-aligned geobox with at least one pixel per
axis (either sign of either resolution component). -/
theorem zoom_to_own_resolution (g : GeoBox) (crs : Nat) (hb : g.affine.b = 0) (hd : g.affine.d = 0)
    (hrx : g.affine.a ≠ 0) (hry : g.affine.e ≠ 0) (hnx : 1 ≤ g.nx) (hny : 1 ≤ g.ny) :
    C02.zoomToRes (toC02 g crs) g.affine.a g.affine.e = .ok (toC02 g crs) := by
  obtain ⟨e1, e2, e3, e4⟩ := extent_eq g (by omega) (by omega)
  unfold C02.zoomToRes
  rw [boundingbox_of_axis_aligned g crs hb hd]
  have ht := tolSnap_bounds.1
  simp only [e1, e2, e3, e4, snapGridTight_own _ _ _ ht hrx hnx, snapGridTight_own _ _ _ ht hry hny, bind,
    Except.bind, pure, Except.pure, toC02, Aff.translation_mul_scale, Aff.eta_of_st hb hd]

/-- **`GeoBox.from_bbox(region, resolution=r).zoom_to(resolution=r)` gives the same geobox back** (any anchor, tight
or not): the result of the resolution-driven construction is a fixed point of re-gridding at its own resolution. -/
theorem from_bbox_then_zoom_to_same_resolution {bb : BBox} {tight : Bool} {shape : ShapeArg} {res : ResArg}
    {anchor : AnchorArg} {tol rx ry : Rat} {g : GeoBox} (hs : ∀ n, shape ≠ .int n) (hres : res.xy? = some (rx, ry))
    (v : ValidRes bb rx ry tol (snapOf tight (normAnchor anchor)))
    (h : fromBbox bb tight shape res anchor tol = .ok g) (crs : Nat) :
    C02.zoomToRes (toC02 g crs) rx ry = .ok (toC02 g crs) := by
  obtain ⟨hn1, hn2⟩ := from_bbox_res_n_pos hs hres h
  obtain ⟨_, ha, he, hb, hd⟩ := from_bbox_res_pixel_size hs hres h
  rw [← ha, ← he]
  exact zoom_to_own_resolution g crs hb hd (ha ▸ v.hrx) (he ▸ v.hry) hn1 hn2

theorem boundingbox_pad (g : GeoBox) (crs : Nat) (hb : g.affine.b = 0) (hd : g.affine.d = 0)
    (hnx : 0 ≤ g.nx) (hny : 0 ≤ g.ny) (px py : Int) (hpx : 0 ≤ px) (hpy : 0 ≤ py) :
    C02.boundingbox (C02.pad (toC02 g crs) px (some py)) =
      ⟨g.xmin - (px : Rat) * |g.affine.a|, g.ymin - (py : Rat) * |g.affine.e|,
       g.xmax + (px : Rat) * |g.affine.a|, g.ymax + (py : Rat) * |g.affine.e|⟩ := by
  have hpad : C02.pad (toC02 g crs) px (some py) =
      toC02 ⟨g.ny + py * 2, g.nx + px * 2, ⟨g.affine.a, 0, g.affine.c - (px : Rat) * g.affine.a, 0, g.affine.e,
        g.affine.f - (py : Rat) * g.affine.e⟩⟩ crs := by
    simp only [C02.pad, toC02, Aff.mul_def, Aff.mul, Aff.translation, hb, hd, C02.GeoBox.mk.injEq, Aff.mk.injEq,
      mul_one, mul_zero, zero_mul, add_zero, zero_add, true_and, and_true]
    exact ⟨by ring, by ring⟩
  rw [hpad, boundingbox_of_axis_aligned _ crs rfl rfl]
  simp only [GeoBox.xmin, GeoBox.xmax, GeoBox.ymin, GeoBox.ymax]
  rw [min_eq_gridLo _ _ _ (by omega), min_eq_gridLo _ _ _ (by omega), max_eq_gridHi _ _ _ (by omega),
    max_eq_gridHi _ _ _ (by omega), min_eq_gridLo _ _ _ hnx, min_eq_gridLo _ _ _ hny,
    max_eq_gridHi _ _ _ hnx, max_eq_gridHi _ _ _ hny, gridLo_pad, gridLo_pad, gridHi_pad, gridHi_pad]

/-- **`from_bbox(region, resolution=r).pad(px, py)` covers the region grown by `px`, `py` pixels** (up to `tol`):
padding moves each edge of the bounding box outwards by exactly that many pixels. -/
theorem from_bbox_then_pad_covers {bb : BBox} {tight : Bool} {shape : ShapeArg} {res : ResArg}
    {anchor : AnchorArg} {tol rx ry : Rat} {g : GeoBox} (hs : ∀ n, shape ≠ .int n) (hres : res.xy? = some (rx, ry))
    (v : ValidRes bb rx ry tol (snapOf tight (normAnchor anchor)))
    (h : fromBbox bb tight shape res anchor tol = .ok g) (crs : Nat) (px py : Int) (hpx : 0 ≤ px) (hpy : 0 ≤ py) :
    let B := C02.boundingbox (C02.pad (toC02 g crs) px (some py))
    B.left ≤ bb.left - (px : Rat) * |rx| + tol * |rx| ∧ bb.right + (px : Rat) * |rx| - tol * |rx| ≤ B.right ∧
    B.bottom ≤ bb.bottom - (py : Rat) * |ry| + tol * |ry| ∧ bb.top + (py : Rat) * |ry| - tol * |ry| ≤ B.top := by
  obtain ⟨hn1, hn2⟩ := from_bbox_res_n_pos hs hres h
  obtain ⟨_, ha, he, hb, hd⟩ := from_bbox_res_pixel_size hs hres h
  obtain ⟨c1, c2, c3, c4⟩ := from_bbox_res_covers hs hres v h
  simp only [boundingbox_pad g crs hb hd (by omega) (by omega) px py hpx hpy, ha, he]
  refine ⟨?_, ?_, ?_, ?_⟩
  · rw [sub_add_eq_add_sub]; exact sub_le_sub_right c1 _
  · rw [add_sub_right_comm]; exact add_le_add_left c2 _
  · rw [sub_add_eq_add_sub]; exact sub_le_sub_right c3 _
  · rw [add_sub_right_comm]; exact add_le_add_left c4 _

example : C02.alignment (toC02 ⟨3, 3, ⟨3, 0, 3 / 2, 0, -3, 15 / 2⟩⟩ 0) = .ok (3 / 2, 3 / 2) := by decide +kernel
example : fromBbox ⟨2, 0, 10, 7⟩ false .none (.scalar 3) (.name .center) (1 / 100) =
    .ok ⟨3, 3, ⟨3, 0, 3 / 2, 0, -3, 15 / 2⟩⟩ := by decide +kernel
example : fromGeopolygon (2, 0) [(10, 7), (4, 1)] (.xy 3 (-3)) (some (1, 2)) .none false (.name .default) (1 / 100) =
    .ok ⟨3, 3, ⟨3, 0, 1, 0, -3, 8⟩⟩ ∧ C02.alignment (toC02 ⟨3, 3, ⟨3, 0, 1, 0, -3, 8⟩⟩ 0) = .ok (1, 2) := by
  decide +kernel

end OdcGeo.C08
