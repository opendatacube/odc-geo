/-
C20 — non-finite floats (`nan`, `±inf`) through `snap_scale`, `snap_grid`, `snap_affine` (`Model/C20NonFinite.lean`):
on finite arguments the extended `snap_grid` / `snap_scale` ARE the finite models of `Model/C20.lean` (so the theorems
of `Props/C20.lean` about them apply), a non-finite interval end is always rejected (never a grid), a non-finite scale
passes through `snap_scale` untouched, and what HEAD does with a `nan` / infinite rotation term in `snap_affine`.
The resolution branch of `from_bbox` of the same model file is treated in `Props/C08NonFinite.lean`.
-/
import OdcGeo.Model.C20NonFinite
import OdcGeo.Lemmas.C20Scalar
import OdcGeo.Lemmas.Except

namespace OdcGeo.C20
open NF

theorem nf_lt_fin (a b : Rat) : NF.lt (.fin a) (.fin b) = decide (a < b) := rfl
theorem nf_le_fin (a b : Rat) : NF.le (.fin a) (.fin b) = decide (a ≤ b) := rfl
theorem nf_sub_fin (a b : Rat) : NF.sub (.fin a) (.fin b) = .fin (a - b) := by
  simp [NF.sub, NF.neg, NF.add, sub_eq_add_neg]
theorem nf_add_fin (a b : Rat) : NF.add (.fin a) (.fin b) = .fin (a + b) := rfl
theorem nf_mul_fin (a b : Rat) : NF.mul (.fin a) (.fin b) = .fin (a * b) := rfl
theorem nf_neg_fin (a : Rat) : NF.neg (.fin a) = .fin (-a) := rfl
theorem nf_abs_fin (a : Rat) : NF.abs (.fin a) = .fin (rabs a) := rfl
theorem nf_div_fin (a b : Rat) (hb : b ≠ 0) : NF.div (.fin a) (.fin b) = .ok (.fin (a / b)) := by
  simp [NF.div, hb]
theorem nf_div_zero (a : XF) : NF.div a (.fin 0) = .error .zeroDiv := by
  simp [NF.div]

/-- On finite arguments the extended `maybe_int` is the finite one. -/
theorem nf_maybeIntT_fin (q tol : Rat) : valOf (maybeIntT (.fin q) (.fin tol)) = .fin (maybeInt q tol) := by
  unfold maybeIntT maybeInt maybeInt?
  simp only [nf_lt_fin]
  by_cases h : rabs (splitFloat q).2 < tol <;> simp [h, valOf, ofInt]

theorem nf_snapEdgePos_fin (x0 x1 res tol : Rat) :
    snapEdgePosX (.fin x0) (.fin x1) (.fin res) (.fin tol) =
      NF.liftRes ((snapEdgePos x0 x1 res tol).map fun r => (XF.fin r.1, r.2)) := by
  unfold snapEdgePosX snapEdgePos
  simp only [nf_lt_fin, nf_le_fin]
  by_cases hr : 0 < res
  · by_cases hx : x0 ≤ x1
    · have hr' : res ≠ 0 := ne_of_gt hr
      simp [hr, hx, nf_div_fin _ _ hr', nf_maybeIntT_fin, floorX, ceilX, bind, Except.bind, pure, Except.pure,
        NF.liftRes, Except.map, nf_mul_fin, ofInt]
    · simp [hr, hx, NF.liftRes, Except.map, ofErr]
  · simp [hr, NF.liftRes, Except.map, ofErr]

theorem nf_snapEdge_fin (x0 x1 res tol : Rat) :
    snapEdgeX (.fin x0) (.fin x1) (.fin res) (.fin tol) =
      NF.liftRes ((snapEdge x0 x1 res tol).map fun r => (XF.fin r.1, r.2)) := by
  unfold snapEdgeX snapEdge
  simp only [nf_lt_fin, nf_le_fin, nf_neg_fin, nf_snapEdgePos_fin]
  by_cases hx : x0 ≤ x1
  · by_cases hr : 0 < res
    · simp [hx, hr]
    · simp only [hx, hr, not_true_eq_false, decide_true, decide_false, if_false, Bool.false_eq_true]
      cases snapEdgePos x0 x1 (-res) tol <;>
        simp [NF.liftRes, Except.map, bind, Except.bind, pure, Except.pure, nf_add_fin, nf_mul_fin, ofInt]
  · simp [hx, NF.liftRes, Except.map, ofErr]

/-- **On finite arguments the extended `snap_grid` is the finite model** (so `snap_grid_cover`, `_minimal`,
`_aligned`, … of `Props/C20.lean` hold for it verbatim). -/
theorem snap_grid_x_finite (x0 x1 res tol : Rat) (off : Option Rat) :
    snapGridX (.fin x0) (.fin x1) (.fin res) (off.map XF.fin) (.fin tol) =
      NF.liftRes ((snapGrid x0 x1 res off tol).map fun r => (XF.fin r.1, r.2)) := by
  cases off with
  | none =>
    unfold snapGridX snapGrid
    simp only [Option.map_none, nf_lt_fin, nf_sub_fin, nf_neg_fin]
    by_cases hr : 0 < res
    · have hr' : res ≠ 0 := ne_of_gt hr
      simp [hr, nf_div_fin _ _ hr', nf_maybeIntT_fin, ceilX, bind, Except.bind, pure, Except.pure, NF.liftRes, Except.map]
    · by_cases h0 : res = 0
      · subst h0
        simp [nf_div_zero, bind, Except.bind, NF.liftRes, Except.map, ofErr]
      · have hr' : -res ≠ 0 := neg_ne_zero.mpr h0
        simp [hr, h0, nf_div_fin _ _ hr', nf_maybeIntT_fin, ceilX, bind, Except.bind, pure, Except.pure, NF.liftRes,
          Except.map]
  | some op =>
    unfold snapGridX snapGrid
    simp only [Option.map_some, nf_lt_fin, nf_le_fin, nf_abs_fin, nf_mul_fin, nf_sub_fin, nf_snapEdge_fin]
    by_cases h : 0 ≤ op ∧ op < 1
    · simp only [h.1, h.2, decide_true, Bool.and_self, not_true_eq_false, if_false, and_self]
      cases snapEdge (x0 - op * rabs res) (x1 - op * rabs res) res tol <;>
        simp [NF.liftRes, Except.map, bind, Except.bind, pure, Except.pure, nf_add_fin]
    · have h' : ¬ ((decide (0 ≤ op) && decide (op < 1)) = true) := by simpa using h
      simp [h, h', NF.liftRes, Except.map, ofErr]

theorem nf_neg_nonfin {a : XF} (h : isFinite a = false) : isFinite (NF.neg a) = false := by
  cases a <;> simp_all [NF.neg, isFinite]
theorem nf_add_nonfin {a b : XF} (h : isFinite a = false ∨ isFinite b = false) : isFinite (NF.add a b) = false := by
  cases a <;> cases b <;> simp_all [NF.add, isFinite]
theorem nf_sub_nonfin {a b : XF} (h : isFinite a = false ∨ isFinite b = false) : isFinite (NF.sub a b) = false :=
  nf_add_nonfin (h.imp_right nf_neg_nonfin)

theorem nf_infSigned_nonfin {d : Rat} (hd : d ≠ 0) : isFinite (infSigned d) = false := by
  unfold infSigned
  rw [if_neg hd]
  split <;> rfl

theorem nf_div_nonfin {a b q : XF} (h : isFinite a = false) (hq : NF.div a b = .ok q) : isFinite q = false := by
  cases b with
  | fin d =>
    by_cases hd : d = 0
    · simp [NF.div, hd] at hq
    · cases a with
      | fin n => cases h
      | nan => simp [NF.div, hd] at hq; subst hq; rfl
      | pinf => simp [NF.div, hd] at hq; subst hq; exact nf_infSigned_nonfin hd
      | ninf => simp [NF.div, hd] at hq; subst hq; exact nf_infSigned_nonfin (neg_ne_zero.mpr hd)
  | nan => cases hq; rfl
  | _ =>
    cases a with
    | fin n => cases h
    | _ => cases hq; rfl

theorem nf_round_nonfin {q : XF} (tol : XF) (h : isFinite q = false) (i : Int) :
    floorX (valOf (maybeIntT q tol)) ≠ .ok i ∧ ceilX (valOf (maybeIntT q tol)) ≠ .ok i := by
  cases q with
  | fin n => cases h
  | _ => exact ⟨nofun, nofun⟩

theorem nf_snapEdgePos_nonfin (a b res tol : XF) (h : isFinite a = false ∨ isFinite b = false) :
    ∃ e, snapEdgePosX a b res tol = .error e := by
  unfold snapEdgePosX
  split
  · exact ⟨_, rfl⟩
  · split
    · exact ⟨_, rfl⟩
    · -- were all four steps to return, the quotient of the non-finite end would have been rounded to an `int`
      refine raises_bind fun q0 h0 => raises_bind fun i0 hi0 => raises_bind fun q1 h1 => raises_bind fun i1 hi1 => ?_
      rcases h with h | h
      · exact absurd hi0 (nf_round_nonfin tol (nf_div_nonfin h h0) i0).1
      · exact absurd hi1 (nf_round_nonfin tol (nf_div_nonfin h h1) i1).2

theorem nf_snapEdge_nonfin (a b res tol : XF) (h : isFinite a = false ∨ isFinite b = false) :
    ∃ e, snapEdgeX a b res tol = .error e := by
  unfold snapEdgeX
  split
  · exact ⟨_, rfl⟩
  · split
    · exact nf_snapEdgePos_nonfin a b res tol h
    · exact raises_bind_left _ (nf_snapEdgePos_nonfin a b (NF.neg res) tol h)

/-- **A non-finite interval end is never turned into a grid**: whatever the resolution, anchor fraction and tolerance
(finite or not), `snap_grid` raises when `x0` or `x1` is `nan` or `±inf`. -/
theorem snap_grid_x_nonfinite_rejected (x0 x1 res : XF) (off : Option XF) (tol : XF)
    (h : isFinite x0 = false ∨ isFinite x1 = false) : ∃ e, snapGridX x0 x1 res off tol = .error e := by
  cases off with
  | none =>
    have hsub : isFinite (NF.sub x1 x0) = false := nf_sub_nonfin h.symm
    have key (r : XF) (k : Int → NRes (XF × Int)) :
        ∃ e, (NF.div (NF.sub x1 x0) r >>= fun q => ceilX (valOf (maybeIntT q tol)) >>= k) = .error e :=
      raises_bind fun q hq => raises_bind fun n hn => absurd hn (nf_round_nonfin tol (nf_div_nonfin hsub hq) n).2
    unfold snapGridX
    simp only
    split
    · exact key res _
    · exact key (NF.neg res) _
  | some op =>
    unfold snapGridX
    simp only
    split
    · exact ⟨_, rfl⟩
    · exact raises_bind_left _
        (nf_snapEdge_nonfin _ _ res tol (h.imp (nf_sub_nonfin ∘ .inl) (nf_sub_nonfin ∘ .inl)))

/-- A `nan` / infinite anchor fraction fails the `0 <= off_pix < 1` assertion. -/
theorem snap_grid_x_nonfinite_anchor_rejected (x0 x1 res op tol : XF) (h : isFinite op = false) :
    snapGridX x0 x1 res (some op) tol = .error .assertion := by
  cases op with
  | fin q => simp [isFinite] at h
  | _ => simp [snapGridX, NF.le, NF.lt]

/-- **A non-finite scale passes through `snap_scale` untouched**, whatever the tolerance (finite or not). -/
theorem snap_scale_x_nonfinite_passthrough (s tol : XF) (h : isFinite s = false) :
    snapScaleX s tol = .ok (.inr s) := by
  cases s with
  | fin q => simp [isFinite] at h
  | _ =>
    cases tol <;>
      simp [snapScaleX, NF.sub, NF.neg, NF.add, NF.abs, NF.le, NF.lt, NF.div, maybeIntT, bind, Except.bind, pure,
        Except.pure]

/-- **On finite arguments the extended `snap_scale` is the finite model.** -/
theorem snap_scale_x_finite (s tol : Rat) :
    (snapScaleX (.fin s) (.fin tol)).map valOf = NF.liftRes ((snapScale s tol).map XF.fin) := by
  unfold snapScaleX snapScale
  simp only [nf_sub_fin, nf_abs_fin, nf_le_fin, nf_lt_fin]
  by_cases h1 : 1 - tol ≤ rabs s
  · simp [h1, Except.map, NF.liftRes, nf_maybeIntT_fin]
  · by_cases h2 : rabs s < tol
    · simp [h1, h2, Except.map, NF.liftRes, valOf]
    · by_cases h0 : s = 0
      · subst h0
        simp [h1, h2, nf_div_zero, bind, Except.bind, Except.map, NF.liftRes, ofErr]
      · simp only [h1, h2, h0, decide_false, Bool.false_eq_true, if_false, nf_div_fin _ _ h0, bind,
          Except.bind]
        unfold maybeIntT maybeInt?
        simp only [nf_lt_fin, one_div]
        by_cases h3 : rabs (splitFloat s⁻¹).2 < tol
        · by_cases hk : trunc (splitFloat s⁻¹).1 = 0
          · simp [h3, hk, Except.map, NF.liftRes, ofErr]
          · simp [h3, hk, Except.map, NF.liftRes, valOf, pure, Except.pure]
        · simp [h3, Except.map, NF.liftRes, valOf, pure, Except.pure]

/-- **What HEAD does with a `nan` rotation / shear term (one matrix, `b = nan`): it is silently replaced by `0`**
(`abs(nan) > tol` is false, so the matrix counts as unrotated and is rebuilt with zero off-diagonal terms) — an
observation about non-finite input, outside the property's quantifier (finite floats); replayed by the correspondence. -/
theorem snap_affine_x_nan_rotation_dropped :
    snapAffineX ⟨.fin 1, .nan, .fin 1, .fin 0, .fin 1, .fin 1⟩ (.fin (1 / 1000)) (.fin (1 / 1000000)) (.fin (1 / 100000000)) =
      .ok ⟨.fin 1, .fin 0, .fin 1, .fin 0, .fin 1, .fin 1⟩ := by decide +kernel

/-- An infinite rotation / shear term, by contrast, counts as rotation (finite `tol`): the matrix is returned unchanged. -/
theorem snap_affine_x_inf_rotation_untouched (A : AffX) (ttol stol : XF) (tol : Rat)
    (h : A.b = .pinf ∨ A.b = .ninf ∨ A.d = .pinf ∨ A.d = .ninf) : snapAffineX A ttol stol (.fin tol) = .ok A := by
  unfold snapAffineX
  rcases h with h | h | h | h <;> simp [h, NF.abs, NF.lt]

example : snapGridX (.fin 0) .pinf (.fin 1) (some (.fin 0)) (.fin (1 / 100)) = .error .overflow := by decide +kernel
example : snapGridX .nan (.fin 1) (.fin 1) none (.fin (1 / 100)) = .error .valueError := by decide +kernel
example : snapGridX (.fin 0) (.fin 1) .pinf none (.fin (1 / 100)) = .ok (.fin 0, 1) := by decide +kernel
example : snapScaleX (.fin (3 / 10)) .pinf = .ok (.inl 0) := by decide +kernel

end OdcGeo.C20
