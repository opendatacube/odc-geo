/-
C04 — the VALUES of `extract(…, dtype=narrower)`: pasting commutes with any cell-wise conversion, so
the window extracted with a conversion applied block by block (`np.copyto(…, casting=…)` casts each
block slice) is the conversion of the window of the unconverted mosaic – with `castInt` (wrap-around
of integers, validated against numpy) as the conversion: every cell is the wrapped mosaic cell, the
absent tiles hold the converted fill.
-/
import OdcGeo.Model.C04Dtype
import OdcGeo.Model.C04
import Mathlib.Tactic.Positivity
namespace OdcGeo.C04
open OdcGeo OdcGeo.C17 OdcGeo.NpArray

variable {V W : Type}

/-- the assembler whose blocks are converted cell by cell -/
def Assembler.mapVal (f : V → W) (a : Assembler V) : Assembler W :=
  { chy := a.chy, chx := a.chx, present := a.present, lead := a.lead, trail := a.trail,
    blk := fun k l y x t => f (a.blk k l y x t) }

theorem Except.map_bind' {ε α β γ : Type} (x : Except ε α) (f : α → Except ε β) (g : β → γ) :
    (x >>= f).map g = x >>= fun a => (f a).map g := by
  cases x <;> rfl

theorem pasteBlock_mapVal (f : V → W) (a : Assembler V) (wl : List NSlice) (wy wx : NSlice) (wt : List NSlice)
    (xx : Arr V) (k : Int × Int) :
    pasteBlock (a.mapVal f) wl wy wx wt (fun l y x t => f (xx l y x t)) k =
      (pasteBlock a wl wy wx wt xx k).map fun out => fun l y x t => f (out l y x t) := by
  simp only [pasteBlock, Assembler.mapVal, Except.map_bind']
  refine bind_congr fun b => bind_congr fun r1 => bind_congr fun r2 => bind_congr fun my =>
    bind_congr fun mx => bind_congr fun ml => bind_congr fun mt => ?_
  refine congrArg Except.ok (funext fun l => funext fun y => funext fun x => funext fun t => ?_)
  dsimp only
  cases mapIdx ml l with
  | none => rfl
  | some l' =>
    cases my y with
    | none => rfl
    | some y' =>
      cases mx x with
      | none => rfl
      | some x' => cases mapIdx mt t <;> rfl

theorem pasteAll_mapVal (f : V → W) (a : Assembler V) (wl : List NSlice) (wy wx : NSlice) (wt : List NSlice)
    (ks : List (Int × Int)) : ∀ (xx : Arr V),
    pasteAll (a.mapVal f) wl wy wx wt (fun l y x t => f (xx l y x t)) ks =
      (pasteAll a wl wy wx wt xx ks).map fun out => fun l y x t => f (out l y x t) := by
  induction ks with
  | nil => intro xx; rfl
  | cons k ks ih =>
    intro xx
    simp only [pasteAll, bind, Except.bind]
    rw [pasteBlock_mapVal]
    cases pasteBlock a wl wy wx wt xx k with
    | error e => rfl
    | ok xx' => simp only [Except.map]; exact ih xx'

/-- **pasting commutes with cell-wise conversion**: extracting from converted blocks with the converted
fill is converting the extracted window – any window, any subset of blocks, leading / trailing axes -/
theorem extract_mapVal (f : V → W) (a : Assembler V) (fill : V) (rl : List PIdx) (ry rx : PIdx) (rt : List PIdx) :
    extract (a.mapVal f) (f fill) rl ry rx rt =
      (extract a fill rl ry rx rt).map fun r => (r.1, fun l y x t => f (r.2 l y x t)) := by
  unfold extract
  dsimp only
  rw [pasteAll_mapVal]
  -- `delta` also unfolds inside the `Decidable` instances, so both sides test the same conditions
  delta Assembler.mapVal
  dsimp only
  split
  · rfl
  · split
    · rfl
    · cases pasteAll a _ _ _ _ _ _ <;> rfl

/-- **`extract(…, dtype=d)` of integer tiles, cell values**: with `castInt d` as what numpy writes,
every cell of the narrowed window is the wrapped cell of the window of the unconverted mosaic, and
the absent tiles hold the wrapped fill -/
theorem extract_narrowed_cells (d : DT) (a : Assembler Int) (fill : Int) (rl : List PIdx) (ry rx : PIdx)
    (rt : List PIdx) (shp : List Int × Int × Int × List Int) (xx : Arr Int)
    (h : extract a fill rl ry rx rt = .ok (shp, xx)) :
    extract (a.mapVal (castInt d)) (castInt d fill) rl ry rx rt =
      .ok (shp, fun l y x t => castInt d (xx l y x t)) := by
  rw [extract_mapVal, h]; rfl

/-- wrap-around stays inside the target type, and leaves values that fit alone -/
theorem castInt_unsigned_range (bits : Nat) (v : Int) :
    ∃ w, castInt ⟨.u, bits⟩ v = some w ∧ 0 ≤ w ∧ w < 2 ^ bits ∧ (0 ≤ v ∧ v < 2 ^ bits → w = v) := by
  have hp : (0 : Int) < 2 ^ bits := by positivity
  refine ⟨v % 2 ^ bits, rfl, Int.emod_nonneg _ (ne_of_gt hp), Int.emod_lt_of_pos _ hp, ?_⟩
  intro hv
  exact Int.emod_eq_of_lt hv.1 hv.2

theorem castInt_signed_fits (bits : Nat) (hb : 0 < bits) (v : Int)
    (hv : -(2 ^ (bits - 1)) ≤ v ∧ v < 2 ^ (bits - 1)) : castInt ⟨.i, bits⟩ v = some v := by
  obtain ⟨k, rfl⟩ : ∃ k, bits = k + 1 := ⟨bits - 1, by omega⟩
  simp only [castInt, Nat.add_sub_cancel, pow_succ] at hv ⊢
  rw [Int.emod_eq_of_lt (by omega) (by omega), Int.add_sub_cancel]

example : castInt ⟨.u, 8⟩ 300 = some 44 ∧ castInt ⟨.i, 8⟩ 200 = some (-56) ∧ castInt ⟨.b, 8⟩ (-3) = some 1 := by decide

end OdcGeo.C04
