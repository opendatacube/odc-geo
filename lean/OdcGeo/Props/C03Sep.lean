/-
C03 — the envelope hypotheses of `nonlinear_covers_partial` for separable monotone pixel transforms.

A pixel transform is separable when the source column depends only on the destination column and the source row only
on the destination row: `(x, y) ↦ (f x, g y)`.  That is what two axis-aligned grids give in every pair of CRSs whose
transformer is itself separable — lon/lat ↔ Mercator (EPSG:4326 ↔ 3857 / 3395), lon/lat ↔ cylindrical equal area
(EPSG:6933), plate carrée — and the lon/lat clamp of `GbxPointTransform` keeps it so (a clamp is monotone): `gbx_axes`,
`gbxAxisX_mono`, `gbxAxisY_mono`.  If `f` and `g` are monotone (increasing or decreasing: mirrored grids), the image of a
rectangle is spanned by the images of its four corners and the corners are among the 16 boundary samples
(`sep_inEnvClosed`).  `separable_covers` discharges the destination-side hypothesis with that and keeps the source-side
one; `top_gbx_covers` (Props/C03SepStrict) discharges it too, for `padding ≥ 1`.
-/
import OdcGeo.Props.C03
import OdcGeo.Model.C03Top
namespace OdcGeo.C03
open OdcGeo.C17

def MonoOrAnti (f : Rat → Rat) : Prop := (∀ a b, a ≤ b → f a ≤ f b) ∨ (∀ a b, a ≤ b → f b ≤ f a)

def sepTr (f g : Rat → Rat) : PtTr := fun p => (.fin (f p.1), .fin (g p.2))

theorem finitePts_sepTr (f g : Rat → Rat) (l : List (Rat × Rat)) :
    finitePts (l.map (sepTr f g)) = l.map (fun p => (f p.1, g p.2)) :=
  finitePts_map_fin (fun p => (f p.1, g p.2)) l

theorem monoOrAnti_between {f : Rat → Rat} (h : MonoOrAnti f) {a b u : Rat} (h1 : a ≤ u) (h2 : u ≤ b) :
    (f a ≤ f u ∨ f b ≤ f u) ∧ (f u ≤ f a ∨ f u ≤ f b) := by
  rcases h with h | h
  · exact ⟨Or.inl (h _ _ h1), Or.inr (h _ _ h2)⟩
  · exact ⟨Or.inr (h _ _ h2), Or.inl (h _ _ h1)⟩

theorem sep_inEnvClosed (f g : Rat → Rat) (hf : MonoOrAnti f) (hg : MonoOrAnti g) {pps : Nat} (hpps : 2 ≤ pps)
    (rect : ROI) (p : Rat × Rat)
    (hx : (rect.2.start : Rat) ≤ p.1 ∧ p.1 ≤ rect.2.stop) (hy : (rect.1.start : Rat) ≤ p.2 ∧ p.2 ≤ rect.1.stop) :
    InEnvClosed (finitePts ((roiBoundary rect pps).map (sepTr f g))) (f p.1, g p.2) := by
  rw [finitePts_sepTr]
  obtain ⟨c00, c10, -, c01⟩ := roi_boundary_corners rect pps hpps
  obtain ⟨lx, ux⟩ := monoOrAnti_between hf hx.1 hx.2
  obtain ⟨ly, uy⟩ := monoOrAnti_between hg hy.1 hy.2
  exact ⟨lx.elim (⟨_, List.mem_map_of_mem c00, ·⟩) (⟨_, List.mem_map_of_mem c10, ·⟩),
    ux.elim (⟨_, List.mem_map_of_mem c00, ·⟩) (⟨_, List.mem_map_of_mem c10, ·⟩),
    ly.elim (⟨_, List.mem_map_of_mem c00, ·⟩) (⟨_, List.mem_map_of_mem c01, ·⟩),
    uy.elim (⟨_, List.mem_map_of_mem c00, ·⟩) (⟨_, List.mem_map_of_mem c01, ·⟩)⟩

/-- **Coverage for separable monotone pixel transforms.**  `back = (x, y) ↦ (f x, g y)` maps destination to source
pixels, `fwd = (x, y) ↦ (f' x, g' y)`, increasing or decreasing in each axis, undoes it (used at the pixel centre only:
a clamped map, which no `f'` undoes everywhere, qualifies where the clamp is inactive).  The destination-side envelope
hypothesis is discharged; the source-side one holds for monotone `f`, `g` with `padding ≥ 1`, the default of the
cross-CRS branch (`sep_inEnvClosed` with `InEnvClosed.strict`), and for strictly monotone ones with any `padding ≥ 0`
(`sep_inEnvStrict0` in Props/C03SepStrict). -/
theorem separable_covers (src dst : Shape) (f g f' g' : Rat → Rat) (hf' : MonoOrAnti f') (hg' : MonoOrAnti g')
    {pps : Nat} (hpps : 2 ≤ pps) (pad : Int) (al : Option Int) (hal : ∀ a, al = some a → 0 < a)
    (dy dx : Int) (hdy : 0 ≤ dy ∧ dy < dst.1) (hdx : 0 ≤ dx ∧ dx < dst.2)
    (hinvx : f' (f ((dx : Rat) + 1 / 2)) = (dx : Rat) + 1 / 2) (hinvy : g' (g ((dy : Rat) + 1 / 2)) = (dy : Rat) + 1 / 2)
    (hq : InImage (f ((dx : Rat) + 1 / 2), g ((dy : Rat) + 1 / 2)) src)
    (henvS : InEnvStrict (finitePts (srcSamples dst (sepTr f g) pps)) (f ((dx : Rat) + 1 / 2), g ((dy : Rat) + 1 / 2)) pad) :
    Covers (relativeRois src dst (sepTr f g) (sepTr f' g') pps pad al) dy dx (f ((dx : Rat) + 1 / 2), g ((dy : Rat) + 1 / 2)) := by
  refine covers_of_envelopes hal hdy hdx hq henvS ?_
  intro rect hx hy
  have := sep_inEnvClosed f' g' hf' hg' hpps rect (f ((dx : Rat) + 1 / 2), g ((dy : Rat) + 1 / 2)) hx hy
  rwa [hinvx, hinvy] at this

theorem monoOrAnti_comp (f g : Rat → Rat) (hf : MonoOrAnti f) (hg : MonoOrAnti g) : MonoOrAnti (fun x => f (g x)) := by
  rcases hf with hf | hf <;> rcases hg with hg | hg
  · exact Or.inl fun a b h => hf _ _ (hg _ _ h)
  · exact Or.inr fun a b h => hf _ _ (hg _ _ h)
  · exact Or.inr fun a b h => hf _ _ (hg _ _ h)
  · exact Or.inl fun a b h => hf _ _ (hg _ _ h)

theorem monoOrAnti_affine (a c : Rat) : MonoOrAnti (fun x => a * x + c) :=
  (affine_mono_or_anti a c).imp (fun m _ _ h => m h) (fun m _ _ h => m h)

theorem monoOrAnti_clip (lo hi : Rat) : MonoOrAnti (fun x => npClip x lo hi) :=
  Or.inl fun a b h => by
    unfold npClip
    exact min_le_min (max_le_max h le_rfl) le_rfl

def sepProj (u v : Rat → Rat) : Proj := fun w => (.fin (u w.1), .fin (v w.2))

/-- the column map of `GbxPointTransform` for axis-aligned grids: pixel → world (`P`), lon clamp if geographic,
transformer, world → pixel (`Qi`); `gbxAxisY` is the row map, with the lat clamp -/
def gbxAxisX (P Qi : Aff) (geo : Bool) (u : Rat → Rat) : Rat → Rat := fun x =>
  Qi.a * u (if geo = true then npClip (P.a * x + P.c) (-180) 180 else P.a * x + P.c) + Qi.c

def gbxAxisY (P Qi : Aff) (geo : Bool) (v : Rat → Rat) : Rat → Rat := fun y =>
  Qi.e * v (if geo = true then npClip (P.e * y + P.f) (-90) 90 else P.e * y + P.f) + Qi.f

theorem gbx_axes (P Qi : Aff) (geo : Bool) (u v : Rat → Rat) (hP : P.b = 0 ∧ P.d = 0) (hQ : Qi.b = 0 ∧ Qi.d = 0) :
    gbxApply P geo (sepProj u v) Qi = sepTr (gbxAxisX P Qi geo u) (gbxAxisY P Qi geo v) := by
  funext p
  cases geo <;>
    simp [gbxApply, sepProj, sepTr, gbxAxisX, gbxAxisY, Aff.apply, clampGeo, hP.1, hP.2, hQ.1, hQ.2]

theorem monoOrAnti_gbxAxis (a c a' c' lo hi : Rat) (geo : Bool) (u : Rat → Rat) (hu : MonoOrAnti u) :
    MonoOrAnti (fun x => a' * u (if geo = true then npClip (a * x + c) lo hi else a * x + c) + c') := by
  refine monoOrAnti_comp (fun t => a' * t + c') _ (monoOrAnti_affine _ _) (monoOrAnti_comp u _ hu ?_)
  cases geo with
  | false => exact monoOrAnti_affine a c
  | true => exact monoOrAnti_comp (fun t => npClip t lo hi) (fun x => a * x + c) (monoOrAnti_clip _ _) (monoOrAnti_affine _ _)

theorem gbxAxisX_mono (P Qi : Aff) (geo : Bool) (u : Rat → Rat) (hu : MonoOrAnti u) : MonoOrAnti (gbxAxisX P Qi geo u) :=
  monoOrAnti_gbxAxis P.a P.c Qi.a Qi.c (-180) 180 geo u hu

theorem gbxAxisY_mono (P Qi : Aff) (geo : Bool) (v : Rat → Rat) (hv : MonoOrAnti v) : MonoOrAnti (gbxAxisY P Qi geo v) :=
  monoOrAnti_gbxAxis P.e P.f Qi.e Qi.f (-90) 90 geo v hv

/-- `GbxPointTransform` of two AXIS-ALIGNED grids (`P`, `Qi` without rotation / shear) under a separable transformer
`(lon, lat) ↦ (u lon, v lat)` — lon/lat ↔ Mercator, cylindrical equal area, plate carrée — with or without the lon/lat
clamp, is the separable map `(x, y) ↦ (F x, G y)` with `F`, `G` monotone whenever `u`, `v` are. -/
theorem gbx_separable (P Qi : Aff) (geo : Bool) (u v : Rat → Rat) (hP : P.b = 0 ∧ P.d = 0) (hQ : Qi.b = 0 ∧ Qi.d = 0)
    (hu : MonoOrAnti u) (hv : MonoOrAnti v) :
    ∃ F G : Rat → Rat, MonoOrAnti F ∧ MonoOrAnti G ∧
      gbxApply P geo (fun w => (.fin (u w.1), .fin (v w.2))) Qi = sepTr F G :=
  ⟨gbxAxisX P Qi geo u, gbxAxisY P Qi geo v, gbxAxisX_mono P Qi geo u hu, gbxAxisY_mono P Qi geo v hv,
    gbx_axes P Qi geo u v hP hQ⟩

-- a Mercator-like pair: x ↦ 2x + 3 (increasing), y ↦ 40 - y/2 (decreasing: north-up against south-up), padding 1
example : MonoOrAnti (fun x : Rat => 2 * x + 3) ∧ MonoOrAnti (fun y : Rat => -(1 / 2) * y + 40) :=
  ⟨monoOrAnti_affine _ _, monoOrAnti_affine _ _⟩
example : relativeRois (60, 50) (20, 10) (sepTr (fun x => 2 * x + 3) (fun y => -(1 / 2) * y + 40))
    (sepTr (fun x => (x - 3) / 2) (fun y => (40 - y) * 2)) 5 1 none = ((⟨29, 41⟩, ⟨2, 24⟩), (⟨0, 20⟩, ⟨0, 10⟩)) := by
  decide +kernel

end OdcGeo.C03
