/-
C10 — the paste shortcut is pixel-identical to a nearest-neighbour warp.

Theorems about a plan computed from a snapped transform `S` (`IsUnitST`), about `_can_paste` and the snapping helpers
it rests on, and about the int8 / bool conversion detour of `_rio_reproject`.  That the plans of
`compute_reproject_roi` meet the hypotheses on `S` is `Props/C10C03.lean`.
-/
import OdcGeo.Model.C10
import OdcGeo.Lemmas.C10
import OdcGeo.Props.C03
namespace OdcGeo.C10
open OdcGeo.C17 OdcGeo.C03

/-- **Paste = nearest-neighbour warp.**  `src` is the raster the block is read from (the source itself for
read-shrink 1, its overview otherwise), `S` the snapped transform the plan was computed from
(`box_overlap src dst S`), `A` the *true* destination→`src` pixel transform.  For every
destination pixel whose true centre image is within half a pixel of the snapped one (derived from the tolerances in
`paste_eq_warp_of_budget`, `Props/C10C03.lean`: always the case for a pure sub-pixel residue `|ε| < ttol ≤ ½`; for a
scale residue `δ` as long as `|δ|·N + |ε| < ½`), the pasted image — `roi_src` copied into `roi_dst`, reversed along mirrored axes,
`nodata` elsewhere — has exactly the value the nearest-neighbour warp of the whole source
produces, for any pixel type `α`. -/
theorem paste_eq_warp {α : Type} (img : Int → Int → α) (nodata : α) (src dst : Shape) (S A : Aff) (tx ty : Int)
    (hS : IsUnitST S tx ty) (hs : 0 ≤ src.1 ∧ 0 ≤ src.2) (hd : 0 ≤ dst.1 ∧ 0 ≤ dst.2)
    (r : ROI × ROI) (h : boxOverlap src dst S = .ok r) (dy dx : Int)
    (hdy : 0 ≤ dy ∧ dy < dst.1) (hdx : 0 ≤ dx ∧ dx < dst.2)
    (hnx : rabs ((A.apply ((dx : Rat) + 1 / 2, (dy : Rat) + 1 / 2)).1 - (S.apply ((dx : Rat) + 1 / 2, (dy : Rat) + 1 / 2)).1) < 1 / 2)
    (hny : rabs ((A.apply ((dx : Rat) + 1 / 2, (dy : Rat) + 1 / 2)).2 - (S.apply ((dx : Rat) + 1 / 2, (dy : Rat) + 1 / 2)).2) < 1 / 2) :
    pasted img (decide (S.e < 0)) (decide (S.a < 0)) r.1 r.2 nodata dy dx = Warp.nnWarp img src A nodata dy dx := by
  obtain ⟨yy, xx, hy, hx, rfl⟩ := boxOverlap_ok h
  rw [hS.apply_eq] at hnx hny
  rw [hS.c] at hx
  rw [hS.f] at hy
  have px := paste_axis src.2 dst.2 S.a tx hS.a1 hs.2 hd.2 xx hx dx hdx _ hnx
  have py := paste_axis src.1 dst.1 S.e ty hS.e1 hs.1 hd.1 yy hy dy hdy _ hny
  simp only [Warp.nnWarp, pasted, px, py]
  by_cases my : yy.2.start ≤ dy ∧ dy < yy.2.stop
  · by_cases mx : xx.2.start ≤ dx ∧ dx < xx.2.stop
    · rw [if_pos my, if_pos mx, if_pos ⟨my.1, my.2, mx.1, mx.2⟩]
    · rw [if_pos my, if_neg mx, if_neg (fun hc => mx ⟨hc.2.2.1, hc.2.2.2⟩)]
  · rw [if_neg my, if_neg (fun hc => my ⟨hc.1, hc.2.1⟩)]

/-- **Equal shapes.**  For a snapped transform the planned source and destination regions have the
same shape (what a direct copy needs). -/
theorem paste_roi_shapes_equal (src dst : Shape) (S : Aff) (tx ty : Int) (hS : IsUnitST S tx ty)
    (hs : 0 ≤ src.1 ∧ 0 ≤ src.2) (hd : 0 ≤ dst.1 ∧ 0 ≤ dst.2) (r : ROI × ROI)
    (h : boxOverlap src dst S = .ok r) :
    r.1.1.stop - r.1.1.start = r.2.1.stop - r.2.1.start ∧ r.1.2.stop - r.1.2.start = r.2.2.stop - r.2.2.start := by
  obtain ⟨yy, xx, hy, hx, rfl⟩ := boxOverlap_ok h
  rw [hS.c] at hx
  rw [hS.f] at hy
  exact ⟨(axis_unit _ _ _ _ hS.e1 hs.1 hd.1 yy hy).2, (axis_unit _ _ _ _ hS.a1 hs.2 hd.2 xx hx).2⟩

/-- The destination region of a snapped plan is *exactly* the set of destination pixels whose
snapped centre falls inside the source image (nothing needed is dropped, nothing outside is
overwritten). -/
theorem paste_dst_exact (src dst : Shape) (S : Aff) (tx ty : Int) (hS : IsUnitST S tx ty)
    (hs : 0 ≤ src.1 ∧ 0 ≤ src.2) (hd : 0 ≤ dst.1 ∧ 0 ≤ dst.2) (r : ROI × ROI)
    (h : boxOverlap src dst S = .ok r) (dy dx : Int) (hdy : 0 ≤ dy ∧ dy < dst.1) (hdx : 0 ≤ dx ∧ dx < dst.2) :
    ((r.2.1.start ≤ dy ∧ dy < r.2.1.stop) ∧ (r.2.2.start ≤ dx ∧ dx < r.2.2.stop)) ↔
    ((Warp.nnIndex src.1 (S.apply ((dx : Rat) + 1 / 2, (dy : Rat) + 1 / 2)).2).isSome ∧
     (Warp.nnIndex src.2 (S.apply ((dx : Rat) + 1 / 2, (dy : Rat) + 1 / 2)).1).isSome) := by
  obtain ⟨yy, xx, hy, hx, rfl⟩ := boxOverlap_ok h
  rw [hS.c] at hx
  rw [hS.f] at hy
  have z : ∀ m : Rat, rabs (m - m) < 1 / 2 := fun m => by rw [sub_self]; decide +kernel
  rw [hS.apply_eq, paste_axis src.2 dst.2 S.a tx hS.a1 hs.2 hd.2 xx hx dx hdx _ (z _),
    paste_axis src.1 dst.1 S.e ty hS.e1 hs.1 hd.1 yy hy dy hdy _ (z _), Option.isSome_ite, Option.isSome_ite]

/-- Counterexample to "paste = warp" without the half-pixel bound (model side of known finding
`paste-scale-drift-differs-from-warp`): true x-scale `1 + 1/1024` (within `stol = 1e-3` of 1; the statement
takes the snapped transform, the identity, as given), 2048-pixel row holding its own column index.  The plan
copies column 2000 to column 2000, the nearest-neighbour warp reads column `⌊2000.5·1025/1024⌋ = 2002`. -/
theorem paste_drift_warp_cex :
    boxOverlap (1, 2048) (1, 2048) ⟨1, 0, 0, 0, 1, 0⟩ = .ok ((⟨0, 1⟩, ⟨0, 2048⟩), (⟨0, 1⟩, ⟨0, 2048⟩)) ∧
    pasted (fun _ c => c) false false (⟨0, 1⟩, ⟨0, 2048⟩) (⟨0, 1⟩, ⟨0, 2048⟩) (-1) 0 2000 = 2000 ∧
    Warp.nnWarp (fun _ c => c) (1, 2048) ⟨1025 / 1024, 0, 0, 0, 1, 0⟩ (-1) 0 2000 = 2002 := by
  refine ⟨by decide +kernel, by decide +kernel, by decide +kernel⟩

/-- **`maybe_int` snaps to the nearest integer, whatever the tolerance** (also `tol > ½`, `tol ≤ 0`, huge).
There is an integer `k` with `|x - k| ≤ ½` (a nearest integer) such that `maybe_int x tol` is `k` when
`|x - k| < tol` and `x` itself otherwise; so the result never moves `x` by more than half a unit, and never by
`tol` or more.  (A truncating shortcut `int(x)` violates this for `tol > ½`: `-19.7 ↦ -19`.) -/
theorem maybe_int_nearest (x tol : Rat) :
    ∃ k : Int, rabs (x - k) ≤ 1 / 2 ∧
      ((rabs (x - k) < tol ∧ maybeInt x tol = (k : Rat)) ∨ (¬ rabs (x - k) < tol ∧ maybeInt x tol = x)) := by
  obtain ⟨k, hk, _, hm⟩ := maybeInt_spec x tol
  refine ⟨k, hk, ?_⟩
  by_cases h : rabs (x - k) < tol
  · exact Or.inl ⟨h, by rw [hm, if_pos h]⟩
  · exact Or.inr ⟨h, by rw [hm, if_neg h]⟩

/-- `is_almost_int` agrees with `maybe_int` for every tolerance: it holds exactly when `maybe_int` snaps, and then
the snapped value is an integer within `tol` and within half a unit of `x`. -/
theorem is_almost_int_iff_snaps (x tol : Rat) :
    isAlmostInt x tol = true ↔ ∃ k : Int, rabs (x - k) ≤ 1 / 2 ∧ rabs (x - k) < tol ∧ maybeInt x tol = (k : Rat) := by
  obtain ⟨k, hk, hi, hm⟩ := maybeInt_spec x tol
  rw [hi]
  constructor
  · intro h
    exact ⟨k, hk, h, by rw [hm, if_pos h]⟩
  · rintro ⟨j, _, hj, _⟩
    -- `k` is a nearest integer, so it is at least as close as the `j` that snaps
    rw [rabs_eq_abs] at hj hk ⊢
    exact (abs_sub_intCast_le hk j).trans_lt hj

/-- **`snap_scale` snaps the whole band** `||s| − 1| < tol` (`tol ≤ ½`) to exactly `±1`, sign kept — in particular
scales *below* one, `1 − tol < |s| < 1`, which are NOT all within `tol` of 1 after inversion (`1/s` can exceed
`1 + tol`): the test `|s| ≥ 1 − tol` must come before the `1/<int>` branch. -/
theorem snap_scale_unit_band (s tol : Rat) (htol : tol ≤ 1 / 2) (h : rabs (rabs s - 1) < tol) :
    snapScale s tol = if s < 0 then -1 else 1 := by
  rw [rabs_eq_abs, rabs_eq_abs] at h
  have e : (((if s < 0 then -1 else 1 : Int)) : Rat) = if s < 0 then -1 else 1 := by split <;> simp
  unfold snapScale
  rw [if_pos (by rw [rabs_eq_abs]; linarith only [(abs_lt.mp h).1]),
    maybeInt_of_near s tol (if s < 0 then -1 else 1) htol (by rwa [rabs_eq_abs, e, abs_sub_unit]), e]

/-- **Read-shrink `k`: the shift is snapped in OVERVIEW pixels.**  When pasting is reported, the offsets taken into
the `k`-fold overview, `A.c / k` and `A.f / k`, are within `ttol` of whole numbers `kx, ky` and `maybe_int` returns
exactly those: the planned overview transform has whole-overview-pixel offsets (a multiple of `k` source pixels),
not merely whole source pixels.  (Snapping at native resolution with `ttol·k` instead would accept `k·kx + 1`.) -/
theorem paste_overview_shift_snaps (A : Aff) (n stol ttol : Rat) (h : canPaste A n stol ttol = .ok true) :
    ∃ (rs kx ky : Int), pickReadScale (min (scale2 A n).1 (scale2 A n).2) = .ok rs ∧ 1 ≤ rs ∧
      rabs (A.c / rs - kx) < ttol ∧ maybeInt (A.c / rs) ttol = (kx : Rat) ∧
      rabs (A.f / rs - ky) < ttol ∧ maybeInt (A.f / rs) ttol = (ky : Rat) ∧
      (snapAffine (overviewTr A rs) ttol stol).c = (kx : Rat) ∧ (snapAffine (overviewTr A rs) ttol stol).f = (ky : Rat) := by
  obtain ⟨rs, hc⟩ := (canPaste_true_iff A n stol ttol).mp h
  obtain ⟨_, _, ec, _, _, ef⟩ := overviewTr_entries A rs
  obtain ⟨kx, hkx, mkx⟩ := isAlmostInt_spec _ _ hc.tx
  obtain ⟨ky, hky, mky⟩ := isAlmostInt_spec _ _ hc.ty
  refine ⟨rs, kx, ky, hc.hrs, read_shrink_pos_int _ _ _ hc.hrs, ?_⟩
  rw [snapAffine_of_st _ _ _ hc.ov_st.1 hc.ov_st.2, ← ec, ← ef]
  exact ⟨hkx, mkx, hky, mky, mkx, mky⟩

/-- **Soundness of `paste_ok`.**  Pasting is reported only for transforms without rotation/shear
(off-diagonal terms below `1e-10`), whose scale is within `stol` of an integer, and which — taken
into the `rs`-fold overview (`rs` the read-shrink of that scale) — have both axis scales within
`stol` of `±1` and both offsets within `ttol` of whole pixels. -/
theorem can_paste_sound (A : Aff) (n stol ttol : Rat) (h : canPaste A n stol ttol = .ok true) :
    rabs A.b < tol1em10 ∧ rabs A.d < tol1em10 ∧
    (∃ ks : Int, rabs (min (scale2 A n).1 (scale2 A n).2 - ks) < stol) ∧
    ∃ rs : Int, pickReadScale (min (scale2 A n).1 (scale2 A n).2) = .ok rs ∧ 1 ≤ rs ∧
      rabs (rabs (overviewTr A rs).a - 1) < stol ∧ rabs (rabs (overviewTr A rs).e - 1) < stol ∧
      (∃ kx : Int, rabs ((overviewTr A rs).c - kx) < ttol) ∧ (∃ ky : Int, rabs ((overviewTr A rs).f - ky) < ttol) := by
  obtain ⟨rs, hc⟩ := (canPaste_true_iff A n stol ttol).mp h
  have hst := hc.st
  simp only [isAffineST, Bool.and_eq_true, decide_eq_true_eq] at hst
  obtain ⟨ks, hks, _⟩ := isAlmostInt_spec _ _ hc.scaleInt
  obtain ⟨kx, hkx, _⟩ := isAlmostInt_spec _ _ hc.tx
  obtain ⟨ky, hky, _⟩ := isAlmostInt_spec _ _ hc.ty
  exact ⟨hst.1, hst.2, ⟨ks, hks⟩, rs, hc.hrs, read_shrink_pos_int _ _ _ hc.hrs, hc.sx, hc.sy, ⟨kx, hkx⟩, ⟨ky, hky⟩⟩

/-- **Rejection.**  Rotation or shear of `1e-10` or more, a scale `stol` or more away from every
integer, an overview axis scale `stol` or more away from `±1`, or an overview offset `ttol` or more
away from every whole pixel: pasting is never reported. -/
theorem can_paste_rejects (A : Aff) (n stol ttol : Rat)
    (h : rabs A.b ≥ tol1em10 ∨ rabs A.d ≥ tol1em10 ∨
      (∀ ks : Int, rabs (min (scale2 A n).1 (scale2 A n).2 - ks) ≥ stol) ∨
      (∀ rs : Int, pickReadScale (min (scale2 A n).1 (scale2 A n).2) = .ok rs →
        (rabs (rabs (overviewTr A rs).a - 1) ≥ stol ∨ rabs (rabs (overviewTr A rs).e - 1) ≥ stol ∨
         (∀ k : Int, rabs ((overviewTr A rs).c - k) ≥ ttol) ∨ (∀ k : Int, rabs ((overviewTr A rs).f - k) ≥ ttol)))) :
    canPaste A n stol ttol ≠ .ok true := by
  intro hc
  obtain ⟨h1, h2, ⟨ks, h3⟩, rs, h4, _, h5, h6, ⟨kx, h7⟩, ⟨ky, h8⟩⟩ := can_paste_sound A n stol ttol hc
  rcases h with h | h | h | h
  · exact h.not_gt h1
  · exact h.not_gt h2
  · exact (h ks).not_gt h3
  · rcases h rs h4 with h | h | h | h
    · exact h.not_gt h5
    · exact h.not_gt h6
    · exact (h kx).not_gt h7
    · exact (h ky).not_gt h8

/-- `_can_paste` never raises for a transform with a positive scale. -/
theorem can_paste_total (A : Aff) (n stol ttol : Rat) (hn : 0 < min (scale2 A n).1 (scale2 A n).2) :
    ∃ b, canPaste A n stol ttol = .ok b := by
  rw [canPaste_eq]
  split_ifs
  · cases h3 : pickReadScale (min (scale2 A n).1 (scale2 A n).2) with
    | error e => exact absurd ((read_shrink_error_iff _ _).mp ⟨e, h3⟩) (not_le.mpr hn)
    | ok rs => exact ⟨_, rfl⟩
  · exact ⟨false, rfl⟩

/-- **Read-shrink `k > 1`.**  The planned source region is exactly `k` times a region of the `k`-fold
overview (`scaled_up_roi`), and that overview region and the destination region come from one
`box_overlap` of the snapped overview transform. -/
theorem shrink_roi_scaled (src dst : Shape) (fwd A : Aff) (n ttol stol : Rat) (padding align : Option Int)
    (p : Plan) (h : reprojectLinear src dst fwd A n ttol stol padding align = .ok p) (hp : p.pasteOk = true)
    (hrs : p.readShrink ≠ 1) :
    ∃ r' : ROI,
      p.roiSrc = (⟨r'.1.start * p.readShrink, r'.1.stop * p.readShrink⟩, ⟨r'.2.start * p.readShrink, r'.2.stop * p.readShrink⟩) ∧
      boxOverlap (zoomOutDim src.1 p.readShrink, zoomOutDim src.2 p.readShrink) dst
        (snapAffine (overviewTr A p.readShrink) ttol stol) = .ok (r', p.roiDst) ∧
      (∀ tx ty, IsUnitST (snapAffine (overviewTr A p.readShrink) ttol stol) tx ty → 0 ≤ dst.1 ∧ 0 ≤ dst.2 →
        r'.1.stop - r'.1.start = p.roiDst.1.stop - p.roiDst.1.start ∧
        r'.2.stop - r'.2.start = p.roiDst.2.stop - p.roiDst.2.start) := by
  obtain ⟨_, r', hb, hsrc⟩ := plan_paste_box h hp
  rw [readShape_of_ne src hrs] at hb
  refine ⟨r', ?_, hb, fun tx ty hS hd => paste_roi_shapes_equal _ dst _ tx ty hS (zoomOutDim_nonneg src _) hd _ hb⟩
  rw [hsrc]; simp [scaledUpROI, scaledUpSlice]

/-- **int8: convert → warp → convert back is the warp.**  For an int8 raster (all source / destination pixels and the
nodata values in `[-128, 127]`) `_rio_reproject` returns exactly what the nearest-neighbour warp at the native type
would: every destination pixel, previous destination content and `init_dest_nodata=False` included. -/
theorem detour_transparent_int8 (src dst : Int → Int → Int) (shape : Int × Int) (A : Aff) (sn dn : Option Int)
    (init : Bool) (dy dx : Int)
    (hs : ∀ i j, -128 ≤ src i j ∧ src i j ≤ 127) (hd : -128 ≤ dst dy dx ∧ dst dy dx ≤ 127)
    (hsn : ∀ v, sn = some v → -128 ≤ v ∧ v ≤ 127) (hdn : ∀ v, dn = some v → -128 ≤ v ∧ v ≤ 127) :
    rioNN .int8 src dst shape A sn dn init dy dx = gdalNN src dst shape A sn dn init dy dx :=
  -- the int16 work arrays hold the same numbers; copying back wraps to 8 bits, which changes nothing in range
  wrap8_id _ (gdalNN_range (fun v => -128 ≤ v ∧ v ≤ 127) src dst shape A sn dn init dy dx (by omega) hs hd hsn hdn)

/-- **bool: the `0/255` stretch is transparent too.**  For a boolean raster (pixels and nodata values `0` or `1`) the
detour — stretch source, destination and nodata to `0 / 255`, warp, threshold at 127 — returns exactly the
nearest-neighbour warp at the native type, previous destination content included.  (Warping into a *fresh zero*
work array instead of the converted destination breaks this for `init = false`.) -/
theorem detour_transparent_bool (src dst : Int → Int → Int) (shape : Int × Int) (A : Aff) (sn dn : Option Int)
    (init : Bool) (dy dx : Int)
    (hs : ∀ i j, src i j = 0 ∨ src i j = 1) (hd : dst dy dx = 0 ∨ dst dy dx = 1)
    (hsn : ∀ v, sn = some v → v = 0 ∨ v = 1) (hdn : ∀ v, dn = some v → v = 0 ∨ v = 1) :
    rioNN .bool src dst shape A sn dn init dy dx = gdalNN src dst shape A sn dn init dy dx := by
  have hst : ∀ nd, stretchNodata .bool nd = nd.map (toWork .bool) := by intro nd; cases nd <;> rfl
  -- the stretch is one-to-one on `{0, 1}` and fixes 0, so it commutes with the warp; the threshold undoes it
  have hmap := gdalNN_map (toWork .bool) rfl src dst shape A sn dn init dy dx (by
    intro v i j hv hfv
    rcases hsn v hv with rfl | rfl <;> rcases hs i j with h | h <;> rw [h] at hfv ⊢ <;>
      first | rfl | exact absurd hfv (by decide))
  unfold rioNN
  rw [hst, hst, hmap]
  rcases gdalNN_range (fun v => v = 0 ∨ v = 1) src dst shape A sn dn init dy dx (Or.inl rfl) hs hd hsn hdn with
    h | h <;> rw [h] <;> rfl

/-- other pixel types are aliased: no conversion at all -/
theorem detour_other (src dst : Int → Int → Int) (shape : Int × Int) (A : Aff) (sn dn : Option Int) (init : Bool)
    (dy dx : Int) : rioNN .other src dst shape A sn dn init dy dx = gdalNN src dst shape A sn dn init dy dx := by
  simp [rioNN, fromWork, toWork, stretchNodata]

/-- Without source nodata and with `init_dest_nodata`, the backend model is the reference warp of `Spec/Warp` with the
fill value as nodata — the image `paste_eq_warp` compares the pasted block with. -/
theorem gdalNN_eq_nnWarp (src dst : Int → Int → Int) (shape : Int × Int) (A : Aff) (dn : Option Int) (dy dx : Int) :
    gdalNN src dst shape A none dn true dy dx = Warp.nnWarp src shape A (effFill none dn) dy dx := by
  unfold gdalNN Warp.nnWarp nnPick
  simp only [if_true]
  cases Warp.nnIndex shape.1 (A.apply ((dx : Rat) + 1 / 2, (dy : Rat) + 1 / 2)).2 <;>
    cases Warp.nnIndex shape.2 (A.apply ((dx : Rat) + 1 / 2, (dy : Rat) + 1 / 2)).1 <;> simp

example : canPaste ⟨1, 0, 3, 0, -1, 5 + 1 / 64⟩ 1 tol1em3 (1 / 20) = .ok true := by decide +kernel
example : canPaste ⟨1, 0, 3, 0, -1, 5 + 1 / 16⟩ 1 tol1em3 (1 / 20) = .ok false := by decide +kernel
example : canPaste ⟨1, 1 / 1024, 3, 0, 1, 5⟩ 1 tol1em3 (1 / 20) = .ok false := by decide +kernel

end OdcGeo.C10
