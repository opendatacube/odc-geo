/-
C13 glue: the error class of /repo from commit 11b39c4 on for chunk tuples that do not add up, float conversion over the whole range
(subnormals, overflow), `xr_reproject(Dataset)` = the DataArray reprojection variable by variable.
-/
import OdcGeo.Props.C13Glue
import OdcGeo.Lemmas.Except

namespace OdcGeo.C13
open OdcGeo

/-- `dstTilingsH` (the code from 11b39c4 on) accepts exactly the `chunks=` arguments `dstTilings` accepts, with the same
tilings -/
theorem dstTilingsH_ok_iff {H W : Nat} {sy sx : List Nat} {a : ChunkArg} {t : List Span × List Span} :
    dstTilingsH H W sy sx a = .ok t ↔ dstTilings H W sy sx a = .ok t := by
  cases a with
  | var ys xs =>
    simp only [dstTilingsH, dstTilings]
    by_cases he : ys = [] ∨ xs = []
    · rw [if_pos he, if_neg fun h => he.elim h.2.2.1 h.2.2.2]
      exact ⟨fun h => (by cases h), fun h => (by cases h)⟩
    · rw [if_neg he, not_or] at *
      by_cases hs : ys.sum = H ∧ xs.sum = W
      · rw [if_pos hs, if_pos ⟨hs.1, hs.2, he⟩]
      · rw [if_neg hs, if_neg fun h => hs ⟨h.1, h.2.1⟩]
        exact ⟨fun h => (by cases h), fun h => (by cases h)⟩
  | _ => rfl

/-- … and refuses every tuple-of-tuples that does not add up to the destination shape (or is empty) with `ValueError` —
one exact class (`dstTilings`, the code before 11b39c4: `ValueError` or `IndexError` depending on the path) -/
theorem dstTilingsH_rejects_var (H W : Nat) (sy sx ys xs : List Nat)
    (h : ys.sum ≠ H ∨ xs.sum ≠ W ∨ ys = [] ∨ xs = []) :
    dstTilingsH H W sy sx (.var ys xs) = .error .value := by
  simp only [dstTilingsH]
  rw [if_neg]
  rintro ⟨h1, h2, h3, h4⟩
  rcases h with h | h | h | h
  · exact h h1
  · exact h h2
  · exact h3 h
  · exact h4 h

theorem dstTilingsH_chain (H W : Nat) (sy sx : List Nat) (a : ChunkArg) (dy dx : List Span)
    (h : dstTilingsH H W sy sx a = .ok (dy, dx)) : Chain 0 dy H ∧ Chain 0 dx W :=
  dstTilings_chain (dstTilingsH_ok_iff.1 h)

example : dstTilingsH 5 7 [1, 3] [2, 4] (.var [2, 2] [7]) = .error .value := by decide +kernel
example : dstTilingsH 5 7 [1, 3] [2, 4] (.var [2, 0, 3] [7]) = .ok ([(0, 2), (2, 2), (2, 5)], [(0, 7)]) := by
  decide +kernel

/-- in the normal range (no underflow, no overflow) the full conversion is `roundFloat` -/
theorem roundIEEE_normal (p : Nat) (emin emax : Int) (q : Rat) (hq : 0 < q) (hlo : pow2 emin ≤ q)
    (hhi : roundPos p q < pow2 (emax + 1)) :
    roundIEEE p emin emax (.num q) = .fin (roundFloat p q) := by
  have h0 : q ≠ 0 := ne_of_gt hq
  simp only [roundIEEE, roundPosIEEE, roundFloat, if_neg h0, if_pos hq, if_neg (not_lt.2 hlo), if_neg (not_le.2 hhi)]

theorem roundIEEE_nan (p : Nat) (emin emax : Int) : roundIEEE p emin emax .nan = .nan := rfl

example : roundIEEE 11 (-14) 15 (.num 65520) = .inf false := by decide +kernel
example : roundIEEE 11 (-14) 15 (.num (1 / 1000000)) = .fin (17 / 16777216) := by decide +kernel

/-- **Every variable of the reprojected Dataset is the result of its own DataArray call**, under its own name, at its
own position: variable `i` of `xr_reproject(ds, …)` is `_maybe_reproject` of variable `i` of `ds` — for a georegistered
variable exactly `xrDask` with the arguments `dsArgs` (its own dtype, nodata attribute and chunks; the shared grids and
keywords), for any other variable the variable itself -/
theorem ds_var_eq_da (sh : DsShared) (G : Gdal) (deps : List Nat → List Nat → List (TIdx × List TIdx))
    (ds : List (String × DsVar)) (out : List (String × Img)) (h : xrReprojectDs sh G deps ds = .ok out)
    (i : Nat) (n : String) (v : DsVar) (hi : ds[i]? = some (n, v)) :
    ∃ r, out[i]? = some (n, r) ∧ dsVarDask sh G deps v = .ok r := by
  obtain ⟨y, hy, hf⟩ := forall₂_getElem? (mapM_ok_iff.1 h) hi
  obtain ⟨r, hr, rfl⟩ := map_ok_iff.1 hf
  exact ⟨r, hy, hr⟩

/-- names and order of the data variables are kept, none is added or dropped -/
theorem ds_names_kept (sh : DsShared) (G : Gdal) (deps : List Nat → List Nat → List (TIdx × List TIdx))
    (ds : List (String × DsVar)) (out : List (String × Img)) (h : xrReprojectDs sh G deps ds = .ok out) :
    out.map (·.1) = ds.map (·.1) :=
  forall₂_map_eq _ _ (mapM_ok_iff.1 h) fun _ _ hf => by
    obtain ⟨_, _, rfl⟩ := map_ok_iff.1 hf
    rfl

/-- a variable without a geobox passes through untouched -/
theorem ds_plain_passthrough (sh : DsShared) (G : Gdal) (deps : List Nat → List Nat → List (TIdx × List TIdx))
    (ds : List (String × DsVar)) (out : List (String × Img)) (h : xrReprojectDs sh G deps ds = .ok out)
    (i : Nat) (n : String) (d : Img) (hi : ds[i]? = some (n, .plain d)) : out[i]? = some (n, d) := by
  obtain ⟨r, hr, hv⟩ := ds_var_eq_da sh G deps ds out h i n _ hi
  simp only [dsVarDask, Except.ok.injEq] at hv
  rw [← hv] at hr
  exact hr

/-- **Dataset, dask-backed = numpy-backed, variable by variable**: every pixel of every georegistered variable of the
reprojected dask-backed Dataset equals the pixel the numpy-backed DataArray call gives for that variable (own nodata
attribute, shared `src_nodata=` / `dst_nodata=` / `chunks=`) -/
theorem ds_chunked_eq_whole (sh : DsShared) (G : Gdal) (deps : List Nat → List Nat → List (TIdx × List TIdx))
    (ds : List (String × DsVar)) (out : List (String × Img)) (h : xrReprojectDs sh G deps ds = .ok out)
    (i : Nat) (n : String) (k : DKind) (attr : Option Val) (sy sx : List Nat) (src buf : Img)
    (hi : ds[i]? = some (n, .geo k attr sy sx src)) (c : Cfg)
    (hc : xrCfg (dsArgs sh k attr sy sx) (deps sy sx) = .ok c)
    (hbuf : WF buf sh.dstH sh.dstW) (hsy : sy.sum = sh.srcH) (hsx : sx.sum = sh.srcW) (hS : sh.S.det ≠ 0)
    (hvalid : DepsValid c) (hcomplete : deps_complete c)
    (hnd1 : NodataOk k (xrNodata attr sh.kwSrcNd sh.dstNd).2) (hnd2 : NodataOk k (xrNodata attr sh.kwSrcNd sh.dstNd).1)
    (d : Int × Int) (hd : 0 ≤ d.1 ∧ d.1 < sh.dstH ∧ 0 ≤ d.2 ∧ d.2 < sh.dstW) :
    ∃ r, out[i]? = some (n, r) ∧ r d = xrNumpy (dsArgs sh k attr sy sx) G src buf d := by
  obtain ⟨r, hr, hv⟩ := ds_var_eq_da sh G deps ds out h i n _ hi
  exact ⟨r, hr, xr_entry_chunked_eq_whole (dsArgs sh k attr sy sx) G (deps sy sx) src buf r c hc hv hbuf hsy hsx hS hvalid
    hcomplete hnd1 hnd2 d hd⟩

example : dsPlan [("red", true), ("qa", true), ("meta", false)] = [("red", "reproject"), ("qa", "reproject"), ("meta", "pass")] := by
  decide

/-! ### the hypotheses are satisfiable: a Dataset with one georegistered and one plain variable -/

def cexSh : DsShared :=
  { srcH := 1, srcW := 1, S := Aff.id, dstH := 1, dstW := 2, D := Aff.id, kwSrcNd := none, dstNd := none, chunks := .pair 1 2 }

def cexDs : List (String × DsVar) := [("a", .geo .float none [1] [1] (full 1 1 (.num 5))), ("m", .plain (full 1 1 (.num 9)))]

example : ∃ out, xrReprojectDs cexSh cexGdal (fun _ _ => [((0, 0), [(0, 0)])]) cexDs = .ok out ∧
    out.map (·.1) = ["a", "m"] ∧ out[1]? = some ("m", full 1 1 (.num 9)) ∧
    ∃ r, out[0]? = some ("a", r) ∧
      r (0, 1) = xrNumpy (dsArgs cexSh .float none [1] [1]) cexGdal (full 1 1 (.num 5)) (full 1 2 (.num 77)) (0, 1) := by
  obtain ⟨out, h⟩ : ∃ out, xrReprojectDs cexSh cexGdal (fun _ _ => [((0, 0), [(0, 0)])]) cexDs = .ok out := ⟨_, rfl⟩
  exact ⟨out, h, ds_names_kept _ _ _ _ _ h, ds_plain_passthrough _ _ _ _ _ h 1 "m" _ rfl,
    ds_chunked_eq_whole _ _ _ _ _ h 0 "a" .float none [1] [1] _ (full 1 2 (.num 77)) rfl
      (cexCfg Variant.repaired .float none none) rfl (full_wf _ _ _) rfl rfl (by decide +kernel)
      (cexCfg_deps_valid _ _ _ _) (cexCfg_deps_complete _ _ _ _) nofun nofun (0, 1)
      (by decide)⟩

end OdcGeo.C13
