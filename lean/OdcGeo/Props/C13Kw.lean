/- C13 — every keyword that reaches the whole-array warp reaches the chunk tasks. -/
import OdcGeo.Model.C13Kw
namespace OdcGeo.C13

/-- **Chunk tasks carry the resampling** (and the nodata pair, the axis and every extra keyword):
whatever `_dask_rio_reproject` is called with, each chunk task is bound to that resampling mode
(lower-cased), those nodata values, `axis = ydim` and every entry of `**kwargs` other than `name`. -/
theorem chunk_tasks_carry_resampling (r : String) (sn dn : Option Val) (ydim : Nat)
    (kw : List (String × String)) (k : WarpKw) (h : chunkTaskKw r sn dn ydim kw = .ok k) :
    k.resampling = r.toLower ∧ k.srcNd = sn ∧ k.dstNd = dn ∧ k.axis = ydim ∧
      ∀ p ∈ kw, p.1 ≠ "name" → p ∈ k.extra := by
  unfold chunkTaskKw resamplingS2rio at h
  split at h
  · simp only [bind, Except.bind, pure, Except.pure, Except.ok.injEq] at h
    subst h
    refine ⟨rfl, rfl, rfl, rfl, ?_⟩
    intro p hp hn
    simp [List.mem_filter, hp, hn]
  · simp [bind, Except.bind] at h

/-- the chunked and the in-memory path agree on every value-affecting keyword, and reject the same
resampling names -/
theorem chunk_kw_eq_whole (r : String) (sn dn : Option Val) (ydim : Nat) (kw : List (String × String))
    (hname : ∀ p ∈ kw, p.1 ≠ "name") :
    chunkTaskKw r sn dn ydim kw = wholeKw r sn dn ydim kw := by
  unfold chunkTaskKw wholeKw
  rw [List.filter_eq_self.2 fun p hp => by simpa using hname p hp]

/-- an unknown resampling name is a `ValueError` when the graph is built, not a silent default -/
theorem chunk_kw_rejects_unknown (r : String) (sn dn : Option Val) (ydim : Nat)
    (kw : List (String × String)) (h : r.toLower ∉ resamplingNames) :
    chunkTaskKw r sn dn ydim kw = .error .valueError := by
  simp [chunkTaskKw, resamplingS2rio, h, bind, Except.bind]

example : (chunkTaskKw "Cubic" (some (.num 7)) none 1 [("num_threads", "2"), ("name", "x")]).toOption =
    some ⟨"cubic", some (.num 7), none, 1, [("num_threads", "2")]⟩ := by decide +kernel

end OdcGeo.C13
