/-
C14 — the public entry points of `GridSpec` from their RAW arguments to their results
(`Model/C14Args.lean`): argument normalisers and their order, `from_sample_tile` / `web_tiles` from raw
arguments, index spellings of `tile_geobox` / `__getitem__`, IEEE specials in query coordinates, lazy generators
sharing one `geobox_cache` under any interleaving, `__eq__` with foreign operands, `geojson()`.

The end-to-end theorems take as hypothesis only "the public constructor returned this object"
(`GridSpec.init id crs shape res origin fx fy = .ok g`) and conclude the statement of property C14.
-/
import OdcGeo.Model.C14Args
import OdcGeo.Lemmas.C14Args
import OdcGeo.Lemmas.Unpack
import OdcGeo.Props.C14

namespace OdcGeo.C14

/-- every integer spelling of a shape `(ny, nx)` — tuple, list, `Shape2d(x=nx, y=ny)`, `XY(x=nx, y=ny)` /
    `Index2d` — normalises to the same `(ny, nx)` -/
theorem shape_forms_agree (ny nx : Int) :
    shapeNorm (.tuple [.int ny, .int nx]) = .ok (ny, nx) ∧ shapeNorm (.list [.int ny, .int nx]) = .ok (ny, nx) ∧
    shapeNorm (.shape2d ny nx) = .ok (ny, nx) ∧ shapeNorm (.xy (.int nx) (.int ny)) = .ok (ny, nx) :=
  ⟨rfl, rfl, rfl, rfl⟩

/-- float members of a sequence / `XY` shape are truncated toward zero (`int()`), an integral float is its integer -/
theorem shape_float_truncates (a b : Rat) :
    shapeNorm (.tuple [.flt a, .flt b]) = .ok (pyTrunc a, pyTrunc b) ∧
    shapeNorm (.xy (.flt b) (.flt a)) = .ok (pyTrunc a, pyTrunc b) ∧
    (0 ≤ a → (pyTrunc a : Rat) ≤ a ∧ a < (pyTrunc a : Rat) + 1) ∧
    (a < 0 → a ≤ (pyTrunc a : Rat) ∧ (pyTrunc a : Rat) - 1 < a) ∧
    (∀ n : Int, pyTrunc (n : Rat) = n) :=
  ⟨rfl, rfl, pyTrunc_nonneg, pyTrunc_neg, pyTrunc_int⟩

/-- exactly which shape arguments `shape_` accepts: a `Shape2d`, an `XY` or a 2-sequence whose members are finite -/
theorem shape_norm_ok_iff (s : ShapeArg) :
    (∃ p, shapeNorm s = .ok p) ↔
      match s with
      | .shape2d _ _ => True
      | .xy x y => x.isFinite = true ∧ y.isFinite = true
      | .tuple [a, b] => a.isFinite = true ∧ b.isFinite = true
      | .list [a, b] => a.isFinite = true ∧ b.isFinite = true
      | _ => False := by
  -- a sequence is unpacked only if it has exactly two members, and then each goes through `int()`
  have seq : ∀ l : List Num, (∃ p, unpack2 l = .ok p) ↔
      match l with
      | [a, b] => a.isFinite = true ∧ b.isFinite = true
      | _ => False := by
    intro l
    rcases l with _ | ⟨a, _ | ⟨b, _ | ⟨c, r⟩⟩⟩ <;>
      simp [unpack2, bind_isOk_iff, ← Num.toInt_isOk_iff, throw, throwThe, MonadExceptOf.throw, pure, Except.pure]
  cases s with
  | shape2d ny nx => simp [shapeNorm]
  | xy x y => simp [shapeNorm, bind_isOk_iff, ← Num.toInt_isOk_iff, pure, Except.pure, and_comm]
  | tuple l => rcases l with _ | ⟨a, _ | ⟨b, _ | ⟨c, r⟩⟩⟩ <;> simpa only [shapeNorm] using seq _
  | list l => rcases l with _ | ⟨a, _ | ⟨b, _ | ⟨c, r⟩⟩⟩ <;> simpa only [shapeNorm] using seq _
  | other => simp [shapeNorm]

/-- a scalar resolution `r` means square pixels with the y axis pointing down: `(r, -r)` (the sign of `r` is kept) -/
theorem res_scalar_is_north_up (r : Rat) (n : Int) :
    resNorm id (.flt r) = .ok (r, -r) ∧ resNorm id (.int n) = .ok ((n : Rat), -(n : Rat)) ∧
    resNorm id .other = .error (.k .valueError) ∧ ∀ x y, resNorm id (.res x y) = .ok (x, y) :=
  ⟨rfl, rfl, rfl, fun _ _ => rfl⟩

section init
variable {crs : CrsArg} {shape : ShapeArg} {res : ResArg} {origin : OriginArg} {fx fy : Bool} {g : GridSpec}

/-- `GridSpec(crs, tile_shape, resolution, origin, flipx, flipy)` succeeds iff every argument normalises, the CRS is
    one pyproj understands, and both tile sizes are positive — and then it IS the numeric constructor on the
    normalised values. -/
theorem init_ok_iff {fl : Rnd} :
    GridSpec.init fl crs shape res origin fx fy = .ok g ↔
      ∃ s r o, shapeNorm shape = .ok s ∧ resNorm fl res = .ok r ∧ originNorm origin = .ok o ∧ crs = .valid ∧
        GridSpec.new fl s.1 s.2 r.1 r.2 o.1 o.2 fx fy = .ok g := by
  simp only [GridSpec.init, bind_ok_iff, liftK_ok_iff, crsNorm_eq_ok_iff, exists_and_left, exists_const]

/-- acceptance in terms of the arguments alone (exact arithmetic) -/
theorem init_accepts_iff (crs : CrsArg) (shape : ShapeArg) (res : ResArg) (origin : OriginArg) (fx fy : Bool) :
    (∃ g, GridSpec.init id crs shape res origin fx fy = .ok g) ↔
      ∃ s r, shapeNorm shape = .ok s ∧ resNorm id res = .ok r ∧ origin ≠ .other ∧ crs = .valid ∧
        0 < (s.2 : Rat) * rabs r.1 ∧ 0 < (s.1 : Rat) * rabs r.2 := by
  simp only [init_ok_iff, ← originNorm_isOk_iff]
  constructor
  · rintro ⟨g, s, r, o, h1, h2, h3, h4, h5⟩
    exact ⟨s, r, h1, h2, ⟨o, h3⟩, h4, (gridspec_new_ok_iff ..).mp ⟨g, h5⟩⟩
  · rintro ⟨s, r, h1, h2, ⟨o, h3⟩, h4, h5⟩
    obtain ⟨g, hg⟩ := (gridspec_new_ok_iff s.1 s.2 r.1 r.2 o.1 o.2 fx fy).mpr h5
    exact ⟨g, s, r, o, h1, h2, h3, h4, hg⟩

/-- the order in which `__init__` complains: shape, then resolution, then origin, then CRS (`None`, rejected by pyproj,
    `"utm"` without context), then the y tile size
    (asserted before the x tile size) — whatever the later arguments are -/
theorem init_error_order (fl : Rnd) (crs : CrsArg) (shape : ShapeArg) (res : ResArg) (origin : OriginArg)
    (fx fy : Bool) :
    (∀ e, shapeNorm shape = .error e → GridSpec.init fl crs shape res origin fx fy = .error e) ∧
    (∀ s e, shapeNorm shape = .ok s → resNorm fl res = .error e →
      GridSpec.init fl crs shape res origin fx fy = .error e) ∧
    (∀ s r, shapeNorm shape = .ok s → resNorm fl res = .ok r → origin = .other →
      GridSpec.init fl crs shape res origin fx fy = .error (.k .assertion)) ∧
    (∀ s r, shapeNorm shape = .ok s → resNorm fl res = .ok r → origin ≠ .other → crs = .none →
      GridSpec.init fl crs shape res origin fx fy = .error (.k .valueError)) ∧
    (∀ s r, shapeNorm shape = .ok s → resNorm fl res = .ok r → origin ≠ .other → crs = .invalid →
      GridSpec.init fl crs shape res origin fx fy = .error (.k .runtimeError)) ∧
    (∀ s r, shapeNorm shape = .ok s → resNorm fl res = .ok r → origin ≠ .other → crs = .utm →
      GridSpec.init fl crs shape res origin fx fy = .error (.k .assertion)) ∧
    (∀ s r o, shapeNorm shape = .ok s → resNorm fl res = .ok r → originNorm origin = .ok o → crs = .valid →
      ¬ 0 < fl ((s.1 : Rat) * rabs r.2) →
      GridSpec.init fl crs shape res origin fx fy = .error (.k .assertion)) := by
  -- with shape, resolution and origin accepted, an error of `norm_crs_or_error` is what `__init__` raises
  have crsErr : ∀ s r e, shapeNorm shape = .ok s → resNorm fl res = .ok r → origin ≠ .other → crsNorm crs = .error e →
      GridSpec.init fl crs shape res origin fx fy = .error e := by
    intro s r e h1 h2 h3 h4
    obtain ⟨o, ho⟩ := (originNorm_isOk_iff origin).mpr h3
    simp [GridSpec.init, h1, h2, ho, h4, bind, Except.bind]
  refine ⟨?_, ?_, ?_, fun s r h1 h2 h3 h4 => crsErr s r _ h1 h2 h3 (h4 ▸ rfl),
    fun s r h1 h2 h3 h4 => crsErr s r _ h1 h2 h3 (h4 ▸ rfl), fun s r h1 h2 h3 h4 => crsErr s r _ h1 h2 h3 (h4 ▸ rfl), ?_⟩
  · intro e h; simp [GridSpec.init, h, bind, Except.bind]
  · intro s e h1 h2; simp [GridSpec.init, h1, h2, bind, Except.bind]
  · intro s r h1 h2 h3; subst h3; simp [GridSpec.init, h1, h2, originNorm, bind, Except.bind]
  · intro s r o h1 h2 h3 h4 h5; subst h4
    simp [GridSpec.init, h1, h2, h3, crsNorm, GridSpec.new_err_y h5, liftK, bind, Except.bind]

/-- leaving `origin` out is the same as passing `xy_(0, 0)` -/
theorem init_default_origin (fl : Rnd) (crs : CrsArg) (shape : ShapeArg) (res : ResArg) (fx fy : Bool) :
    GridSpec.init fl crs shape res .none fx fy = GridSpec.init fl crs shape res (.xy 0 0) fx fy := rfl

/-- the grid depends on the VALUES of shape and resolution only, not on their spelling -/
theorem init_spelling_irrelevant (fl : Rnd) (crs : CrsArg) {shape shape' : ShapeArg} {res res' : ResArg}
    (origin : OriginArg) (fx fy : Bool) (hs : shapeNorm shape = shapeNorm shape')
    (hr : resNorm fl res = resNorm fl res') :
    GridSpec.init fl crs shape res origin fx fy = GridSpec.init fl crs shape' res' origin fx fy := by
  unfold GridSpec.init; rw [hs, hr]

/-- END TO END (no gaps, no overlaps): whatever the spelling of the arguments, if the public constructor returns a
    grid then its half-open tiles partition the plane. -/
theorem init_tiles_partition_plane (h : GridSpec.init id crs shape res origin fx fy = .ok g) (p : Rat × Rat) :
    ∃! k : Int × Int, (g.footprint k).memHalfOpen p := by
  obtain ⟨s, r, o, _, _, _, _, hg⟩ := init_ok_iff.mp h
  exact tiles_partition_plane hg p

/-- END TO END (interiors, shared edges, point lookup) -/
theorem init_tiles_disjoint_and_abut (h : GridSpec.init id crs shape res origin fx fy = .ok g) :
    (∀ k k' : Int × Int, k ≠ k' → ¬ ∃ p, (g.footprint k).memInterior p ∧ (g.footprint k').memInterior p) ∧
    (∀ x y, (g.footprint (g.pt2idx id x y)).memHalfOpen (x, y)) ∧
    (∀ ix iy : Int, (g.footprint (ix + g.xbin.dir, iy)).left = (g.footprint (ix, iy)).right ∧
      (g.footprint (ix, iy + g.ybin.dir)).bottom = (g.footprint (ix, iy)).top) := by
  obtain ⟨s, r, o, _, _, _, _, hg⟩ := init_ok_iff.mp h
  exact ⟨fun k k' hk => tiles_disjoint_interiors hg hk, fun x y => pt_in_its_tile hg x y,
    fun ix iy => ⟨(neighbours_share_edge hg ix iy).1, (neighbours_share_edge hg ix iy).2.2.2.1⟩⟩

/-- END TO END (tile GeoBox): from the raw constructor arguments and the raw index argument to the GeoBox handed
    out by `gs[idx]` / `gs.tile_geobox(idx)`: it has the normalised shape, the normalised signed resolution, no
    rotation, and a footprint of `nx·|rx|` by `ny·|ry|` located at the bins of the index. -/
theorem init_tile_geobox {s : Int × Int} {r : Rat × Rat} {i : IdxArg} {gb : GeoBox}
    (h : GridSpec.init id crs shape res origin fx fy = .ok g)
    (hs : shapeNorm shape = .ok s) (hr : resNorm id res = .ok r) (hi : g.tileGeoboxArg id i = .ok gb) :
    ∃ k, idxNorm i = .ok k ∧ gb.ny = s.1 ∧ gb.nx = s.2 ∧ gb.aff.a = r.1 ∧ gb.aff.e = r.2 ∧ gb.aff.b = 0 ∧ gb.aff.d = 0 ∧
      gb.bbox id = g.footprint k ∧
      (g.footprint k).right - (g.footprint k).left = (s.2 : Rat) * rabs r.1 ∧
      (g.footprint k).top - (g.footprint k).bottom = (s.1 : Rat) * rabs r.2 := by
  obtain ⟨s', r', o, h1, h2, _, _, hg⟩ := init_ok_iff.mp h
  cases hs.symm.trans h1
  cases hr.symm.trans h2
  obtain ⟨k, hk, hgb⟩ := bind_ok_iff.mp hi
  cases hgb
  obtain ⟨a1, a2, a3, a4, a5, a6, _, a8, a9⟩ := tile_geobox_shape_res hg k
  exact ⟨k, hk, a1, a2, a3, a6, a4, a5, rfl, a8, a9⟩

end init

example : ∃ g, GridSpec.init id .valid (.list [.flt (5 / 2), .int 3]) (.int 10) .none false true = .ok g ∧
    g.ny = 2 ∧ g.nx = 3 ∧ g.rx = 10 ∧ g.ry = -10 := by
  refine ⟨⟨2, 3, 10, -10, 0, 0, ⟨30, 0, 1⟩, ⟨20, 0, -1⟩⟩, by decide +kernel, rfl, rfl, rfl, rfl⟩

/-- a tuple, an `Index2d` and an `XY` denote the same tile; a list — or a tuple that is not a pair — is rejected
    with `ValueError` -/
theorem tile_index_forms (fl : Rnd) (g : GridSpec) (x y : Int) (l : List Int) :
    g.tileGeoboxArg fl (.tuple [x, y]) = .ok (g.tileGeobox fl (x, y)) ∧
    g.tileGeoboxArg fl (.index2d x y) = .ok (g.tileGeobox fl (x, y)) ∧
    g.tileGeoboxArg fl (.xy x y) = .ok (g.tileGeobox fl (x, y)) ∧
    g.tileGeoboxArg fl (.list l) = .error (.k .valueError) ∧
    g.tileGeoboxArg fl .other = .error (.k .valueError) ∧
    (l.length ≠ 2 → g.tileGeoboxArg fl (.tuple l) = .error (.k .valueError)) :=
  ⟨rfl, rfl, rfl, rfl, rfl, fun hl => ne_pair_cases l hl rfl (fun _ => rfl) fun _ _ _ _ => rfl⟩

/-- with the conventional spellings (tuple shape, tuple index) the raw-argument model is the numeric model -/
theorem from_sample_tile_args_tuple (fl : Rnd) (q : BBox) (ny nx ix iy : Int) (fx fy : Bool) :
    GridSpec.fromSampleTileArgs fl .valid q (some (.tuple [.int ny, .int nx])) (some (.tuple [ix, iy])) fx fy =
      liftK (GridSpec.fromSampleTile fl q ny nx ix iy fx fy) := by
  rw [GridSpec.fromSampleTile_eq_core]
  by_cases h : ny = -1 ∧ nx = -1
  · obtain ⟨rfl, rfl⟩ := h; rfl
  · rw [if_neg h]
    exact GridSpec.fromSampleTileArgs_core fl q _ _ fx fy (by simpa [ShapeArg.isSentinel, Num.isMinusOne] using h) rfl rfl

/-- The missing-shape sentinel `(-1, -1)` is recognised by comparing the RAW argument with a tuple: the default, the
    tuple `(-1, -1)`, the float tuple `(-1.0, -1.0)` and `Shape2d(-1, -1)` raise the documented `ValueError`; the same
    pair spelled as a list or as an `XY` is NOT recognised and runs into the `AssertionError` of `Bin1D` instead
    (negative tile size).  Either way no grid is built. -/
theorem from_sample_tile_sentinel_by_spelling (q : BBox) (i : Option IdxArg) (fx fy : Bool)
    (hx : q.left < q.right) (hy : q.bottom < q.top) (hi : ∃ k, idxNorm (i.getD (.tuple [0, 0])) = .ok k) :
    GridSpec.fromSampleTileArgs id .valid q none i fx fy = .error (.k .valueError) ∧
    GridSpec.fromSampleTileArgs id .valid q (some (.tuple [.int (-1), .int (-1)])) i fx fy = .error (.k .valueError) ∧
    GridSpec.fromSampleTileArgs id .valid q (some (.tuple [.flt (-1), .flt (-1)])) i fx fy = .error (.k .valueError) ∧
    GridSpec.fromSampleTileArgs id .valid q (some (.shape2d (-1) (-1))) i fx fy = .error (.k .valueError) ∧
    GridSpec.fromSampleTileArgs id .valid q (some (.list [.int (-1), .int (-1)])) i fx fy = .error (.k .assertion) ∧
    GridSpec.fromSampleTileArgs id .valid q (some (.xy (.int (-1)) (.int (-1)))) i fx fy = .error (.k .assertion) := by
  obtain ⟨k, hk⟩ := hi
  have core : GridSpec.fromSampleTileCore id q (-1) (-1) k.1 k.2 fx fy = .error .assertion := by
    rw [GridSpec.fromSampleTileCore_eq_new k.1 k.2 fx fy hx hy (by decide) (by decide)]
    exact GridSpec.new_err_y fun h => absurd (GridSpec.n_pos_of_sz h) (by decide)
  refine ⟨rfl, rfl, GridSpec.fromSampleTileArgs_sentinel id _ q _ i fx fy (by simp [ShapeArg.isSentinel, Num.isMinusOne]),
    rfl, ?_, ?_⟩
  · rw [GridSpec.fromSampleTileArgs_core id q _ i fx fy rfl rfl hk, core]; rfl
  · rw [GridSpec.fromSampleTileArgs_core id q _ i fx fy rfl rfl hk, core]; rfl

/-- END TO END (rebuild from a sample): a grid made by the public constructor from arguments in any spelling, rebuilt by
    `from_sample_tile` from the footprint of ANY of its tiles — shape and index again in any spelling that denotes the
    same values — has the same footprint for every index and the same point lookup. -/
theorem init_from_sample_roundtrip {crs : CrsArg} {shape shape' : ShapeArg} {res : ResArg} {origin : OriginArg}
    {fx fy : Bool} {g : GridSpec} {i : IdxArg} {j : Int × Int}
    (h : GridSpec.init id crs shape res origin fx fy = .ok g) (hs : shapeNorm shape' = shapeNorm shape)
    (hi : idxNorm i = .ok j) :
    ∃ g', GridSpec.fromSampleTileArgs id .valid (g.footprint j) (some shape') (some i) fx fy = .ok g' ∧
      (∀ k, g'.footprint k = g.footprint k) ∧ (∀ x y, g'.pt2idx id x y = g.pt2idx id x y) := by
  obtain ⟨s, r, o, h1, _, _, _, hg⟩ := init_ok_iff.mp h
  obtain ⟨g', a1, a2, a3, _⟩ := from_sample_roundtrip hg j
  refine ⟨g', ?_, a2, a3⟩
  have hpos : 0 < s.1 := (GridSpec.new_pos hg).2.1
  have hns : shape'.isSentinel = false := Bool.eq_false_iff.mpr fun hc => by
    cases (isSentinel_norm hc).symm.trans (hs.trans h1)
    omega
  rw [GridSpec.fromSampleTile_eq_core_of_pos id _ s.2 j.1 j.2 fx fy hpos] at a1
  rw [GridSpec.fromSampleTileArgs_core id _ _ (some i) fx fy hns (hs.trans h1) hi, a1]
  rfl

/-- `web_tiles(zoom, npix)` with `npix` given as an int is the numeric model; as a float with at least one whole pixel it
    is `web_tiles(zoom, int(npix))` — so all of `web_tile_extent` / `web_tiles_count` applies; `npix == -1` (int or
    float) hits the missing-shape sentinel, NaN / ±inf raise `ValueError` / `OverflowError`. -/
theorem web_tiles_npix_forms (fl : Rnd) (P : Rat) (z : Int) (n : Int) (v : Rat) :
    GridSpec.webTilesArgs fl P z (.int n) = liftK (GridSpec.webTiles fl P z n) ∧
    (0 < pyTrunc v → GridSpec.webTilesArgs fl P z (.flt v) = liftK (GridSpec.webTiles fl P z (pyTrunc v))) ∧
    GridSpec.webTilesArgs fl P z (.flt (-1)) = .error (.k .valueError) ∧
    GridSpec.webTilesArgs fl P z .nan = .error (.k .valueError) ∧
    GridSpec.webTilesArgs fl P z .pinf = .error .overflow ∧
    GridSpec.webTilesArgs fl P z .ninf = .error .overflow := by
  refine ⟨?_, ?_, ?_, rfl, rfl, rfl⟩
  · unfold GridSpec.webTilesArgs GridSpec.webTiles
    exact from_sample_tile_args_tuple fl _ n n 0 0 false true
  · intro hv
    unfold GridSpec.webTilesArgs GridSpec.webTiles
    rw [GridSpec.fromSampleTile_eq_core_of_pos fl _ (pyTrunc v) 0 0 false true hv]
    have hne : v ≠ -1 := by
      rintro rfl
      have : pyTrunc (-1 : Rat) = -1 := pyTrunc_int (-1)
      omega
    exact GridSpec.fromSampleTileArgs_core fl _ _ _ false true (by simp [ShapeArg.isSentinel, Num.isMinusOne, hne]) rfl rfl
  · unfold GridSpec.webTilesArgs
    exact GridSpec.fromSampleTileArgs_sentinel fl _ _ _ _ false true (by simp [ShapeArg.isSentinel, Num.isMinusOne])

/-- END TO END (slippy map): `web_tiles(zoom, npix)` with `npix` an int or a float holding at least one whole pixel:
    whenever it returns a grid, tile `(i, j)` has exactly the slippy-map extent, `int(npix)` pixels per side, and the tiles
    inside the world square are those with both indices in `[0, 2^zoom)`. -/
theorem web_tiles_public_extent {P : Rat} (hP : 0 < P) (z : Nat) (npix : Num) {g : GridSpec} {n : Int}
    (hn : npix.toInt = .ok n) (hpos : 0 < n) (hg : GridSpec.webTilesArgs id P (z : Int) npix = .ok g) (i j : Int) :
    g.footprint (i, j) =
      ⟨-P + (i : Rat) * (2 * P / 2 ^ z), P - ((j : Rat) + 1) * (2 * P / 2 ^ z),
       -P + ((i : Rat) + 1) * (2 * P / 2 ^ z), P - (j : Rat) * (2 * P / 2 ^ z)⟩ ∧
    g.ny = n ∧ g.nx = n ∧
    ((0 ≤ i ∧ i < 2 ^ z ∧ 0 ≤ j ∧ j < 2 ^ z) ↔
      (-P ≤ (g.footprint (i, j)).left ∧ (g.footprint (i, j)).right ≤ P ∧
       -P ≤ (g.footprint (i, j)).bottom ∧ (g.footprint (i, j)).top ≤ P)) := by
  have hw : GridSpec.webTiles id P (z : Int) n = .ok g := by
    cases npix <;> cases hn
    · rwa [(web_tiles_npix_forms id P z n 0).1, liftK_ok_iff] at hg
    · rwa [(web_tiles_npix_forms id P z 0 _).2.1 hpos, liftK_ok_iff] at hg
  obtain ⟨a1, a2, a3, _, _⟩ := web_tile_extent hP z hpos hw i j
  exact ⟨a1, a2, a3, web_tiles_count hP z hpos hw i j⟩

example : ∃ g, GridSpec.webTilesArgs id 3 (2 : Nat) (.flt (513 / 2)) = .ok g ∧ g.nx = 256 := by
  refine ⟨⟨256, 256, 3 / 512, -3 / 512, -3, 3 / 2, ⟨3 / 2, -3, 1⟩, ⟨3 / 2, 3 / 2, -1⟩⟩, by decide +kernel, rfl⟩

/-- on finite bounds the extended `idx_bounds` / `tiles` are the ones all other theorems are about -/
theorem idx_bounds_x_finite (fl : Rnd) (tol : Rat) (g : GridSpec) (same : Bool) (q : BBox) :
    g.idxBoundsX fl tol same q.toX = liftK (g.idxBoundsChecked fl tol same q) ∧
    g.tilesX fl tol same q.toX = liftK (g.tilesChecked fl tol same q) := by
  cases same <;> exact ⟨rfl, rfl⟩

/-- A bounding-box query whose bounds contain NaN or ±inf (the bounds of an empty geometry, a point that failed to
    re-project) is never answered with tiles: the error of the first special coordinate in the order left, bottom,
    right, top is raised (`ValueError` for NaN, `OverflowError` for ±inf); with four finite coordinates the query
    succeeds. -/
theorem idx_bounds_x_specials (fl : Rnd) (tol : Rat) (g : GridSpec) (q : BBoxX) :
    (firstErr [q.left, q.bottom, q.right, q.top] = none → ∃ r, g.idxBoundsX fl tol true q = .ok r) ∧
    (∀ e, firstErr [q.left, q.bottom, q.right, q.top] = some e →
      g.idxBoundsX fl tol true q = .error e ∧ g.tilesX fl tol true q = .error e) := by
  obtain ⟨l, b, r, t⟩ := q
  -- the first special coordinate in the order left, bottom, right, top ends the evaluation, whatever the later ones are
  cases l <;> try exact ⟨nofun, fun e h => by cases h; exact ⟨rfl, rfl⟩⟩
  cases b <;> try exact ⟨nofun, fun e h => by cases h; exact ⟨rfl, rfl⟩⟩
  cases r <;> try exact ⟨nofun, fun e h => by cases h; exact ⟨rfl, rfl⟩⟩
  cases t <;> try exact ⟨nofun, fun e h => by cases h; exact ⟨rfl, rfl⟩⟩
  exact ⟨fun _ => ⟨_, rfl⟩, nofun⟩

/-- the empty geometry: all four bounds NaN → `ValueError` (as the multi-part model says for no parts) -/
theorem empty_geometry_query_raises (fl : Rnd) (tol : Rat) (g : GridSpec) :
    g.tilesX fl tol true ⟨.nan, .nan, .nan, .nan⟩ = .error (.k .valueError) ∧
    g.tilesFromMulti fl tol [] = .error .valueError := ⟨rfl, rfl⟩

/-- point lookup: x is binned before y -/
theorem pt2idx_x_specials (fl : Rnd) (g : GridSpec) (x y : XF) :
    g.pt2idxX fl x y = match firstErr [x, y] with
      | some e => .error e
      | none => match x, y with
        | .fin a, .fin b => .ok (g.pt2idx fl a b)
        | _, _ => .error (.k .valueError) := by
  cases x <;> cases y <;> rfl

section gens
variable (fl : Rnd) (tol : Rat) (g : GridSpec)

/-- creating a generator runs nothing; its first `next()` evaluates `idx_bounds` (and its CRS assertion) -/
theorem generator_is_lazy (q : BBox) (c : Cache) :
    ((Gen.ofTiles q false).next fl tol g c).1 = .error .assertion ∧
    ((Gen.ofTiles q false).next fl tol g c).2.2 = c ∧
    (((Gen.ofTiles q false).next fl tol g c).2.1.next fl tol g c).1 = .ok none :=
  ⟨rfl, rfl, rfl⟩

/-- ONE `next()`, coherent cache: the item is the next tile of the stateless query with the geobox of its index
    (`none` exactly when the stateless query is exhausted); the cache stays coherent. -/
theorem generator_next (s : Gen) (c : Cache) (hc : g.Coherent fl c) :
    (s.next fl tol g c).1 = (pureStep fl g (s.pure fl tol g)).1 ∧
    (s.next fl tol g c).2.1.pure fl tol g = (pureStep fl g (s.pure fl tol g)).2 ∧
    g.Coherent fl (s.next fl tol g c).2.2 := by
  obtain ⟨start, rest, dj⟩ := s
  -- the common part: pulling from a pending list `ks`
  have key : ∀ ks : List (Int × Int),
      let p := g.pull fl dj ks c
      let it : PureIt := (none, ks.filter (fun k => !dj (g.tileGeobox fl k)))
      (Except.ok p.1 : SOut) = (pureStep fl g it).1 ∧
      ((none, p.2.1.filter (fun k => !dj (g.tileGeobox fl k))) : PureIt) = (pureStep fl g it).2 ∧
      g.Coherent fl p.2.2 := by
    intro ks
    obtain ⟨h1, _, h3, h4⟩ := GridSpec.pull_spec fl g dj ks c hc
    simp only [pureStep_none, h3, h4]
    exact ⟨trivial, trivial, h1⟩
  match start with
  | some (q, true) =>
    have := key (g.tiles fl tol q)
    simpa [Gen.next, Gen.pure, Gen.remaining] using this
  | some (q, false) =>
    simp only [Gen.next, Gen.pure, Gen.remaining, pureStep]
    exact ⟨rfl, by simp, hc⟩
  | none =>
    have := key rest
    simpa [Gen.next, Gen.pure, Gen.remaining] using this

/-- a `next()` touches the cache only for the tiles it pulls: afterwards the cache holds the old keys plus a prefix
    of the generator's pending tiles, and nothing else -/
theorem generator_next_cache_keys (dj : GeoBox → Bool) (ks : List (Int × Int)) (c : Cache) (hc : g.Coherent fl c) :
    ∃ pre, ks = pre ++ ((⟨none, ks, dj⟩ : Gen).next fl tol g c).2.1.rest ∧
      ∀ k', (((⟨none, ks, dj⟩ : Gen).next fl tol g c).2.2.lookup k').isSome ↔ ((c.lookup k').isSome ∨ k' ∈ pre) :=
  (GridSpec.pull_spec fl g dj ks c hc).2.1

/-- what a fresh generator stands for: the stateless bbox / polygon query -/
theorem generator_pure_of_query (q : BBox) (dj : GeoBox → Bool) :
    (Gen.ofTiles q true).pure fl tol g = (none, g.tiles fl tol q) ∧
    (Gen.ofPolygon q dj).pure fl tol g = (none, g.tilesFromPolygon fl tol q dj) := by
  constructor
  · simp [Gen.pure, Gen.ofTiles, Gen.remaining]
  · simp [Gen.pure, Gen.ofPolygon, Gen.remaining, GridSpec.tilesFromPolygon]

/-- ANY SCHEDULE: a program holding any number of live generators (bbox and polygon queries, also ones with a pending
    CRS assertion) over ONE shared cache, advancing them in any interleaving and clearing the cache at any moment,
    observes exactly what it would observe with cache-less iterators; the cache is coherent afterwards. -/
theorem schedule_transparent (ops : List SOp) :
    ∀ (gens : List Gen) (c : Cache), g.Coherent fl c →
      (g.sched fl tol ops gens c).1 = g.schedPure fl ops (gens.map (fun s => s.pure fl tol g)) ∧
      g.Coherent fl (g.sched fl tol ops gens c).2.2 := by
  induction ops with
  | nil => intro gens c hc; exact ⟨rfl, hc⟩
  | cons op ops ih =>
    intro gens c hc
    cases op with
    | clear =>
      obtain ⟨i1, i2⟩ := ih gens [] (cache_empty_coherent fl g)
      simp only [GridSpec.sched, GridSpec.schedPure]
      exact ⟨by rw [i1], i2⟩
    | next i =>
      simp only [GridSpec.sched, GridSpec.schedPure, List.getElem?_map]
      cases hg : gens[i]? with
      | none =>
        obtain ⟨i1, i2⟩ := ih gens c hc
        simp only [Option.map_none]
        exact ⟨by rw [i1], i2⟩
      | some s =>
        obtain ⟨n1, n2, n3⟩ := generator_next fl tol g s c hc
        obtain ⟨i1, i2⟩ := ih (setAt gens i (s.next fl tol g c).2.1) (s.next fl tol g c).2.2 n3
        simp only [Option.map_some]
        refine ⟨?_, i2⟩
        rw [i1, setAt_map, n1, n2]

end gens

example : let g : GridSpec := ⟨1, 1, 1, -1, 0, 0, ⟨1, 0, 1⟩, ⟨1, 0, 1⟩⟩
    (g.sched id tol8 [.next 0, .next 1, .clear, .next 0, .next 0] [Gen.ofTiles ⟨0, 0, 2, 1⟩ true, Gen.ofTiles ⟨0, 0, 1, 1⟩ false] []).1
      = [.ok (some ((0, 0), g.tileGeobox id (0, 0))), .error .assertion, .ok none,
         .ok (some ((1, 0), g.tileGeobox id (1, 0))), .ok none] := by
  decide +kernel

/-- `gs == x` for `x` of another type is `False` (never an exception); `Bin1D.__eq__` is field equality -/
theorem eq_any_operand (g h : GridSpec) (c : Bool) (b b' : Bin1D) :
    g.beqAny .other = false ∧ g.beqAny (.grid h c) = g.beq h c ∧ b.beqAny none = false ∧
    (b.beqAny (some b') = true ↔ b = b') := by
  refine ⟨rfl, rfl, rfl, ?_⟩
  obtain ⟨s, o, d⟩ := b
  obtain ⟨s', o', d'⟩ := b'
  simp [Bin1D.beqAny, and_assoc]

/-- `geojson()`: as many features as the selected query has tiles (in the model the feature ids are a `map` over the tile list,
    so their order is the generator's) — the polygon wins over the bbox, and with neither argument the query is the bounding
    box of the CRS' valid region; `properties` repeat the tile shape and the resolution of the grid. -/
theorem geojson_document (fl : Rnd) (tol : Rat) (g : GridSpec) (q q' valid : BBox) (dj : GeoBox → Bool) :
    (g.geojson fl tol none none valid).ids.length = (g.tiles fl tol valid).length ∧
    (g.geojson fl tol (some q) none valid).ids.length = (g.tiles fl tol q).length ∧
    g.geojson fl tol (some q') (some (q, dj)) valid = g.geojson fl tol none (some (q, dj)) valid ∧
    (g.geojson fl tol none (some (q, dj)) valid).ids.length = (g.tilesFromPolygon fl tol q dj).length ∧
    (g.geojson fl tol none none valid).shape = (g.ny, g.nx) ∧ (g.geojson fl tol none none valid).res = (g.rx, g.ry) := by
  simp [GridSpec.geojson]

end OdcGeo.C14
