/-
C17 — `roi_from_points`: a sample point with exactly ONE non-finite coordinate is ignored entirely (the finite filter works
per row: `keep = ok_mask.T[0] * ok_mask.T[1]`), explicit corollaries of `Model/C17.lean::finitePts`.
-/
import OdcGeo.Lemmas.C17

namespace OdcGeo.C17

theorem finitePts_half_finite (a b : List (Coord × Coord)) (p : Coord × Coord)
    (hp : p.1.isFinite = false ∨ p.2.isFinite = false) : finitePts (a ++ [p] ++ b) = finitePts (a ++ b) := by
  have h1 : finitePts [p] = [] := by
    obtain ⟨x, y⟩ := p
    cases x with
    | nonfinite => rfl
    | fin x =>
      cases y with
      | nonfinite => rfl
      | fin y => rcases hp with h | h <;> cases h
  simp only [finitePts, List.filterMap_append] at h1 ⊢
  rw [h1, List.append_nil]

/-- a row that is not finite in both coordinates does not influence the region, wherever it stands -/
theorem from_points_nonfinite_row_ignored (a b : List (Coord × Coord)) (p : Coord × Coord)
    (hp : p.1.isFinite = false ∨ p.2.isFinite = false) (ny nx pad : Int) (al : Option Int) :
    fromPoints (a ++ [p] ++ b) ny nx pad al = fromPoints (a ++ b) ny nx pad al :=
  fromPoints_congr (finitePts_half_finite a b p hp) ny nx pad al

/-- **A point whose x is finite and whose y is not (or the other way round) is ignored ENTIRELY**: wherever it stands in
the array, the region is the region of the other points — its finite coordinate does not widen the envelope on its
axis (a per-column filter would let it). -/
theorem from_points_half_finite_point_ignored (a b : List (Coord × Coord)) (x : Rat) (ny nx pad : Int) (al : Option Int) :
    fromPoints (a ++ [(.fin x, .nonfinite)] ++ b) ny nx pad al = fromPoints (a ++ b) ny nx pad al ∧
    fromPoints (a ++ [(.nonfinite, .fin x)] ++ b) ny nx pad al = fromPoints (a ++ b) ny nx pad al :=
  ⟨from_points_nonfinite_row_ignored a b _ (Or.inr rfl) ny nx pad al,
   from_points_nonfinite_row_ignored a b _ (Or.inl rfl) ny nx pad al⟩

/-- a far outlier in the finite coordinate of such a row changes nothing: x = 10^12 beside a NaN y -/
example : fromPoints [(.fin 5, .fin 5), (.fin 1000000000000, .nonfinite), (.fin 7, .fin 9)] 100 100 0 none
    = fromPoints [(.fin 5, .fin 5), (.fin 7, .fin 9)] 100 100 0 none := by decide

/-- … whereas the same outlier with a finite y does widen the region (the hypothesis is not vacuous) -/
example : fromPoints [(.fin 5, .fin 5), (.fin 1000000000000, .fin 6), (.fin 7, .fin 9)] 100 100 0 none
    ≠ fromPoints [(.fin 5, .fin 5), (.fin 7, .fin 9)] 100 100 0 none := by decide

end OdcGeo.C17
