/-
C13 × C09 — `xr_reproject(Dataset)`: the pixel side (Model/C13Glue.xrReprojectDs) and the registration side
(C09.assembleDs, imported read-only) map over the SAME variables: both keep every data variable under its name at its
position.  Only names and positions are compared: which variables C09 passes through (`recover = nothing`: no geobox)
is not related here to the pixel side's `DsVar.plain`.
-/
import OdcGeo.Props.C13GlueDs
import OdcGeo.Model.C09

namespace OdcGeo.C13
open OdcGeo

theorem c09_reprojectVar_name (dst : C09.GeoBox) (nv : String × C09.XArr) (o : String × C09.XArr)
    (h : C09.reprojectVar dst nv = .ok o) : o.1 = nv.1 := by
  unfold C09.reprojectVar at h
  split at h
  · cases h
  · cases h
    rfl
  · obtain ⟨x, _, rfl⟩ := map_ok_iff.1 h
    rfl

/-- **Both halves of `xr_reproject(Dataset)` return the same variables in the same order**: the registration side
(C09 `assembleDs`: dims / coords / attrs of each output variable) and the pixel side (`xrReprojectDs`) keep the names and
positions of the input's data variables — so variable `i` of the C09 result describes the array that `ds_var_eq_da`
gives for variable `i`. -/
theorem ds_both_sides_same_variables (attrs : List String) (vars : List (String × C09.XArr)) (dst : C09.GeoBox)
    (as : List String) (reg : List (String × C09.XArr)) (hreg : C09.assembleDs attrs vars dst = .ok (as, reg))
    (sh : DsShared) (G : Gdal) (deps : List Nat → List Nat → List (TIdx × List TIdx))
    (ds : List (String × DsVar)) (hsame : ds.map (·.1) = vars.map (·.1))
    (out : List (String × Img)) (hpix : xrReprojectDs sh G deps ds = .ok out) :
    out.map (·.1) = reg.map (·.1) := by
  rw [ds_names_kept sh G deps ds out hpix, hsame]
  obtain ⟨o, hm, h⟩ := bind_ok_iff.1 hreg
  cases h
  exact (forall₂_map_eq _ _ (mapM_ok_iff.1 hm) fun a b => c09_reprojectVar_name dst a b).symm

/-- non-vacuity: a Dataset with one plain variable `m(t)`, on both sides -/
example (dst : C09.GeoBox) (sh : DsShared) (d : Img) :
    ∃ as reg out, C09.assembleDs ["crs"] [("m", ⟨["t"], [], none, []⟩)] dst = .ok (as, reg) ∧
      xrReprojectDs sh cexGdal (fun _ _ => []) [("m", .plain d)] = .ok out ∧ out.map (·.1) = reg.map (·.1) :=
  ⟨_, _, _, rfl, rfl, rfl⟩

end OdcGeo.C13
