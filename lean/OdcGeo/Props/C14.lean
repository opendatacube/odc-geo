/-
C14 — A GridSpec tiles the plane without gaps or overlaps.

The geometric theorems are about the exact-arithmetic instance (`fl := id`) of the model in
`Model/C14.lean`; hypotheses are "the constructor returned this object", never an abstract
well-formedness assumption.  Directions `±1`, resolutions of either sign, any origin, any
(negative or positive) tile index, no bound on anything.  The theorems that only concern
control flow (CRS guard, `geobox_cache`, multi-part scan, `geojson` index walk) and the lemmas of
section `transfer` hold for every rounding function `fl`.  Section `links` reads `Bin1D` as C20's (`toC20`) and a
tile GeoBox as C02's (`toC02`); the links to C04 / C08 / C12 / C16 are files of their own (`Props/C14C04`, `C14C12`, `C14C16`).

Point-set vocabulary (`BBox.memHalfOpen / memInterior / memClosed`, `GeoBox.covers`,
`GridSpec.footprint`) is defined at the end of the model file.
-/
import OdcGeo.Model.C14
import OdcGeo.Lemmas.C14
import OdcGeo.Model.C20
import OdcGeo.Model.C02
import OdcGeo.Lemmas.C02
import Mathlib.Tactic.NormNum

namespace OdcGeo.C14

/-- `Bin1D(sz, origin, direction)` is accepted iff `sz > 0` and `direction ∈ {1, -1}`. -/
theorem bin1d_new_ok_iff (sz o : Rat) (d : Int) :
    (∃ b, Bin1D.new sz o d = .ok b) ↔ 0 < sz ∧ (d = 1 ∨ d = -1) :=
  ⟨fun ⟨_, h⟩ => by obtain ⟨rfl, w⟩ := Bin1D.new_ok h; exact ⟨w.sz_pos, w.dir⟩,
    fun ⟨h1, h2⟩ => ⟨_, Bin1D.new_of_wf ⟨sz, o, d⟩ ⟨h1, h2⟩⟩⟩

/-- `bin x = k  ↔  lo k ≤ x < hi k` — for both directions (point lookup and index→interval agree). -/
theorem bin_mem {sz o : Rat} {d : Int} {b : Bin1D} (hb : Bin1D.new sz o d = .ok b) (x : Rat) (k : Int) :
    b.bin id x = k ↔ b.lo id k ≤ x ∧ x < b.hi id k :=
  Bin1D.bin_eq_iff b (Bin1D.new_ok hb).2 x k

/-- every coordinate lies in exactly one bin (no gaps, no overlaps) -/
theorem bins_partition {sz o : Rat} {d : Int} {b : Bin1D} (hb : Bin1D.new sz o d = .ok b) (x : Rat) :
    ∃! k : Int, b.lo id k ≤ x ∧ x < b.hi id k :=
  ⟨b.bin id x, (bin_mem hb x _).mp rfl, fun k hk => ((bin_mem hb x k).mpr hk).symm⟩

/-- the right edge of bin `k` is exactly the left edge of the next bin in index direction -/
theorem bins_abut {sz o : Rat} {d : Int} {b : Bin1D} (hb : Bin1D.new sz o d = .ok b) (k : Int) :
    b.hi id k = b.lo id (k + d) := by
  obtain ⟨rfl, w⟩ := Bin1D.new_ok hb
  exact Bin1D.hi_eq_lo_next _ w k

/-- every bin has width `sz` and bin `0` starts at the origin -/
theorem bin_width_origin {sz o : Rat} {d : Int} {b : Bin1D} (hb : Bin1D.new sz o d = .ok b) (k : Int) :
    b.hi id k - b.lo id k = sz ∧ b.lo id 0 = o := by
  obtain ⟨rfl, _⟩ := Bin1D.new_ok hb
  exact ⟨add_sub_cancel_left _ _, by rw [Bin1D.lo_id]; push_cast; ring⟩

/-- distinct bins have no common point (even including their left edges) -/
theorem bins_disjoint {sz o : Rat} {d : Int} {b : Bin1D} (hb : Bin1D.new sz o d = .ok b)
    {j k : Int} (hjk : j ≠ k) :
    ¬ ∃ x, (b.lo id j ≤ x ∧ x < b.hi id j) ∧ (b.lo id k ≤ x ∧ x < b.hi id k) := by
  rintro ⟨x, h1, h2⟩
  exact hjk (((bin_mem hb x j).mpr h1).symm.trans ((bin_mem hb x k).mpr h2))

/-- `from_sample_bin(idx, (x0, x1), dir)`: accepted iff `x0 < x1` (for a legal direction); the sample
    interval is bin `idx` of the result. -/
theorem from_sample_bin_sample (idx : Int) (x0 x1 : Rat) {d : Int} (hd : d = 1 ∨ d = -1) :
    (x0 < x1 → ∃ b, Bin1D.fromSampleBin id idx x0 x1 d = .ok b ∧ b.lo id idx = x0 ∧ b.hi id idx = x1
        ∧ b.dir = d) ∧
    (¬ x0 < x1 → Bin1D.fromSampleBin id idx x0 x1 d = .error .assertion) := by
  refine ⟨fun hx => ⟨_, Bin1D.fromSampleBin_ok hd hx, ?_, ?_, rfl⟩, Bin1D.fromSampleBin_err⟩
  · rw [Bin1D.lo_id]; ring
  · rw [Bin1D.hi_id]; ring

/-- a binning rebuilt from any one of its bins is the same binning -/
theorem from_sample_bin_roundtrip {sz o : Rat} {d : Int} {b : Bin1D} (hb : Bin1D.new sz o d = .ok b)
    (j : Int) : Bin1D.fromSampleBin id j (b.lo id j) (b.hi id j) b.dir = .ok b := by
  have w := (Bin1D.new_ok hb).2
  rw [Bin1D.fromSampleBin_ok w.dir (Bin1D.lo_lt_hi b w j), Bin1D.rebuild_eq]

example : ∃ b, Bin1D.new (5 / 2) (-3) (-1) = .ok b :=
  (bin1d_new_ok_iff _ _ _).mpr ⟨by norm_num, Or.inr rfl⟩

section grid
variable {ny nx : Int} {rx ry ox oy : Rat} {fx fy : Bool} {g : GridSpec}

/-- `GridSpec(shape=(ny,nx), resolution=(rx,ry), origin, flips)` is accepted iff both tile sizes
    `nx·|rx|`, `ny·|ry|` are positive (otherwise `AssertionError` from `Bin1D`). -/
theorem gridspec_new_ok_iff (ny nx : Int) (rx ry ox oy : Rat) (fx fy : Bool) :
    (∃ g, GridSpec.new id ny nx rx ry ox oy fx fy = .ok g) ↔
      0 < (nx : Rat) * rabs rx ∧ 0 < (ny : Rat) * rabs ry :=
  ⟨fun ⟨_, h⟩ => by obtain ⟨rfl, w⟩ := GridSpec.new_ok h; exact ⟨w.x.sz_pos, w.y.sz_pos⟩,
    fun h => ⟨_, GridSpec.new_eq_ok ox oy fx fy h.1 h.2⟩⟩

/-- tile size = shape × |resolution|; bins carry the origin and the direction chosen by the flip flags -/
theorem gridspec_new_fields (hg : GridSpec.new id ny nx rx ry ox oy fx fy = .ok g) :
    g.ny = ny ∧ g.nx = nx ∧ g.rx = rx ∧ g.ry = ry ∧
    g.xbin = ⟨(nx : Rat) * rabs rx, ox, if fx then -1 else 1⟩ ∧
    g.ybin = ⟨(ny : Rat) * rabs ry, oy, if fy then -1 else 1⟩ := by
  obtain ⟨rfl, _⟩ := GridSpec.new_ok hg
  exact ⟨rfl, rfl, rfl, rfl, rfl, rfl⟩

/-- Each tile's GeoBox has the specified shape and the specified *signed* resolution, is axis aligned,
    and its footprint is exactly the rectangle `xbin[ix] × ybin[iy]` — for all four sign combinations
    of the resolution and all four flip combinations. -/
theorem tile_geobox_shape_res (hg : GridSpec.new id ny nx rx ry ox oy fx fy = .ok g) (k : Int × Int) :
    (g.tileGeobox id k).ny = ny ∧ (g.tileGeobox id k).nx = nx ∧
    (g.tileGeobox id k).aff.a = rx ∧ (g.tileGeobox id k).aff.b = 0 ∧
    (g.tileGeobox id k).aff.d = 0 ∧ (g.tileGeobox id k).aff.e = ry ∧
    (g.tileGeobox id k).bbox id
      = ⟨g.xbin.lo id k.1, g.ybin.lo id k.2, g.xbin.hi id k.1, g.ybin.hi id k.2⟩ ∧
    ((g.tileGeobox id k).bbox id).right - ((g.tileGeobox id k).bbox id).left = (nx : Rat) * rabs rx ∧
    ((g.tileGeobox id k).bbox id).top - ((g.tileGeobox id k).bbox id).bottom = (ny : Rat) * rabs ry := by
  obtain ⟨rfl, w⟩ := GridSpec.new_ok hg
  rw [show GeoBox.bbox id _ = GridSpec.footprint _ k from rfl, GridSpec.footprint_eq _ w k]
  exact ⟨rfl, rfl, rfl, rfl, rfl, rfl, rfl, add_sub_cancel_left _ _, add_sub_cancel_left _ _⟩

/-- the bounding box of a tile is its footprint as a point set: the image of the pixel rectangle
    `[0,nx]×[0,ny]` under the tile's pixel→world affine is exactly the closed bin rectangle -/
theorem tile_footprint_is_image (hg : GridSpec.new id ny nx rx ry ox oy fx fy = .ok g) (k : Int × Int)
    (p : Rat × Rat) : (g.tileGeobox id k).covers p ↔ (g.footprint k).memClosed p := by
  have h := (GridSpec.new_ok hg).2
  rw [GridSpec.footprint_eq g h]
  have hx := GridSpec.axis_image g.xbin h.x h.szx k.1 p.1
  have hy := GridSpec.axis_image g.ybin h.y h.szy k.2 p.2
  unfold GeoBox.covers BBox.memClosed GridSpec.tileGeobox GridSpec.tileTxy Aff.apply
  simp only [zero_mul, add_zero, zero_add]
  rw [← and_assoc, ← hx, ← hy]
  exact ⟨fun ⟨u, v, a, b, c, d, e⟩ => ⟨⟨u, a, b, congrArg Prod.fst e⟩, v, c, d, congrArg Prod.snd e⟩,
    fun ⟨⟨u, a, b, e1⟩, v, c, d, e2⟩ => ⟨u, v, a, b, c, d, Prod.ext e1 e2⟩⟩

/-- a point lies in tile `k` (left/bottom edges included, right/top excluded) iff `pt2idx` returns `k` -/
theorem pt_tile_unique (hg : GridSpec.new id ny nx rx ry ox oy fx fy = .ok g) (x y : Rat) (k : Int × Int) :
    (g.footprint k).memHalfOpen (x, y) ↔ g.pt2idx id x y = k := by
  obtain ⟨_, w⟩ := GridSpec.new_ok hg
  rw [GridSpec.footprint_eq g w]
  unfold BBox.memHalfOpen GridSpec.pt2idx
  rw [← and_assoc, ← Bin1D.bin_eq_iff g.xbin w.x x k.1, ← Bin1D.bin_eq_iff g.ybin w.y y k.2]
  exact (Prod.ext_iff (x := (g.xbin.bin id x, g.ybin.bin id y))).symm

theorem pt_in_its_tile (hg : GridSpec.new id ny nx rx ry ox oy fx fy = .ok g) (x y : Rat) :
    (g.footprint (g.pt2idx id x y)).memHalfOpen (x, y) :=
  (pt_tile_unique hg x y _).mpr rfl

/-- the half-open tiles partition the plane: no gaps, no overlaps -/
theorem tiles_partition_plane (hg : GridSpec.new id ny nx rx ry ox oy fx fy = .ok g) (p : Rat × Rat) :
    ∃! k : Int × Int, (g.footprint k).memHalfOpen p :=
  ⟨g.pt2idx id p.1 p.2, pt_in_its_tile hg p.1 p.2, fun k hk => ((pt_tile_unique hg p.1 p.2 k).mp hk).symm⟩

/-- tile footprints with distinct indices have disjoint interiors -/
theorem tiles_disjoint_interiors (hg : GridSpec.new id ny nx rx ry ox oy fx fy = .ok g)
    {k k' : Int × Int} (hk : k ≠ k') :
    ¬ ∃ p, (g.footprint k).memInterior p ∧ (g.footprint k').memInterior p := by
  rintro ⟨p, ⟨a1, a2, a3, a4⟩, ⟨b1, b2, b3, b4⟩⟩
  have h1 := (pt_tile_unique hg p.1 p.2 k).mp ⟨a1.le, a2, a3.le, a4⟩
  have h2 := (pt_tile_unique hg p.1 p.2 k').mp ⟨b1.le, b2, b3.le, b4⟩
  exact hk (h1.symm.trans h2)

/-- neighbouring tiles share their common edge exactly: the next tile in x index direction starts where
    this one ends and spans the same y interval; likewise in y. -/
theorem neighbours_share_edge (hg : GridSpec.new id ny nx rx ry ox oy fx fy = .ok g) (ix iy : Int) :
    (g.footprint (ix + g.xbin.dir, iy)).left = (g.footprint (ix, iy)).right ∧
    (g.footprint (ix + g.xbin.dir, iy)).bottom = (g.footprint (ix, iy)).bottom ∧
    (g.footprint (ix + g.xbin.dir, iy)).top = (g.footprint (ix, iy)).top ∧
    (g.footprint (ix, iy + g.ybin.dir)).bottom = (g.footprint (ix, iy)).top ∧
    (g.footprint (ix, iy + g.ybin.dir)).left = (g.footprint (ix, iy)).left ∧
    (g.footprint (ix, iy + g.ybin.dir)).right = (g.footprint (ix, iy)).right := by
  obtain ⟨_, w⟩ := GridSpec.new_ok hg
  simp only [GridSpec.footprint_eq g w]
  exact ⟨(Bin1D.hi_eq_lo_next g.xbin w.x ix).symm, trivial, trivial,
    (Bin1D.hi_eq_lo_next g.ybin w.y iy).symm, trivial, trivial⟩

/-- Exact characterisation of `idx_bounds` for *every* query box and tolerance (ends in any order):
    tile `k` is in the returned index rectangle iff its half-open footprint meets the rectangle spanned
    by the two probe points `(left+tol, bottom+tol)` and `(right−tol, top−tol)`. -/
theorem idx_bounds_general (hg : GridSpec.new id ny nx rx ry ox oy fx fy = .ok g) (tol : Rat) (q : BBox)
    (k : Int × Int) :
    inRange (g.idxBounds id tol q) k ↔
      ∃ p : Rat × Rat,
        min (q.left + tol) (q.right - tol) ≤ p.1 ∧ p.1 ≤ max (q.left + tol) (q.right - tol) ∧
        min (q.bottom + tol) (q.top - tol) ≤ p.2 ∧ p.2 ≤ max (q.bottom + tol) (q.top - tol) ∧
        (g.footprint k).memHalfOpen p := by
  obtain ⟨_, w⟩ := GridSpec.new_ok hg
  rw [GridSpec.footprint_eq g w]
  have X := Bin1D.range_iff g.xbin w.x (q.left + tol) (q.right - tol) k.1
  have Y := Bin1D.range_iff g.ybin w.y (q.bottom + tol) (q.top - tol) k.2
  unfold inRange GridSpec.idxBounds GridSpec.pt2idx BBox.memHalfOpen
  simp only [id]
  rw [← and_assoc, X, Y]
  exact ⟨fun ⟨⟨x, a, b, c, d⟩, y, e, f, g, h⟩ => ⟨(x, y), a, b, e, f, c, d, g, h⟩,
    fun ⟨p, a, b, e, f, c, d, g, h⟩ => ⟨⟨p.1, a, b, c, d⟩, p.2, e, f, g, h⟩⟩

/-- `idx_bounds_exact`: for a query at least `2·tol` wide and high, tile `k` is in the returned range
    iff its footprint overlaps the query shrunk by `tol` on every side.  (The hypotheses are needed:
    see `idx_bounds_exact_thin_cex`.)  The tile is half-open, hence a tile whose *left/bottom* edge is
    exactly `tol` inside the query's right/top edge is returned while a tile whose right/top edge is
    exactly `tol` inside the query's left/bottom edge is not. -/
theorem idx_bounds_exact (hg : GridSpec.new id ny nx rx ry ox oy fx fy = .ok g) (tol : Rat) (q : BBox)
    (hx : q.left + tol ≤ q.right - tol) (hy : q.bottom + tol ≤ q.top - tol) (k : Int × Int) :
    inRange (g.idxBounds id tol q) k ↔
      ∃ p : Rat × Rat, q.left + tol ≤ p.1 ∧ p.1 ≤ q.right - tol ∧ q.bottom + tol ≤ p.2 ∧ p.2 ≤ q.top - tol ∧
        (g.footprint k).memHalfOpen p := by
  rw [idx_bounds_general hg, min_eq_left hx, max_eq_right hx, min_eq_left hy, max_eq_right hy]

/-- For every (also degenerate) query `left ≤ right`, `bottom ≤ top` and `tol ≥ 0`: a returned tile
    contains a point within `tol` of the query box — nothing farther than `tol` is ever returned. -/
theorem idx_bounds_sound (hg : GridSpec.new id ny nx rx ry ox oy fx fy = .ok g) {tol : Rat} (ht : 0 ≤ tol)
    (q : BBox) (hx : q.left ≤ q.right) (hy : q.bottom ≤ q.top) (k : Int × Int)
    (hk : inRange (g.idxBounds id tol q) k) :
    ∃ p : Rat × Rat, q.left - tol ≤ p.1 ∧ p.1 ≤ q.right + tol ∧ q.bottom - tol ≤ p.2 ∧ p.2 ≤ q.top + tol ∧
      (g.footprint k).memHalfOpen p := by
  obtain ⟨p, h1, h2, h3, h4, h5⟩ := (idx_bounds_general hg tol q k).mp hk
  obtain ⟨x1, x2⟩ := probe_span ht hx
  obtain ⟨y1, y2⟩ := probe_span ht hy
  exact ⟨p, x1.trans h1, h2.trans x2, y1.trans h3, h4.trans y2, h5⟩

/-- the returned index rectangle is never empty (also for zero-area queries) -/
theorem idx_bounds_nonempty (g : GridSpec) (tol : Rat) (q : BBox) :
    (g.idxBounds id tol q).1 < (g.idxBounds id tol q).2.2.1 ∧
    (g.idxBounds id tol q).2.1 < (g.idxBounds id tol q).2.2.2 := by
  unfold GridSpec.idxBounds
  simp only
  omega

/-- `tiles(bounds)` enumerates exactly the index rectangle of `idx_bounds` -/
theorem tiles_mem (g : GridSpec) (tol : Rat) (q : BBox) (k : Int × Int) :
    k ∈ g.tiles id tol q ↔ inRange (g.idxBounds id tol q) k := by
  unfold GridSpec.tiles inRange
  simp only [List.mem_flatMap, List.mem_map, mem_rangeI]
  constructor
  · rintro ⟨iy, ⟨h1, h2⟩, ix, ⟨h3, h4⟩, rfl⟩
    exact ⟨h3, h4, h1, h2⟩
  · rintro ⟨h1, h2, h3, h4⟩
    exact ⟨k.2, ⟨h3, h4⟩, k.1, ⟨h1, h2⟩, rfl⟩

theorem tiles_nodup (g : GridSpec) (tol : Rat) (q : BBox) : (g.tiles id tol q).Nodup :=
  g.scan_nodup id tol q

/-- the tile of every point of the rectangle spanned by the two probe points is returned -/
theorem tiles_of_probe_point (hg : GridSpec.new id ny nx rx ry ox oy fx fy = .ok g) (tol : Rat) (q : BBox) {x y : Rat}
    (hx : min (q.left + tol) (q.right - tol) ≤ x ∧ x ≤ max (q.left + tol) (q.right - tol))
    (hy : min (q.bottom + tol) (q.top - tol) ≤ y ∧ y ≤ max (q.bottom + tol) (q.top - tol)) :
    g.pt2idx id x y ∈ g.tiles id tol q :=
  (tiles_mem g tol q _).mpr
    ((idx_bounds_general hg tol q _).mpr ⟨(x, y), hx.1, hx.2, hy.1, hy.2, pt_in_its_tile hg x y⟩)

/-- a query whose two probe points are looked up as the same tile returns exactly that tile -/
theorem tiles_iff_of_probes (g : GridSpec) {tol : Rat} {q : BBox} {k : Int × Int}
    (h1 : g.pt2idx id (q.left + tol) (q.bottom + tol) = k) (h2 : g.pt2idx id (q.right - tol) (q.top - tol) = k)
    (k' : Int × Int) : k' ∈ g.tiles id tol q ↔ k' = k := by
  rw [tiles_mem]
  unfold inRange GridSpec.idxBounds
  simp only [id, h1, h2, min_self, max_self, Prod.ext_iff]
  omega

/-- bounding-box query: returns exactly the tiles overlapping the query shrunk by the tolerance -/
theorem bbox_query_exact (hg : GridSpec.new id ny nx rx ry ox oy fx fy = .ok g) (tol : Rat) (q : BBox)
    (hx : q.left + tol ≤ q.right - tol) (hy : q.bottom + tol ≤ q.top - tol) (k : Int × Int) :
    k ∈ g.tiles id tol q ↔
      ∃ p : Rat × Rat, q.left + tol ≤ p.1 ∧ p.1 ≤ q.right - tol ∧ q.bottom + tol ≤ p.2 ∧ p.2 ≤ q.top - tol ∧
        (g.footprint k).memHalfOpen p := by
  rw [tiles_mem, idx_bounds_exact hg tol q hx hy]

/-- `tiles_from_geopolygon` = tiles of the polygon's bounding box, minus those whose footprint the
    `disjoint` test (shapely) reports as disjoint from the polygon -/
theorem polygon_query_filter (g : GridSpec) (tol : Rat) (q : BBox) (dj : GeoBox → Bool) (k : Int × Int) :
    k ∈ g.tilesFromPolygon id tol q dj ↔ k ∈ g.tiles id tol q ∧ dj (g.tileGeobox id k) = false := by
  unfold GridSpec.tilesFromPolygon
  simp [List.mem_filter]

/-- Under the contract of `disjoint` (true iff no polygon point lies in the closed footprint) the polygon query is sound
    and complete: a tile is returned iff it is in the scan of the polygon's bounding box and its closed footprint
    contains a point of the polygon. -/
theorem polygon_query_iff (hg : GridSpec.new id ny nx rx ry ox oy fx fy = .ok g) (tol : Rat) (q : BBox)
    (poly : Rat × Rat → Prop) (dj : GeoBox → Bool)
    (hdj : ∀ gb, dj gb = true ↔ ¬ ∃ p, poly p ∧ gb.covers p) (k : Int × Int) :
    k ∈ g.tilesFromPolygon id tol q dj ↔ k ∈ g.tiles id tol q ∧ ∃ p, poly p ∧ (g.footprint k).memClosed p := by
  rw [polygon_query_filter, ← Bool.not_eq_true, hdj, not_not]
  simp only [tile_footprint_is_image hg]

/-- in particular, for a polygon with bounding box `q` at least `2·tol` wide and high, the tile of every polygon point
    that is at least `tol` away from the edges of `q` is returned -/
theorem polygon_query_complete (hg : GridSpec.new id ny nx rx ry ox oy fx fy = .ok g) (tol : Rat) (q : BBox)
    (poly : Rat × Rat → Prop) (dj : GeoBox → Bool)
    (hdj : ∀ gb, dj gb = true ↔ ¬ ∃ p, poly p ∧ gb.covers p)
    (hx : q.left + tol ≤ q.right - tol) (hy : q.bottom + tol ≤ q.top - tol)
    (p : Rat × Rat) (hp : poly p)
    (hin : q.left + tol ≤ p.1 ∧ p.1 ≤ q.right - tol ∧ q.bottom + tol ≤ p.2 ∧ p.2 ≤ q.top - tol) :
    g.pt2idx id p.1 p.2 ∈ g.tilesFromPolygon id tol q dj := by
  obtain ⟨a, b, c, d⟩ := pt_in_its_tile hg p.1 p.2
  rw [polygon_query_iff hg tol q poly dj hdj, bbox_query_exact hg tol q hx hy]
  exact ⟨⟨p, hin.1, hin.2.1, hin.2.2.1, hin.2.2.2, a, b, c, d⟩, p, hp, a, b.le, c, d.le⟩

/-- "edge contacts excluded": querying with the exact footprint of tile `k` (any `0 < tol`,
    `2·tol ≤` tile size) returns tile `k` and none of its eight neighbours. -/
theorem edge_contact_excluded (hg : GridSpec.new id ny nx rx ry ox oy fx fy = .ok g) {tol : Rat}
    (ht : 0 < tol) (hsx : 2 * tol ≤ (nx : Rat) * rabs rx) (hsy : 2 * tol ≤ (ny : Rat) * rabs ry)
    (k k' : Int × Int) : k' ∈ g.tiles id tol (g.footprint k) ↔ k' = k := by
  obtain ⟨e, w⟩ := GridSpec.new_ok hg
  obtain ⟨x1, x2⟩ := g.xbin.bin_inside w.x ht (by rw [e]; exact hsx) k.1
  obtain ⟨y1, y2⟩ := g.ybin.bin_inside w.y ht (by rw [e]; exact hsy) k.2
  rw [GridSpec.footprint_eq g w]
  -- `refine`, so that the goal fixes the query box before the two lookups are compared (the other way round the
  -- unifier unfolds the bin edges looking for it)
  refine tiles_iff_of_probes g ?_ ?_ k'
  · exact congrArg₂ Prod.mk x1 y1
  · exact congrArg₂ Prod.mk x2 y2

/-- The design statement `idx_bounds_exact` without the "query at least `2·tol` wide" hypothesis is
    FALSE for the code: for the 5×5-unit grid and the zero-width query `x = 5 + 2⁻²⁸`, `1 ≤ y ≤ 2`
    (inside tile (1,0), 3.7e-9 away from tile (0,0)) the code (tolerance `1e-8`) also returns tile
    (0,0), whose closed footprint has no point in common with the query.  (Replayed on the real code by
    the harness: `idx_bounds` gives `(0, 0, 2, 1)`.)  Thin queries are *widened* by the sorting of the
    two probe points, never dropped; `idx_bounds_sound` bounds the excess by `tol`. -/
theorem idx_bounds_exact_thin_cex :
    ∃ (g : GridSpec) (q : BBox) (k : Int × Int),
      GridSpec.new id 10 10 (1 / 2) (-1 / 2) 0 0 false false = .ok g ∧
      q.left ≤ q.right ∧ q.bottom ≤ q.top ∧
      inRange (g.idxBounds id tol8 q) k ∧ ¬ ∃ p, q.memClosed p ∧ (g.footprint k).memClosed p := by
  have hg := GridSpec.new_eq_ok (ny := 10) (nx := 10) (rx := 1 / 2) (ry := -1 / 2) 0 0 false false
    (by norm_num [rabs]) (by norm_num [rabs])
  have w := (GridSpec.new_ok hg).2
  refine ⟨_, ⟨5 + 1 / 2 ^ 28, 1, 5 + 1 / 2 ^ 28, 2⟩, (0, 0), hg, le_refl _, by norm_num, ?_, ?_⟩
  · unfold inRange  -- `idx_bounds` of this query evaluates to `(0, 0, 2, 1)`
    decide +kernel
  · rintro ⟨p, ⟨h1, _, _, _⟩, ⟨_, h2, _, _⟩⟩
    rw [GridSpec.footprint_eq _ w] at h2
    simp only [Bin1D.hi_id, dirOf, rabs] at h1 h2
    norm_num at h1 h2
    linarith

/-- a grid built from a sample tile has that tile (footprint, shape) at the given index, index
    directions as requested, and the conventional resolution signs (x positive, y negative) -/
theorem from_sample_tile_sample (q : BBox) {ny nx : Int} (ix iy : Int) (fx fy : Bool)
    (hx : q.left < q.right) (hy : q.bottom < q.top) (hnx : 0 < nx) (hny : 0 < ny) :
    ∃ g', GridSpec.fromSampleTile id q ny nx ix iy fx fy = .ok g' ∧
      g'.footprint (ix, iy) = q ∧ g'.ny = ny ∧ g'.nx = nx ∧
      g'.xbin.dir = (if fx then -1 else 1) ∧ g'.ybin.dir = (if fy then -1 else 1) ∧
      g'.rx = (q.right - q.left) / (nx : Rat) ∧ g'.ry = -(q.top - q.bottom) / (ny : Rat) := by
  obtain ⟨g', h, w, h1, h2, h3, h4, h5, h6⟩ := GridSpec.fromSampleTile_spec ix iy fx fy hx hy hnx hny
  refine ⟨g', h, ?_, h1, h2, by rw [h5]; rfl, by rw [h6]; rfl, h3, h4⟩
  rw [GridSpec.footprint_eq g' w, h5, h6]
  simp only [Bin1D.lo_id, Bin1D.hi_id]
  obtain ⟨l, b, r, t⟩ := q
  simp only [BBox.mk.injEq]
  refine ⟨?_, ?_, ?_, ?_⟩ <;> ring

/-- `from_sample_tile`: the `(-1, -1)` shape sentinel raises `ValueError`; otherwise a sample box that is not `left < right`
    raises `AssertionError` -/
theorem from_sample_tile_rejects (q : BBox) (ny nx ix iy : Int) (fx fy : Bool) :
    ((ny = -1 ∧ nx = -1) → GridSpec.fromSampleTile id q ny nx ix iy fx fy = .error .valueError) ∧
    (¬ (ny = -1 ∧ nx = -1) → ¬ q.left < q.right →
      GridSpec.fromSampleTile id q ny nx ix iy fx fy = .error .assertion) := by
  simp only [GridSpec.fromSampleTile_eq_core]
  exact ⟨fun h => if_pos h, fun h hx => (if_neg h).trans (GridSpec.fromSampleTileCore_err_x ny nx ix iy fx fy hx)⟩

/-- `from_sample_roundtrip`: a grid rebuilt from ANY one of its tiles (footprint, index, shape, flip
    flags) has the same footprint for every index and the same point lookup — although its resolution
    signs are normalised to (+x, −y), whatever the signs of the original were. -/
theorem from_sample_roundtrip (hg : GridSpec.new id ny nx rx ry ox oy fx fy = .ok g) (j : Int × Int) :
    ∃ g', GridSpec.fromSampleTile id (g.footprint j) ny nx j.1 j.2 fx fy = .ok g' ∧
      (∀ k, g'.footprint k = g.footprint k) ∧ (∀ x y, g'.pt2idx id x y = g.pt2idx id x y) ∧
      g'.ny = ny ∧ g'.nx = nx ∧ g'.rx = rabs rx ∧ g'.ry = -rabs ry := by
  obtain ⟨e, w⟩ := GridSpec.new_ok hg
  obtain ⟨hnx, hny, _, _⟩ := GridSpec.new_pos hg
  have hfj := GridSpec.footprint_eq g w j
  obtain ⟨g', h, w', h1, h2, h3, h4, h5, h6⟩ :=
    GridSpec.fromSampleTile_spec (q := g.footprint j) (ny := ny) (nx := nx) j.1 j.2 fx fy
      (by rw [hfj]; exact Bin1D.lo_lt_hi _ w.x _) (by rw [hfj]; exact Bin1D.lo_lt_hi _ w.y _) hnx hny
  -- the two rebuilt binnings are the original ones
  have bx : g'.xbin = g.xbin := by
    rw [h5, hfj, show dirOf fx = g.xbin.dir by rw [e]]; exact Bin1D.rebuild_eq g.xbin j.1
  have by' : g'.ybin = g.ybin := by
    rw [h6, hfj, show dirOf fy = g.ybin.dir by rw [e]]; exact Bin1D.rebuild_eq g.ybin j.2
  refine ⟨g', h, fun k => ?_, fun x y => ?_, h1, h2, ?_, ?_⟩
  · rw [GridSpec.footprint_eq g' w', GridSpec.footprint_eq g w, bx, by']
  · unfold GridSpec.pt2idx
    rw [bx, by']
  · rw [h3, hfj]
    simp only [Bin1D.hi_eq_lo_add, add_sub_cancel_left]
    rw [w.szx, e]
    exact mul_div_cancel_left₀ _ (Int.cast_ne_zero.mpr hnx.ne')
  · rw [h4, hfj]
    simp only [Bin1D.hi_eq_lo_add, add_sub_cancel_left]
    rw [w.szy, e, neg_div]
    exact congrArg Neg.neg (mul_div_cancel_left₀ _ (Int.cast_ne_zero.mpr hny.ne'))

end grid


section web
variable {P : Rat} {npix : Int} {g : GridSpec}

/-- `web_tile_extent`: tile `(i, j)` at zoom `z` has exactly the slippy-map extent
    `x ∈ [-P + i·T, -P + (i+1)·T]`, `y ∈ [P - (j+1)·T, P - j·T]`, `T = 2P / 2^z`; pixel size `T / npix`
    (x positive, y negative). -/
theorem web_tile_extent (hP : 0 < P) (z : Nat) (hn : 0 < npix)
    (hg : GridSpec.webTiles id P (z : Int) npix = .ok g) (i j : Int) :
    g.footprint (i, j) =
      ⟨-P + (i : Rat) * (2 * P / 2 ^ z), P - ((j : Rat) + 1) * (2 * P / 2 ^ z),
       -P + ((i : Rat) + 1) * (2 * P / 2 ^ z), P - (j : Rat) * (2 * P / 2 ^ z)⟩ ∧
    g.ny = npix ∧ g.nx = npix ∧
    g.rx = 2 * P / 2 ^ z / (npix : Rat) ∧ g.ry = -(2 * P / 2 ^ z) / (npix : Rat) := by
  have hT : P * pow2 (1 - (z : Int)) = 2 * P / 2 ^ z := by rw [pow2_sub, pow2_nat, pow2_eq_zpow, zpow_one]; ring
  have ht : 0 < 2 * P / 2 ^ z := by positivity
  rw [GridSpec.webTiles_eq_new hP _ hn, hT] at hg
  obtain ⟨rfl, w⟩ := GridSpec.new_ok hg
  refine ⟨?_, rfl, rfl, rfl, rfl⟩
  rw [GridSpec.footprint_eq _ w]
  simp only [Bin1D.hi_id, Bin1D.lo_id, GridSpec.mul_rabs_div hn ht, GridSpec.mul_rabs_neg_div hn ht, dirOf,
    Bool.false_eq_true, if_false, if_true]
  push_cast
  refine BBox.mk.injEq .. |>.mpr ⟨?_, ?_, ?_, ?_⟩ <;> ring

/-- `web_tiles_count`: the tiles lying inside the world square `[-P, P]²` are exactly those with both
    indices in `[0, 2^z)` — `2^z` tiles per side (together with `tiles_partition_plane` they tile the
    square without gaps or overlaps). -/
theorem web_tiles_count (hP : 0 < P) (z : Nat) (hn : 0 < npix)
    (hg : GridSpec.webTiles id P (z : Int) npix = .ok g) (i j : Int) :
    (0 ≤ i ∧ i < 2 ^ z ∧ 0 ≤ j ∧ j < 2 ^ z) ↔
      (-P ≤ (g.footprint (i, j)).left ∧ (g.footprint (i, j)).right ≤ P ∧
       -P ≤ (g.footprint (i, j)).bottom ∧ (g.footprint (i, j)).top ≤ P) := by
  have hT : 0 < 2 * P / 2 ^ z := by positivity
  have key : P + P = ((2 ^ z : Int) : Rat) * (2 * P / 2 ^ z) := by push_cast; field_simp; ring
  have e : ∀ n : Int, (n : Rat) + 1 = ((n + 1 : Int) : Rat) := fun n => by push_cast; rfl
  rw [(web_tile_extent hP z hn hg i j).1]
  simp only
  -- each of the four conditions compares two whole numbers of tiles; the world square is `2^z` tiles wide
  rw [le_add_iff_nonneg_right, neg_add_le_iff_le_add, le_sub_iff_add_le, neg_add_le_iff_le_add, sub_le_self_iff, key, e, e,
    mul_le_mul_iff_of_pos_right hT, mul_le_mul_iff_of_pos_right hT, Int.cast_le, Int.cast_le,
    mul_nonneg_iff_of_pos_right hT, mul_nonneg_iff_of_pos_right hT, Int.cast_nonneg_iff, Int.cast_nonneg_iff]
  omega

example : ∃ g, GridSpec.webTiles id 3 (2 : Nat) 256 = .ok g :=
  GridSpec.webTiles_isOk (by norm_num) _ (by norm_num)

end web


/-- a bounding box in a foreign CRS is rejected (`AssertionError`), never silently reinterpreted or converted
    through its four corners; with the grid's own CRS the guard is transparent -/
theorem idx_bounds_crs_guard (fl : Rnd) (tol : Rat) (g : GridSpec) (q : BBox) :
    g.idxBoundsChecked fl tol false q = .error .assertion ∧ g.tilesChecked fl tol false q = .error .assertion ∧
    g.idxBoundsChecked fl tol true q = .ok (g.idxBounds fl tol q) ∧
    g.tilesChecked fl tol true q = .ok (g.tiles fl tol q) :=
  ⟨rfl, rfl, rfl, rfl⟩

section cache
variable (fl : Rnd) (tol : Rat) (g : GridSpec)

theorem cache_empty_coherent : g.Coherent fl [] := by
  intro k gb h; simp at h

/-- `tiles(bounds, cache)` with a coherent cache yields exactly what the cache-less call yields (same
    indices in the same order, each with the geobox of its index); afterwards the cache is still coherent
    and holds exactly the old keys plus every tile of the query. -/
theorem tiles_cache_transparent (q : BBox) (c : Cache) (hc : g.Coherent fl c) :
    (g.tilesC fl tol q c).1 = (g.tiles fl tol q).map (fun k => (k, g.tileGeobox fl k)) ∧
    g.Coherent fl (g.tilesC fl tol q c).2 ∧
    ∀ k, ((g.tilesC fl tol q c).2.lookup k).isSome ↔ ((c.lookup k).isSome ∨ k ∈ g.tiles fl tol q) :=
  GridSpec.tilesGo_spec fl g _ c hc

/-- `polygon_query_cache_independent`: with a coherent cache — in particular one filled by ANY earlier
    history of bbox / polygon queries on this grid — the polygon query returns exactly the tiles the
    cache-less query returns (cached tiles are still tested against the polygon); the cache stays coherent and
    afterwards holds the old keys plus every tile of the polygon's bounding box (also the filtered-out ones). -/
theorem polygon_query_cache_independent (q : BBox) (dj : GeoBox → Bool) (c : Cache) (hc : g.Coherent fl c) :
    (g.tilesFromPolygonC fl tol q dj c).1.map (·.1) = g.tilesFromPolygon fl tol q dj ∧
    (∀ e ∈ (g.tilesFromPolygonC fl tol q dj c).1, e.2 = g.tileGeobox fl e.1) ∧
    g.Coherent fl (g.tilesFromPolygonC fl tol q dj c).2 ∧
    ∀ k, ((g.tilesFromPolygonC fl tol q dj c).2.lookup k).isSome ↔
      ((c.lookup k).isSome ∨ k ∈ g.tiles fl tol q) := by
  obtain ⟨h1, h2, h3⟩ := tiles_cache_transparent fl tol g q c hc
  unfold GridSpec.tilesFromPolygonC GridSpec.tilesFromPolygon
  simp only
  rw [h1]
  refine ⟨?_, ?_, h2, h3⟩
  · rw [List.filter_map, List.map_map]
    simp [Function.comp_def]
  · intro e he
    rw [List.mem_filter, List.mem_map] at he
    obtain ⟨⟨k, _, rfl⟩, _⟩ := he
    rfl

end cache

section queries
variable {ny nx : Int} {rx ry ox oy : Rat} {fx fy : Bool} {g : GridSpec}

/-- For EVERY query box and tolerance (also zero width / height, also thinner than the tolerance) the tile
    containing the centre of the box is returned: a bounding-box query is never answered with nothing. -/
theorem bbox_query_returns_centre_tile (hg : GridSpec.new id ny nx rx ry ox oy fx fy = .ok g) (tol : Rat) (q : BBox) :
    g.pt2idx id ((q.left + q.right) / 2) ((q.bottom + q.top) / 2) ∈ g.tiles id tol q :=
  tiles_of_probe_point hg tol q (probe_mid q.left q.right tol) (probe_mid q.bottom q.top tol)

/-- a zero-area query (a point) returns the tile that contains the point -/
theorem zero_area_query_returns_its_tile (hg : GridSpec.new id ny nx rx ry ox oy fx fy = .ok g) (tol x y : Rat) :
    g.pt2idx id x y ∈ g.tiles id tol ⟨x, y, x, y⟩ := by
  have := bbox_query_returns_centre_tile hg tol ⟨x, y, x, y⟩
  simpa using this

/-- a zero-WIDTH query (`left = right = x`, e.g. the bounding box of a north-south line): every tile that contains
    a point `(x, y)` of it with `y` at least `tol` inside the box is returned (and symmetrically for zero height) -/
theorem zero_width_query_returns_tiles (hg : GridSpec.new id ny nx rx ry ox oy fx fy = .ok g) {tol : Rat}
    (ht : 0 ≤ tol) (x y b t : Rat) (hy : b + tol ≤ y ∧ y ≤ t - tol) :
    g.pt2idx id x y ∈ g.tiles id tol ⟨x, b, x, t⟩ ∧ g.pt2idx id y x ∈ g.tiles id tol ⟨b, x, t, x⟩ := by
  have hx : min (x + tol) (x - tol) ≤ x ∧ x ≤ max (x + tol) (x - tol) :=
    ⟨(min_le_right _ _).trans (sub_le_self x ht), (le_add_of_nonneg_right ht).trans (le_max_left _ _)⟩
  have hy' : min (b + tol) (t - tol) ≤ y ∧ y ≤ max (b + tol) (t - tol) :=
    ⟨(min_le_left _ _).trans hy.1, hy.2.trans (le_max_right _ _)⟩
  exact ⟨tiles_of_probe_point hg tol ⟨x, b, x, t⟩ hx hy', tiles_of_probe_point hg tol ⟨b, x, t, x⟩ hy' hx⟩

theorem hull_contains_parts (qs : List BBox) (q : BBox) (hq : hullBBox qs = some q) :
    ∀ p ∈ qs, q.left ≤ p.left ∧ q.bottom ≤ p.bottom ∧ p.right ≤ q.right ∧ p.top ≤ q.top := by
  cases qs with
  | nil => cases hq
  | cons q0 rest =>
    cases hq
    -- the fold only ever widens its accumulator
    induction rest generalizing q0 with
    | nil => intro p hp; rw [List.mem_singleton.mp hp]; exact ⟨le_rfl, le_rfl, le_rfl, le_rfl⟩
    | cons a l ih =>
      have w := ih ⟨min q0.left a.left, min q0.bottom a.bottom, max q0.right a.right, max q0.top a.top⟩
      obtain ⟨w1, w2, w3, w4⟩ := w _ List.mem_cons_self
      intro p hp
      rcases List.mem_cons.mp hp with rfl | hp
      · exact ⟨w1.trans (min_le_left _ _), w2.trans (min_le_left _ _), (le_max_left _ _).trans w3,
          (le_max_left _ _).trans w4⟩
      rcases List.mem_cons.mp hp with rfl | hp
      · exact ⟨w1.trans (min_le_right _ _), w2.trans (min_le_right _ _), (le_max_right _ _).trans w3,
          (le_max_right _ _).trans w4⟩
      · exact w p (List.mem_cons_of_mem _ hp)

/-- `tiles_from_geopolygon` of a multi-part geometry: ONE scan over the bounding box of the whole geometry; a tile
    is returned iff it is in that scan and NOT disjoint from at least one part — whatever the order of the parts —
    and it is returned exactly once.  An empty geometry is rejected (`ValueError`). -/
theorem multipart_query (fl : Rnd) (tol : Rat) (g : GridSpec) (parts : List (BBox × (GeoBox → Bool))) :
    (parts = [] → g.tilesFromMulti fl tol parts = .error .valueError) ∧
    (∀ q, hullBBox (parts.map (·.1)) = some q →
      ∃ l, g.tilesFromMulti fl tol parts = .ok l ∧ l.Nodup ∧
        ∀ k, k ∈ l ↔ (k ∈ g.tiles fl tol q ∧ ∃ p ∈ parts, p.2 (g.tileGeobox fl k) = false)) := by
  constructor
  · rintro rfl; rfl
  · intro q hq
    unfold GridSpec.tilesFromMulti
    rw [hq]
    refine ⟨_, rfl, ?_, fun k => ?_⟩
    · exact List.Nodup.filter _ (g.scan_nodup fl tol q)
    · unfold GridSpec.tilesFromPolygon
      simp only [List.mem_filter, Bool.not_eq_true', List.all_eq_false, Bool.not_eq_true]

/-- Soundness and completeness of the multi-part query under the per-part contract of `disjoint`
    (`P p` is the point set of part `p`): a returned tile's closed footprint contains a point of SOME part; and the
    tile of any point of ANY part lying at least `tol` inside the overall bounding box is returned. -/
theorem multipart_query_sound_complete (hg : GridSpec.new id ny nx rx ry ox oy fx fy = .ok g) (tol : Rat)
    (parts : List (BBox × (GeoBox → Bool))) (P : (BBox × (GeoBox → Bool)) → Rat × Rat → Prop)
    (hdj : ∀ p ∈ parts, ∀ gb, p.2 gb = true ↔ ¬ ∃ pt, P p pt ∧ gb.covers pt)
    (q : BBox) (hq : hullBBox (parts.map (·.1)) = some q) (l : List (Int × Int))
    (hl : g.tilesFromMulti id tol parts = .ok l) :
    (∀ k ∈ l, ∃ p ∈ parts, ∃ pt, P p pt ∧ (g.footprint k).memClosed pt) ∧
    (q.left + tol ≤ q.right - tol → q.bottom + tol ≤ q.top - tol →
      ∀ p ∈ parts, ∀ pt, P p pt →
        q.left + tol ≤ pt.1 ∧ pt.1 ≤ q.right - tol ∧ q.bottom + tol ≤ pt.2 ∧ pt.2 ≤ q.top - tol →
        g.pt2idx id pt.1 pt.2 ∈ l) := by
  have hall : ∀ gb, (parts.all (fun p => p.2 gb)) = true ↔ ¬ ∃ pt, (∃ p ∈ parts, P p pt) ∧ gb.covers pt := by
    intro gb
    rw [List.all_eq_true]
    exact ⟨fun h ⟨pt, ⟨p, hp, hP⟩, hc⟩ => (hdj p hp gb).mp (h p hp) ⟨pt, hP, hc⟩,
      fun h p hp => (hdj p hp gb).mpr fun ⟨pt, hP, hc⟩ => h ⟨pt, ⟨p, hp, hP⟩, hc⟩⟩
  unfold GridSpec.tilesFromMulti at hl
  rw [hq] at hl
  cases hl
  constructor
  · intro k hk
    obtain ⟨_, pt, ⟨p, hp, hP⟩, hc⟩ := (polygon_query_iff hg tol q (fun pt => ∃ p ∈ parts, P p pt) _ hall k).mp hk
    exact ⟨p, hp, pt, hP, hc⟩
  · intro hx hy p hp pt hP hin
    exact polygon_query_complete hg tol q (fun pt => ∃ p ∈ parts, P p pt) _ hall hx hy pt ⟨p, hp, hP⟩ hin

/-- `gs1 == gs2` (same CRS) holds exactly when the two grids have the same tile shape and the same footprint for
    every tile index — equality characterises the TILING. -/
theorem gridspec_eq_iff_same_tiling {ny' nx' : Int} {rx' ry' ox' oy' : Rat} {fx' fy' : Bool} {h : GridSpec}
    (hg : GridSpec.new id ny nx rx ry ox oy fx fy = .ok g)
    (hh : GridSpec.new id ny' nx' rx' ry' ox' oy' fx' fy' = .ok h) :
    g.beq h true = true ↔ (g.ny = h.ny ∧ g.nx = h.nx ∧ ∀ k, g.footprint k = h.footprint k) := by
  obtain ⟨_, wg⟩ := GridSpec.new_ok hg
  obtain ⟨_, wh⟩ := GridSpec.new_ok hh
  unfold GridSpec.beq
  simp only [Bool.and_true, Bool.and_eq_true, decide_eq_true_eq]
  constructor
  · rintro ⟨⟨⟨h1, h2⟩, hy⟩, hx⟩
    refine ⟨h1, h2, fun k => ?_⟩
    rw [GridSpec.footprint_eq g wg, GridSpec.footprint_eq h wh, hx, hy]
  · rintro ⟨h1, h2, hf⟩
    have f0 := hf (0, 0)
    have f1 := hf (1, 1)
    rw [GridSpec.footprint_eq g wg, GridSpec.footprint_eq h wh, BBox.mk.injEq] at f0 f1
    exact ⟨⟨⟨h1, h2⟩, Bin1D.eq_of_bins _ _ wg.y f0.2.1 f0.2.2.2 f1.2.1⟩, Bin1D.eq_of_bins _ _ wg.x f0.1 f0.2.2.1 f1.1⟩

/-- `__eq__` ignores the SIGN of the resolution: `GridSpec((10,10), (0.5,-0.5)) == GridSpec((10,10), (-0.5,-0.5))`
    although their tile GeoBoxes differ (mirrored pixel order).  Replayed on the real code by the harness
    (`a == b` is `True`, `a[0,0] == b[0,0]` is `False`).  Equality is not part of C14's statement; recorded as an
    observation (equal values that behave differently). -/
theorem gridspec_eq_ignores_resolution_sign :
    ∃ g h, GridSpec.new id 10 10 (1 / 2) (-1 / 2) 0 0 false false = .ok g ∧
      GridSpec.new id 10 10 (-1 / 2) (-1 / 2) 0 0 false false = .ok h ∧
      g.beq h true = true ∧ g.tileGeobox id (0, 0) ≠ h.tileGeobox id (0, 0) := by
  have hg := GridSpec.new_eq_ok (ny := 10) (nx := 10) (rx := 1 / 2) (ry := -1 / 2) 0 0 false false
    (by norm_num [rabs]) (by norm_num [rabs])
  have hh := GridSpec.new_eq_ok (ny := 10) (nx := 10) (rx := -1 / 2) (ry := -1 / 2) 0 0 false false
    (by norm_num [rabs]) (by norm_num [rabs])
  exact ⟨_, _, hg, hh, by decide +kernel⟩

/-- `GridSpec.alignment` is defined for every constructed grid, lies in `[0, |res|)` per axis, and is the offset of
    EVERY pixel edge of EVERY tile from the multiples of the pixel size: the left edge of pixel column `c` of tile
    `k` is `n·|rx| + alignment.x` for an integer `n` (same for rows). -/
theorem alignment_spec (hg : GridSpec.new id ny nx rx ry ox oy fx fy = .ok g) :
    ∃ ax ay, g.alignment id = .ok (ax, ay) ∧ 0 ≤ ax ∧ ax < rabs rx ∧ 0 ≤ ay ∧ ay < rabs ry ∧
      (∀ k c : Int, ∃ n : Int, g.xbin.lo id k + (c : Rat) * rabs rx = (n : Rat) * rabs rx + ax) ∧
      (∀ k c : Int, ∃ n : Int, g.ybin.lo id k + (c : Rat) * rabs ry = (n : Rat) * rabs ry + ay) := by
  obtain ⟨_, _, hrx, hry⟩ := GridSpec.new_pos hg
  obtain ⟨rfl, _⟩ := GridSpec.new_ok hg
  obtain ⟨ax, hax, ax0, ax1, nxo, hxo⟩ := pyFloatMod_pos (a := ox) hrx
  obtain ⟨ay, hay, ay0, ay1, nyo, hyo⟩ := pyFloatMod_pos (a := oy) hry
  refine ⟨ax, ay, by simp only [GridSpec.alignment, hay, hax]; rfl, ax0, ax1, ay0, ay1,
    fun k c => ⟨k * nx * dirOf fx + c + nxo, ?_⟩, fun k c => ⟨k * ny * dirOf fy + c + nyo, ?_⟩⟩
  · rw [Bin1D.lo_id]; push_cast; rw [hxo]; ring
  · rw [Bin1D.lo_id]; push_cast; rw [hyo]; ring

/-- `geojson(bbox=…, geopolygon=…)` emits the tiles of the polygon query when a geopolygon is given (the bbox
    argument is then ignored), otherwise those of the bbox query, in query order, each index once. -/
theorem geojson_index_walk (fl : Rnd) (tol : Rat) (g : GridSpec) (q q' : BBox) (dj : GeoBox → Bool) :
    g.geojsonIdx fl tol (some q') (some (q, dj)) = some (g.tilesFromPolygon fl tol q dj) ∧
    g.geojsonIdx fl tol none (some (q, dj)) = some (g.tilesFromPolygon fl tol q dj) ∧
    g.geojsonIdx fl tol (some q) none = some (g.tiles fl tol q) :=
  ⟨rfl, rfl, rfl⟩

/-- the rebuilt grid takes its x tile size / pixel size from the sample's WIDTH and its y tile size / pixel size from
    the sample's HEIGHT, independently (pixels need not be square) -/
theorem from_sample_tile_axes_independent (q : BBox) {ny nx : Int} (ix iy : Int) (fx fy : Bool)
    (hx : q.left < q.right) (hy : q.bottom < q.top) (hnx : 0 < nx) (hny : 0 < ny) :
    ∃ g', GridSpec.fromSampleTile id q ny nx ix iy fx fy = .ok g' ∧
      g'.xbin.sz = q.right - q.left ∧ g'.ybin.sz = q.top - q.bottom ∧
      g'.rx * (nx : Rat) = q.right - q.left ∧ -g'.ry * (ny : Rat) = q.top - q.bottom := by
  obtain ⟨g', h, _, _, _, h3, h4, h5, h6⟩ := GridSpec.fromSampleTile_spec ix iy fx fy hx hy hnx hny
  refine ⟨g', h, by rw [h5], by rw [h6], ?_, ?_⟩
  · rw [h3, div_mul_cancel₀ _ (Int.cast_ne_zero.mpr hnx.ne')]
  · rw [h4, neg_div, neg_neg, div_mul_cancel₀ _ (Int.cast_ne_zero.mpr hny.ne')]

example : ∃ g', GridSpec.fromSampleTile id ⟨0, 0, 12, 5⟩ 10 3 0 0 false false = .ok g' ∧ g'.rx = 4 ∧ g'.ry = -1 / 2 := by
  obtain ⟨g', h, _, _, _, _, _, h7, h8⟩ := from_sample_tile_sample ⟨0, 0, 12, 5⟩ (ny := 10) (nx := 3) 0 0 false false
    (by norm_num) (by norm_num) (by norm_num) (by norm_num)
  exact ⟨g', h, by rw [h7]; norm_num, by rw [h8]; norm_num⟩

end queries

/-! ## E-mode ↔ F-mode: the exact theorems transfer to any rounding function that leaves the intermediates alone

`fl` is arbitrary (in particular binary64 `fl64`).  Each lemma lists exactly the intermediate values of the
corresponding Python expression; if `fl` fixes them (they are representable), the rounded model coincides with the
exact one, hence every theorem above applies verbatim to what the real code computes in doubles.  A general
representability criterion for `fl64` (`fl64 (m·2^e) = m·2^e` for `|m| < 2^53`) is NOT proved: `Props/C14Fl.lean` proves
the integer case `e = 0`, `Props/C14Band.lean` … `C14Band3.lean` replace representability of the lookups by an explicit
exclusion band; representability of other concrete values is discharged by kernel evaluation (examples below) and
checked for whole input streams by the harness (E and F lines of the same input must both equal the real code). -/

section transfer
variable (fl : Rnd)

/-- `Bin1D.__getitem__`: `idx*sz`, `·*direction`, `·+origin`, `·+sz` -/
theorem bin_interval_transfer (b : Bin1D) (k : Int)
    (h1 : fl ((k : Rat) * b.sz) = (k : Rat) * b.sz)
    (h2 : fl ((k : Rat) * b.sz * (b.dir : Rat)) = (k : Rat) * b.sz * (b.dir : Rat))
    (h3 : fl ((k : Rat) * b.sz * (b.dir : Rat) + b.origin) = (k : Rat) * b.sz * (b.dir : Rat) + b.origin)
    (h4 : fl ((k : Rat) * b.sz * (b.dir : Rat) + b.origin + b.sz) = (k : Rat) * b.sz * (b.dir : Rat) + b.origin + b.sz) :
    b.lo fl k = b.lo id k ∧ b.hi fl k = b.hi id k := by
  have hlo : b.lo fl k = b.lo id k := by
    unfold Bin1D.lo
    simp only [id]
    rw [h1, h2, h3]
  refine ⟨hlo, ?_⟩
  unfold Bin1D.hi
  rw [hlo]
  simp only [id, Bin1D.lo_id]
  exact h4

theorem bin_transfer (b : Bin1D) (x : Rat)
    (h : (fl (fl (x - b.origin) / b.sz)).floor = ((x - b.origin) / b.sz).floor) :
    b.bin fl x = b.bin id x := by
  unfold Bin1D.bin
  simp only [id]
  rw [h]

/-- the 1-D membership theorem for the ROUNDED model: if the quotient's floor and the edges of the bin found are
    not disturbed by `fl`, the point lies in the bin that the rounded lookup returns -/
theorem bin_mem_transfer {sz o : Rat} {d : Int} {b : Bin1D} (hb : Bin1D.new sz o d = .ok b) (x : Rat)
    (hq : (fl (fl (x - b.origin) / b.sz)).floor = ((x - b.origin) / b.sz).floor)
    (hlo : b.lo fl (b.bin fl x) = b.lo id (b.bin fl x)) (hhi : b.hi fl (b.bin fl x) = b.hi id (b.bin fl x)) :
    b.lo fl (b.bin fl x) ≤ x ∧ x < b.hi fl (b.bin fl x) := by
  rw [hlo, hhi, bin_transfer fl b x hq]
  exact (bin_mem hb x _).mp rfl

/-- `GridSpec.__init__`: if the two products `shape × |resolution|` are representable the rounded constructor
    builds the same grid as the exact one -/
theorem gridspec_new_transfer (ny nx : Int) (rx ry ox oy : Rat) (fx fy : Bool)
    (hx : fl ((nx : Rat) * rabs rx) = (nx : Rat) * rabs rx) (hy : fl ((ny : Rat) * rabs ry) = (ny : Rat) * rabs ry) :
    GridSpec.new fl ny nx rx ry ox oy fx fy = GridSpec.new id ny nx rx ry ox oy fx fy := by
  unfold GridSpec.new
  simp only [id]
  rw [hx, hy]

/-- point lookup and tile GeoBox of the rounded model equal the exact ones under per-axis exactness -/
theorem pt2idx_tile_transfer (g : GridSpec) (x y : Rat) (k : Int × Int)
    (hqx : (fl (fl (x - g.xbin.origin) / g.xbin.sz)).floor = ((x - g.xbin.origin) / g.xbin.sz).floor)
    (hqy : (fl (fl (y - g.ybin.origin) / g.ybin.sz)).floor = ((y - g.ybin.origin) / g.ybin.sz).floor)
    (hxl : g.xbin.lo fl k.1 = g.xbin.lo id k.1) (hxh : g.xbin.hi fl k.1 = g.xbin.hi id k.1)
    (hyl : g.ybin.lo fl k.2 = g.ybin.lo id k.2) (hyh : g.ybin.hi fl k.2 = g.ybin.hi id k.2) :
    g.pt2idx fl x y = g.pt2idx id x y ∧ g.tileGeobox fl k = g.tileGeobox id k :=
  ⟨congrArg₂ Prod.mk (bin_transfer fl g.xbin x hqx) (bin_transfer fl g.ybin y hqy), g.tileGeobox_congr hxl hxh hyl hyh⟩

/-- `idx_bounds` of the rounded model equals the exact one if the four probe coordinates `x ± tol` are representable
    and their lookups are undisturbed -/
theorem idx_bounds_transfer (tol : Rat) (g : GridSpec) (q : BBox)
    (h1 : fl (q.left + tol) = q.left + tol) (h2 : fl (q.bottom + tol) = q.bottom + tol)
    (h3 : fl (q.right - tol) = q.right - tol) (h4 : fl (q.top - tol) = q.top - tol)
    (hp1 : g.pt2idx fl (q.left + tol) (q.bottom + tol) = g.pt2idx id (q.left + tol) (q.bottom + tol))
    (hp2 : g.pt2idx fl (q.right - tol) (q.top - tol) = g.pt2idx id (q.right - tol) (q.top - tol)) :
    g.idxBounds fl tol q = g.idxBounds id tol q ∧ g.tiles fl tol q = g.tiles id tol q :=
  GridSpec.idxBounds_congr (by rw [h1, h2]; exact hp1) (by rw [h3, h4]; exact hp2)

/-- binary64 leaves typical exact-stream values alone and rounds others (kernel evaluation of `fl64`) -/
example : fl64 (5 / 2) = 5 / 2 ∧ fl64 (-4416000 + 37 * 96000) = -4416000 + 37 * 96000 ∧ fl64 (1 / 3) ≠ 1 / 3 := by
  decide +kernel

/-- the hypotheses of `bin_interval_transfer` hold for binary64 on a DEA-like binning (96 km tiles from -4416000) -/
example : let b : Bin1D := ⟨96000, -4416000, 1⟩
    b.lo fl64 37 = b.lo id 37 ∧ b.hi fl64 37 = b.hi id 37 := by
  decide +kernel

end transfer

section links

/-- this model's binning as the `Bin1D` of the C20 model (numeric helpers) -/
def toC20 (b : Bin1D) : C20.Bin1D := ⟨b.sz, b.origin, b.dir⟩

/-- C20's `Bin1D` model and this one are the same functions (constructor, interval, lookup, from_sample_bin) -/
theorem c20_bin1d_agrees (b : Bin1D) (k : Int) (x : Rat) (sz o : Rat) (d : Int) (idx : Int) (x0 x1 : Rat) :
    C20.Bin1D.interval (toC20 b) k = (b.lo id k, b.hi id k) ∧ C20.Bin1D.bin (toC20 b) x = b.bin id x ∧
    (C20.Bin1D.mk? sz o d).map (fun c => (⟨c.sz, c.origin, c.direction⟩ : Bin1D)) = Bin1D.new sz o d ∧
    (C20.Bin1D.fromSampleBin idx x0 x1 d).map (fun c => (⟨c.sz, c.origin, c.direction⟩ : Bin1D)) =
      Bin1D.fromSampleBin id idx x0 x1 d := by
  refine ⟨rfl, rfl, ?_, ?_⟩
  · unfold C20.Bin1D.mk? Bin1D.new
    split <;> [rfl; (split <;> rfl)]
  · unfold C20.Bin1D.fromSampleBin Bin1D.fromSampleBin C20.Bin1D.mk? Bin1D.new
    simp only [id]
    split <;> [rfl; (split <;> [rfl; (split <;> rfl)])]

/-- hence C14's membership theorem holds for the C20 model: `bin x = k ↔ interval(k)[0] ≤ x < interval(k)[1]` -/
theorem c20_bin_mem {sz o : Rat} {d : Int} {c : C20.Bin1D} (hc : C20.Bin1D.mk? sz o d = .ok c) (x : Rat) (k : Int) :
    C20.Bin1D.bin c x = k ↔ (C20.Bin1D.interval c k).1 ≤ x ∧ x < (C20.Bin1D.interval c k).2 := by
  have h := (c20_bin1d_agrees ⟨c.sz, c.origin, c.direction⟩ k x sz o d 0 0 0).2.2.1
  rw [hc] at h
  exact bin_mem h.symm x k

/-- a tile GeoBox of this model as a `GeoBox` of the C02 model (GeoBox views), with CRS tag `crs` -/
def toC02 (gb : GeoBox) (crs : Nat) : C02.GeoBox := ⟨gb.ny, gb.nx, gb.aff, crs⟩

/-- C02's `boundingbox` and `extent` of ANY GeoBox of this model are its bounding box and its corner ring, closed -/
theorem c02_view_agrees (gb : GeoBox) (crs : Nat) :
    C02.boundingbox (toC02 gb crs) = ⟨(gb.bbox id).left, (gb.bbox id).bottom, (gb.bbox id).right, (gb.bbox id).top⟩ ∧
    C02.extent (toC02 gb crs) = gb.extentPts id ++ [gb.aff.apply (0, 0)] := by
  constructor
  · simp only [GeoBox.bbox, applyF, C02.boundingbox, C02.min4, C02.max4, toC02, Aff.apply, id, mul_comm, min_assoc, max_assoc]
  · unfold C02.extent C02.corners toC02 GeoBox.extentPts applyF Aff.apply
    simp only [id, List.map_cons, List.map_nil, List.cons_append, List.nil_append, List.cons.injEq, Prod.mk.injEq,
      and_true]
    refine ⟨⟨?_, ?_⟩, ⟨?_, ?_⟩, ⟨?_, ?_⟩, ?_, ?_⟩ <;> ring

/-- End-to-end link with C02: every tile of a grid, looked at through C02's GeoBox model, is a scale+translate
    GeoBox whose `resolution` is exactly the grid's signed resolution, whose `boundingbox` is the bin rectangle
    and whose `extent` ring is the tile's footprint ring. -/
theorem c02_tile_view {ny nx : Int} {rx ry ox oy : Rat} {fx fy : Bool} {g : GridSpec}
    (hg : GridSpec.new id ny nx rx ry ox oy fx fy = .ok g) (k : Int × Int) (crs : Nat) (n m : Rat) :
    C02.resolution (toC02 (g.tileGeobox id k) crs) n m = .ok (rx, ry) ∧
    (let b := C02.boundingbox (toC02 (g.tileGeobox id k) crs)
     (b.left, b.bottom, b.right, b.top) =
       (g.xbin.lo id k.1, g.ybin.lo id k.2, g.xbin.hi id k.1, g.ybin.hi id k.2)) ∧
    C02.extent (toC02 (g.tileGeobox id k) crs) =
      (g.tileGeobox id k).extentPts id ++ [(g.tileGeobox id k).aff.apply (0, 0)] := by
  obtain ⟨e, w⟩ := GridSpec.new_ok hg
  have hf := GridSpec.footprint_eq g w k
  refine ⟨?_, ?_, ?_⟩
  · rw [C02.resolution_of_st (toC02 (g.tileGeobox id k) crs) n m (C02.isAffineST_of_zero rfl rfl)]
    subst e
    rfl
  · rw [(c02_view_agrees _ crs).1, show (g.tileGeobox id k).bbox id = _ from hf]
  · exact (c02_view_agrees _ crs).2

end links

example : ∃ g, GridSpec.new id 2 3 (-3 / 4) (1 / 4) (-3 / 4) (5 / 2) true false = .ok g :=
  (gridspec_new_ok_iff _ _ _ _ _ _ _ _).mpr ⟨by norm_num [rabs], by norm_num [rabs]⟩

example : ∃ g', GridSpec.fromSampleTile id ⟨0, 0, 5, 5⟩ 10 10 2 3 true false = .ok g' := by
  obtain ⟨g', h, _⟩ := from_sample_tile_sample ⟨0, 0, 5, 5⟩ (ny := 10) (nx := 10) 2 3 true false
    (by norm_num) (by norm_num) (by norm_num) (by norm_num)
  exact ⟨g', h⟩

/-- a box query of tile size satisfies the width hypothesis of `idx_bounds_exact` for the real tolerance -/
example : (0 : Rat) + tol8 ≤ 5 - tol8 := by norm_num [tol8]

/-- the `disjoint` contract of the polygon theorems is satisfiable for every point set -/
example (poly : Rat × Rat → Prop) :
    ∃ dj : GeoBox → Bool, ∀ gb, dj gb = true ↔ ¬ ∃ p, poly p ∧ gb.covers p := by
  classical
  exact ⟨fun gb => decide (¬ ∃ p, poly p ∧ gb.covers p), fun gb => by simp⟩

end OdcGeo.C14
