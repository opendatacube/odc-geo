/-
C02: the glue between the modelled view arithmetic and the public entry points
(`Model/C02Glue.lean`): argument normalisers, `zoom_to` and `__getitem__` dispatch with their error
branches, `enclosing` / `project` argument handling, small accessors, and end-to-end theorems that take a
public call from its *arguments as the user spells them* to the pixel / shape / covering contract of
`Props/C02.lean` with no named hypothesis in between.  After `footprintBufferDist`: GCP geoboxes through the same entry
points, identities between views (`scaled_down_eq_zoom_out`, `rotate_compose`, `crop_of_pad`, …; more in `Props/C02Laws`,
`Props/C02Seq`), the reprojection function given as a table.
-/
import OdcGeo.Model.C02Glue
import OdcGeo.Lemmas.Unpack
import OdcGeo.Lemmas.C08C02
import OdcGeo.Props.C02
import OdcGeo.Lemmas.Except

namespace OdcGeo.C02
open OdcGeo.C17 (PIdx NSlice normSlice wrapNeg)

/-- `pyTrunc` is the prelude's `int()` (`Lemmas/Py`), in the `-⌊-x⌋` spelling -/
theorem pyTrunc_eq_py (x : Rat) : pyTrunc x = Gen.Py.trunc x := (Gen.Py.trunc_eq_neg_floor_neg x).symm

/-- `int(x)` truncates toward zero: it has the sign of `x` and differs from `x` by less than one. -/
theorem pyTrunc_spec (x : Rat) :
    (0 ≤ x → 0 ≤ pyTrunc x ∧ (pyTrunc x : Rat) ≤ x ∧ x < (pyTrunc x : Rat) + 1) ∧
    (x < 0 → pyTrunc x ≤ 0 ∧ x ≤ (pyTrunc x : Rat) ∧ (pyTrunc x : Rat) < x + 1) :=
  pyTrunc_eq_py x ▸ Gen.Py.trunc_spec x

theorem pyTrunc_intCast (k : Int) : pyTrunc (k : Rat) = k := by rw [pyTrunc_eq_py, Gen.Py.trunc_intCast]

/-- A value that is already integral is passed through by `int()` for both number types. -/
theorem pyNum_toInt_integral (k : Int) : (PyNum.int k).toInt = k ∧ (PyNum.flt (k : Rat)).toInt = k :=
  ⟨rfl, pyTrunc_intCast k⟩

/-- `shape_`: `(ny, nx)` for a 2-sequence, `(y, x)` for an `XY`, fixed point on its own output, and the
only failures are "not a shape-like object" and "not exactly two entries" (both `ValueError`). -/
theorem shape_norm_spec :
    (∀ a b : PyNum, shapeNorm (.seq [a, b]) = .ok (a.toInt, b.toInt)) ∧
    (∀ x y : PyNum, shapeNorm (.xy x y) = .ok (y.toInt, x.toInt)) ∧
    (∀ s ny nx, shapeNorm s = .ok (ny, nx) → shapeNorm (.shape2d ny nx) = .ok (ny, nx)) ∧
    (∀ s e, shapeNorm s = .error e → e = .valueError ∧ (s = .other ∨ ∃ l, s = .seq l ∧ l.length ≠ 2)) ∧
    (∀ l : List PyNum, l.length ≠ 2 → shapeNorm (.seq l) = .error .valueError) := by
  have h5 : ∀ l : List PyNum, l.length ≠ 2 → shapeNorm (.seq l) = .error .valueError :=
    fun l hl => ne_pair_cases l hl rfl (fun _ => rfl) fun _ _ _ _ => rfl
  refine ⟨fun _ _ => rfl, fun _ _ => rfl, fun _ _ _ _ => rfl, fun s e h => ?_, h5⟩
  rcases s with _ | _ | l | _
  · cases h
  · cases h
  · have hl : l.length ≠ 2 := by
      rintro hl
      obtain ⟨a, b, rfl⟩ := List.length_eq_two.mp hl
      cases h
    rw [h5 l hl] at h
    exact ⟨(Except.error.inj h).symm, .inr ⟨l, rfl, hl⟩⟩
  · exact ⟨(Except.error.inj h).symm, .inl rfl⟩

/-- Every spelling of an integral shape `(ny, nx)` — tuple / list of ints or of integral floats, `XY`,
`Shape2d` — denotes the same shape. -/
theorem shape_spellings_agree (ny nx : Int) :
    shapeNorm (.seq [.int ny, .int nx]) = .ok (ny, nx) ∧
    shapeNorm (.seq [.flt ny, .flt nx]) = .ok (ny, nx) ∧
    shapeNorm (.seq [.int ny, .flt nx]) = .ok (ny, nx) ∧
    shapeNorm (.xy (.int nx) (.int ny)) = .ok (ny, nx) ∧
    shapeNorm (.xy (.flt nx) (.flt ny)) = .ok (ny, nx) ∧
    shapeNorm (.shape2d ny nx) = .ok (ny, nx) := by
  simp [shapeNorm, PyNum.toInt, pyTrunc_intCast]

/-- Fractional entries are truncated toward zero, never rounded: `(3.7, -2.5)` is the shape `(3, -2)`. -/
theorem shape_norm_truncates_example :
    shapeNorm (.seq [.flt (37 / 10), .flt (-5 / 2)]) = .ok (3, -2) := by decide +kernel

/-- `crop(shape)` / `expand(shape)` / `GeoBox(shape, A, crs)`: the result has the normalised shape and the
same pixel-to-world mapping and CRS — for every spelling of the shape; it fails exactly when `shape_` does. -/
theorem resize_arg_contract (g : GeoBox) (s : ShapeArg) :
    (∀ g', resizeArg g s = .ok g' →
      shapeNorm s = .ok (g'.ny, g'.nx) ∧ g'.A = g.A ∧ g'.crs = g.crs ∧ g' = resize g g'.ny g'.nx ∧
      ∀ p, pix2wld g' p = pix2wld g p) ∧
    (∀ e, resizeArg g s = .error e ↔ shapeNorm s = .error e) := by
  unfold resizeArg mkGeoBox
  cases h : shapeNorm s with
  | error e0 => simp [bind, Except.bind]
  | ok v =>
    obtain ⟨ny, nx⟩ := v
    simp only [bind, Except.bind, pure, Except.pure, Except.ok.injEq, reduceCtorEq, iff_self,
      implies_true, and_true]
    intro g' hg
    subst hg
    exact ⟨rfl, rfl, rfl, rfl, fun _ => rfl⟩

/-- `res_`: a bare number `r` means square pixels with inverted Y, `(r, -r)`; a `Resolution` is taken as it
is; anything else is a `ValueError`. -/
theorem res_norm_spec :
    (∀ r : PyNum, resNorm (.num r) = .ok (r.val, -r.val)) ∧
    (∀ x y : Rat, resNorm (.res x y) = .ok (x, y)) ∧
    (∀ a e, resNorm a = .error e ↔ (a = .other ∧ e = .valueError)) := by
  refine ⟨fun _ => rfl, fun _ _ => rfl, ?_⟩
  intro a e
  cases a <;> simp [resNorm, eq_comm]

/-- Neither argument → `ValueError`; a positional `shape` (number or shape-like) always wins over
`resolution=`. -/
theorem zoom_to_dispatch (g : GeoBox) :
    zoomTo g .none none = .error .valueError ∧
    (∀ n r, zoomTo g (.num n) r = zoomToNum g n.val) ∧
    (∀ s r, zoomTo g (.shape s) r = zoomTo g (.shape s) none) ∧
    (∀ rx ry, zoomTo g .none (some (.res rx ry)) = zoomToRes g rx ry) ∧
    (∀ r : PyNum, zoomTo g .none (some (.num r)) = zoomToRes g r.val (-r.val)) :=
  ⟨rfl, fun _ _ => rfl, fun _ _ => rfl, fun _ _ => rfl, fun _ => rfl⟩

/-- Exactly which calls of `zoom_to` fail, for every argument combination. -/
theorem zoom_to_fails_iff (g : GeoBox) (z : ZoomArg) (r : Option ResArg) :
    (∃ e, zoomTo g z r = .error e) ↔
      match z with
      | .none => (match r with
          | none => True
          | some .other => True
          | some (.num v) => v.val = 0
          | some (.res rx ry) => rx = 0 ∨ ry = 0)
      | .num n => n.val = 0 ∨ max g.ny g.nx = 0
      | .shape s => (∃ e, shapeNorm s = .error e) ∨ ∃ ny nx, shapeNorm s = .ok (ny, nx) ∧ (ny = 0 ∨ nx = 0) := by
  rcases z with _ | n | s
  · rcases r with _ | _ | _ | _
    · exact iff_true_intro ⟨_, rfl⟩
    · exact (zoom_to_res_error_iff g _ _).trans (or_iff_left_of_imp neg_eq_zero.mp)
    · exact zoom_to_res_error_iff g _ _
    · exact iff_true_intro ⟨_, rfl⟩
  · simp only [zoomTo, zoom_to_num_error_iff, exists_eq_left]
  · simp only [zoomTo, raises_bind_iff, Prod.exists, zoom_to_shape_error_iff, exists_eq_left]

example : ∃ e, zoomTo ⟨5, 7, Aff.id, 1⟩ (.shape (.seq [.int 3])) none = .error e := ⟨_, rfl⟩
example : zoomTo ⟨5, 7, Aff.id, 1⟩ (.shape (.seq [.int 3, .flt (9 / 2)])) (some .other)
    = .ok ⟨3, 4, ⟨7 / 4, 0, 0, 0, 5 / 3, 0⟩, 1⟩ := by decide +kernel

theorem zoomTo_shape_ok_iff (g g' : GeoBox) (s : ShapeArg) (r : Option ResArg) :
    zoomTo g (.shape s) r = .ok g' ↔ ∃ ny nx, shapeNorm s = .ok (ny, nx) ∧ zoomToShape g ny nx = .ok g' := by
  simp only [zoomTo, bind_ok_iff, Prod.exists]

theorem zoom_to_crs (g g' : GeoBox) (z : ZoomArg) (r : Option ResArg) (h : zoomTo g z r = .ok g') :
    g'.crs = g.crs := by
  rcases z with _ | n | s
  · rcases r with _ | a
    · cases h
    · obtain ⟨⟨rx, ry⟩, -, h⟩ := bind_ok_iff.mp h
      exact (zoom_to_res_covers g g' rx ry h).1
  · exact ((zoomToNum_ok_iff g g' _).mp h).2 ▸ rfl
  · obtain ⟨ny, nx, -, h⟩ := (zoomTo_shape_ok_iff g g' s r).mp h
    exact ((zoomToShape_ok_iff g g' ny nx).mp h).2 ▸ rfl

/-- **`zoom_to(shape)` end to end**: for every spelling `s` of the target shape the result has exactly the
normalised shape and the *same footprint* — the point at fraction `(u, v)` of the new pixel rectangle is the
point at fraction `(u, v)` of the old one — whatever `resolution=` is also passed. -/
theorem zoom_to_shape_arg_footprint (g g' : GeoBox) (s : ShapeArg) (r : Option ResArg)
    (h : zoomTo g (.shape s) r = .ok g') (u v : Rat) :
    shapeNorm s = .ok (g'.ny, g'.nx) ∧ g'.ny ≠ 0 ∧ g'.nx ≠ 0 ∧ g'.crs = g.crs ∧
    pix2wld g' (u * g'.nx, v * g'.ny) = pix2wld g (u * g.nx, v * g.ny) := by
  obtain ⟨ny, nx, hs, h⟩ := (zoomTo_shape_ok_iff g g' s r).mp h
  obtain ⟨⟨hy, hx⟩, rfl⟩ := (zoomToShape_ok_iff g g' ny nx).mp h
  exact ⟨hs, hy, hx, rfl, (zoom_to_shape_same_footprint g _ ny nx h u v).2.2.2⟩

example : zoomTo ⟨4, 6, ⟨2, 0, 100, 0, -2, 50⟩, 1⟩ (.shape (.xy (.int 3) (.flt (5 / 2)))) none
    = .ok ⟨2, 3, ⟨4, 0, 100, 0, -4, 50⟩, 1⟩ := by decide +kernel

/-- **`zoom_to(n)` end to end**: for an integer `n ≥ 1` (also spelled as an integral float) the longest side of
the result is exactly `n`, pixels are scaled by `nmax / n`, CRS kept — whatever `resolution=` is also passed. -/
theorem zoom_to_int_arg_longest (g : GeoBox) (n : Int) (r : Option ResArg) (hn : 1 ≤ n)
    (hny : 0 ≤ g.ny) (hnx : 0 ≤ g.nx) (hmax : 1 ≤ max g.ny g.nx) (v : PyNum)
    (hv : v = .int n ∨ v = .flt (n : Rat)) :
    ∃ g', zoomTo g (.num v) r = .ok g' ∧ max g'.ny g'.nx = n ∧ g'.crs = g.crs ∧
      ∀ p : Pt, pix2wld g' p
        = pix2wld g (((max g.ny g.nx : Int) : Rat) / n * p.1, ((max g.ny g.nx : Int) : Rat) / n * p.2) := by
  have hval : v.val = (n : Rat) := by rcases hv with rfl | rfl <;> rfl
  simp only [zoomTo, hval]
  exact zoom_to_int_longest g n hn hny hnx hmax

/-- **`zoom_to(resolution=r)` with a bare number, end to end**: the result is north-up with square pixels
`(r, -r)`, keeps the CRS, starts at the bounding-box corner and covers the bounding box of the original up to
the 1 % tolerance — for every (rotated, sheared, mirrored) original. -/
theorem zoom_to_scalar_resolution (g g' : GeoBox) (r : PyNum) (h : zoomTo g .none (some (.num r)) = .ok g')
    (hr : 0 < r.val) :
    g'.crs = g.crs ∧ g'.A.a = r.val ∧ g'.A.b = 0 ∧ g'.A.d = 0 ∧ g'.A.e = -r.val ∧ 1 ≤ g'.nx ∧ 1 ≤ g'.ny ∧
    g'.A.c = (boundingbox g).left ∧ g'.A.f = (boundingbox g).top ∧
    (boundingbox g).right - tolSnap * r.val ≤ (pix2wld g' (g'.nx, 0)).1 ∧
    (pix2wld g' (0, g'.ny)).2 ≤ (boundingbox g).bottom + tolSnap * r.val := by
  have h' : zoomToRes g r.val (-r.val) = .ok g' := h
  obtain ⟨h1, h2, h3, h4, h5, h6, h7, hxp, -, -, hyn⟩ := zoom_to_res_covers g g' _ _ h'
  obtain ⟨hf, hcovy⟩ := hyn (neg_lt_zero.mpr hr)
  exact ⟨h1, h2, h3, h4, h5, h6, h7, (hxp hr).1, hf, (hxp hr).2, by rwa [neg_neg] at hcovy⟩

/-- C02 ∘ C08: `gbox.zoom_to(resolution=r)` for a bare number is `GeoBox.from_bbox(gbox.boundingbox,
resolution=r, tight=True)` of the C08 model (any `anchor`; `tight` overrides it), re-tagged with the CRS. -/
theorem zoom_to_scalar_resolution_is_from_bbox (g : GeoBox) (r : PyNum) (anchor : C08.AnchorArg) :
    zoomTo g .none (some (.num r)) =
      (C08.fromBbox ⟨(boundingbox g).left, (boundingbox g).bottom, (boundingbox g).right, (boundingbox g).top⟩
        true .none (.scalar r.val) anchor tolSnap).map
        (fun b => (⟨b.ny, b.nx, b.affine, g.crs⟩ : GeoBox)) :=
  (C08.zoom_to_resolution_is_from_bbox g r.val (-r.val) anchor).trans rfl

/-- A bare int / slice `s` is the tuple `(s, :)`. -/
theorem getitem_one_eq_seq (reproj : Nat → Nat → Pt → Pt) (g : GeoBox) (s : IdxS) :
    getitem reproj g (.one s) = getitem reproj g (.seq [s, .slc none none none]) := rfl

theorem cropSeq_ok_iff (g g' : GeoBox) (l : List IdxS) :
    cropSeq g l = .ok g' ↔ ∃ sy sx, l = [sy, sx] ∧ sy.stepOk = true ∧ sx.stepOk = true ∧
      crop g (.two sy.toPIdx sx.toPIdx) = g' := by
  constructor
  · intro h
    unfold cropSeq at h
    split_ifs at h with h1 h2
    split at h
    · simp only [List.all_cons, List.all_nil, Bool.and_true, Bool.and_eq_true] at h2
      exact ⟨_, _, rfl, h2.1, h2.2, Except.ok.inj h⟩
    · cases h
  · rintro ⟨sy, sx, rfl, h1, h2, rfl⟩
    simp only [cropSeq, List.all_cons, List.all_nil, h1, h2]
    rfl

/-- The outcome of indexing with a tuple / list, completely: more than two entries → `ValueError`; else any
step other than `None` / `1` → `NotImplementedError` (a stepped slice is **never** silently treated as
step 1); else fewer than two entries → `ValueError`; else the crop of the core model. -/
theorem getitem_seq_outcome (reproj : Nat → Nat → Pt → Pt) (g : GeoBox) (l : List IdxS) :
    (2 < l.length → getitem reproj g (.seq l) = .error .valueError) ∧
    (l.length ≤ 2 → l.all IdxS.stepOk = false → getitem reproj g (.seq l) = .error .notImplemented) ∧
    (l.length < 2 → l.all IdxS.stepOk = true → getitem reproj g (.seq l) = .error .valueError) ∧
    (∀ sy sx, l = [sy, sx] → sy.stepOk = true → sx.stepOk = true →
      getitem reproj g (.seq l) = .ok (crop g (.two sy.toPIdx sx.toPIdx))) := by
  refine ⟨fun h => if_pos h, fun h1 h2 => ?_, fun h1 h2 => ?_,
    fun sy sx hl h1 h2 => (cropSeq_ok_iff g _ l).mpr ⟨sy, sx, hl, h1, h2, rfl⟩⟩
  · simp [getitem, cropSeq, h1.not_gt, h2]
  · rcases l with _ | ⟨a, _ | ⟨b, t⟩⟩
    · rfl
    · simp only [getitem, cropSeq, h2]; rfl
    · simp only [List.length_cons] at h1; omega

/-- Indexing with a tuple never raises anything but `ValueError` / `NotImplementedError`, and a successful
result is a whole-pixel translate of the parent with the same CRS: pixel `(i, j)` of the view is pixel
`(i + x0, j + y0)` of the parent. -/
theorem getitem_seq_pixel (reproj : Nat → Nat → Pt → Pt) (g : GeoBox) (l : List IdxS) :
    (∀ e, getitem reproj g (.seq l) = .error e → e = .valueError ∨ e = .notImplemented) ∧
    (∀ g', getitem reproj g (.seq l) = .ok g' →
      ∃ sy sx : IdxS, l = [sy, sx] ∧ sy.stepOk = true ∧ sx.stepOk = true ∧ g'.crs = g.crs ∧
        g'.ny = (normSlice sy.toPIdx g.ny).stop - (normSlice sy.toPIdx g.ny).start ∧
        g'.nx = (normSlice sx.toPIdx g.nx).stop - (normSlice sx.toPIdx g.nx).start ∧
        ∀ p : Pt, pix2wld g' p
          = pix2wld g (p.1 + ((normSlice sx.toPIdx g.nx).start : Rat), p.2 + ((normSlice sy.toPIdx g.ny).start : Rat))) := by
  constructor
  · intro e h
    simp only [getitem, cropSeq] at h
    split_ifs at h
    · exact .inl (Except.error.inj h).symm
    · split at h
      · cases h
      · exact .inl (Except.error.inj h).symm
    · exact .inr (Except.error.inj h).symm
  · intro g' h
    obtain ⟨sy, sx, rfl, h1, h2, rfl⟩ := (cropSeq_ok_iff g g' l).mp h
    exact ⟨sy, sx, rfl, h1, h2, rfl, rfl, rfl, fun p => (crop_pixel g _ _ p).1⟩

example : getitem (fun _ _ p => p) ⟨5, 7, Aff.id, 1⟩ (.one (.slc (some 1) (some 4) (some 2))) = .error .notImplemented := rfl
example : getitem (fun _ _ p => p) ⟨5, 7, Aff.id, 1⟩ (.seq [.idx 1, .idx 2, .idx 3]) = .error .valueError := rfl
example : getitem (fun _ _ p => p) ⟨5, 7, Aff.id, 1⟩ (.seq [.slc none none (some 1)]) = .error .valueError := rfl

/-- `gbox[k]` for an in-range (also negative) integer is the one-row view at numpy's row `k mod ny`, full
width — from the bare-int spelling of the argument. -/
theorem getitem_int_row (reproj : Nat → Nat → Pt → Pt) (g : GeoBox) (k : Int) (hk : -g.ny ≤ k ∧ k < g.ny)
    (hnx : 0 ≤ g.nx) :
    ∃ g', getitem reproj g (.one (.idx k)) = .ok g' ∧ g'.ny = 1 ∧ g'.nx = g.nx ∧ g'.crs = g.crs ∧
      ∀ p : Pt, pix2wld g' p = pix2wld g (p.1, p.2 + ((k % g.ny : Int) : Rat)) := by
  have hmod : k % g.ny = (normSlice (.idx k) g.ny).start := by
    show _ = if k < 0 then g.ny + k else k
    split_ifs with h
    · rw [← Int.add_emod_left g.ny k, Int.emod_eq_of_lt (by omega) (by omega)]
    · rw [Int.emod_eq_of_lt (by omega) (by omega)]
  refine ⟨crop g (.two (.idx k) (.slc none none)), rfl, (crop_int_index g k hk _).1, ?_, rfl, fun p => ?_⟩
  · rw [(crop_pixel g _ _ (0, 0)).2.2.1, C17.normSlice_full g.nx hnx, sub_zero]
  · rw [(crop_pixel g _ _ p).1, C17.normSlice_full g.nx hnx, hmod, Int.cast_zero, add_zero]

/-- `center_pixel` is the public `gbox[ny // 2, nx // 2]`. -/
theorem center_pixel_is_getitem (reproj : Nat → Nat → Pt → Pt) (g : GeoBox) :
    getitem reproj g (.seq [.idx (g.ny / 2), .idx (g.nx / 2)]) = .ok (centerPixel g) := rfl

/-- A region with a CRS cannot index a CRS-less geobox (`AssertionError`); a CRS-less region is read as pixel
coordinates whatever the parent. -/
theorem getitem_region_crs_cases (reproj : Nat → Nat → Pt → Pt) (g : GeoBox) (r : Region) :
    (r.crs ≠ 0 → g.crs = 0 → getitem reproj g (.region r) = .error .assertion) ∧
    (r.crs = 0 → getitem reproj g (.region r) = cropRegionPix g r.pts) ∧
    (r.crs ≠ 0 → r.crs = g.crs → getitem reproj g (.region r) = cropRegion g false r.pts) := by
  refine ⟨?_, ?_, ?_⟩
  · intro h1 h2; simp [getitem, cropRegionCrs, h1, h2]
  · intro h1; simp [getitem, cropRegionCrs, h1]
  · intro h1 h2
    have h3 : g.crs ≠ 0 := h2 ▸ h1
    simp [getitem, cropRegionCrs, cropRegion, h3, h2]

theorem cropRegionCrs_ok (reproj : Nat → Nat → Pt → Pt) (g g' : GeoBox) (crs : Nat) (pts : List Pt)
    (h : cropRegionCrs reproj g crs pts = .ok g') :
    cropRegionPix g (pts.map fun w =>
      if crs = 0 then w else g.A.inv.apply (if crs ≠ g.crs then reproj crs g.crs w else w)) = .ok g' := by
  unfold cropRegionCrs at h
  by_cases h0 : crs = 0
  · simpa [h0] using h
  · by_cases hg : g.crs = 0
    · simp [h0, hg] at h
    · by_cases hd : g.A.det = 0
      · simp [h0, hg, Aff.inv?, hd, bind, Except.bind] at h
      · by_cases hc : crs = g.crs <;> simpa [h0, hg, Aff.inv?, hd, bind, Except.bind, hc, Function.comp_def] using h

/-- **`gbox[region]` end to end** (Geometry or BoundingBox, in the geobox' own CRS, in another CRS through
any reprojection `reproj`, or CRS-less = pixel coordinates): the result is a whole-pixel window of the parent
with the same CRS, at least one pixel each way, and it contains (in the parent's pixel coordinates) every
vertex of the region that falls inside the parent's pixel rectangle. -/
theorem getitem_region_covers (reproj : Nat → Nat → Pt → Pt) (g g' : GeoBox) (r : Region)
    (h : getitem reproj g (.region r) = .ok g') (v : Pt) (hv : v ∈ r.pts) :
    let toPix : Pt → Pt := fun w =>
      if r.crs = 0 then w else g.A.inv.apply (if r.crs ≠ g.crs then reproj r.crs g.crs w else w)
    (0 ≤ (toPix v).1 ∧ (toPix v).1 ≤ g.nx) → (0 ≤ (toPix v).2 ∧ (toPix v).2 ≤ g.ny) →
    ∃ L B : Int, 0 ≤ L ∧ 0 ≤ B ∧ g'.crs = g.crs ∧ 1 ≤ g'.nx ∧ 1 ≤ g'.ny ∧
      (∀ q : Pt, pix2wld g' q = pix2wld g (q.1 + L, q.2 + B)) ∧
      (L : Rat) ≤ (toPix v).1 ∧ (toPix v).1 ≤ (L : Rat) + g'.nx ∧
      (B : Rat) ≤ (toPix v).2 ∧ (toPix v).2 ≤ (B : Rat) + g'.ny := by
  intro toPix hx hy
  exact crop_region_covers g g' _ (cropRegionCrs_ok reproj g g' r.crs r.pts h) _ (List.mem_map_of_mem hv) hx hy

example : getitem (fun _ _ p => p) ⟨10, 20, ⟨2, 0, 100, 0, -2, 50⟩, 1⟩ (.region (.bbox 1 107 (83 / 2) 117 45))
    = .ok ⟨3, 6, ⟨2, 0, 106, 0, -2, 46⟩, 1⟩ := by decide +kernel

/-- **`g[g[y0:y1, x0:x1]]` end to end through the public index forms**: a geobox indexed with one of its own
non-empty in-range windows — the window itself obtained by indexing with a 2-tuple of slices — is that window,
for every invertible affine and every CRS. -/
theorem getitem_gbox_window (reproj : Nat → Nat → Pt → Pt) (g w : GeoBox) (hdet : g.A.det ≠ 0) (hcrs : g.crs ≠ 0)
    (x0 x1 y0 y1 : Int) (hx : 0 ≤ x0 ∧ x0 < x1 ∧ x1 ≤ g.nx) (hy : 0 ≤ y0 ∧ y0 < y1 ∧ y1 ≤ g.ny)
    (hw : getitem reproj g (.seq [.slc (some y0) (some y1) none, .slc (some x0) (some x1) none]) = .ok w) :
    getitem reproj g (.gbox w) = .ok w := by
  obtain ⟨_, _, hl, -, -, rfl⟩ := (cropSeq_ok_iff g w _).mp hw
  cases hl
  have hwc : (crop g (.two (.slc (some y0) (some y1)) (.slc (some x0) (some x1)))).crs = g.crs := rfl
  have := crop_window_of_self g hdet hcrs x0 x1 y0 y1 hx hy
  simp only [getitem, cropRegionCrs, IdxS.toPIdx, hwc, hcrs, if_false, ne_eq, not_true_eq_false]
  simpa [cropGeoBox, cropRegion, hwc, hcrs] using this

/-- C02 ∘ numpy slicing (`Spec/PySlice`), through the public index form: for a 2-tuple of plain slices whose
normalised stops stay inside the parent, the view has **exactly the pixels numpy selects**, in order — pixel
`(i, j)` exists in the view iff numpy selects column `x0 + i` and row `y0 + j` of the parent, and it lies on that
parent pixel. -/
theorem getitem_selects_numpy (reproj : Nat → Nat → Pt → Pt) (g : GeoBox) (a b c d : Option Int)
    (hny : 0 ≤ g.ny) (hnx : 0 ≤ g.nx)
    (hsy : (normSlice (.slc a b) g.ny).stop ≤ g.ny) (hsx : (normSlice (.slc c d) g.nx).stop ≤ g.nx) :
    ∃ g', getitem reproj g (.seq [.slc a b none, .slc c d none]) = .ok g' ∧ g'.crs = g.crs ∧
      ∀ i j : Int,
        ((0 ≤ i ∧ i < g'.nx) ∧ (0 ≤ j ∧ j < g'.ny) ↔
          (0 ≤ i ∧ PySlice.Sel g.nx (.slc c d) ((normSlice (.slc c d) g.nx).start + i)) ∧
          (0 ≤ j ∧ PySlice.Sel g.ny (.slc a b) ((normSlice (.slc a b) g.ny).start + j))) ∧
        pix2wld g' ((i : Rat), (j : Rat))
          = pix2wld g ((((normSlice (.slc c d) g.nx).start + i : Int) : Rat), (((normSlice (.slc a b) g.ny).start + j : Int) : Rat)) := by
  refine ⟨crop g (.two (.slc a b) (.slc c d)), rfl, rfl, fun i j => ⟨?_, ?_⟩⟩
  · exact and_congr (normSlice_sel g.nx c d hnx hsx i) (normSlice_sel g.ny a b hny hsy j)
  · rw [(crop_pixel g _ _ _).1, Int.cast_add, Int.cast_add, add_comm (i : Rat), add_comm (j : Rat)]

/-- `enclosing(region)`: a CRS-less region is refused (`ValueError`), a CRS-less geobox cannot project
(`AssertionError`); otherwise the core `enclosing` on the (re-projected) vertices. -/
theorem enclosing_arg_cases (reproj : Nat → Nat → Pt → Pt) (g : GeoBox) (r : Region) :
    (r.crs = 0 → enclosingArg reproj g r = .error .valueError) ∧
    (r.crs ≠ 0 → g.crs = 0 → enclosingArg reproj g r = .error .assertion) ∧
    (r.crs ≠ 0 → r.crs = g.crs → enclosingArg reproj g r = enclosing g r.pts) := by
  refine ⟨?_, ?_, ?_⟩
  · intro h; simp [enclosingArg, h]
  · intro h1 h2; simp [enclosingArg, h1, h2]
  · intro h1 h2
    have h3 : g.crs ≠ 0 := h2 ▸ h1
    simp [enclosingArg, h3, h2]

theorem enclosingArg_ok_iff (reproj : Nat → Nat → Pt → Pt) (g g' : GeoBox) (r : Region) :
    enclosingArg reproj g r = .ok g' ↔ r.crs ≠ 0 ∧ g.crs ≠ 0 ∧
      enclosing g (r.pts.map fun v => if r.crs ≠ g.crs then reproj r.crs g.crs v else v) = .ok g' := by
  have e : (if r.crs ≠ g.crs then r.pts.map (reproj r.crs g.crs) else r.pts)
      = r.pts.map fun v => if r.crs ≠ g.crs then reproj r.crs g.crs v else v := by
    split <;> simp only [List.map_id']
  rw [enclosingArg, e, ite_error_eq_ok_iff, ite_error_eq_ok_iff]

/-- **`enclosing(region)` end to end**: the result shares the pixel grid of the parent (whole-pixel shift, same
CRS), has at least one pixel each way, and contains every vertex of the region (after reprojection into the
geobox' CRS, if needed) — not clipped to the parent. -/
theorem enclosing_arg_covers (reproj : Nat → Nat → Pt → Pt) (g g' : GeoBox) (r : Region)
    (h : enclosingArg reproj g r = .ok g') (v : Pt) (hv : v ∈ r.pts) :
    r.crs ≠ 0 ∧ g.crs ≠ 0 ∧ g.A.det ≠ 0 ∧ g'.crs = g.crs ∧ 1 ≤ g'.nx ∧ 1 ≤ g'.ny ∧
    ∃ (l b : Int) (q : Pt), (∀ p : Pt, pix2wld g' p = pix2wld g (p.1 + l, p.2 + b)) ∧
      pix2wld g' q = (if r.crs ≠ g.crs then reproj r.crs g.crs v else v) ∧
      0 ≤ q.1 ∧ q.1 ≤ g'.nx ∧ 0 ≤ q.2 ∧ q.2 ≤ g'.ny := by
  obtain ⟨h0, hg, h⟩ := (enclosingArg_ok_iff reproj g g' r).mp h
  exact ⟨h0, hg, enclosing_covers g g' _ h _
    (List.mem_map_of_mem (f := fun v => if r.crs ≠ g.crs then reproj r.crs g.crs v else v) hv)⟩

/-- `project`: a CRS-less geometry goes pixel → world and is tagged with the geobox' CRS; a geometry with a CRS
goes world → pixel and loses the tag; the latter needs a CRS on the geobox and an invertible affine. -/
theorem project_cases (reproj : Nat → Nat → Pt → Pt) (g : GeoBox) (crs : Nat) (pts : List Pt) :
    (crs = 0 → project reproj g crs pts = .ok (g.crs, pts.map (pix2wld g))) ∧
    (crs ≠ 0 → g.crs = 0 → project reproj g crs pts = .error .assertion) ∧
    (crs ≠ 0 → g.crs ≠ 0 → g.A.det = 0 → project reproj g crs pts = .error .valueError) ∧
    (crs ≠ 0 → crs = g.crs → g.A.det ≠ 0 → project reproj g crs pts = .ok (0, pts.map g.A.inv.apply)) := by
  refine ⟨?_, ?_, ?_, ?_⟩
  · intro h; simp [project, h]
  · intro h1 h2; simp [project, h1, h2]
  · intro h1 h2 h3; simp [project, h1, h2, Aff.inv?, h3, bind, Except.bind]
  · intro h1 h2 h3
    have h4 : g.crs ≠ 0 := h2 ▸ h1
    simp [project, h4, h2, Aff.inv?, h3, bind, Except.bind, pure, Except.pure]

/-- **`project` is its own inverse** on a geo-registered, invertible geobox: pixel → world → pixel and
world → pixel → world give back every vertex (and the CRS tag). -/
theorem project_roundtrip (reproj : Nat → Nat → Pt → Pt) (g : GeoBox) (hcrs : g.crs ≠ 0) (hdet : g.A.det ≠ 0)
    (pts : List Pt) :
    (∀ c ws, project reproj g 0 pts = .ok (c, ws) → project reproj g c ws = .ok (0, pts)) ∧
    (∀ c ps, project reproj g g.crs pts = .ok (c, ps) → project reproj g c ps = .ok (g.crs, pts)) := by
  have hid : ∀ f : Pt → Pt, (∀ p, f p = p) → pts.map f = pts := fun f hf => by
    rw [funext hf]; exact List.map_id' pts
  constructor
  · intro c ws h
    rw [(project_cases reproj g 0 pts).1 rfl] at h
    obtain ⟨rfl, rfl⟩ := Prod.mk.inj (Except.ok.inj h)
    rw [(project_cases reproj g g.crs _).2.2.2 hcrs rfl hdet, List.map_map,
      hid (g.A.inv.apply ∘ pix2wld g) fun p => Aff.inv_apply_apply g.A hdet p]
  · intro c ps h
    rw [(project_cases reproj g g.crs pts).2.2.2 hcrs rfl hdet] at h
    obtain ⟨rfl, rfl⟩ := Prod.mk.inj (Except.ok.inj h)
    rw [(project_cases reproj g 0 _).1 rfl, List.map_map,
      hid (pix2wld g ∘ g.A.inv.apply) fun p => Aff.apply_inv_apply g.A hdet p]

example : project (fun _ _ p => p) ⟨5, 7, ⟨2, 0, 100, 0, -2, 50⟩, 1⟩ 0 [(1, 1), (2, 3)]
    = .ok (1, [(102, 48), (104, 44)]) := by decide +kernel

theorem is_empty_iff (g : GeoBox) : isEmpty g = true ↔ (g.ny = 0 ∨ g.nx = 0) := by
  simp [isEmpty]

/-- `aspect = nx / ny`, a `ZeroDivisionError` exactly for zero height. -/
theorem aspect_spec (g : GeoBox) :
    (g.ny = 0 → aspect g = .error .zeroDiv) ∧
    (g.ny ≠ 0 → ∃ a, aspect g = .ok a ∧ a * g.ny = g.nx) :=
  ⟨fun h => if_pos h, fun h => ⟨_, if_neg h, div_mul_cancel₀ _ (Int.cast_ne_zero.mpr h)⟩⟩

/-- `_reproject_resolution(npoints)`: `npoints` steps of the returned length span the longer side of the
bounding box of the footprint (so it is non-negative for `npoints > 0`); `ZeroDivisionError` iff `npoints = 0`. -/
theorem reproject_resolution_spec (g : GeoBox) (npoints : Int) :
    (npoints = 0 → reprojectResolution g npoints = .error .zeroDiv) ∧
    (npoints ≠ 0 → ∃ r, reprojectResolution g npoints = .ok r ∧
      r * npoints = max ((boundingbox g).right - (boundingbox g).left) ((boundingbox g).top - (boundingbox g).bottom) ∧
      (0 < npoints → 0 ≤ r)) := by
  refine ⟨fun h => if_pos h, fun h => ⟨_, if_neg h, div_mul_cancel₀ _ (Int.cast_ne_zero.mpr h), fun hp => ?_⟩⟩
  exact div_nonneg (le_max_of_le_left (sub_nonneg.mpr (C08.boundingbox_valid g).1)) (Int.cast_nonneg hp.le)

/-- **`footprint(crs, buffer)` never erodes for a positive buffer**: for an axis-aligned geobox (mirrored or
not, either sign of either resolution) the distance handed to `Geometry.buffer` is `buffer` times the larger
*pixel size* `max(|a|, |e|)`; it has the sign of `buffer`, and is absent exactly for `buffer = 0`.  (The
pre-fix code multiplied by `max(rx, ry)` of the signed resolutions: see `footprint_buffer_signed_old_cex`.) -/
theorem footprint_buffer_dist_st (g : GeoBox) (hcrs : g.crs ≠ 0) (hb : g.A.b = 0) (hd : g.A.d = 0) (n m buffer : Rat) :
    (buffer = 0 → footprintBufferDist g n m buffer = .ok none) ∧
    (buffer ≠ 0 → footprintBufferDist g n m buffer = .ok (some (buffer * max (rabs g.A.a) (rabs g.A.e))) ∧
      (0 < buffer → 0 ≤ buffer * max (rabs g.A.a) (rabs g.A.e)) ∧
      (0 < buffer → g.A.det ≠ 0 → 0 < buffer * max (rabs g.A.a) (rabs g.A.e))) := by
  refine ⟨fun h => by rw [footprintBufferDist, if_neg hcrs, if_pos h], fun h => ⟨?_, fun hp => ?_, fun hp hdet => ?_⟩⟩
  · rw [footprintBufferDist, if_neg hcrs, if_neg h, resolution_of_st g n m (isAffineST_of_zero hb hd)]; rfl
  · exact mul_nonneg hp.le (le_max_of_le_left (rabs_nonneg' _))
  · have ha : g.A.a ≠ 0 := fun h0 => hdet (by rw [Aff.det, h0, hb, zero_mul, zero_mul, sub_zero])
    exact mul_pos hp (lt_max_of_lt_left (by rw [rabs_eq_abs]; exact abs_pos.mpr ha))

/-- rotated / sheared geobox: the buffer distance of `footprint` is `buffer` times the larger of the two pixel
sizes of the decomposition, positive for a positive buffer. -/
theorem footprint_buffer_dist_rotated (g : GeoBox) (hcrs : g.crs ≠ 0) (hns : isAffineST g.A = false) (hdet : g.A.det ≠ 0)
    (n m buffer : Rat) (hn : 0 < n) (hm : 0 < m) (hb : buffer ≠ 0) :
    footprintBufferDist g n m buffer = .ok (some (buffer * max n m)) ∧ (0 < buffer → 0 < buffer * max n m) := by
  refine ⟨?_, fun hp => mul_pos hp (lt_max_of_lt_left hn)⟩
  have e : rabs (if g.A.det / (n * m) < 0 then -m else m) = m := by
    rw [rabs_eq_abs]; split_ifs
    exacts [(abs_neg m).trans (abs_of_pos hm), abs_of_pos hm]
  rw [footprintBufferDist, if_neg hcrs, if_neg hb, resolution_of_not_st g n m hns hdet]
  show Except.ok (some (buffer * max (rabs n) (rabs _))) = _
  rw [e, rabs_eq_abs, abs_of_pos hn]

example : footprintBufferDist ⟨5, 7, ⟨6, -8, 1, 8, 6, 2⟩, 1⟩ 10 10 3 = .ok (some 30) := by decide +kernel

/-- what the code did before `fix: footprint buffer of a mirrored GeoBox …`: `buffer * max(rx, ry)` -/
def footprintBufferDistOld (g : GeoBox) (buffer : Rat) : Rat := buffer * max g.A.a g.A.e

theorem footprint_buffer_signed_old_cex :
    footprintBufferDistOld ⟨5, 7, ⟨-2, 0, 100, 0, -2, 50⟩, 1⟩ 3 = -6 ∧
    footprintBufferDist ⟨5, 7, ⟨-2, 0, 100, 0, -2, 50⟩, 1⟩ 1 1 3 = .ok (some 6) := by decide +kernel

theorem ceil_int_div (X k : Int) (hk : 0 < k) :
    ((X : Rat) / k).ceil = X / k + (if X % k ≠ 0 then 1 else 0) := by
  obtain ⟨h1, h2⟩ := int_ceil_div_spec X k hk
  exact (ceil_intCast_div_eq_iff hk).mpr ⟨by rw [Int.sub_mul, Int.one_mul]; omega, h1⟩

/-- C02 internal composition: for a non-empty geobox `scaled_down_geobox(gbox, k)` **is** `gbox.zoom_out(k)`
(same shape law, same affine, same CRS). -/
theorem scaled_down_eq_zoom_out (g : GeoBox) (k : Int) (hk : 1 < k) (hny : 0 < g.ny) (hnx : 0 < g.nx) :
    scaledDown g k = zoomOut g (k : Rat) := by
  have hk' : 0 < k := Int.zero_lt_one.trans hk
  have hkp : (0 : Rat) < k := Int.cast_pos.mpr hk'
  have key : ∀ X : Int, 0 < X → X / k + (if X % k ≠ 0 then 1 else 0) = ceil1 ((X : Rat) / (k : Rat)) := by
    intro X hX
    have hpos : 0 < ((X : Rat) / k).ceil :=
      Rat.lt_ceil_iff.mpr (by rw [Int.cast_zero]; exact div_pos (Int.cast_pos.mpr hX) hkp)
    rw [ceil1, max_eq_right hpos, ceil_int_div X k hk']
  simp only [scaledDown, not_not.mpr hk, if_false, zoomOut, hkp.ne', key g.ny hny, key g.nx hnx]

/-- … but not on an empty axis: `scaled_down_geobox` keeps a zero-length axis at 0, `zoom_out` makes it 1. -/
theorem scaled_down_empty_axis_differs_cex :
    (scaledDown ⟨0, 5, Aff.id, 0⟩ 2).map (·.ny) = .ok 0 ∧ (zoomOut ⟨0, 5, Aff.id, 0⟩ 2).map (·.ny) = .ok 1 := by
  decide +kernel

/-- `GCPGeoBox(shape, mapping)` without an affine maps pixels through the mapping alone and carries the CRS of
the mapping, for every spelling of the shape. -/
theorem mk_gcp_default (P : Pt → Pt) (s : ShapeArg) (mcrs : Nat) (g : GeoBox) (h : mkGcp s none mcrs = .ok g) :
    shapeNorm s = .ok (g.ny, g.nx) ∧ g.crs = mcrs ∧ ∀ p, gcpPix2wld P g p = P p := by
  simp only [mkGcp, mkGeoBox, bind_ok_iff, pure_ok, Except.ok.injEq, Prod.exists] at h
  obtain ⟨ny, nx, hs, rfl⟩ := h
  exact ⟨hs, rfl, fun p => congrArg P (Aff.apply_id p)⟩

/-- **`GCPGeoBox.resolution` follows the view**: with an axis-aligned best-fit affine `B` of the mapping and an
axis-aligned pixel-side affine (all that crop / pad / zoom produce from the identity), the resolution of a view
is `(B.a · A.a, B.e · A.e)`; in particular `zoom_out(f)` multiplies it by `f` and crop / pad leave it alone. -/
theorem gcp_resolution_view (B : Aff) (g : GeoBox) (n m : Rat) (hB : B.b = 0 ∧ B.d = 0) (hA : g.A.b = 0 ∧ g.A.d = 0) :
    gcpResolution B g n m = .ok (B.a * g.A.a, B.e * g.A.e) ∧
    (∀ f g', zoomOut g f = .ok g' → gcpResolution B g' n m = .ok (f * (B.a * g.A.a), f * (B.e * g.A.e))) ∧
    (∀ sy sx, gcpResolution B (crop g (.two sy sx)) n m = .ok (B.a * g.A.a, B.e * g.A.e)) ∧
    (∀ px py, gcpResolution B (pad g px py) n m = .ok (B.a * g.A.a, B.e * g.A.e)) := by
  have key : ∀ h : GeoBox, h.A.b = 0 → h.A.d = 0 → gcpResolution B h n m = .ok (B.a * h.A.a, B.e * h.A.e) := by
    intro h h1 h2
    have e : B * h.A = ⟨B.a * h.A.a, 0, B.a * h.A.c + B.c, 0, B.e * h.A.e, B.e * h.A.f + B.f⟩ := by
      simp only [Aff.mul_def, Aff.mul, hB.1, hB.2, h1, h2, mul_zero, zero_mul, add_zero, zero_add]
    rw [gcpResolution, gcpApprox, mulWld, e]
    exact resolution_of_st ⟨h.ny, h.nx, _, h.crs⟩ n m (isAffineST_of_zero rfl rfl)
  refine ⟨key g hA.1 hA.2, fun f g' h => ?_, fun sy sx => ?_, fun px py => ?_⟩
  · obtain ⟨-, rfl⟩ := (zoomOut_ok_iff g g' f).mp h
    rw [key _ (by rw [Aff.mul_scale, hA.1, zero_mul]) (by rw [Aff.mul_scale, hA.2, zero_mul]), Aff.mul_scale]
    exact congrArg Except.ok (Prod.ext (by ring) (by ring))
  · rw [key _ (by rw [crop, Aff.mul_translation]; exact hA.1) (by rw [crop, Aff.mul_translation]; exact hA.2), crop,
      Aff.mul_translation]
  · rw [pad_eq, key _ (by rw [Aff.mul_translation]; exact hA.1) (by rw [Aff.mul_translation]; exact hA.2),
      Aff.mul_translation]

theorem ptsBBox_contains (pts : List Pt) (hne : pts ≠ []) :
    ∃ b, ptsBBox pts = .ok b ∧ ∀ w ∈ pts, b.left ≤ w.1 ∧ w.1 ≤ b.right ∧ b.bottom ≤ w.2 ∧ w.2 ≤ b.top := by
  cases pts with
  | nil => exact absurd rfl hne
  | cons p ps =>
    exact ⟨_, rfl, fun w hw => hull_mem hw⟩

/-- **`GCPGeoBox.boundingbox` contains the footprint** (what `fix: GCPGeoBox.boundingbox is the bounding box of
the footprint` repairs), for an arbitrary pixel-to-world function `P` and any view: it is always defined, contains
every vertex of the footprint ring and in particular the world images of the four corners of the pixel rectangle. -/
theorem gcp_bbox_contains_footprint (P : Pt → Pt) (g : GeoBox) (hny : 0 ≤ g.ny) (hnx : 0 ≤ g.nx) :
    ∃ b, gcpBoundingbox P g = .ok b ∧
      (∀ w ∈ gcpExtent P g, b.left ≤ w.1 ∧ w.1 ≤ b.right ∧ b.bottom ≤ w.2 ∧ w.2 ≤ b.top) ∧
      (∀ c : Pt, (c = (0, 0) ∨ c = ((g.nx : Rat), 0) ∨ c = ((g.nx : Rat), (g.ny : Rat)) ∨ c = (0, (g.ny : Rat))) →
        b.left ≤ (gcpPix2wld P g c).1 ∧ (gcpPix2wld P g c).1 ≤ b.right ∧
        b.bottom ≤ (gcpPix2wld P g c).2 ∧ (gcpPix2wld P g c).2 ≤ b.top) := by
  obtain ⟨-, h00, h10, h11, h01⟩ := boundary_on_edge g 16 (by decide) hny hnx
  have hin : ∀ c ∈ boundary g 16, gcpPix2wld P g c ∈ gcpExtent P g := fun c hc => List.mem_map_of_mem hc
  obtain ⟨b, hb, key⟩ := ptsBBox_contains (gcpExtent P g) (List.ne_nil_of_mem (hin _ h00))
  refine ⟨b, hb, key, ?_⟩
  rintro c (rfl | rfl | rfl | rfl)
  exacts [key _ (hin _ h00), key _ (hin _ h10), key _ (hin _ h11), key _ (hin _ h01)]

example : gcpMapBounds (fun p => (2 * p.1 + 100, 50 - p.2 / 2)) ⟨30, 15, Aff.id, 0⟩
    = .ok ((35, 100), (50, 130)) := by decide +kernel

/-- **`GCPGeoBox.to_crs` keeps every control point on its pixel**: if the view's affine is the identity or is *not*
within `1e-5` of it, then for every control point `(pix, wld)` the new geobox (identity affine, same shape, target
CRS) has the control point `(q, reproj wld)` where `q` is exactly the pixel of the *view* that lies on `pix`
(`A q = pix`) — so a mapping that interpolates the control points sends the same pixel to the re-projected world
point before and after.  Any pixel-to-world function `P` of the old mapping. -/
theorem gcp_to_crs_consistent (reproj : Pt → Pt) (P : Pt → Pt) (g : GeoBox) (cps : List (Pt × Pt)) (dst : Nat)
    (hcrs : g.crs ≠ 0) (hdet : g.A.det ≠ 0) (hA : g.A = Aff.id ∨ isIdentityApprox g.A = false) :
    ∃ g' cps', gcpToCrs reproj g cps dst = .ok (g', cps') ∧
      g'.ny = g.ny ∧ g'.nx = g.nx ∧ g'.A = Aff.id ∧ g'.crs = dst ∧ cps'.length = cps.length ∧
      ∀ cp' ∈ cps', ∃ cp ∈ cps, cp'.2 = reproj cp.2 ∧ g.A.apply cp'.1 = cp.1 ∧
        (P cp.1 = cp.2 → reproj (gcpPix2wld P g cp'.1) = cp'.2) := by
  obtain ⟨back, hinv, h⟩ : ∃ back : Pt → Pt, (∀ p, g.A.apply (back p) = p) ∧
      gcpToCrs reproj g cps dst = .ok (⟨g.ny, g.nx, Aff.id, dst⟩, cps.map (fun cp => (back cp.1, reproj cp.2))) := by
    by_cases hi : isIdentityApprox g.A = true
    · have hA' : g.A = Aff.id := hA.resolve_right (by rw [hi]; exact Bool.noConfusion)
      exact ⟨fun p => p, fun p => by rw [hA', Aff.apply_id],
        by simp [gcpToCrs, hcrs, hi, bind, Except.bind, pure, Except.pure]⟩
    · exact ⟨g.A.inv.apply, Aff.apply_inv_apply g.A hdet,
        by simp [gcpToCrs, hcrs, hi, Aff.inv?, hdet, Except.map, bind, Except.bind, pure, Except.pure]⟩
  refine ⟨_, _, h, rfl, rfl, rfl, rfl, List.length_map _, fun cp' hcp' => ?_⟩
  obtain ⟨cp, hcp, rfl⟩ := List.mem_map.mp hcp'
  exact ⟨cp, hcp, rfl, hinv _, fun hP => by simp only [gcpPix2wld, hinv, hP]⟩

/-- The hypothesis on the affine is forced: a view within `1e-5` of the identity (here `zoom_out(1 + 2⁻¹⁷)`) is
taken for the identity by `Affine.is_identity`, and its control points are **not** re-expressed: the control point
on parent pixel 1024 stays at 1024 although the view's pixel on it is `1024 / (1 + 2⁻¹⁷) ≈ 1023.992`. -/
theorem gcp_to_crs_near_identity_cex :
    (gcpToCrs (fun w => w) ⟨8, 8, Aff.scale (1 + 1 / 131072) (1 + 1 / 131072), 1⟩ [((1024, 0), (5, 5))] 2).map (·.2)
      = .ok [((1024, 0), (5, 5))] ∧
    (Aff.scale (1 + 1 / 131072 : Rat) (1 + 1 / 131072)).apply (1024, 0) ≠ (1024, 0) := by decide +kernel

/-- **`zoom_to` there and back**: `gbox.zoom_to(s).zoom_to(gbox.shape)` is `gbox` itself (shape, affine, CRS) — in
exact arithmetic, for every target shape without zeros and every non-empty geobox. -/
theorem zoom_to_shape_roundtrip (g g' : GeoBox) (ny nx : Int) (h : zoomToShape g ny nx = .ok g')
    (hny : g.ny ≠ 0) (hnx : g.nx ≠ 0) : zoomToShape g' g.ny g.nx = .ok g := by
  obtain ⟨⟨hy, hx⟩, rfl⟩ := (zoomToShape_ok_iff g g' ny nx).mp h
  have e : ∀ a b : Rat, a ≠ 0 → b ≠ 0 → a / b * (b / a) = 1 := fun a b ha hb => by
    rw [← inv_div a b, mul_inv_cancel₀ (div_ne_zero ha hb)]
  have c : ∀ {z : Int}, z ≠ 0 → (z : Rat) ≠ 0 := Int.cast_ne_zero.mpr
  refine (zoomToShape_ok_iff _ _ _ _).mpr ⟨⟨hny, hnx⟩, ?_⟩
  simp only [Aff.mul_assoc', Aff.scale_mul_scale, e _ _ (c hnx) (c hx), e _ _ (c hny) (c hy)]
  exact (Aff.mul_id g.A).symm ▸ rfl

/-- the same through the public argument forms: any spelling of the two shapes -/
theorem zoom_to_roundtrip_args (g g' : GeoBox) (s s' : ShapeArg) (r r' : Option ResArg)
    (h : zoomTo g (.shape s) r = .ok g') (hs' : shapeNorm s' = .ok (g.ny, g.nx)) (hny : g.ny ≠ 0) (hnx : g.nx ≠ 0) :
    zoomTo g' (.shape s') r' = .ok g := by
  obtain ⟨ny, nx, -, h⟩ := (zoomTo_shape_ok_iff g g' s r).mp h
  exact (zoomTo_shape_ok_iff g' g s' r').mpr ⟨_, _, hs', zoom_to_shape_roundtrip g g' ny nx h hny hnx⟩

/-- GCP geoboxes inherit the index contract: `gcp[sy, sx]` maps pixel `(i, j)` through the *same* pixel-to-world
function `P` as pixel `(i + x0, j + y0)` of the parent, for every `P`. -/
theorem gcp_getitem_pixel (reproj : Nat → Nat → Pt → Pt) (P : Pt → Pt) (g g' : GeoBox) (l : List IdxS)
    (h : getitem reproj g (.seq l) = .ok g') :
    ∃ x0 y0 : Int, g'.crs = g.crs ∧ ∀ p : Pt, gcpPix2wld P g' p = gcpPix2wld P g (p.1 + x0, p.2 + y0) := by
  obtain ⟨sy, sx, _, _, _, hc, _, _, hp⟩ := (getitem_seq_pixel reproj g l).2 g' h
  exact ⟨(normSlice sx.toPIdx g.nx).start, (normSlice sy.toPIdx g.ny).start, hc, fun p => congrArg P (hp p)⟩

/-- … and `zoom_to(shape)` of a GCP geobox keeps the footprint through `P`. -/
theorem gcp_zoom_to_shape_arg_footprint (P : Pt → Pt) (g g' : GeoBox) (s : ShapeArg) (r : Option ResArg)
    (h : zoomTo g (.shape s) r = .ok g') (u v : Rat) :
    gcpPix2wld P g' (u * g'.nx, v * g'.ny) = gcpPix2wld P g (u * g.nx, v * g.ny) :=
  congrArg P (zoom_to_shape_arg_footprint g g' s r h u v).2.2.2.2

/-- **`rotate` composes by angle addition**, for all rotation entries (no `c² + s² = 1` needed): rotating about the
centre and then again about the (unchanged) centre is one rotation with `(c, s) = (c₂c₁ − s₂s₁, s₂c₁ + c₂s₁)`. -/
theorem rotate_compose (g : GeoBox) (c1 s1 c2 s2 : Rat) :
    rotate (rotate g c1 s1) c2 s2 = rotate g (c2 * c1 - s2 * s1) (s2 * c1 + c2 * s1) := by
  simp only [rotate, mulWld, Aff.apply_mul, rotationAbout_apply_pivot, ← Aff.mul_assoc', rotationAbout_mul]

theorem quarterCS_mod (k : Int) : quarterCS k = quarterCS (k % 4) := by
  simp only [quarterCS, Int.emod_emod_of_dvd _ (dvd_refl 4)]

/-- quarter turns add like angles: a finite table over the residues mod 4 -/
theorem quarterCS_add (a b : Int) :
    quarterCS (a + b) = ((quarterCS b).1 * (quarterCS a).1 - (quarterCS b).2 * (quarterCS a).2,
                         (quarterCS b).2 * (quarterCS a).1 + (quarterCS b).1 * (quarterCS a).2) := by
  have table : ∀ x y : Fin 4, quarterCS (((x.val : Int) + (y.val : Int)) % 4) =
      ((quarterCS y.val).1 * (quarterCS x.val).1 - (quarterCS y.val).2 * (quarterCS x.val).2,
       (quarterCS y.val).2 * (quarterCS x.val).1 + (quarterCS y.val).1 * (quarterCS x.val).2) := by
    decide +kernel
  have res : ∀ k : Int, ∃ r : Fin 4, k % 4 = (r.val : Int) := fun k =>
    ⟨⟨(k % 4).toNat, (Int.toNat_lt (Int.emod_nonneg k (by decide))).mpr (Int.emod_lt_of_pos k (by decide))⟩,
      (Int.toNat_of_nonneg (Int.emod_nonneg k (by decide))).symm⟩
  obtain ⟨x, hx⟩ := res a
  obtain ⟨y, hy⟩ := res b
  rw [quarterCS_mod (a + b), Int.add_emod, quarterCS_mod a, quarterCS_mod b, hx, hy]
  exact table x y

/-- **`rotate(90a).rotate(90b) = rotate(90(a+b))`** exactly (shape, affine, CRS), `rotate(360) = rotate(0) = id`. -/
theorem rotate_quarter_add (g : GeoBox) (a b : Int) :
    rotateQuarter (rotateQuarter g a) b = rotateQuarter g (a + b) ∧
    rotateQuarter g 0 = g ∧ rotateQuarter g 4 = g := by
  refine ⟨?_, rotate_one_zero g, rotate_one_zero g⟩
  simp only [rotateQuarter, rotate_compose, quarterCS_add a b]

/-- a half turn is the point reflection in the centre of the footprint; a quarter turn keeps shape and CRS and
fixes the centre. -/
theorem rotate_quarter_spec (g : GeoBox) (k : Int) (p : Pt) :
    (rotateQuarter g k).ny = g.ny ∧ (rotateQuarter g k).nx = g.nx ∧ (rotateQuarter g k).crs = g.crs ∧
    pix2wld (rotateQuarter g k) ((g.nx : Rat) / 2, (g.ny : Rat) / 2) = pix2wld g ((g.nx : Rat) / 2, (g.ny : Rat) / 2) ∧
    (k % 4 = 2 →
      pix2wld (rotateQuarter g k) p
        = (2 * (pix2wld g ((g.nx : Rat) / 2, (g.ny : Rat) / 2)).1 - (pix2wld g p).1,
           2 * (pix2wld g ((g.nx : Rat) / 2, (g.ny : Rat) / 2)).2 - (pix2wld g p).2)) := by
  refine ⟨rfl, rfl, rfl, rotate_fixes_centre g _ _, fun hk => ?_⟩
  have hq : quarterCS k = (-1, 0) := by simp only [quarterCS, hk]; decide
  obtain ⟨e1, e2, -⟩ := rotate_is_rotation g (-1) 0 (by norm_num) p
  rw [rotateQuarter, hq]
  ext
  · linear_combination e1
  · linear_combination e2

/-- **crop undoes pad**: the window `[pady : pady + ny, padx : padx + nx]` of `gbox.pad(padx, pady)` is `gbox`. -/
theorem crop_of_pad (reproj : Nat → Nat → Pt → Pt) (g : GeoBox) (padx pady : Int) (hx : 0 ≤ padx) (hy : 0 ≤ pady)
    (hny : 0 ≤ g.ny) (hnx : 0 ≤ g.nx) :
    getitem reproj (pad g padx (some pady))
      (.seq [.slc (some pady) (some (pady + g.ny)) none, .slc (some padx) (some (padx + g.nx)) none]) = .ok g :=
  (cropSeq_ok_iff _ _ _).mpr ⟨_, _, rfl, rfl, rfl, pad_covers g padx pady hx hy hny hnx⟩

/-- **pad undoes an inner crop of equal margins**: padding the window `[q : ny − q, p : nx − p]` by `(p, q)` gives
back `gbox`. -/
theorem pad_of_crop (g : GeoBox) (p q : Int) (hp : 0 ≤ p) (hq : 0 ≤ q) (hx : p ≤ g.nx - p) (hy : q ≤ g.ny - q) :
    pad (crop g (.two (.slc (some q) (some (g.ny - q))) (.slc (some p) (some (g.nx - p))))) p (some q) = g := by
  rw [crop_window g hq (hq.trans hy) hp (hp.trans hx), pad_eq]
  simp only [Option.getD_some, Aff.mul_assoc', Aff.translation_mul_translation, add_neg_cancel, Aff.translation_zero,
    Aff.mul_id]
  obtain ⟨ny, nx, A, crs⟩ := g
  simp only [GeoBox.mk.injEq, and_true]
  constructor <;> omega

/-- **`zoom_to(shape)` is `zoom_out(k)`** when the shape divides evenly: `gbox.zoom_to((ny/k, nx/k)) =
gbox.zoom_out(k)` for every positive rational `k` with `ny = k·ny'`, `nx = k·nx'`. -/
theorem zoom_to_shape_eq_zoom_out (g : GeoBox) (ny' nx' : Int) (k : Rat) (hk : 0 < k) (hy' : 1 ≤ ny') (hx' : 1 ≤ nx')
    (hy : (g.ny : Rat) = k * ny') (hx : (g.nx : Rat) = k * nx') :
    zoomToShape g ny' nx' = zoomOut g k := by
  have c : ∀ n' : Int, 1 ≤ n' → ceil1 (k * n' / k) = n' ∧ k * n' / n' = k := fun n' h1 =>
    ⟨by rw [mul_div_cancel_left₀ _ hk.ne', ceil1_intCast n' h1],
      mul_div_cancel_right₀ _ (Int.cast_ne_zero.mpr (by omega))⟩
  rw [zoomToShape, if_neg (by omega), zoomOut, if_neg hk.ne', hy, hx, (c ny' hy').1, (c ny' hy').2, (c nx' hx').1,
    (c nx' hx').2]

/-- … and zooming back to the original shape after such a `zoom_out` restores the geobox. -/
theorem zoom_out_zoom_to_roundtrip (g g' : GeoBox) (ny' nx' : Int) (k : Rat) (hk : 0 < k) (hy' : 1 ≤ ny') (hx' : 1 ≤ nx')
    (hy : (g.ny : Rat) = k * ny') (hx : (g.nx : Rat) = k * nx') (h : zoomOut g k = .ok g') :
    zoomToShape g' g.ny g.nx = .ok g := by
  rw [← zoom_to_shape_eq_zoom_out g ny' nx' k hk hy' hx' hy hx] at h
  have pos : ∀ N n' : Int, (N : Rat) = k * n' → 1 ≤ n' → N ≠ 0 := fun N n' e h1 =>
    Int.cast_ne_zero.mp (e ▸ (mul_pos hk (Int.cast_pos.mpr (Int.lt_of_lt_of_le Int.zero_lt_one h1))).ne')
  exact zoom_to_shape_roundtrip g g' ny' nx' h (pos _ _ hy hy') (pos _ _ hx hx')

/-- **`gbox * T` and `T * gbox` are associative and commute with each other, and `T * gbox` with the pixel-side views**: pixel-side
factors accumulate on the right, world-side factors on the left, and crop / pad / flips / pixel translation /
`zoom_out` of a world-side transformed geobox is the world-side transform of the view. -/
theorem affine_composition_laws (g : GeoBox) (T S : Aff) :
    mulPix (mulPix g T) S = mulPix g (T * S) ∧
    mulWld S (mulWld T g) = mulWld (S * T) g ∧
    mulWld T (mulPix g S) = mulPix (mulWld T g) S ∧
    (∀ sy sx, crop (mulWld T g) (.two sy sx) = mulWld T (crop g (.two sy sx))) ∧
    (∀ px py, pad (mulWld T g) px py = mulWld T (pad g px py)) ∧
    flipx (mulWld T g) = mulWld T (flipx g) ∧ flipy (mulWld T g) = mulWld T (flipy g) ∧
    (∀ tx ty, translatePix (mulWld T g) tx ty = mulWld T (translatePix g tx ty)) ∧
    (∀ f, zoomOut (mulWld T g) f = (zoomOut g f).map (mulWld T)) := by
  refine ⟨?_, ?_, ?_, fun _ _ => ?_, fun _ _ => ?_, ?_, ?_, fun _ _ => ?_, fun f => by
    by_cases hf : f = 0 <;> simp [zoomOut, hf, mulWld, Aff.mul_assoc', Except.map]⟩
  -- every view multiplies `g.A` on the right and `mulWld` on the left
  all_goals simp [mulWld, mulPix, crop, pad, flipx, flipy, translatePix, Aff.mul_assoc']

/-- A table that lists the image of every vertex makes `tableReproj` agree with any reprojection function that
produced the table, on those vertices — so running the model with the table is running it with that function. -/
theorem table_reproj_agrees (f : Nat → Nat → Pt → Pt) (src dst : Nat) (pts : List Pt) :
    let table := pts.map (fun p => (p, f src dst p))
    tableCovers table pts = true ∧ ∀ p ∈ pts, tableReproj table src dst p = f src dst p := by
  intro table
  have key : ∀ p ∈ pts, tableLookup table p = some (f src dst p) := by
    intro p hp
    simp only [tableLookup, table]
    induction pts with
    | nil => cases hp
    | cons q qs ih =>
      simp only [List.map_cons, List.find?_cons]
      by_cases hq : q = p
      · subst hq; simp
      · have hqb : (q == p) = false := by simpa using hq
        simp only [hqb]
        rcases List.mem_cons.mp hp with h | h
        · exact absurd h.symm hq
        · exact ih h
  refine ⟨?_, ?_⟩
  · simp only [tableCovers, List.all_eq_true]
    intro p hp; rw [key p hp]; rfl
  · intro p hp; simp [tableReproj, key p hp]

/-- the model run with the table is the model run with the function (index by a region in another CRS) -/
theorem getitem_region_table (f : Nat → Nat → Pt → Pt) (g : GeoBox) (r : Region) :
    getitem (tableReproj (r.pts.map (fun p => (p, f r.crs g.crs p)))) g (.region r) = getitem f g (.region r) := by
  simp only [getitem, cropRegionCrs, List.map_congr_left (table_reproj_agrees f r.crs g.crs r.pts).2]

/-- `coordinates`: two entries, the **row** dimension first with resolution `A.e`, then the column dimension with
`A.a`; named latitude / longitude exactly for a geographic CRS; `ValueError` iff not axis aligned. -/
theorem coords_meta_spec (g : GeoBox) (k : CrsKind) :
    (isAffineST g.A = false → coordsMeta g k = .error .valueError) ∧
    (isAffineST g.A = true → coordsMeta g k = .ok [((dimensions k).1, g.A.e), ((dimensions k).2, g.A.a)]) ∧
    ((dimensions k = ("latitude", "longitude")) ↔ k = .geographic) ∧
    (k ≠ .geographic → dimensions k = ("y", "x")) := by
  refine ⟨fun h => by simp [coordsMeta, h], fun h => by simp [coordsMeta, h], ?_, ?_⟩
  all_goals cases k <;> simp [dimensions]

def gEx : GeoBox := ⟨10, 20, ⟨2, 0, 100, 0, -2, 50⟩, 1⟩
def idR : Nat → Nat → Pt → Pt := fun _ _ p => p

example : ∃ g', zoomTo gEx (.num (.flt 5)) none = .ok g' ∧ max g'.ny g'.nx = 5 := by
  obtain ⟨g', h, hm, _⟩ := zoom_to_int_arg_longest gEx 5 none (by decide) (by decide) (by decide) (by decide) (.flt 5)
    (Or.inr (by norm_num))
  exact ⟨g', h, hm⟩

example : zoomTo gEx .none (some (.num (.int 4))) = .ok ⟨5, 10, ⟨4, 0, 100, 0, -4, 50⟩, 1⟩ := by decide +kernel

example : ∃ g', getitem idR gEx (.one (.idx (-1))) = .ok g' ∧ g'.ny = 1 ∧ g'.nx = 20 := by
  obtain ⟨g', h, a, b, _⟩ := getitem_int_row idR gEx (-1) (by decide) (by decide)
  exact ⟨g', h, a, b⟩

example : getitem idR gEx (.gbox ⟨3, 6, ⟨2, 0, 106, 0, -2, 46⟩, 1⟩) = .ok ⟨3, 6, ⟨2, 0, 106, 0, -2, 46⟩, 1⟩ :=
  getitem_gbox_window idR gEx _ (by decide +kernel) (by decide) 3 9 2 5 (by decide) (by decide) (by decide +kernel)

example : ∃ g', getitem idR gEx (.seq [.slc (some (-4)) none none, .slc (some 3) (some 9) none]) = .ok g' ∧ g'.crs = 1 := by
  obtain ⟨g', h, c, _⟩ := getitem_selects_numpy idR gEx (some (-4)) none (some 3) (some 9) (by decide) (by decide)
    (by decide) (by decide)
  exact ⟨g', h, c⟩

example : enclosingArg idR gEx (.bbox 1 90 41 107 60) = .ok ⟨10, 9, ⟨2, 0, 90, 0, -2, 60⟩, 1⟩ := by decide +kernel

example : project idR gEx 1 [(102, 48), (104, 44)] = .ok (0, [(1, 1), (2, 3)]) := by decide +kernel

example : project idR gEx 0 [(1, 1), (2, 3)] = .ok (1, [(102, 48), (104, 44)]) ∧
    project idR gEx 1 [(102, 48), (104, 44)] = .ok (0, [(1, 1), (2, 3)]) := by
  have h := (project_roundtrip idR gEx (by decide) (by decide +kernel) [(1, 1), (2, 3)]).1 1 [(102, 48), (104, 44)]
    (by decide +kernel)
  exact ⟨by decide +kernel, h⟩

example : scaledDown ⟨5, 7, Aff.id, 0⟩ 2 = zoomOut ⟨5, 7, Aff.id, 0⟩ 2 :=
  scaled_down_eq_zoom_out ⟨5, 7, Aff.id, 0⟩ 2 (by decide) (by decide) (by decide)

example : gcpResolution ⟨30, 0, 500000, 0, -30, 6000000⟩ ⟨5, 7, ⟨2, 0, 1, 0, 2, 3⟩, 3⟩ 1 1 = .ok (60, -60) := by
  have h := (gcp_resolution_view ⟨30, 0, 500000, 0, -30, 6000000⟩ ⟨5, 7, ⟨2, 0, 1, 0, 2, 3⟩, 3⟩ 1 1 ⟨rfl, rfl⟩ ⟨rfl, rfl⟩).1
  rw [h]; norm_num

example : ∃ g' cps', gcpToCrs (fun w => w) ⟨8, 8, ⟨2, 0, 1, 0, 2, 0⟩, 3⟩ [((5, 4), (100, 200))] 1 = .ok (g', cps') ∧ g'.A = Aff.id := by
  obtain ⟨g', cps', h, _, _, hA, _⟩ := gcp_to_crs_consistent (fun w => w) (fun p => p) ⟨8, 8, ⟨2, 0, 1, 0, 2, 0⟩, 3⟩
    [((5, 4), (100, 200))] 1 (by decide) (by decide +kernel) (Or.inr (by decide +kernel))
  exact ⟨g', cps', h, hA⟩

example : zoomToShape ⟨5, 10, ⟨4, 0, 100, 0, -4, 50⟩, 1⟩ 10 20 = .ok gEx :=
  zoom_to_shape_roundtrip gEx _ 5 10 (by decide +kernel) (by decide) (by decide)

example : getitem idR (pad gEx 3 (some 1)) (.seq [.slc (some 1) (some 11) none, .slc (some 3) (some 23) none]) = .ok gEx :=
  crop_of_pad idR gEx 3 1 (by decide) (by decide) (by decide) (by decide)

example : pad (crop gEx (.two (.slc (some 2) (some 8)) (.slc (some 3) (some 17)))) 3 (some 2) = gEx :=
  pad_of_crop gEx 3 2 (by decide) (by decide) (by decide) (by decide)

example : zoomToShape gEx 4 8 = zoomOut gEx (5 / 2) :=
  zoom_to_shape_eq_zoom_out gEx 4 8 (5 / 2) (by norm_num) (by decide) (by decide) (by norm_num [gEx]) (by norm_num [gEx])

example : zoomToShape ⟨4, 8, ⟨5, 0, 100, 0, -5, 50⟩, 1⟩ 10 20 = .ok gEx :=
  zoom_out_zoom_to_roundtrip gEx _ 4 8 (5 / 2) (by norm_num) (by decide) (by decide) (by norm_num [gEx]) (by norm_num [gEx])
    (by decide +kernel)

example : rotateQuarter (rotateQuarter gEx 3) (-7) = rotateQuarter gEx (-4) := (rotate_quarter_add gEx 3 (-7)).1

example : getitem (tableReproj [((10, 10), (3, -4))]) ⟨5, 7, ⟨2, 0, 0, 0, -2, 0⟩, 1⟩ (.region (.geom 2 [(10, 10)]))
    = .ok ⟨1, 1, ⟨2, 0, 2, 0, -2, -4⟩, 1⟩ := by decide +kernel

end OdcGeo.C02
