/-
C09 × C11 — `xr_reproject(src, <CRS>, **options)` from its arguments to the GeoBox recovered from its result.

`xrReprojectDa` / `xrReprojectDs` (Model/C09Reproject.lean) compose the C09 model (`recover`, `assemble`) with the
C11 model (`computeOutputCp`, Model/C11.lean + C11Glue.lean).  No hypothesis sits between the two: the destination
grid is computed by the C11 model from the GeoBox the C09 model recovers from the source array, with the options
as they travel through the keyword dictionary.
-/
import OdcGeo.Model.C09Reproject
import OdcGeo.Props.C09
import OdcGeo.Props.C11
import OdcGeo.Props.C11Glue
import OdcGeo.Props.C11C08

namespace OdcGeo.C09
open OdcGeo

/-- the options as `compute_output_geobox` receives them: every parameter explicitly bound -/
def effectiveArgs (a : C11.GridArgs) : C11.GridArgs :=
  ⟨some (a.resolution.getD (.str "auto")), some (a.shape.getD .none), some (a.tight.getD false),
   some (a.anchor.getD .dflt), some (a.tol.getD C11.tolDefault), some (a.rnd.getD .none)⟩

theorem extract_split {α : Type} {kw extra : List (String × α)} (hkw : ∀ kv ∈ kw, kv.1 ∈ gboxKeys)
    (hextra : ∀ kv ∈ extra, kv.1 ∉ gboxKeys) : extractOutputGeoboxParams (kw ++ extra) = (kw, extra) := by
  have h1 : kw.filter (fun kv => gboxKeys.contains kv.1) = kw :=
    List.filter_eq_self.mpr fun kv h => by simpa using hkw kv h
  have h2 : extra.filter (fun kv => gboxKeys.contains kv.1) = [] :=
    List.filter_eq_nil_iff.mpr fun kv h => by simpa using hextra kv h
  have h3 : kw.filter (fun kv => !gboxKeys.contains kv.1) = [] :=
    List.filter_eq_nil_iff.mpr fun kv h => by simpa using hkw kv h
  have h4 : extra.filter (fun kv => !gboxKeys.contains kv.1) = extra :=
    List.filter_eq_self.mpr fun kv h => by simpa using hextra kv h
  simp only [extractOutputGeoboxParams, List.filter_append, h1, h2, h3, h4, List.append_nil, List.nil_append]

/-- **grid_options_travel_unchanged** — whatever grid options the caller passes to `xr_reproject` (or leaves at
their defaults), and whatever other keywords accompany them, `_extract_output_geobox_params` hands
`compute_output_geobox` exactly those values — falsy ones (`tol=0`, `tight=False`, `shape=None`,
`round_resolution=None/False`) included — and leaves exactly the other keywords for the warp. -/
theorem grid_options_travel_unchanged (a : C11.GridArgs) (extra : List (String × KwVal))
    (hextra : ∀ kv ∈ extra, kv.1 ∉ gboxKeys) :
    bindGridArgs (extractOutputGeoboxParams (xrReprojectKw a extra)).1 = some (effectiveArgs a) ∧
    (extractOutputGeoboxParams (xrReprojectKw a extra)).2 = extra := by
  rw [xrReprojectKw, extract_split (by simp [gboxKeys]) hextra]
  refine ⟨?_, rfl⟩
  obtain ⟨res, shape, tight, anchor, tol, rnd⟩ := a
  simp only [bindGridArgs, List.lookup, String.reduceBEq]
  cases shape <;> cases rnd <;> rfl

theorem outputGeoboxOf_effective (r : Recovered) (sc c : Crs) (p : Proj) (a : C11.GridArgs) :
    outputGeoboxOf r sc c p (effectiveArgs a) = outputGeoboxOf r sc c p a := by
  simp [outputGeoboxOf, effectiveArgs]

theorem computeOutputAny_cases {g : Bool} {c : C11.Captured} {mode : C11.ResMode} {shape : C11.ShapeReq} {tight : Bool}
    {anchor : C11.Anchor} {tol : Rat} {rnd : C11.Rounding} {o : C11.Out}
    (h : C11.computeOutputAny g c mode shape tight anchor tol rnd = .ok o) :
    (o = .source ∧ g = true ∧ c.sameCrs = true ∧ (mode = .auto ∨ mode = .same) ∧ shape = .none ∧ anchor = .dflt) ∨
    ∃ gr res, o = .grid gr ∧ C11.fromBbox c.bbox shape res anchor tight tol = .ok gr := by
  rw [C11.computeOutputAny_eq] at h
  cases o with
  | source =>
    obtain ⟨hc, hrest⟩ := not_not.mp fun hs => C11.computeOutput_ne_source _ mode shape tight anchor tol rnd hs h
    exact Or.inl ⟨rfl, (Bool.and_eq_true_iff.mp hc).1, (Bool.and_eq_true_iff.mp hc).2, hrest⟩
  | grid gr =>
    obtain ⟨res, _, hf⟩ := C11.computeOutput_grid h
    exact Or.inr ⟨gr, res, rfl, hf⟩

theorem computeOutputCp_cases {g : Bool} {cc : C11.CapturedCp} {mode : C11.ResMode} {shape : C11.ShapeReq} {tight : Bool}
    {anchor : C11.Anchor} {tol : Rat} {rnd : C11.Rounding} {o : C11.Out}
    (h : C11.computeOutputCp g cc mode shape tight anchor tol rnd = .ok o) :
    (o = .source ∧ g = true ∧ cc.sameCrs = true ∧ (mode = .auto ∨ mode = .same) ∧ shape = .none ∧ anchor = .dflt) ∨
    ∃ gr res, o = .grid gr ∧ C11.fromBbox cc.bbox shape res anchor tight tol = .ok gr := by
  unfold C11.computeOutputCp at h
  split at h
  · rename_i hh
    exact Or.inl ⟨(Except.ok.inj h).symm, hh⟩
  · split at h
    · split at h
      · cases h
      · exact computeOutputAny_cases h
    · exact computeOutputAny_cases h

theorem outputGeoboxOf_ok {r : Recovered} {sc c : Crs} {p : Proj} {a : C11.GridArgs} {dst : GeoBox}
    (h : outputGeoboxOf r sc c p a = .ok dst) :
    (r = .lin dst ∧ c = sc ∧ (a.shape = none ∨ a.shape = some .none) ∧ (a.anchor = none ∨ a.anchor = some .dflt)) ∨
    ∃ gr res, C11.fromBbox p.bbox (a.shape.getD .none) res (a.anchor.getD .dflt) (a.tight.getD false)
        (a.tol.getD C11.tolDefault) = .ok gr ∧ 0 ≤ gr.ny ∧ 0 ≤ gr.nx ∧ dst = ⟨gr.ny.toNat, gr.nx.toNat, gr.A, some c⟩ := by
  unfold outputGeoboxOf at h
  simp only at h
  split at h
  · cases h
  · rename_i hco
    rcases computeOutputCp_cases hco with ⟨_, _, hsc, _, hshape, hanchor⟩ | ⟨gr, res, ho, _⟩
    · left
      split at h
      · exact ⟨by rw [Except.ok.inj h], by simpa using hsc, (Option.getD_eq_iff.mp hshape).symm.imp And.left id,
          (Option.getD_eq_iff.mp hanchor).symm.imp And.left id⟩
      · cases h
    · cases ho
  · rename_i gr hco
    right
    rcases computeOutputCp_cases hco with ⟨ho, _⟩ | ⟨gr', res, ho, hf⟩
    · cases ho
    · cases ho
      unfold gridToGeoBox at h
      split at h
      · cases h
      · exact ⟨gr, res, hf, by omega, by omega, (Except.ok.inj h).symm⟩

/-- **output_geobox_wellformed** — `.odc.output_geobox(crs, **kw)` / the destination of `xr_reproject(src, crs, **kw)` for a
source with CRS `sc`: either the source GeoBox itself (only for a linear source, its own CRS with `resolution`
auto/same, no shape, the literal default anchor), or an axis-aligned grid in the requested CRS with at least one pixel
per axis. -/
theorem output_geobox_wellformed {r : Recovered} {sc c : Crs} {p : Proj} {a : C11.GridArgs} {dst : GeoBox}
    (h : outputGeoboxOf r sc c p a = .ok dst) :
    (r = .lin dst ∧ c = sc) ∨ (dst.crs = some c ∧ 1 ≤ dst.ny ∧ 1 ≤ dst.nx ∧ dst.A.b = 0 ∧ dst.A.d = 0) := by
  rcases outputGeoboxOf_ok h with ⟨hr, hc, _⟩ | ⟨gr, res, hf, hny, hnx, rfl⟩
  · exact Or.inl ⟨hr, hc⟩
  · obtain ⟨hb, hd, h1, h2⟩ := C11.fromBbox_ok_aligned hf
    exact Or.inr ⟨rfl, (by omega : 1 ≤ gr.ny.toNat), (by omega : 1 ≤ gr.nx.toNat), hb, hd⟩

theorem output_geobox_reprojectable {g : GeoBox} {sc c : Crs} {p : Proj} {a : C11.GridArgs} {dst : GeoBox}
    (hsc : g.crs = some sc) (hd : outputGeoboxOf (.lin g) sc c p a = .ok dst)
    (hg : g.crs = some c → 1 ≤ g.ny ∧ 1 ≤ g.nx ∧ (isAffineST g.A = true → g.A.b = 0 ∧ g.A.d = 0)) :
    ReadsBack dst c := by
  rcases output_geobox_wellformed hd with ⟨hr, rfl⟩ | ⟨hc, hny, hnx, hb, hdd⟩
  · cases hr
    exact ⟨hsc, hg hsc⟩
  · exact ⟨hc, hny, hnx, fun _ => ⟨hb, hdd⟩⟩

theorem xrReprojectDa_ok {src : XArr} {c : Crs} {p : Proj} {a : C11.GridArgs} {extra : List (String × KwVal)}
    {nd : Bool} {out : XArr} (hextra : ∀ kv ∈ extra, kv.1 ∉ gboxKeys)
    (h : xrReprojectDa src (.crs c p) a extra nd = .ok out) :
    ∃ r sc dst, recover src = .ok r ∧ r.crs = some sc ∧ outputGeoboxOf r sc c p a = .ok dst ∧
      assemble src dst (nd || hasSrcNodata extra) = .ok out := by
  obtain ⟨hb, hrest⟩ := grid_options_travel_unchanged a extra hextra
  unfold xrReprojectDa at h
  simp only at h
  split at h
  · cases h
  · rename_i r hr
    split at h
    · cases h
    · rename_i sc hsc
      split at h
      · cases h
      · rename_i dst hd
        simp only [dstGeobox, hb, outputGeoboxOf_effective] at hd
        rw [hrest] at h
        exact ⟨r, sc, dst, hr, hsc, hd, h⟩

/-- **xr_reproject_crs_geobox** — `xr_reproject(src, <CRS>, **options)` / `src.odc.reproject(<CRS>, **options)` on a
DataArray, from the arguments to the result: for every source array with dims `(time?) y x (band?)` whose
recovered GeoBox is `g`, every destination CRS `c`, every combination of grid options (passed or left at their
defaults) and other keywords, whenever the call succeeds the GeoBox recovered from the **output** is exactly the
grid `compute_output_geobox(g, c, **options)` describes (C11 model), in CRS `c`; the output carries no
`SPATIAL_ATTRIBUTES` key and `grid_mapping = spatial_ref`.  `hg` is needed on the identity path only (destination =
the source's own CRS with default grid options, where the destination *is* `g`). -/
theorem xr_reproject_crs_geobox (src : XArr) (sc0 : Option Crs) (pre post : List String) (g : GeoBox) (c : Crs)
    (p : Proj) (a : C11.GridArgs) (extra : List (String × KwVal)) (nd : Bool) (out : XArr)
    (hshape : DimsShape src sc0 pre post) (hrec : recover src = .ok (.lin g))
    (hextra : ∀ kv ∈ extra, kv.1 ∉ gboxKeys)
    (hg : g.crs = some c → 1 ≤ g.ny ∧ 1 ≤ g.nx ∧ (isAffineST g.A = true → g.A.b = 0 ∧ g.A.d = 0))
    (h : xrReprojectDa src (.crs c p) a extra nd = .ok out) :
    ∃ sc dst, g.crs = some sc ∧ outputGeoboxOf (.lin g) sc c p a = .ok dst ∧ recover out = .ok (.lin dst) ∧
      dst.crs = some c ∧ (∀ k ∈ out.attrs, k ∉ spatialAttributes) ∧ out.gridMapping = some "spatial_ref" := by
  obtain ⟨r, sc, dst, hr, hsc, hd, hasm⟩ := xrReprojectDa_ok hextra h
  cases hrec.symm.trans hr
  have hdst := output_geobox_reprojectable hsc hd hg
  obtain ⟨hp1, hp2, hgb⟩ := assembled_var hdst hasm
  exact ⟨sc, dst, hsc, hd, hgb sc0 pre post hshape, hdst.1, hp1, hp2⟩

theorem rabs_le_mul_int (x : Rat) {k : Int} (hk : k ≠ 0) : rabs x ≤ rabs (x * (k : Rat)) := by
  rw [rabs_eq_abs, rabs_eq_abs, abs_mul]
  exact le_mul_of_one_le_right (abs_nonneg x) (one_le_abs_intCast hk)

/-- scaling the pixel axes by non-zero integers takes no grid into the tolerance band of `is_affine_st` -/
theorem isAffineST_mul_diag {A : Aff} {kx ky : Int} (hkx : kx ≠ 0) (hky : ky ≠ 0) (cx cy : Rat)
    (h : isAffineST (A * ⟨kx, 0, cx, 0, ky, cy⟩) = true) : isAffineST A = true := by
  simp only [isAffineST, Aff.mul_def, Aff.mul, mul_zero, add_zero, zero_add, Bool.and_eq_true, decide_eq_true_eq] at h ⊢
  exact ⟨(rabs_le_mul_int A.b hky).trans_lt h.1, (rabs_le_mul_int A.d hkx).trans_lt h.2⟩

/-- the box recovered after any history is axis-aligned or outside the tolerance band: from world labels it has no rotation
terms, from pixel labels those of the original times non-zero integers (the strides) -/
theorem writtenA_mul_idxAff_align (g : GeoBox) {my mx : AxMap} (hs : my.stride ≠ 0 ∧ mx.stride ≠ 0)
    (h : isAffineST (writtenA g * idxAff my mx) = true) :
    (writtenA g * idxAff my mx).b = 0 ∧ (writtenA g * idxAff my mx).d = 0 := by
  obtain ⟨kx, ky, cx, cy, hkx, hky, e⟩ := idxAff_diag hs.1 hs.2
  rw [e] at h ⊢
  have hst := isAffineST_mul_diag hkx hky cx cy h
  have hw : (writtenA g).b = 0 ∧ (writtenA g).d = 0 := by
    unfold writtenA at hst ⊢
    split
    · exact ⟨rfl, rfl⟩
    · rename_i hg
      rw [if_neg hg] at hst
      exact absurd hst hg
  simp only [Aff.mul_def, Aff.mul, hw.1, hw.2, mul_zero, zero_mul, add_zero, and_self]

/-- `xr_reproject(arr, <CRS>, **options)` after `wrap_xr` and any finite history of admissible operations, for every linear
source (inside the tolerance band of `is_affine_st` too: there the labels, and so the recovered box, ignore the
off-diagonal terms): whenever the call succeeds, a linear box `g` is recovered from `arr`, the destination is the grid
`compute_output_geobox` gives for `g`, and the GeoBox recovered from the output is exactly that grid. -/
theorem xr_reproject_crs_history_linear {g0 : GeoBox} {nt nb : Option Nat} {cn : String} {attrs : List String}
    {ops : List Op} {a0 arr : XArr} {c : Crs} {p : Proj} {a : C11.GridArgs} {extra : List (String × KwVal)}
    {nd : Bool} {out : XArr} (hcn : NameOk cn)
    (hw : wrap (.lin g0) nt nb cn attrs = .ok a0) (hadm : ∀ op ∈ ops, op.admissible)
    (hops : applyOps a0 ops = .ok arr) (hextra : ∀ kv ∈ extra, kv.1 ∉ gboxKeys)
    (h : xrReprojectDa arr (.crs c p) a extra nd = .ok out) :
    ∃ g sc dst, recover arr = .ok (.lin g) ∧ g.crs = some sc ∧ outputGeoboxOf (.lin g) sc c p a = .ok dst ∧
      recover out = .ok (.lin dst) ∧ dst.crs = some c ∧ (∀ k ∈ out.attrs, k ∉ spatialAttributes) := by
  obtain ⟨r, sc, dst, hr, hsc, _, _⟩ := xrReprojectDa_ok hextra h
  have hI := inv_history hcn hw hadm hops
  obtain ⟨pre, post, hs⟩ := dimsShape_history g0.crs rfl hw hadm hops
  generalize track (dimsOf g0.crs).1 (dimsOf g0.crs).2 (AxMap.ident g0.ny, AxMap.ident g0.nx) ops = m at hI
  by_cases hm : 1 ≤ m.1.len ∧ 1 ≤ m.2.len ∧ HasFallback g0 m.1 m.2
  · have hrec := inv_recover hI hm.1 hm.2.1 hm.2.2
    obtain ⟨sc', dst', e1, e2, e3, e4, e5, _⟩ := xr_reproject_crs_geobox arr g0.crs pre post _ c p a extra nd out hs
      hrec hextra (fun _ => ⟨hm.1, hm.2.1, writtenA_mul_idxAff_align g0 hI.stride⟩) h
    exact ⟨_, sc', dst', hrec, e1, e2, e3, e4, e5⟩
  · -- nothing is recovered from the source array, and nothing has no CRS
    cases (inv_recover_nothing hI hm).symm.trans hr
    cases hsc

/-- **xr_reproject_crs_history_any** — `xr_reproject_crs_history_linear` under `halign`, the condition of `survives`:
the source is axis-aligned (any signs) or rotated / sheared outside the 1e-10 tolerance band of `is_affine_st` (the proof
does not use it); any shape, rank, CRS-coordinate name `NameOk` admits and finite history of admissible operations.  No hypothesis about the
intermediate array or the recovered source box is left: the GeoBox recovered from the output of
`xr_reproject(arr, <CRS>, **options)` is the grid `compute_output_geobox` gives for the GeoBox recovered from `arr`. -/
theorem xr_reproject_crs_history_any (g0 : GeoBox) (nt nb : Option Nat) (cn : String) (attrs : List String)
    (ops : List Op) (a0 arr : XArr) (c : Crs) (p : Proj) (a : C11.GridArgs) (extra : List (String × KwVal))
    (nd : Bool) (out : XArr) (hcn : NameOk cn) (halign : isAffineST g0.A = true → g0.A.b = 0 ∧ g0.A.d = 0)
    (hw : wrap (.lin g0) nt nb cn attrs = .ok a0) (hadm : ∀ op ∈ ops, op.admissible)
    (hops : applyOps a0 ops = .ok arr) (hextra : ∀ kv ∈ extra, kv.1 ∉ gboxKeys)
    (h : xrReprojectDa arr (.crs c p) a extra nd = .ok out) :
    ∃ g sc dst, recover arr = .ok (.lin g) ∧ g.crs = some sc ∧ outputGeoboxOf (.lin g) sc c p a = .ok dst ∧
      recover out = .ok (.lin dst) ∧ dst.crs = some c ∧ (∀ k ∈ out.attrs, k ∉ spatialAttributes) :=
  xr_reproject_crs_history_linear hcn hw hadm hops hextra h

/-- **xr_reproject_crs_history** — the same for the property's quantifier: wrap any axis-aligned GeoBox `g0` (`hb`, `hd`,
not used by the proof either; any signs, shape, rank, CRS-coordinate name `NameOk` admits), apply any finite history of
admissible operations, call `xr_reproject(…, <CRS>, **options)`: no hypothesis about the intermediate array is left. -/
theorem xr_reproject_crs_history (g0 : GeoBox) (nt nb : Option Nat) (cn : String) (attrs : List String)
    (ops : List Op) (a0 arr : XArr) (c : Crs) (p : Proj) (a : C11.GridArgs) (extra : List (String × KwVal))
    (nd : Bool) (out : XArr) (hcn : NameOk cn) (hb : g0.A.b = 0) (hd : g0.A.d = 0)
    (hw : wrap (.lin g0) nt nb cn attrs = .ok a0) (hadm : ∀ op ∈ ops, op.admissible)
    (hops : applyOps a0 ops = .ok arr) (hextra : ∀ kv ∈ extra, kv.1 ∉ gboxKeys)
    (h : xrReprojectDa arr (.crs c p) a extra nd = .ok out) :
    ∃ g sc dst, recover arr = .ok (.lin g) ∧ g.crs = some sc ∧ outputGeoboxOf (.lin g) sc c p a = .ok dst ∧
      recover out = .ok (.lin dst) ∧ dst.crs = some c ∧ (∀ k ∈ out.attrs, k ∉ spatialAttributes) :=
  xr_reproject_crs_history_linear hcn hw hadm hops hextra h

/-- **xr_reproject_crs_covers_footprint** — C11's cover theorem at the level of the reprojected xarray object: for a
resolution-driven request (no `shape=`) with `tol ≥ 0`, the GeoBox recovered from the output of
`xr_reproject(src, <CRS>, **options)` is either the source GeoBox itself (identity path) or a grid whose extent
contains the bounding box of the projected, buffered footprint of the **recovered source GeoBox** up to `tol` of an
output pixel on every side — for every mode, anchor, `tight`, rounding and sign of the pixel size. -/
theorem xr_reproject_crs_covers_footprint (src : XArr) (sc0 : Option Crs) (pre post : List String) (g : GeoBox) (c : Crs)
    (p : Proj) (a : C11.GridArgs) (extra : List (String × KwVal)) (nd : Bool) (out : XArr)
    (hshape : DimsShape src sc0 pre post) (hrec : recover src = .ok (.lin g))
    (hextra : ∀ kv ∈ extra, kv.1 ∉ gboxKeys)
    (hg : g.crs = some c → 1 ≤ g.ny ∧ 1 ≤ g.nx ∧ (isAffineST g.A = true → g.A.b = 0 ∧ g.A.d = 0))
    (hs : a.shape = none ∨ a.shape = some .none) (ht : 0 ≤ a.tol.getD C11.tolDefault)
    (hbx : p.bbox.left ≤ p.bbox.right) (hby : p.bbox.bottom ≤ p.bbox.top)
    (h : xrReprojectDa src (.crs c p) a extra nd = .ok out) :
    ∃ dst, recover out = .ok (.lin dst) ∧
      (dst = g ∨
        (C11.gridLo dst.A.c dst.A.a dst.nx ≤ p.bbox.left + a.tol.getD C11.tolDefault * C11.rabs dst.A.a ∧
         p.bbox.right - a.tol.getD C11.tolDefault * C11.rabs dst.A.a ≤ C11.gridHi dst.A.c dst.A.a dst.nx ∧
         C11.gridLo dst.A.f dst.A.e dst.ny ≤ p.bbox.bottom + a.tol.getD C11.tolDefault * C11.rabs dst.A.e ∧
         p.bbox.top - a.tol.getD C11.tolDefault * C11.rabs dst.A.e ≤ C11.gridHi dst.A.f dst.A.e dst.ny)) := by
  obtain ⟨sc, dst, _, hd, hr, _⟩ := xr_reproject_crs_geobox src sc0 pre post g c p a extra nd out hshape hrec hextra hg h
  refine ⟨dst, hr, ?_⟩
  rcases outputGeoboxOf_ok hd with ⟨hdg, _⟩ | ⟨gr, res, hf, hny, hnx, hdst⟩
  · exact Or.inl (Recovered.lin.inj hdg).symm
  · right
    have hshape' : a.shape.getD .none = .none := by rcases hs with h' | h' <;> simp [h']
    rw [hshape'] at hf
    cases res with
    | none => simp [C11.fromBbox] at hf
    | some r =>
      obtain ⟨rx, ry⟩ := r
      rw [C11.fromBbox_none_some] at hf
      obtain ⟨offx, nx, offy, ny, hx, hy, hgr⟩ := C11.fromBboxRes_ok _ _ _ _ _ _ hf
      subst hgr
      obtain ⟨x1, x2, _, _⟩ := C11.snapGrid_spec _ _ _ _ _ _ _ ht hbx hx
      obtain ⟨y1, y2, _, _⟩ := C11.snapGrid_spec _ _ _ _ _ _ _ ht hby hy
      subst hdst
      simp only at hny hnx
      simp only [Int.toNat_of_nonneg hny, Int.toNat_of_nonneg hnx, Aff.translation_mul_scale]
      exact ⟨x1, x2, y1, y2⟩

theorem reprojectVarC_ok {dst : GeoBox} {c : Crs} {nd : Bool} {nv : String × XArr} {nm : String} {o : XArr}
    (hdst : ReadsBack dst c) (h : reprojectVarC dst nd nv = .ok (nm, o)) :
    nm = nv.1 ∧
      ((recover nv.2 = .ok .nothing ∧ o.dims = nv.2.dims ∧ o.attrs = nv.2.attrs) ∨
       ((∀ k ∈ o.attrs, k ∉ spatialAttributes) ∧ o.gridMapping = some "spatial_ref" ∧
         (∀ sc pre post, DimsShape nv.2 sc pre post → recover o = .ok (.lin dst)))) := by
  unfold reprojectVarC at h
  split at h
  · cases h
  · obtain ⟨hn, hv⟩ := reprojectVar_ok hdst h
    exact ⟨hn, hv.imp id And.right⟩
  · split at h
    · cases h
    · obtain ⟨o', has, h⟩ := map_ok_iff.mp h
      cases h
      exact ⟨rfl, Or.inr (assembled_var hdst has)⟩

/-- **xr_reproject_ds_crs** — `xr_reproject(ds: Dataset, <CRS>, **options)`: the destination is computed once, from the
GeoBox `g` recovered from the Dataset as a whole, with the caller's options; the Dataset attrs carry no
`SPATIAL_ATTRIBUTES` key; every output variable comes from the source variable of that name: a variable without
geobox passes through (dims and attrs untouched), every other one (dims `(time?) y x (band?)`) gives back **exactly
that destination** through `.odc.geobox`, has no `SPATIAL_ATTRIBUTES` key and `grid_mapping = spatial_ref`. -/
theorem xr_reproject_ds_crs (attrs : List String) (gm : Option String) (vars : List (String × XArr)) (g : GeoBox)
    (c : Crs) (p : Proj) (a : C11.GridArgs) (extra : List (String × KwVal)) (attrs' : List String)
    (out : List (String × XArr)) (hrec : recover (dsSrcView attrs gm vars) = .ok (.lin g))
    (hextra : ∀ kv ∈ extra, kv.1 ∉ gboxKeys)
    (hg : g.crs = some c → 1 ≤ g.ny ∧ 1 ≤ g.nx ∧ (isAffineST g.A = true → g.A.b = 0 ∧ g.A.d = 0))
    (h : xrReprojectDs attrs gm vars (.crs c p) a extra = .ok (attrs', out)) :
    ∃ sc dst, g.crs = some sc ∧ outputGeoboxOf (.lin g) sc c p a = .ok dst ∧ dst.crs = some c ∧
      (∀ k ∈ attrs', k ∉ spatialAttributes) ∧
      ∀ nm o, (nm, o) ∈ out → ∃ v, (nm, v) ∈ vars ∧
        ((recover v = .ok .nothing ∧ o.dims = v.dims ∧ o.attrs = v.attrs) ∨
         ((∀ k ∈ o.attrs, k ∉ spatialAttributes) ∧ o.gridMapping = some "spatial_ref" ∧
           (∀ sc0 pre post, DimsShape v sc0 pre post → recover o = .ok (.lin dst)))) := by
  obtain ⟨hb, hrest⟩ := grid_options_travel_unchanged a extra hextra
  unfold xrReprojectDs at h
  simp only [hrec] at h
  cases hcrs : g.crs with
  | none => simp [Recovered.crs, hcrs] at h
  | some sc =>
    simp only [Recovered.crs, hcrs, dstGeobox, hb, outputGeoboxOf_effective] at h
    split at h
    · cases h
    · rename_i dst hd
      have hdst := output_geobox_reprojectable hcrs hd hg
      obtain ⟨outs, hm, h⟩ := bind_ok_iff.mp h
      cases h
      refine ⟨sc, dst, rfl, hd, hdst.1, fun k hk => by simpa using (List.mem_filter.mp hk).2, fun nm o hmem => ?_⟩
      obtain ⟨⟨nm', v⟩, hx, hfx⟩ := mapM_ok_mem hm (nm, o) hmem
      obtain ⟨rfl, hv⟩ := reprojectVarC_ok hdst hfx
      exact ⟨v, hx, hv⟩

/-- the merge step of `dsView` -/
def mergeStep (acc : List (String × Coord)) (kc : String × Coord) : List (String × Coord) :=
  if (acc.map (·.1)).contains kc.1 then acc else acc ++ [kc]

theorem dsView_coords_eq (attrs : List String) (vars : List (String × XArr)) :
    (dsView attrs vars).coords = (vars.flatMap (·.2.coords)).foldl mergeStep [] := rfl

theorem mergeStep_known {acc : List (String × Coord)} {x : String × Coord} (h : x.1 ∈ acc.map (·.1)) :
    mergeStep acc x = acc := by
  unfold mergeStep
  rw [if_pos (List.contains_iff_mem.mpr h)]

theorem mergeStep_fresh {acc : List (String × Coord)} {x : String × Coord} (h : x.1 ∉ acc.map (·.1)) :
    mergeStep acc x = acc ++ [x] := by
  unfold mergeStep
  rw [if_neg (fun hc => h (List.contains_iff_mem.mp hc))]

theorem merge_appends (l acc : List (String × Coord)) :
    ∃ F, l.foldl mergeStep acc = acc ++ F ∧ ∀ kc ∈ F, kc ∈ l ∧ kc.1 ∉ acc.map (·.1) := by
  induction l generalizing acc with
  | nil => exact ⟨[], (List.append_nil _).symm, fun _ h => by cases h⟩
  | cons x xs ih =>
    by_cases hx : x.1 ∈ acc.map (·.1)
    · obtain ⟨F, hF, hmem⟩ := ih acc
      refine ⟨F, by rw [List.foldl_cons, mergeStep_known hx, hF], fun kc hkc => ?_⟩
      exact ⟨List.mem_cons_of_mem _ (hmem kc hkc).1, (hmem kc hkc).2⟩
    · obtain ⟨F, hF, hmem⟩ := ih (acc ++ [x])
      refine ⟨x :: F, by rw [List.foldl_cons, mergeStep_fresh hx, hF, List.append_assoc]; rfl, fun kc hkc => ?_⟩
      rcases List.mem_cons.mp hkc with rfl | hkc
      · exact ⟨List.mem_cons_self, hx⟩
      · obtain ⟨h1, h2⟩ := hmem kc hkc
        exact ⟨List.mem_cons_of_mem _ h1, fun hm => h2 (by rw [List.map_append]; exact List.mem_append_left _ hm)⟩

theorem merge_known (l acc : List (String × Coord)) (h : ∀ kc ∈ l, kc.1 ∈ acc.map (·.1)) :
    l.foldl mergeStep acc = acc := by
  obtain ⟨F, hF, hm⟩ := merge_appends l acc
  have : F = [] := List.eq_nil_iff_forall_not_mem.mpr fun kc hkc => (hm kc hkc).2 (h kc (hm kc hkc).1)
  rw [hF, this, List.append_nil]

theorem merge_fresh (l acc : List (String × Coord)) (h : (acc.map (·.1) ++ l.map (·.1)).Nodup) :
    l.foldl mergeStep acc = acc ++ l := by
  induction l generalizing acc with
  | nil => exact (List.append_nil _).symm
  | cons x xs ih =>
    have hx : x.1 ∉ acc.map (·.1) := fun hm =>
      (List.nodup_append.mp h).2.2 _ hm _ List.mem_cons_self rfl
    rw [List.foldl_cons, mergeStep_fresh hx, ih (acc ++ [x]) (by simpa [List.append_assoc] using h),
      List.append_assoc]
    rfl

theorem dsView_coords_cons (attrs : List String) (a : XArr) (v : String × XArr) (vs : List (String × XArr))
    (h0 : v.2.coords = a.coords) (hnd : (a.coords.map (·.1)).Nodup) :
    (dsView attrs (v :: vs)).coords = (vs.flatMap (·.2.coords)).foldl mergeStep a.coords := by
  rw [dsView_coords_eq]
  simp only [List.flatMap_cons, List.foldl_append, h0]
  rw [merge_fresh a.coords [] (by simpa using hnd), List.nil_append]

theorem dsView_coords_shared (attrs : List String) (a : XArr) (v : String × XArr) (vs : List (String × XArr))
    (hall : ∀ w ∈ v :: vs, w.2.coords = a.coords) (hnd : (a.coords.map (·.1)).Nodup) :
    (dsView attrs (v :: vs)).coords = a.coords := by
  rw [dsView_coords_cons attrs a v vs (hall v List.mem_cons_self) hnd]
  apply merge_known
  intro kc hkc
  obtain ⟨w, hw, hkw⟩ := List.mem_flatMap.mp hkc
  rw [hall w (List.mem_cons_of_mem _ hw)] at hkw
  exact List.mem_map_of_mem hkw

theorem guessDims_dsSrcView (attrs : List String) (gm : Option String) (a : XArr) (v : String × XArr)
    (vs : List (String × XArr)) (h0 : v.2.dims = a.dims)
    (hdi : ∀ w ∈ vs, ∀ d ∈ w.2.dims, d ∈ a.dims ∨ d ∉ ["y", "x", "latitude", "longitude", "lat", "lon"]) :
    guessDims (dsSrcView attrs gm (v :: vs)).dims = guessDims a.dims := by
  apply guessDims_congr6
  intro x hx6
  show x ∈ ((v :: vs).flatMap (·.2.dims)).eraseDups ↔ x ∈ a.dims
  rw [List.mem_eraseDups, List.flatMap_cons, List.mem_append, h0, List.mem_flatMap]
  exact ⟨fun h => h.elim id fun ⟨w, hw, hxw⟩ => (hdi w hw x hxw).resolve_right fun h => h hx6, Or.inl⟩

/-- **ds_view_recover** — the geobox of a Dataset as a whole (`ds.odc.geobox`, from which `xr_reproject(ds, <CRS>)`
computes the destination) is the geobox of its variables: when every data variable carries the dims and
coordinates of one array `a` (as in `Dataset({"a": arr, "b": arr * 2})`; `a` has named spatial dims and distinct
coordinate names), `_locate_geo_info(ds)` recovers exactly what it recovers from `a` under the Dataset's own
`grid_mapping` (encoding / attrs, if any). -/
theorem ds_view_recover (attrs : List String) (gm : Option String) (a : XArr) (vars : List (String × XArr))
    (p : String × String) (hne : vars ≠ []) (hall : ∀ v ∈ vars, v.2.dims = a.dims ∧ v.2.coords = a.coords)
    (hnd : (a.coords.map (·.1)).Nodup) (hg : guessDims a.dims = some p) :
    recover (dsSrcView attrs gm vars) = recover { a with gridMapping := gm } := by
  cases vars with
  | nil => exact absurd rfl hne
  | cons v vs =>
    have hc : (dsSrcView attrs gm (v :: vs)).coords = a.coords := dsView_coords_shared attrs a v vs (fun w hw => (hall w hw).2) hnd
    have hgd := (guessDims_dsSrcView attrs gm a v vs (hall v List.mem_cons_self).1
      fun w hw d hd => Or.inl ((hall w (List.mem_cons_of_mem _ hw)).1 ▸ hd)).trans hg
    have hgm : (dsSrcView attrs gm (v :: vs)).gridMapping = gm := rfl
    unfold recover locateCrsCoords
    rw [spatialDims_of_guess hgd, spatialDims_of_guess hg, hc, hgm]

/-- **xr_reproject_ds_crs_shared** — `xr_reproject_ds_crs` without the Dataset-level hypothesis: for a Dataset whose
variables share the dims and coordinates of an array `a`, the destination is computed from the GeoBox recovered
from `a` itself. -/
theorem xr_reproject_ds_crs_shared (attrs : List String) (gm : Option String) (a0 : XArr) (vars : List (String × XArr))
    (pd : String × String) (g : GeoBox) (c : Crs) (p : Proj) (a : C11.GridArgs) (extra : List (String × KwVal))
    (attrs' : List String) (out : List (String × XArr)) (hne : vars ≠ [])
    (hall : ∀ v ∈ vars, v.2.dims = a0.dims ∧ v.2.coords = a0.coords) (hnd : (a0.coords.map (·.1)).Nodup)
    (hgd : guessDims a0.dims = some pd) (hrec : recover { a0 with gridMapping := gm } = .ok (.lin g))
    (hextra : ∀ kv ∈ extra, kv.1 ∉ gboxKeys)
    (hg : g.crs = some c → 1 ≤ g.ny ∧ 1 ≤ g.nx ∧ (isAffineST g.A = true → g.A.b = 0 ∧ g.A.d = 0))
    (h : xrReprojectDs attrs gm vars (.crs c p) a extra = .ok (attrs', out)) :
    ∃ sc dst, g.crs = some sc ∧ outputGeoboxOf (.lin g) sc c p a = .ok dst ∧ dst.crs = some c ∧
      (∀ k ∈ attrs', k ∉ spatialAttributes) ∧
      ∀ nm o, (nm, o) ∈ out → ∃ v, (nm, v) ∈ vars ∧
        ((recover v = .ok .nothing ∧ o.dims = v.dims ∧ o.attrs = v.attrs) ∨
         ((∀ k ∈ o.attrs, k ∉ spatialAttributes) ∧ o.gridMapping = some "spatial_ref" ∧
           (∀ sc0 pre post, DimsShape v sc0 pre post → recover o = .ok (.lin dst)))) :=
  xr_reproject_ds_crs attrs gm vars g c p a extra attrs' out
    (by rw [ds_view_recover attrs gm a0 vars pd hne hall hnd hgd]; exact hrec) hextra hg h

/-- non-vacuity of `ds_view_recover` / `xr_reproject_ds_crs_shared`: `Dataset({"a": arr, "b": arr * 2})` of a rotated,
sliced array — the Dataset-level geobox is the array's, on both location paths of the CRS coordinate -/
example :
    let arr := (wrap (.lin ⟨4, 6, ⟨3, 4, 100, 4, -3, 200⟩, some ⟨3857, false⟩⟩) (some 2) none "foo" ["keep"]).bind
      (fun a => applyOps a [.isel "y" (.slc (some 1) none none)])
    arr.bind (fun a => recover (dsSrcView ["title"] none [("a", a), ("b", { a with gridMapping := none })])) = arr.bind recover ∧
    arr.bind (fun a => recover (dsSrcView [] (some "foo") [("a", a), ("b", { a with gridMapping := none })])) = arr.bind recover ∧
    arr.bind (fun a => .ok (decide ((a.coords.map (·.1)).Nodup) && (guessDims a.dims).isSome)) = .ok true := by
  decide +kernel

/-- **nodata_range_check** — `xr_reproject` with the range check of `_check_nodata_range`: the call succeeds exactly when
the unchecked pipeline succeeds **and** both the effective `src_nodata` (keyword, else the `nodata` / `_FillValue`
attribute) and the effective `dst_nodata` (argument, else `src_nodata`) lie in the value range of the pixel type;
then the result is the same object, so every theorem about `xrReprojectDa` applies; otherwise `ValueError` (in the
code the check sits before the dispatch to the numpy / dask workers, which the model does not tell apart). -/
theorem nodata_range_check (src : XArr) (how : How) (a : C11.GridArgs) (extra : List (String × KwVal)) (n : NodataVals)
    (out : XArr) :
    (xrReprojectDaChecked src how a extra n = .ok out ↔
      (xrReprojectDa src how a extra n.dstKw.isSome = .ok out ∧ nodataOk n = true)) ∧
    (nodataOk n = false → ∀ o, xrReprojectDa src how a extra n.dstKw.isSome = .ok o →
      xrReprojectDaChecked src how a extra n = .error .valueError) := by
  unfold xrReprojectDaChecked
  constructor
  · cases xrReprojectDa src how a extra n.dstKw.isSome <;> cases nodataOk n <;> simp
  · intro hn o ho
    simp [ho, hn]

/-- the defaults of the two values: a `dst_nodata` argument wins, else `src_nodata=`, else the attribute -/
theorem nodata_defaults (s d t : Rat) (r : Option (Rat × Rat)) :
    (NodataVals.mk (some s) (some d) (some t) r).dst = some d ∧ (NodataVals.mk (some s) none (some t) r).dst = some s ∧
    (NodataVals.mk none none (some t) r).dst = some t ∧ (NodataVals.mk none none none r).dst = none ∧
    (NodataVals.mk none (some d) (some t) r).src = some t := ⟨rfl, rfl, rfl, rfl, rfl⟩

/-- an out-of-range value that only enters through the attribute is refused as well (uint8, `nodata=-9999`) -/
example : nodataOk ⟨none, none, some (-9999), some (0, 255)⟩ = false ∧ nodataOk ⟨none, some 7, some 0, some (0, 255)⟩ = true ∧
    nodataOk ⟨some 300, some 7, none, some (0, 255)⟩ = false ∧ nodataOk ⟨some 300, none, none, none⟩ = true := by
  decide +kernel

/-- non-vacuity of `xr_reproject_crs_history_any` on a rotated source: a strided, reversed slice of a 3-4-5 rotated box,
own CRS with default options (identity path: the recovered rotated box itself is the destination and comes back) and
with `tight=True` + centre anchor (grid recomputed) -/
example :
    let src := (wrap (.lin ⟨4, 6, ⟨3, 4, 100, 4, -3, 200⟩, some ⟨3857, false⟩⟩) none (some 2) "foo" []).bind
      (fun a => applyOps a [.isel "x" (.slc none none (some (-2))), .pickle])
    let p : Proj := ⟨true, (10, -10), ⟨90, 180, 140, 230⟩, ⟨0, 0, 1, 1⟩, (1, 1)⟩
    src.bind (fun a => (xrReprojectDa a (.crs ⟨3857, false⟩ p) {} [] false).bind recover)
      = src.bind recover ∧
    src.bind (fun a => (xrReprojectDa a (.crs ⟨3857, false⟩ p) { tight := some true, anchor := some .center } [] false).bind recover)
      = .ok (.lin ⟨5, 5, ⟨10, 0, 90, 0, -10, 230⟩, some ⟨3857, false⟩⟩) := by
  decide +kernel

/-- the source of the examples below: a mirrored, strided slice of a geographic `(time, latitude, longitude)` array
with a custom CRS-coordinate name, after arithmetic -/
def exampleSrc : Res XArr :=
  (wrap (.lin ⟨4, 5, ⟨1 / 4, 0, 14, 0, -1 / 4, 50⟩, some ⟨4326, true⟩⟩) (some 2) none "crs" ["crs", "keep"]).bind
    (fun a => applyOps a [.isel "longitude" (.slc none none (some (-2))), .arith])

/-- non-vacuity of `xr_reproject_crs_geobox` / `_history`: another CRS, `fit` through the centre-pixel box, centre
anchor, `tol=0`, a `src_nodata` keyword: the call succeeds and the recovered GeoBox is the computed grid. -/
example :
    exampleSrc.bind (fun a => (xrReprojectDa a (.crs ⟨3857, false⟩ ⟨false, (1, -1), ⟨1000, 2000, 1900, 2700⟩, ⟨0, 0, 32, 16⟩, (2, 1)⟩)
        { tol := some 0, anchor := some .center } [("src_nodata", .num 0)] false).bind recover)
      = .ok (.lin ⟨45, 57, ⟨16, 0, 1000, 0, -16, 2712⟩, some ⟨3857, false⟩⟩) := by
  decide +kernel

/-- the identity corner and its neighbour: the source's own CRS with `tight=True` alone gives back the source grid
(the fast path does not look at `tight`); with an explicit anchor as well the grid is recomputed around the
buffered footprint — the two requests must not be confused by any argument "normalisation" on the way. -/
example :
    exampleSrc.bind (fun a => (xrReprojectDa a (.crs ⟨4326, true⟩ ⟨true, (1, -1), ⟨13, 48, 16, 51⟩, ⟨0, 0, 1, 1⟩, (1, 1)⟩)
        { tight := some true } [] false).bind recover)
      = .ok (.lin ⟨4, 3, ⟨-1 / 2, 0, 123 / 8, 0, -1 / 4, 50⟩, some ⟨4326, true⟩⟩) ∧
    exampleSrc.bind (fun a => (xrReprojectDa a (.crs ⟨4326, true⟩ ⟨true, (1, -1), ⟨13, 48, 16, 51⟩, ⟨0, 0, 1, 1⟩, (1, 1)⟩)
        { tight := some true, anchor := some .center } [] false).bind recover)
      = .ok (.lin ⟨12, 6, ⟨-1 / 2, 0, 16, 0, -1 / 4, 51⟩, some ⟨4326, true⟩⟩) := by
  decide +kernel

end OdcGeo.C09
