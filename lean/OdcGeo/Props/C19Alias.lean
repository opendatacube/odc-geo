/-
C19 — theorems about SHARED CRS instances, `CRS.authority` and the NaN
clean-up of the transformer wrapper (`Model/C19Alias.lean`), and the discharge of the key-coherence
hypotheses for plain (non-EPSG) texts.
-/
import OdcGeo.Model.C19Alias
import OdcGeo.Props.C19
import OdcGeo.Props.C19Glue

namespace OdcGeo.C19

theorem fillEpsg_of_set {c : CrsObj} (h : c.epsg ≠ some 0) : fillEpsg c = c :=
  if_neg (by simpa using h)

theorem fillEpsg_of_unset {c : CrsObj} (h : c.epsg = some 0) :
    fillEpsg c = { c with epsg := c.info.epsg } :=
  if_pos (by simp [h])

/-- a `.epsg` read changes nothing but the lazy field: pyproj object, string form (hence hash,
token and pickle) stay -/
theorem fillEpsg_keeps (c : CrsObj) :
    (fillEpsg c).obj = c.obj ∧ (fillEpsg c).info = c.info ∧ (fillEpsg c).str = c.str := by
  unfold fillEpsg; split <;> exact ⟨rfl, rfl, rfl⟩

/-- reading twice is reading once (pyproj's `to_epsg()` never answers the "unset" marker 0) -/
theorem fillEpsg_idem (c : CrsObj) (h : c.info.epsg ≠ some 0) : fillEpsg (fillEpsg c) = fillEpsg c := by
  by_cases h0 : c.epsg = some 0
  · rw [fillEpsg_of_unset h0, fillEpsg_of_set h]
  · rw [fillEpsg_of_set h0, fillEpsg_of_set h0]

theorem assoc_step_epsg (W : World) {σ : State} {v : Nat} {c : CrsObj} (h : assoc v σ.vars = some c) :
    assoc v (step W σ (.epsg v)).1.vars = some (fillEpsg c) ∧
    (step W σ (.epsg v)).2 = .epsg (fillEpsg c).epsg := by
  simp only [step, h, fillEpsg]
  split
  · exact ⟨assoc_setVar _ _ _, rfl⟩
  · exact ⟨h, rfl⟩

/-- the `.epsg` step of the history model is this very update of the instance -/
theorem step_epsg_is_fillEpsg (W : World) (σ : State) (v : Nat) (c : CrsObj) (h : assoc v σ.vars = some c) :
    (step W σ (.epsg v)).2 = .epsg (fillEpsg c).epsg ∧
    ((step W σ (.epsg v)).1.vars = σ.vars ∨ assoc v (step W σ (.epsg v)).1.vars = some (fillEpsg c)) :=
  ⟨(assoc_step_epsg W h).2, Or.inr (assoc_step_epsg W h).1⟩

/-- **Values that share an instance are always `==` in their CRS field**, whatever was read,
copied or constructed before — with NO coherence hypothesis: `self._crs is other._crs` answers
before anything that K4 can spoil is looked at. -/
theorem shared_holders_equal (σ : AState) (h1 h2 i : Nat) (c : CrsObj)
    (e1 : assoc h1 σ.hold = some (some i)) (e2 : assoc h2 σ.hold = some (some i))
    (ei : assoc i σ.inst = some c) :
    astep σ (.eq h1 h2) = (σ, .bool true) := by
  simp [astep, AState.crsOf, e1, e2, ei, optCrsEq, crs_eq_refl]

/-- one read is seen by every holder of the instance at once … -/
theorem read_seen_by_all_holders (σ : AState) (h i : Nat) (c : CrsObj)
    (eh : assoc h σ.hold = some (some i)) (ei : assoc i σ.inst = some c) :
    (astep σ (.read i)).1.crsOf h = some (some (fillEpsg c)) := by
  simp [astep, ei, AState.crsOf, eh, assoc_setVar]

/-- … and by nobody else: holders of other instances, and COPIES of the instance taken before
the read (`CRS(x)`, an unpickled clone), keep what they had -/
theorem read_leaves_other_instances (σ : AState) (h i j : Nat) (c : CrsObj) (hij : j ≠ i)
    (eh : assoc h σ.hold = some (some j)) (ei : assoc i σ.inst = some c) :
    (astep σ (.read i)).1.crsOf h = σ.crsOf h := by
  simp only [astep, ei, AState.crsOf, eh, assoc_setVar_ne j i _ _ hij]

theorem copy_is_snapshot (σ : AState) (i j : Nat) (c : CrsObj) (hij : j ≠ i) (ei : assoc i σ.inst = some c) :
    assoc j (astep (astep σ (.copy j i)).1 (.read i)).1.inst = some c := by
  simp only [astep, ei, assoc_setVar_ne i j _ _ hij.symm, assoc_setVar_ne j i _ _ hij, assoc_setVar]

/-- what a holder is hashed / tokenized / pickled from does not move under reads: hash, dask
token and pickle of BoundingBox and GeoBox are the same before and after any `.epsg` read of
the instance they hold -/
theorem holder_hash_token_stable (c : CrsObj) (a : BBox) (g : GBox) :
    optCrsHash (some (fillEpsg c)) = optCrsHash (some c) ∧ optCrsStr (some (fillEpsg c)) = optCrsStr (some c) ∧
    BBox.hashKey { a with crs := some (fillEpsg c) } = BBox.hashKey { a with crs := some c } ∧
    BBox.token { a with crs := some (fillEpsg c) } = BBox.token { a with crs := some c } ∧
    GBox.hashKey { g with crs := some (fillEpsg c) } = GBox.hashKey { g with crs := some c } ∧
    GBox.token { g with crs := some (fillEpsg c) } = GBox.token { g with crs := some c } := by
  have hs := (fillEpsg_keeps c).2.2
  simp [optCrsHash, optCrsStr, BBox.hashKey, BBox.token, GBox.hashKey, GBox.token, GBox.tokenTail, optCrsPkl, hs]

/-- **Under EPSG coherence a read changes no comparison**: if the records before and after the
read are coherent with the other operand (the negation of K4 on these three records), `==` of a
holder with anything else is what it was.  Coherence is exactly what K4 violates: equality of
values holding DIFFERENT instances is stable under read-only use when no fuzzy EPSG match is
involved, and `shared_read_changes_equality_cex` shows it move when one is. -/
theorem crsEq_read_invariant {D : CrsObj → Prop} (hD : Coherent D) (a b : CrsObj)
    (ha : D a) (ha' : D (fillEpsg a)) (hb : D b) :
    crsEq (fillEpsg a) b = crsEq a b ∧ crsEq b (fillEpsg a) = crsEq b a := by
  have hi := (fillEpsg_keeps a).2.1
  constructor
  · rw [Bool.eq_iff_iff, crs_eq_iff_sys hD _ _ ha' hb, crs_eq_iff_sys hD _ _ ha hb, hi]
  · rw [Bool.eq_iff_iff, crs_eq_iff_sys hD _ _ hb ha', crs_eq_iff_sys hD _ _ hb ha, hi]

/-- **K4 reaches containers through sharing (witness, replayed on the real code).**
`x = CRS(lossy text of 4326)`, `b1 = BoundingBox(…, x)`, `x2 = CRS(x)` taken BEFORE the read,
`b2 = BoundingBox(…, x2)`, `b3 = BoundingBox(…, CRS("EPSG:4326"))`.  Nobody touches a box, one
`x.epsg` is read: `b1 == b3` flips from False to True, `b2 == b3` stays False, `b1 == b2` is
True throughout (same pyproj object) — `==` of the three boxes is no longer transitive. -/
theorem shared_read_changes_equality_cex :
    let x : CrsObj := ⟨0, ⟨0, "X", "WX", some 4326⟩, "X", some 0⟩
    let e : CrsObj := ⟨1, ⟨1, "EPSG:4326", "W", some 4326⟩, "EPSG:4326", some 4326⟩
    (arun {} [.new 0 x, .copy 2 0, .new 1 e, .hold 1 0, .hold 2 2, .hold 3 1,
              .eq 1 3, .eq 2 3, .eq 1 2, .read 0, .eq 1 3, .eq 2 3, .eq 1 2]).2.drop 6 =
      [.bool false, .bool false, .bool true, .epsg (some 4326), .bool true, .bool false, .bool true] := by
  decide +kernel

/-- `authority` looks at the lazy field first: it is unaffected by a read unless the field was
unset AND pyproj's `to_epsg()` finds a code — then it becomes `("EPSG", code)` whatever
`to_authority()` said before -/
theorem authority_read_spec (c : CrsObj) (ta : Option (String × String)) :
    ((c.epsg ≠ some 0 ∨ truthy c.info.epsg = false) → authorityOf (fillEpsg c) ta = authorityOf c ta) ∧
    (∀ n, c.epsg = some 0 → c.info.epsg = some n → n ≠ 0 →
      authorityOf (fillEpsg c) ta = ("EPSG", toString n)) := by
  constructor
  · rintro (h | h)
    · rw [fillEpsg_of_set h]
    · by_cases h0 : c.epsg = some 0
      · rw [fillEpsg_of_unset h0]
        rcases hi : c.info.epsg with _ | n
        · simp [authorityOf, h0]
        · have hn : n = 0 := by simpa [truthy, hi] using h
          simp only [authorityOf, h0, hn]
      · rw [fillEpsg_of_set h0]
  · intro n h0 hi hn
    rw [fillEpsg_of_unset h0]
    simp [authorityOf, hi, hn]

/-- stable when pyproj's two answers agree -/
theorem authority_stable_if_pyproj_agrees (c : CrsObj) (n : Nat) (hn : n ≠ 0) (hi : c.info.epsg = some n) :
    authorityOf (fillEpsg c) (some ("EPSG", toString n)) = authorityOf c (some ("EPSG", toString n)) := by
  by_cases h0 : c.epsg = some 0
  · rw [fillEpsg_of_unset h0]
    simp [authorityOf, h0, hi, hn]
  · rw [fillEpsg_of_set h0]

/-- **witness (same root as K4, reported under its key)**: `CRS("+proj=longlat +datum=WGS84
+no_defs").authority` is `("OGC", "CRS84")` until `.epsg` is read and `("EPSG", "4326")` after -/
theorem authority_history_dependent_cex :
    let x : CrsObj := ⟨0, ⟨0, "X", "WX", some 4326⟩, "X", some 0⟩
    authorityOf x (some ("OGC", "CRS84")) = ("OGC", "CRS84") ∧
    authorityOf (fillEpsg x) (some ("OGC", "CRS84")) = ("EPSG", "4326") := by
  decide +kernel

theorem cleanPair_eq_zipWith : ∀ xs ys : List (Option Rat), cleanPair xs ys =
    List.zipWith (fun x y => if isNan x || isNan y then (none, none) else (x, y)) xs ys
  | [], _ => rfl
  | _ :: _, [] => rfl
  | _ :: xs, _ :: ys => congrArg (_ :: ·) (cleanPair_eq_zipWith xs ys)

/-- finite input is not affected -/
theorem nanClean_finite_unaffected : ∀ (xs ys : List Rat), xs.length = ys.length →
    nanClean (.arrays (xs.map some) (ys.map some)) = .arrays (xs.map some) (ys.map some)
  | [], [], _ => rfl
  | x :: xs, y :: ys, h => by
    have ih := nanClean_finite_unaffected xs ys (Nat.succ.inj h)
    simp only [nanClean, TrRes.arrays.injEq] at ih
    exact congrArg₂ TrRes.arrays (congrArg (some x :: ·) ih.1) (congrArg (some y :: ·) ih.2)
  | [], _ :: _, h => nomatch h
  | _ :: _, [], h => nomatch h

/-- on arrays the result has NaN at a position of `x` exactly when it has NaN there in `y` -/
theorem nanClean_both_or_neither (xs ys : List (Option Rat)) (k : Nat) (a b : Option Rat)
    (ha : ((cleanPair xs ys).map (·.1))[k]? = some a) (hb : ((cleanPair xs ys).map (·.2))[k]? = some b) :
    isNan a = isNan b := by
  rw [cleanPair_eq_zipWith, List.getElem?_map, List.getElem?_zipWith] at ha hb
  revert ha hb
  cases xs[k]? with
  | none => nofun
  | some x =>
    cases ys[k]? with
    | none => nofun
    | some y =>
      rintro ⟨⟩ ⟨⟩
      cases x <;> cases y <;> rfl

/-- the wrapper does NOT act on scalars (a pair of Python floats is handed through as pyproj
returned it) -/
theorem nanClean_scalars_untouched (x y : Option Rat) : nanClean (.scalars x y) = .scalars x y := rfl

/-! ## Key coherence: discharged where `_make_crs_key` is injective

`KeySysCoherent` / `KeyAcceptCoherent` (hypotheses of `construct_sys_correct`) say that pyproj
treats all texts that share a cache key alike.  `_make_crs_key` maps a text that is not an
`EPSG:` spelling to ITSELF (crs.py:44-48), so for those the key is injective and the statement
is a theorem about the key function; what remains to be assumed concerns only the letter-case
variants of `EPSG:<code>` and the integer `<code>` (one key, several spellings: a fact about
pyproj, tabulated on every run). -/

theorem keyOfStr_injective_on_plain (s s' : String) (hs : isEpsgLike s = false) (hs' : isEpsgLike s' = false)
    (h : keyOfStr s = keyOfStr s') : s = s' := by
  simpa [keyOfStr, hs, hs'] using h

/-- the residual hypotheses: only pairs in which an `EPSG:` spelling (or an int) takes part -/
def EpsgKeySysCoherent (W : World) : Prop :=
  (∀ s s' p p', (isEpsgLike s = true ∨ isEpsgLike s' = true) → keyOfStr s = keyOfStr s' →
    W.fromText s = some p → W.fromText s' = some p' → p.sys = p'.sys) ∧
  (∀ s n p p', keyOfStr s = keyOfInt n → W.fromText s = some p → W.fromEpsg n = some p' → p.sys = p'.sys)

def EpsgKeyAcceptCoherent (W : World) : Prop :=
  (∀ s s', (isEpsgLike s = true ∨ isEpsgLike s' = true) → keyOfStr s = keyOfStr s' →
    (W.fromText s).isSome = (W.fromText s').isSome) ∧
  (∀ s n, keyOfStr s = keyOfInt n → (W.fromText s).isSome = (W.fromEpsg n).isSome)

theorem epsg_or_eq_of_same_key (s s' : String) (hk : keyOfStr s = keyOfStr s') :
    (isEpsgLike s = true ∨ isEpsgLike s' = true) ∨ s = s' := by
  by_cases hs : isEpsgLike s = true
  · exact Or.inl (Or.inl hs)
  · by_cases hs' : isEpsgLike s' = true
    · exact Or.inl (Or.inr hs')
    · exact Or.inr (keyOfStr_injective_on_plain s s' (by simpa using hs) (by simpa using hs') hk)

theorem keySysCoherent_iff_epsg (W : World) : KeySysCoherent W ↔ EpsgKeySysCoherent W := by
  refine ⟨fun h => ⟨fun s s' p p' _ hk h1 h2 => h.1 s s' p p' hk h1 h2, h.2⟩, fun h => ⟨?_, h.2⟩⟩
  intro s s' p p' hk h1 h2
  rcases epsg_or_eq_of_same_key s s' hk with hor | rfl
  · exact h.1 s s' p p' hor hk h1 h2
  · cases h1.symm.trans h2
    rfl

theorem keyAcceptCoherent_iff_epsg (W : World) : KeyAcceptCoherent W ↔ EpsgKeyAcceptCoherent W := by
  refine ⟨fun h => ⟨fun s s' _ hk => h.1 s s' hk, h.2⟩, fun h => ⟨?_, h.2⟩⟩
  intro s s' hk
  rcases epsg_or_eq_of_same_key s s' hk with hor | rfl
  · exact h.1 s s' hor hk
  · rfl

/-- `construct_sys_correct` with the hypothesis reduced to the EPSG spellings -/
theorem construct_sys_correct_epsg (W : World) (hW : EpsgKeySysCoherent W) (hA : EpsgKeyAcceptCoherent W)
    (h : List Op) (hreal : ∀ op ∈ h, op.real = true) (spec : Spec) (pick : Nat) (c : CrsObj) :
    (construct W (run W h).1 spec pick).2 = .ok c → specSys W (run W h).1 spec = some c.info.sys :=
  construct_sys_correct W ((keySysCoherent_iff_epsg W).2 hW) ((keyAcceptCoherent_iff_epsg W).2 hA) h hreal spec pick c

/-- `norm_crs_sys_correct` likewise: a value type given a text / int / pyproj / dict CRS argument -/
theorem norm_crs_sys_correct_epsg (W : World) (hW : EpsgKeySysCoherent W) (hA : EpsgKeyAcceptCoherent W)
    (h : List Op) (hreal : ∀ op ∈ h, op.real = true) (a : CrsArg) (s : Spec) (pick : Nat) (c : CrsObj)
    (hp : normPlan a false = .build s)
    (hr : (normRun W (run W h).1 (normPlan a false) pick).2 = .ok (some c)) :
    specSys W (run W h).1 s = some c.info.sys :=
  norm_crs_sys_correct W ((keySysCoherent_iff_epsg W).2 hW) ((keyAcceptCoherent_iff_epsg W).2 hA) h hreal a s pick c hp hr

/-- a world whose texts are all plain (WKT, PROJ strings, PROJJSON, other authorities) and that
knows no integer codes needs no hypothesis about pyproj for the system half (`KeySysCoherent`; the
acceptance half is not derived here) -/
theorem keyCoherent_of_plain_world (W : World) (hT : ∀ s, isEpsgLike s = true → W.fromText s = none)
    (hE : ∀ n, W.fromEpsg n = none) : KeySysCoherent W ∧ EpsgKeySysCoherent W := by
  have h : EpsgKeySysCoherent W := by
    constructor
    · rintro s s' p p' (hs | hs) _ h1 h2
      · cases (hT s hs).symm.trans h1
      · cases (hT s' hs).symm.trans h2
    · intro s n p p' _ _ h2
      cases (hE n).symm.trans h2
  exact ⟨(keySysCoherent_iff_epsg W).2 h, h⟩

/-- the demo world of the witnesses is such a world: its coherence is proved, not assumed -/
example : KeySysCoherent demoWorld := by
  refine (keyCoherent_of_plain_world demoWorld ?_ (fun _ => rfl)).1
  intro s hs
  simp only [demoWorld]
  have ne : ∀ t : String, isEpsgLike t = false → s ≠ t := fun t ht e => by rw [e, ht] at hs; cases hs
  simp [ne "A" (by decide +kernel), ne "B" (by decide +kernel), ne "C" (by decide +kernel), ne "WA" (by decide +kernel)]

end OdcGeo.C19
