/-
C05 ∘ C06 — the cross-property link that `Props/C05.lean` only names: the offsets / byte counts that
`_patch_hdr` writes into the TIFF header address, in the finished object produced by the multi-part
writer, exactly the bytes of the tile they belong to.

C06 (`file_chunk_bytes`, a corollary of `C06.main`) says where every chunk of the stream ends up in
the object; C05 (`tile_info_exact`, shifted by the header size as `_patch_hdr` does) says what the header table
contains for the observed stream.  Both are about the same observed `(size, id)` list, so they compose.  The object
here is the uploaded parts, concatenated (`C06.partsBytes`); the sink and the destination file: `Props/C05CogFile.lean`.
-/
import OdcGeo.Props.C05
import OdcGeo.Props.C06
import OdcGeo.Lemmas.Except

namespace OdcGeo.C05
open OdcGeo

/-- **Every header entry addresses exactly its tile's bytes in the uploaded parts**, statistics on or off.

`t` is any merge tree (= any dask fold / collate shape and execution order, see `C06.schedule_result`)
over the tile stream, `tiles` the observed `(level, plane, y, x, size)` records in stream order whose
sizes are the chunk sizes of `t`, `info` the table that `_patch_hdr` computes from the observed stream.
The header has the length `_patch_hdr` REALLY shifts by, `patchedHdrSize`: the length after the GDAL
statistics XML was written into tag 42112 (an XML that does not fit into the placeholder is appended;
`stats = none`: any fixed length) — offsets computed with the length of the EMPTY header are what this
rules out.  Then the multi-part write succeeds and for every tile that carries data the header says
`(off, sz)` and the parts, concatenated (`C06.partsBytes fp`), hold exactly that tile's bytes at `[off, off + sz)`. -/
theorem header_addresses_tile_bytes_stats {α : Type} (W : C06.Writer) (spill wpc : Nat) (t : C06.Tree α)
    (mkHdr : Option (List (Nat × Int) → List α))
    (hne : t.NonEmpty) (hcap : W.minPart + 1 + t.leaves * wpc ≤ W.maxPart + 1)
    (hdr0Len : Nat) (stats : Option (Nat × Nat))
    (hH : (C06.optBytes (mkHdr.map (fun f => f t.obs))).length = patchedHdrSize hdr0Len stats)
    (ms : List Meta) (tiles : List Obs) (hsz : tiles.map (·.sz) = t.chunks.map List.length)
    (info : TileInfo) (hinfo : patchHdrStats ms tiles hdr0Len stats = .ok info)
    (hnd : ∀ i j (hi : i < tiles.length) (hj : j < tiles.length), i < j →
      tiles[i].sz ≠ 0 → tiles[j].sz ≠ 0 → obsKey ms tiles[i] ≠ obsKey ms tiles[j]) :
    ∃ wsF fp wsAll,
      C06.run ⟨some W, spill, wpc, true⟩ t mkHdr none = .ok (.written wsF fp, wsAll, t.obs) ∧
      ∀ i (hi : i < tiles.length) (hc : i < t.chunks.length), tiles[i].sz ≠ 0 →
        ∃ l f off, obsKey ms tiles[i] = .ok (l, f) ∧ look info l f = some (off, tiles[i].sz) ∧
          ((C06.partsBytes fp).drop off).take tiles[i].sz = t.chunks[i] := by
  unfold patchHdrStats patchHdr at hinfo
  generalize patchedHdrSize hdr0Len stats = hdrSz at hH hinfo
  obtain ⟨wsF, fp, wsAll, hrun, hfile⟩ := C06.file_chunk_bytes W spill wpc t mkHdr hne hcap hdrSz hH
  refine ⟨wsF, fp, wsAll, hrun, ?_⟩
  intro i hi hc hnz
  -- `info` is the un-shifted table `info0`, shifted
  obtain ⟨info0, h0, rfl⟩ := map_ok_iff.mp hinfo
  obtain ⟨l, f, hkey, hlook0⟩ := tile_info_exact ms tiles 0 info0 h0 hnd i hi hnz
  refine ⟨l, f, streamOff 0 tiles i + hdrSz, hkey, by rw [look_map_shift, hlook0]; rfl, ?_⟩
  have hoff : streamOff 0 tiles i + hdrSz = hdrSz + (t.chunks.take i).flatten.length := by
    rw [streamOff_of_sizes hsz, Nat.zero_add, Nat.add_comm]
  rw [hoff, sz_of_sizes hsz i hi hc]
  exact hfile i hc

end OdcGeo.C05
