/-
C08 — shift-equivariance of the resolution-driven `GeoBox.from_bbox`: translating the region by whole pixels translates
the resulting geobox by the same pixels and keeps its shape and pixel size (any anchor, tight or not, both signs of either
resolution component).
-/
import OdcGeo.Props.C08
import OdcGeo.Props.C20Equivariance

namespace OdcGeo.C08
open OdcGeo.C20 (snapGrid)

/-- the geobox moved by `(dx, dy)` in world units -/
def GeoBox.shifted (g : GeoBox) (dx dy : Rat) : GeoBox :=
  ⟨g.ny, g.nx, ⟨g.affine.a, g.affine.b, g.affine.c + dx, g.affine.d, g.affine.e, g.affine.f + dy⟩⟩

/-- **`from_bbox` is equivariant under whole-pixel translations of the region.** -/
theorem from_bbox_res_shift (bb : BBox) (tight : Bool) {shape : ShapeArg} {res : ResArg} (anchor : AnchorArg)
    (tol rx ry : Rat) (jx jy : Int) (hs : ∀ n, shape ≠ .int n) (hres : res.xy? = some (rx, ry)) (ht : tol ≤ 1 / 2) :
    fromBbox ⟨bb.left + jx * |rx|, bb.bottom + jy * |ry|, bb.right + jx * |rx|, bb.top + jy * |ry|⟩ tight shape res
        anchor tol =
      (fromBbox bb tight shape res anchor tol).map fun g => g.shifted (jx * |rx|) (jy * |ry|) := by
  rw [fromBbox_res_eq hs hres, fromBbox_res_eq hs hres]
  simp only
  rw [C20.snap_grid_shift bb.left bb.right rx tol _ jx ht, C20.snap_grid_shift bb.bottom bb.top ry tol _ jy ht]
  cases snapGrid bb.left bb.right rx ((snapOf tight (normAnchor anchor)).map (·.1)) tol with
  | error e => rfl
  | ok p =>
    cases snapGrid bb.bottom bb.top ry ((snapOf tight (normAnchor anchor)).map (·.2)) tol with
    | error e => rfl
    | ok q =>
      simp only [Except.map, bind, Except.bind, pure, Except.pure, GeoBox.shifted, Aff.translation_mul_scale]

/-- Consequently shape and pixel size do not depend on where (in whole pixels) the region sits. -/
theorem from_bbox_res_shift_shape (bb : BBox) (tight : Bool) {shape : ShapeArg} {res : ResArg} (anchor : AnchorArg)
    (tol rx ry : Rat) (jx jy : Int) (hs : ∀ n, shape ≠ .int n) (hres : res.xy? = some (rx, ry)) (ht : tol ≤ 1 / 2)
    {g : GeoBox} (h : fromBbox bb tight shape res anchor tol = .ok g) :
    ∃ g', fromBbox ⟨bb.left + jx * |rx|, bb.bottom + jy * |ry|, bb.right + jx * |rx|, bb.top + jy * |ry|⟩ tight shape
        res anchor tol = .ok g' ∧ g'.ny = g.ny ∧ g'.nx = g.nx ∧ g'.affine.a = g.affine.a ∧ g'.affine.e = g.affine.e ∧
      g'.affine.c = g.affine.c + jx * |rx| ∧ g'.affine.f = g.affine.f + jy * |ry| := by
  refine ⟨g.shifted (jx * |rx|) (jy * |ry|), ?_, rfl, rfl, rfl, rfl, rfl, rfl⟩
  rw [from_bbox_res_shift bb tight anchor tol rx ry jx jy hs hres ht, h]; rfl

example : fromBbox ⟨0, 0, 10, 7⟩ false .none (.scalar 3) (.name .default) (1 / 100) = .ok ⟨3, 4, ⟨3, 0, 0, 0, -3, 9⟩⟩ ∧
    fromBbox ⟨0 + 2 * 3, 0 + (-5) * 3, 10 + 2 * 3, 7 + (-5) * 3⟩ false .none (.scalar 3) (.name .default) (1 / 100) =
      .ok ⟨3, 4, ⟨3, 0, 6, 0, -3, -6⟩⟩ := by decide +kernel

end OdcGeo.C08
