/-
C05 — theorems about the statistics text, `cog_gbox` and the pyramid plan (`Model/C05Meta.lean`).
-/
import OdcGeo.Model.C05Meta
import OdcGeo.Lemmas.C05
import OdcGeo.Lemmas.Py
import Mathlib.Tactic.Positivity
import Mathlib.Algebra.Order.Field.Rat

namespace OdcGeo.C05

/-- `roundHalfEven` is Python's `round` (`Lemmas/Py`): within half a unit -/
theorem round_half_even_error (q : Rat) : |(roundHalfEven q : Rat) - q| ≤ 1 / 2 :=
  Gen.Py.roundHalfEven_err q

/-- `fixed_point_error`: the number printed with `p` decimals is within half a unit of the last printed place of the value —
`STATISTICS_*` items carry the computed statistics to `precision` decimals, correctly rounded -/
theorem fixed_point_error (v : Rat) (p : Nat) :
    |(fixedScaled v p : Rat) / (10 : Rat) ^ p - v| ≤ 1 / (2 * (10 : Rat) ^ p) := by
  have hp : (0 : Rat) < (10 : Rat) ^ p := by positivity
  have e := round_half_even_error (v * (10 : Rat) ^ p)
  unfold fixedScaled
  generalize (roundHalfEven (v * (10 : Rat) ^ p) : Rat) = R at e
  generalize (10 : Rat) ^ p = s at hp e
  have a : R / s - v = (R - v * s) / s := by rw [sub_div, mul_div_cancel_right₀ v hp.ne']
  rw [a, abs_div, abs_of_pos hp, ← div_div]
  exact div_le_div_of_nonneg_right e hp.le

theorem mapM_some_getElem? {α β : Type} (f : α → Option β) : ∀ (l : List α) (out : List β) (i : Nat) (b : β),
    l.mapM f = some out → out[i]? = some b → ∃ a, l[i]? = some a ∧ f a = some b := by
  intro l
  induction l with
  | nil => intro out i b h hb; cases h; cases hb
  | cons a l ih =>
    intro out i b h hb
    simp only [List.mapM_cons, Option.bind_eq_bind, Option.bind_eq_some_iff, Option.pure_def, Option.some.injEq] at h
    obtain ⟨b0, hfa, rest, hl, rfl⟩ := h
    cases i with
    | zero => cases hb; exact ⟨a, rfl, hfa⟩
    | succ i => exact ih rest i b hl hb

/-- one dict per band, each with the keys of `stats` in their order, band `i` holding the `i`-th value of every key -/
theorem unwrap_stats_band (stats : List (String × List Rat)) (ndim : Nat) (bs : List (List (String × Rat)))
    (h : unwrapStats stats ndim = some bs) (i : Nat) (b : List (String × Rat)) (hb : bs[i]? = some b) :
    stats.mapM (fun kv => (kv.2[i]?).map fun v => (kv.1, v)) = some b := by
  obtain ⟨j, hj, hf⟩ := mapM_some_getElem? _ _ _ i b h hb
  obtain ⟨_, rfl⟩ := List.getElem?_eq_some_iff.mp hj
  rwa [List.getElem_range] at hf

/-- `cog_gbox_nlevels`: with an explicit level count every side is padded up by less than `2^n` to a multiple of `2^n` -/
theorem cog_gbox_nlevels (shape : YX) (tile : TileArg) (n : Nat) :
    let r := cogGboxShape shape tile (some n)
    shape.y ≤ r.y ∧ r.y < shape.y + 2 ^ n ∧ 2 ^ n ∣ r.y ∧ shape.x ≤ r.x ∧ r.x < shape.x + 2 ^ n ∧ 2 ^ n ∣ r.x := by
  have hp : 0 < 2 ^ n := Nat.two_pow_pos n
  obtain ⟨a, b, c⟩ := alignUp_spec shape.y _ hp
  exact ⟨a, b, c, alignUp_spec shape.x _ hp⟩

/-- without a level count it is the padded shape of the layout rule for the given tile (256 by default; a number means a
square tile) — the shape `_make_empty_cog` pads to for the same last block size -/
theorem cog_gbox_default (shape : YX) :
    cogGboxShape shape .none none = (computeCogSpec shape ⟨256, 256⟩).1 ∧
    (∀ t, cogGboxShape shape (.int t) none = (computeCogSpec shape ⟨t, t⟩).1) ∧
    (∀ y x, cogGboxShape shape (.pair y x) none = (computeCogSpec shape ⟨y, x⟩).1) := ⟨rfl, fun _ => rfl, fun _ _ => rfl⟩

/-- `pyramid_is_a_chain`: overview `k + 1` is reprojected from layer `k` (not from the full-resolution image) onto the GeoBox
of IFD `k + 1`, chunked by that IFD's tile; there is one step per overview IFD -/
theorem pyramid_is_a_chain (levels : List Level) :
    (pyramidPlan levels).length = levels.length - 1 ∧
    ∀ k (st : PyrStep), (pyramidPlan levels)[k]? = some st → st.src = k ∧ levels[k + 1]? = some st.dst ∧ st.chunks = st.dst.tile := by
  unfold pyramidPlan
  refine ⟨by simp, ?_⟩
  intro k st h
  simp only [List.getElem?_map, List.getElem?_zipIdx, Option.map_eq_some_iff] at h
  obtain ⟨⟨l, idx⟩, h1, rfl⟩ := h
  simp only [Prod.mk.injEq] at h1
  obtain ⟨l', h2, rfl, rfl⟩ := h1
  refine ⟨by simp, ?_, rfl⟩
  rw [List.getElem?_drop] at h2
  rw [Nat.add_comm]; exact h2

end OdcGeo.C05
