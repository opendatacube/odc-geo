/-
C19 — theorems about the GLUE between the public entry points and the value
records of `Model/C19.lean` (`Model/C19Glue.lean`): the argument normalisers of types.py,
`norm_crs`, the constructors of the value types and `==` against foreign objects.

The clause of the property they serve: *equivalent spellings of the same arguments construct
equal values (equal hashes, equal tokens)*, and *what a constructor rejects it rejects before
anything is built*.  `_cex` theorems are witnesses of what does NOT hold on the code as it is
(each replayed on the real code by `harness/c19_glue.py`).
-/
import OdcGeo.Model.C19Glue
import OdcGeo.Props.C19
import OdcGeo.Lemmas.Except
import OdcGeo.Lemmas.Unpack
import Mathlib.Algebra.Order.Field.Rat

namespace OdcGeo.C19

/-- `yx_(y, x)` is `xy_(x, y)`, with two arguments and with a pair (tuple or list) -/
theorem yxOf_swaps_xyOf (x y : PyNum) (t : Bool) :
    yxOf (.two y x) = xyOf (.two x y) ∧
    yxOf (.one (.seq t [y, x])) = xyOf (.one (.seq t [x, y])) := ⟨rfl, rfl⟩

/-- what `xy_` / `yx_` return is passed through unchanged by both (idempotent normalisers;
subclasses survive) -/
theorem xyOf_idem (a : Args) (v : XYv) (_h : xyOf a = .ok v) :
    xyOf (.one (.xy v)) = .ok v ∧ yxOf (.one (.xy v)) = .ok v := ⟨rfl, rfl⟩

/-- a value rebuilt from its own `.xy` / `.yx` tuple is an equal value with the same hash
input (the class becomes plain `XY`, which `==` and `hash` do not look at) -/
theorem xyOf_roundtrip (v : XYv) (t : Bool) :
    ∃ w, xyOf (.one (.seq t v.xyT)) = .ok w ∧ yxOf (.one (.seq t v.yxT)) = .ok w ∧
      w.eq v = true ∧ w.x = v.x ∧ w.y = v.y :=
  ⟨XY.mk' v.x v.y, rfl, rfl, by simp [XYv.eq, XY.mk', PyNum.eq], rfl, rfl⟩

/-- `xy_` fails exactly on: nothing iterable, a sequence that is not a pair, a point that is
not 2-D — and then always with `ValueError` -/
theorem xyOf_error (a : Args) (e : ErrKind) (h : xyOf a = .error e) : e = .valueError := by
  unfold xyOf at h
  split at h <;> cases h <;> rfl

/-- a point geometry is read through `.coords` by `xy_` only: `yx_` has no such branch -/
theorem yxOf_point_rejected (p : Option (List PyNum)) : yxOf (.one (.point p)) = .error .valueError := rfl

/-- `ixy_` / `iyx_` agree on two ints, on tuples and on XY values … -/
theorem iyxOf_swaps_ixyOf (x y : PyNum) (hx : x.isInt = true) (hy : y.isInt = true) (v : XYv) :
    iyxOf (.two y x) = ixyOf (.two x y) ∧
    iyxOf (.one (.seq true [y, x])) = ixyOf (.one (.seq true [x, y])) ∧
    iyxOf (.one (.xy v)) = ixyOf (.one (.xy v)) := by
  refine ⟨?_, rfl, rfl⟩
  simp only [iyxOf, ixyOf, hx, hy]

/-- … but only the FIRST of two arguments is asserted to be an int: `ixy_(1.5, 2)` raises,
`iyx_(2, 1.5)` builds `Index2d(x=1.5, y=2)` -/
theorem ixyOf_asserts_first_only_cex :
    ixyOf (.two ⟨.float, 3/2, false⟩ ⟨.int, 2, false⟩) = .error .assertion ∧
    iyxOf (.two ⟨.int, 2, false⟩ ⟨.float, 3/2, false⟩) = .ok (Index2d.mk' ⟨.float, 3/2, false⟩ ⟨.int, 2, false⟩) := by
  decide +kernel

/-- the tuple and XY forms of `ixy_` convert nothing: an `Index2d` may hold floats -/
theorem ixyOf_unchecked (x y : PyNum) (v : XYv) (hv : v.cls ≠ .index2d) :
    ixyOf (.one (.seq true [x, y])) = .ok (Index2d.mk' x y) ∧
    ixyOf (.one (.xy v)) = .ok (Index2d.mk' v.x v.y) := by
  refine ⟨rfl, ?_⟩
  simp [ixyOf, hv]

/-- a list is a pair for `xy_` but not for `ixy_` / `iyx_` -/
theorem ixyOf_list_rejected (xs : List PyNum) :
    ixyOf (.one (.seq false xs)) = .error .valueError ∧ iyxOf (.one (.seq false xs)) = .error .valueError :=
  ⟨rfl, rfl⟩

theorem ixyOf_idem (a : Args) (v : XYv) (h : ixyOf a = .ok v) :
    v.cls = .index2d ∧ ixyOf (.one (.xy v)) = .ok v ∧ iyxOf (.one (.xy v)) = .ok v := by
  have hc : v.cls = .index2d := by
    unfold ixyOf at h
    split at h
    · split at h <;> cases h
      rfl
    · cases h; rfl
    · cases h
    · split at h <;> cases h
      · assumption
      · rfl
    · cases h
  exact ⟨hc, by simp [ixyOf, hc], by simp [iyxOf, hc]⟩

/-- `resyx_(y, x)` is `resxy_(x, y)`; `wh_(w, h)` is the shape `(h, w)` -/
theorem resyx_wh (x y : PyNum) :
    resyxOf y x = resxyOf x y ∧ (whOf x y).cls = .shape2d ∧ (whOf x y).xyT = [x, y] ∧ (whOf x y).yxT = [y, x] :=
  ⟨rfl, rfl, rfl, rfl⟩

/-- `res_` understands a number or a `Resolution`, nothing else, and is idempotent -/
theorem resOf_idem (a : Arg) (v : XYv) (h : resOf a = .ok v) :
    v.cls = .resolution ∧ resOf (.xy v) = .ok v := by
  have hc : v.cls = .resolution := by
    unfold resOf at h
    split at h
    · split at h <;> cases h
      assumption
    · cases h; rfl
    · cases h
  exact ⟨hc, by simp [resOf, hc, resNorm]⟩

theorem resOf_error (a : Arg) (e : ErrKind) (h : resOf a = .error e) : e = .valueError := by
  unfold resOf at h
  split at h
  · split at h <;> cases h
    rfl
  · cases h
  · cases h; rfl

/-- what `shape_` makes of anything that is not already a `Shape2d` is a `Shape2d` of ints -/
theorem shapeOf_ints (a : Arg) (v : XYv) (ha : ∀ w, a = .xy w → w.cls ≠ .shape2d) (h : shapeOf a = .ok v) :
    v.cls = .shape2d ∧ v.x.isInt = true ∧ v.y.isInt = true := by
  cases a with
  | xy w =>
    rw [shapeOf, if_neg (ha w rfl)] at h
    exact shapeNorm_ints _ v (fun _ e => ShapeIn.noConfusion e) h
  | seq t xs => exact shapeNorm_ints _ v (fun _ e => ShapeIn.noConfusion e) h
  | _ => cases h

/-- `shape_` is idempotent and always yields a `Shape2d` -/
theorem shapeOf_idem (a : Arg) (v : XYv) (h : shapeOf a = .ok v) :
    v.cls = .shape2d ∧ shapeOf (.xy v) = .ok v := by
  have hv : v.cls = .shape2d := by
    by_cases ha : ∃ w, a = .xy w ∧ w.cls = .shape2d
    · obtain ⟨w, rfl, hc⟩ := ha
      rw [shapeOf, if_pos hc] at h
      cases h
      exact hc
    · exact (shapeOf_ints a v (fun w e hc => ha ⟨w, e, hc⟩) h).1
  exact ⟨hv, by rw [shapeOf, if_pos hv]; rfl⟩

theorem shapeOf_error (a : Arg) (e : ErrKind) (h : shapeOf a = .error e) : e = .valueError := by
  cases a with
  | xy w =>
    rw [shapeOf] at h
    split at h <;> cases h
  | seq t xs =>
    rcases xs with _ | ⟨a, _ | ⟨b, _ | _⟩⟩ <;> cases h <;> rfl
  | _ => cases h; rfl

theorem shapeOf_seq (ny nx : PyNum) (ky kx : Int) (hy : ny.val = ky) (hx : nx.val = kx) (t : Bool) :
    shapeOf (.seq t [ny, nx]) = .ok ⟨.shape2d, ⟨.int, kx, false⟩, ⟨.int, ky, false⟩⟩ := by
  simp only [shapeOf, shapeNorm, toInt_int _ _ hy, toInt_int _ _ hx]

theorem shapeOf_xy (cls : XYCls) (ny nx : PyNum) (ky kx : Int) (hy : ny.val = ky) (hx : nx.val = kx)
    (hc : cls ≠ .shape2d) :
    shapeOf (.xy ⟨cls, nx, ny⟩) = .ok ⟨.shape2d, ⟨.int, kx, false⟩, ⟨.int, ky, false⟩⟩ := by
  simp only [shapeOf, if_neg hc, shapeNorm, toInt_int _ _ hy, toInt_int _ _ hx]

theorem shapeOf_seq_ints (t : Bool) (ky kx : Int) :
    shapeOf (.seq t [⟨.int, ky, false⟩, ⟨.int, kx, false⟩]) =
      .ok ⟨.shape2d, ⟨.int, kx, false⟩, ⟨.int, ky, false⟩⟩ :=
  shapeOf_seq _ _ ky kx rfl rfl t

theorem shapeOf_xy_ints (cls : XYCls) (ky kx : Int) :
    shapeOf (.xy ⟨cls, ⟨.int, kx, false⟩, ⟨.int, ky, false⟩⟩) =
      .ok ⟨.shape2d, ⟨.int, kx, false⟩, ⟨.int, ky, false⟩⟩ := by
  by_cases hc : cls = .shape2d
  · subst hc; rfl
  · exact shapeOf_xy cls _ _ ky kx rfl rfl hc

theorem ints?_ints (cls : XYCls) (ky kx : Int) :
    (⟨cls, ⟨.int, kx, false⟩, ⟨.int, ky, false⟩⟩ : XYv).ints? = some (ky, kx) := by
  simp [XYv.ints?, PyNum.isInt]

/-- the three spellings of a shape — `(ny, nx)` as tuple or list, `XY(x=nx, y=ny)` of any
class, `Shape2d` — are normalised to equal values -/
theorem shapeOf_spellings (ny nx : PyNum) (ky kx : Int) (hy : ny.val = ky) (hx : nx.val = kx) (t : Bool)
    (cls : XYCls) (hc : cls ≠ .shape2d) :
    ∃ v w, shapeOf (.seq t [ny, nx]) = .ok v ∧ shapeOf (.xy ⟨cls, nx, ny⟩) = .ok w ∧ v = w ∧
      v.x = ⟨.int, kx, false⟩ ∧ v.y = ⟨.int, ky, false⟩ ∧ v.ints? = some (ky, kx) :=
  ⟨_, _, shapeOf_seq ny nx ky kx hy hx t, shapeOf_xy cls ny nx ky kx hy hx hc, rfl, rfl, rfl,
    ints?_ints _ ky kx⟩

/-- `.shape` is `.wh` reversed; both insist on ints; `.xy` / `.yx` never fail -/
theorem shapeT_whT (v : XYv) :
    (v.shapeT.map List.reverse = v.whT) ∧ v.yxT = v.xyT.reverse ∧
    ((∃ t, v.shapeT = .ok t) ↔ (v.x.isInt = true ∧ v.y.isInt = true)) := by
  unfold XYv.shapeT XYv.whT
  cases v.x.isInt <;> cases v.y.isInt <;> simp [Except.map, XYv.yxT, XYv.xyT]

/-- indexing agrees with iteration, negative indices count from the end, anything outside
`-2..1` is an `IndexError` — but a non-int shape fails first with `ValueError` -/
theorem Shape2d.getItem_spec (v : XYv) (hx : v.x.isInt = true) (hy : v.y.isInt = true) (i : Int) :
    Shape2d.iter v = .ok [v.y, v.x] ∧
    Shape2d.getItem v 0 = .ok v.y ∧ Shape2d.getItem v 1 = .ok v.x ∧
    Shape2d.getItem v (-2) = .ok v.y ∧ Shape2d.getItem v (-1) = .ok v.x ∧
    ((i < -2 ∨ 1 < i) → Shape2d.getItem v i = .error .indexError) := by
  have hg : ∀ i, Shape2d.getItem v i =
      if i = 0 ∨ i = -2 then .ok v.y else if i = 1 ∨ i = -1 then .ok v.x else .error .indexError := by
    intro i
    unfold Shape2d.getItem
    rw [hx, hy]
    rfl
  refine ⟨?_, hg 0, hg 1, hg (-2), hg (-1), fun hi => ?_⟩
  · unfold Shape2d.iter XYv.shapeT
    rw [hx, hy]
    rfl
  · rw [hg, if_neg (by omega), if_neg (by omega)]

theorem Shape2d.getItem_nonint (v : XYv) (h : (v.x.isInt && v.y.isInt) = false) (i : Int) :
    Shape2d.getItem v i = .error .valueError ∧ Shape2d.iter v = .error .valueError := by
  simp [Shape2d.getItem, Shape2d.iter, XYv.shapeT, h]

/-- `shape + t` and `t + shape` concatenate the `(y, x)` tuple -/
theorem Shape2d.add_spec (v : XYv) (hx : v.x.isInt = true) (hy : v.y.isInt = true) (t : List PyNum) :
    Shape2d.add v t = .ok ([v.y, v.x] ++ t) ∧ Shape2d.radd v t = .ok (t ++ [v.y, v.x]) := by
  simp [Shape2d.add, Shape2d.radd, XYv.shapeT, hx, hy, Except.map]

theorem floor_half_bounds (k : Int) :
    2 * ((k : Rat) / 2).floor ≤ k ∧ k < 2 * ((k : Rat) / 2).floor + 2 := by
  have h1 := (le_div_iff₀ (two_pos (α := Rat))).1 (Rat.floor_le ((k : Rat) / 2))
  have h2 := (div_lt_iff₀ (two_pos (α := Rat))).1 (Rat.lt_floor_add_one ((k : Rat) / 2))
  generalize ((k : Rat) / 2).floor = q at h1 h2 ⊢
  norm_cast at h1 h2
  omega

theorem PyNum.half_of_int (a : PyNum) (hk : a.kind ≠ .float) :
    a.half = ⟨.int, ((a.val / 2).floor : Int), false⟩ := by
  unfold PyNum.half
  cases h : a.kind with
  | float => exact absurd h hk
  | bool => rfl
  | int => rfl

/-- `shrink2` halves a side rounding DOWN (floor division, also for negative sides); stated for `x`,
`y` goes through the same `PyNum.half` -/
theorem Shape2d.shrink2_spec (v : XYv) (k : Int) (hx : v.x.val = k) (hk : v.x.kind ≠ .float) :
    (Shape2d.shrink2 v).cls = .shape2d ∧ (Shape2d.shrink2 v).x.kind = .int ∧
    ∃ q : Int, (Shape2d.shrink2 v).x.val = q ∧ 2 * q ≤ k ∧ k < 2 * q + 2 := by
  have hh : (Shape2d.shrink2 v).x = ⟨.int, (((k : Rat) / 2).floor : Int), false⟩ :=
    hx ▸ PyNum.half_of_int v.x hk
  rw [hh]
  exact ⟨rfl, rfl, _, rfl, floor_half_bounds k⟩

/-- `xy == other`: symmetric on XY values, `False` for every foreign object — except that a
`Shape2d` compares with a tuple through `.shape` -/
theorem XYv.eqArg_spec (v w : XYv) (t : Bool) (xs : List PyNum) (hv : v.cls ≠ .shape2d) :
    v.eqArg (.xy w) = w.eqArg (.xy v) ∧
    v.eqArg (.seq t xs) = .ok false ∧ v.eqArg .none = .ok false ∧ v.eqArg .other = .ok false ∧
    (∀ p, v.eqArg (.point p) = .ok false) ∧ (∀ n, v.eqArg (.num n) = .ok false) ∧
    (∀ u : XYv, u.eqArg (.seq false xs) = .ok false) := by
  refine ⟨?_, ?_, rfl, rfl, fun _ => rfl, fun _ => rfl, fun _ => rfl⟩
  · exact congrArg Except.ok (Bool.eq_iff_iff.2 ⟨XYv.eq_equiv.2.1 v w, XYv.eq_equiv.2.1 w v⟩)
  · cases t <;> simp [XYv.eqArg, hv]

/-- a `Shape2d` of ints equals its own tuple form -/
theorem Shape2d.eq_own_tuple (v : XYv) (hc : v.cls = .shape2d) (t : List PyNum) (h : v.shapeT = .ok t) :
    v.eqArg (.seq true t) = .ok true := by
  unfold XYv.shapeT at h
  split at h
  · next hh =>
    cases h
    simp [XYv.eqArg, hc, Shape2d.eqTuple, hh, PyNum.eq]
  · cases h

/-- a CRS instance is returned as is; `None` and `Unset()` give `None`; a text that does not
begin with `utm`, an int, a pyproj object and a dict go to `CRS(...)`; anything else raises -/
theorem normPlan_spec (v n pv : Nat) (d : String) (b : Bool) :
    normPlan (.spec (.crs v)) b = .same v ∧ normPlan .none b = .none ∧ normPlan .unset b = .none ∧
    normPlan (.spec (.int n)) b = .build (.int n) ∧ normPlan (.spec (.pyproj pv)) b = .build (.pyproj pv) ∧
    normPlan (.spec (.dict d)) b = .build (.dict d) ∧ normPlan .other b = .raise .runtimeError :=
  ⟨rfl, rfl, rfl, rfl, rfl, rfl, rfl⟩

theorem normPlan_text (s : String) (b : Bool) (h : utmMode? s = none) :
    normPlan (.spec (.str s)) b = .build (.str s) := by
  simp only [normPlan, h]

/-- a `utm*` text without a context is an `AssertionError`, with one it never reaches `CRS(text)` -/
theorem normPlan_utm (s : String) (m : UtmMode) (h : utmMode? s = some m) :
    normPlan (.spec (.str s)) false = .raise .assertion ∧ normPlan (.spec (.str s)) true = .utm m := by
  simp [normPlan, h]

/-- the texts: any letter case; every text that merely BEGINS with `utm` is read as plain
`utm` (no `else` in the code) -/
theorem utmMode_examples :
    utmMode? "utm" = some .plain ∧ utmMode? "UTM" = some .plain ∧ utmMode? "utm-n" = some .north ∧
    utmMode? "UTM-N" = some .north ∧ utmMode? "Utm-S" = some .south ∧ utmMode? "utm-x" = some .plain ∧
    utmMode? "utmost" = some .plain ∧ utmMode? "EPSG:32755" = none ∧ utmMode? "xutm" = none := by
  decide +kernel

/-- `norm_crs(crs_instance)`: the very same record, nothing constructed, no state change -/
theorem normRun_same (W : World) (σ : State) (v pick : Nat) (c : CrsObj) (h : assoc v σ.vars = some c) :
    normRun W σ (normPlan (.spec (.crs v)) false) pick = (σ, .ok (some c)) := by
  simp only [normPlan, normRun, h]

/-- `norm_crs(spec)` IS `CRS(spec)`: same cache traffic, same record -/
theorem normRun_build (W : World) (σ : State) (s : Spec) (pick : Nat) :
    (normRun W σ (.build s) pick).1 = (construct W σ s pick).1 ∧
    (normRun W σ (.build s) pick).2 = (construct W σ s pick).2.map some := by
  simp only [normRun]
  split <;> rename_i heq <;> simp [heq, Except.map]

/-- end to end: after ANY real history, `norm_crs(spec)` for a text / int / pyproj / dict spec
yields a CRS whose pyproj object denotes the system pyproj assigns to the spec — the
composition of the dispatch with `construct_sys_correct` (no hypothesis in between) -/
theorem norm_crs_sys_correct (W : World) (hW : KeySysCoherent W) (hA : KeyAcceptCoherent W)
    (h : List Op) (hreal : ∀ op ∈ h, op.real = true) (a : CrsArg) (s : Spec) (pick : Nat) (c : CrsObj)
    (hp : normPlan a false = .build s)
    (hr : (normRun W (run W h).1 (normPlan a false) pick).2 = .ok (some c)) :
    specSys W (run W h).1 s = some c.info.sys := by
  rw [hp, (normRun_build W _ s pick).2] at hr
  obtain ⟨c', hc, e⟩ := map_ok_iff.1 hr
  cases e
  exact construct_sys_correct W hW hA h hreal s pick c hc

/-- `norm_crs_or_error`: `None` (and `Unset()`) is a `ValueError`, everything else as `norm_crs` -/
theorem orError_spec (r : Res (Option CrsObj)) (c : CrsObj) :
    (orError r = .ok c ↔ r = .ok (some c)) ∧ orError (.ok none) = .error .valueError ∧
    ∀ e, orError (.error e) = .error e := by
  refine ⟨⟨fun h => ?_, fun h => h ▸ rfl⟩, rfl, fun _ => rfl⟩
  match r, h with
  | .ok (some _), h =>
    cases h
    rfl

/-- on the WGS 84 UTM numbering (326zz north, 327zz south): `utm-n` ends in the northern twin
of the zone `CRS.utm(ctx)` picked, `utm-s` in the southern one, `utm` in the zone itself -/
theorem utmFinal_spec (zone : Nat) (south : Bool) :
    utmFinal .north zone south = .ok (utmEpsg zone false) ∧
    utmFinal .south zone south = .ok (utmEpsg zone true) ∧
    utmFinal .plain zone south = .ok (utmEpsg zone south) := by
  cases south
  · refine ⟨rfl, congrArg Except.ok ?_, rfl⟩
    show (32600 : Int) + zone + 100 = 32700 + zone
    omega
  · refine ⟨congrArg Except.ok ?_, rfl, rfl⟩
    show (32700 : Int) + zone - 100 = 32600 + zone
    omega

/-- asking again in the same mode changes nothing -/
theorem utmAdjust_idem (zone : Nat) :
    utmAdjust .north (utmFactsOf zone false) = .ok none ∧ utmAdjust .south (utmFactsOf zone true) = .ok none := by
  simp [utmAdjust, utmFactsOf]

/-- the only codes ever constructed are the picked one ± 100; an unknown zone or code is an
`AssertionError` for `utm-n` / `utm-s` (never for plain `utm`) -/
theorem utmAdjust_spec (m : UtmMode) (f : UtmFacts) :
    (∀ c, utmAdjust m f = .ok (some c) → ∃ e, f.epsg = some e ∧ (c = e - 100 ∨ c = e + 100)) ∧
    (∀ e, utmAdjust m f = .error e → e = .assertion ∧ m ≠ .plain ∧ (f.zoneKnown = false ∨ f.epsg = none)) ∧
    utmAdjust .plain f = .ok none := by
  fun_cases utmAdjust m f
  · exact ⟨nofun, nofun, rfl⟩
  · next hz hm =>
    refine ⟨nofun, fun _ h => ?_, rfl⟩
    cases h
    exact ⟨rfl, hm, .inl (by simpa using hz)⟩
  · next he hm =>
    refine ⟨nofun, fun _ h => ?_, rfl⟩
    cases h
    exact ⟨rfl, hm, .inr he⟩
  · next e he h1 _ =>
    rw [if_pos h1]
    refine ⟨fun _ h => ?_, nofun, rfl⟩
    cases h
    exact ⟨e, he, .inl rfl⟩
  · next e he h1 h2 _ =>
    rw [if_neg h1, if_pos h2]
    refine ⟨fun _ h => ?_, nofun, rfl⟩
    cases h
    exact ⟨e, he, .inr rfl⟩
  · next h1 h2 _ =>
    rw [if_neg h1, if_neg h2]
    exact ⟨nofun, nofun, rfl⟩

/-- an unhashable CRS-like object shares the cache entry of its WKT text: the key
`_make_crs_key` computes for it (`obj.to_wkt()`) is the key of `CRS(obj.to_wkt())` whenever
that text is not an `EPSG:` spelling (WKT never is) — so both constructions are one `construct`
of one spec, and every history theorem covers CRS-like arguments -/
theorem ctorPlan_like (h : Bool) (wkt : String) (hw : isEpsgLike wkt = false) :
    ctorPlan (.like h wkt) = .construct (.str wkt) ∧ likeKey wkt = keyOfStr wkt := by
  refine ⟨rfl, ?_⟩
  simp [likeKey, keyOfStr, hw]

theorem ctorPlan_spec (s : Spec) : ctorPlan (.spec s) = .construct s ∧ ctorPlan .other = .raise .runtimeError :=
  ⟨rfl, rfl⟩

example : isEpsgLike "PROJCRS[\"x\"]" = false := by decide +kernel

/-- against a tuple the CRS is not looked at; a box equals its own 4-tuple; a list, `None`, a
number, an XY value are never equal to a box -/
theorem BBox.eqArg_spec (l b r t : PyNum) (c c' : Option CrsObj) (a : Arg) (xs : List PyNum) (v : XYv) :
    (BBox.ctor l b r t c).eqArg a = (BBox.ctor l b r t c').eqArg a ∧
    (BBox.ctor l b r t c).eqArg (.seq true [l, b, r, t]) = true ∧
    (BBox.ctor l b r t c).eqArg (.seq false xs) = false ∧ (BBox.ctor l b r t c).eqArg .none = false ∧
    (BBox.ctor l b r t c).eqArg (.xy v) = false := by
  refine ⟨?_, ?_, rfl, rfl, rfl⟩
  · cases a <;> rfl
  · simp [BBox.eqArg, BBox.ctor, numsEq, PyNum.eq]

/-- **witness (known finding K27)**: `BoundingBox(0,1,2,3) == (0,1,2,3)`, both hashable, yet
the hash of the box is taken from `(crs, box)` and that of the tuple from the 4 numbers; and
through the tuple two boxes in different CRSs are "equal" to a common third object while
unequal to each other -/
theorem BBox.eq_tuple_hash_cex :
    ∃ (a a' : BBox) (xs : List PyNum), a.eqArg (.seq true xs) = true ∧ a.hashKey ≠ tupleHashKey xs ∧
      a'.eqArg (.seq true xs) = true ∧ a.eq a' = false :=
  ⟨BBox.ctor ⟨.int, 0, false⟩ ⟨.int, 1, false⟩ ⟨.int, 2, false⟩ ⟨.int, 3, false⟩ none,
   BBox.ctor ⟨.int, 0, false⟩ ⟨.int, 1, false⟩ ⟨.int, 2, false⟩ ⟨.int, 3, false⟩
     (some ⟨0, ⟨0, "EPSG:4326", "W", some 4326⟩, "EPSG:4326", some 4326⟩),
   [⟨.int, 0, false⟩, ⟨.int, 1, false⟩, ⟨.int, 2, false⟩, ⟨.int, 3, false⟩], by decide +kernel⟩

theorem geomCrs_spec (c : Option CrsObj) (t : Option String) (a : CrsArg) (ha : a ≠ .none) :
    -- copy constructor / clone(): the source's CRS object itself; an explicit crs= is refused
    geomCrs (.geometry c) .none = .keep c ∧ geomCrs (.geometry c) a = .raise .assertion ∧
    -- a shapely geometry never gets a default CRS
    geomCrs .shapely .none = .norm .none none ∧
    -- an explicit CRS always wins over the GeoJSON default
    (∃ f, geomCrs (.dict t) a = .norm a f) ∧
    -- GeoJSON Feature / FeatureCollection (any letter case) without crs= is EPSG:4326
    (isFeature t = true → ∃ f, geomCrs (.dict t) .none = .norm (.spec (.str "epsg:4326")) f) ∧
    (isFeature t = false → ∃ f, geomCrs (.dict t) .none = .norm .none f) := by
  refine ⟨rfl, by simp [geomCrs, ha], rfl, ?_, fun h => ?_, fun h => ?_⟩
  all_goals exact ⟨if t.isNone then some .valueError else none, by simp [geomCrs, *]⟩

theorem isFeature_examples :
    isFeature (some "Feature") = true ∧ isFeature (some "FEATURECOLLECTION") = true ∧
    isFeature (some "featurecollection") = true ∧ isFeature (some "Point") = false ∧ isFeature none = false := by
  decide +kernel

/-- `GeoBox((ny, nx), A, crs)`, `GeoBox([ny, nx], …)`, `GeoBox(XY(nx, ny), …)`,
`GeoBox(Shape2d(nx, ny), …)`: one and the same record, hence equal, same hash, same token -/
theorem GBox.ctor_spellings (ny nx : PyNum) (ky kx : Int) (hy : ny.val = ky) (hx : nx.val = kx) (t : Bool)
    (cls : XYCls) (aff : List PyNum) (c : Option CrsObj) :
    GBox.ctor (.seq t [ny, nx]) aff c = some (.ok ⟨c, ky, kx, aff⟩) ∧
    GBox.ctor (.xy ⟨cls, ⟨.int, kx, false⟩, ⟨.int, ky, false⟩⟩) aff c = some (.ok ⟨c, ky, kx, aff⟩) := by
  constructor
  · simp only [GBox.ctor, shapeOf_seq ny nx ky kx hy hx t, ints?_ints, Option.map_some]
  · simp only [GBox.ctor, shapeOf_xy_ints, ints?_ints, Option.map_some]

/-- what `GeoBox(...)` refuses it refuses with `ValueError`, before the CRS is looked at -/
theorem GBox.ctor_error (a : Arg) (aff : List PyNum) (c : Option CrsObj) (e : ErrKind)
    (h : GBox.ctor a aff c = some (.error e)) : e = .valueError ∧ shapeOf a = .error e := by
  unfold GBox.ctor at h
  split at h
  · next he =>
    cases h
    exact ⟨shapeOf_error a _ he, he⟩
  · next s _ => cases hs : s.ints? <;> simp [hs] at h

/-- `GCPGeoBox(shape, mapping)` is `GCPGeoBox(shape, mapping, Affine.identity())`; its CRS is
the mapping's (there is no CRS argument) -/
theorem GCPBox.ctor_default (a : Arg) (m : GCPMap) (g : GCPBox) (aff : Option (List PyNum))
    (h : GCPBox.ctor a m aff = some (.ok g)) :
    GCPBox.ctor a m none = GCPBox.ctor a m (some affIdentity) ∧ g.mapping = m ∧ g.aff = aff.getD affIdentity := by
  refine ⟨rfl, ?_⟩
  unfold GCPBox.ctor at h
  split at h
  · cases h
  · next s _ =>
    cases hs : s.ints? with
    | none => simp [hs] at h
    | some p =>
      rw [hs] at h
      cases h
      exact ⟨rfl, rfl⟩

/-- `GCPMapping(pix, wld, crs)`: an explicit CRS wins, `None` falls back to the CRS of the
world points — and an `Unset()` marker is NOT `None`: it silently discards the CRS the points
carry (observation, replayed on the code) -/
theorem gcpCrsArg_spec (w : CrsArg) (s : Spec) (b : Bool) :
    gcpCrsArg .none w = w ∧ gcpCrsArg (.spec s) w = .spec s ∧ normPlan (gcpCrsArg .unset w) b = .none :=
  ⟨rfl, rfl, rfl⟩

/-- `Tiles((by, bx), (ty, tx))` in any of the shape spellings is the modelled `Tiles.mk'` -/
theorem Tiles.ctor_spellings (by_ bx ty tx : Int) (t1 t2 : Bool) (c1 c2 : XYCls) :
    Tiles.ctor (.seq t1 [⟨.int, by_, false⟩, ⟨.int, bx, false⟩]) (.seq t2 [⟨.int, ty, false⟩, ⟨.int, tx, false⟩])
      = some (Tiles.mk' by_ bx ty tx) ∧
    Tiles.ctor (.xy ⟨c1, ⟨.int, bx, false⟩, ⟨.int, by_, false⟩⟩) (.xy ⟨c2, ⟨.int, tx, false⟩, ⟨.int, ty, false⟩⟩)
      = some (Tiles.mk' by_ bx ty tx) := by
  constructor
  · simp only [Tiles.ctor, shapeOf_seq_ints, ints?_ints]
  · simp only [Tiles.ctor, shapeOf_xy_ints, ints?_ints]

/-- `roi_tiles(shape, how)`: nested `how` ignores `shape` altogether (and needs exactly two
parts); an empty `how` is an `IndexError`; a flat `how` is `Tiles(shape, how)` -/
theorem roiTilesArg_spec (s s' : Arg) (y x : List Int) (p : List (List Int)) (t : Bool) (a : Arg)
    (ha : ∀ u, a ≠ .seq u []) :
    roiTilesArg s (.nested [y, x]) = some (.ok (.var (VTiles.mk' y x))) ∧
    roiTilesArg s (.nested p) = roiTilesArg s' (.nested p) ∧
    (p.length ≠ 2 → roiTilesArg s (.nested p) = some (.error .valueError)) ∧
    roiTilesArg s (.flat (.seq t [])) = some (.error .indexError) ∧
    roiTilesArg s (.flat a) = (Tiles.ctor s a).map (·.map .reg) := by
  refine ⟨rfl, ?_, ?_, rfl, ?_⟩
  · match p with
    | [] | [_] | [_, _] | _ :: _ :: _ :: _ => rfl
  · exact fun hp => ne_pair_cases p hp rfl (fun _ => rfl) fun _ _ _ _ => rfl
  · cases a with
    | seq u xs =>
      cases xs with
      | nil => exact absurd rfl (ha u)
      | cons _ _ => rfl
    | _ => rfl

/-- the public constructor reaches the modelled core: `GeoboxTiles(box, (ty, tx))` is
`GBTiles.mk' box (.shape ty tx)` and `GeoboxTiles(box, (chunks_y, chunks_x))` is
`GBTiles.mk' box (.chunks …)` — every theorem about `mk'` (regular base, tokens) therefore
speaks about the entry point -/
theorem GBTiles.ctorArg_eq_mk' (g : AnyBox) (ty tx : Int) (t : Bool) (y x : List Int) :
    GBTiles.ctorArg g (some (.flat (.seq t [⟨.int, ty, false⟩, ⟨.int, tx, false⟩]))) none
      = some (GBTiles.mk' g (.shape ty tx)) ∧
    GBTiles.ctorArg g (some (.nested [y, x])) none = some (GBTiles.mk' g (.chunks y x)) ∧
    GBTiles.ctorArg g none none = some (.error .assertion) := by
  refine ⟨?_, rfl, rfl⟩
  simp only [GBTiles.ctorArg, roiTilesArg, Tiles.ctor, AnyBox.shapeArg, Shape2d.mk', shapeOf_seq_ints,
    shapeOf_xy_ints, ints?_ints, Option.map_some, GBTiles.mk', roiTiles]
  rfl

/-- `GeoboxTiles(box, None, _tiles=T)` stores `T` unchecked — the chunks-add-up check
(`GBTiles.ctor_chunks_add_up`) looks at `how` only: the tiling need not be a tiling of the box
(witness: a 3x3 tiling over a 10x10 box) -/
theorem GBTiles.ctorArg_tiles_unchecked_cex :
    ∃ (g : GBox) (t : Tiles) (r : GBTiles), GBTiles.ctorArg (.lin g) none (some (.reg t)) = some (.ok r) ∧
      r.tiles = .reg t ∧ (t.baseY ≠ g.ny ∨ t.baseX ≠ g.nx) :=
  ⟨⟨none, 10, 10, []⟩, ⟨3, 3, 2, 2, 2, 2⟩, _, rfl, rfl, by decide⟩

/-- the checks come in the code's order: tile shape, resolution, origin, and only then the
CRS — so a bad origin hides a missing CRS, and a bad shape hides everything -/
theorem GridSpec.ctor_order (crs : Res (Option CrsObj)) (s r o : Arg) (fx fy : Bool) (e : ErrKind) :
    (shapeOf s = .error e → GridSpec.ctor crs s r o fx fy = some (.error e)) ∧
    (∀ v, shapeOf s = .ok v → resOf r = .error e → GridSpec.ctor crs s r o fx fy = some (.error e)) ∧
    (∀ v w, shapeOf s = .ok v → resOf r = .ok w → o ≠ .none → (∀ u, o ≠ .xy u) →
      GridSpec.ctor crs s r o fx fy = some (.error .assertion)) ∧
    (∀ v w, shapeOf s = .ok v → resOf r = .ok w → (o = .none ∨ ∃ u, o = .xy u) → orError crs = .error e →
      GridSpec.ctor crs s r o fx fy = some (.error e)) := by
  refine ⟨?_, ?_, ?_, ?_⟩
  · intro h; simp only [GridSpec.ctor, h]
  · intro v h1 h2; simp only [GridSpec.ctor, h1, h2]
  · intro v w h1 h2 h3 h4
    cases o with
    | none => exact absurd rfl h3
    | xy u => exact absurd rfl (h4 u)
    | _ => simp only [GridSpec.ctor, h1, h2]
  · intro v w h1 h2 h3 h4
    rcases h3 with h3 | ⟨u, h3⟩ <;> subst h3 <;> simp only [GridSpec.ctor, h1, h2, h4]

/-- with well-formed arguments the constructor is the modelled `GridSpec.mk'`: default origin
`(0.0, 0.0)`, square pixels with inverted Y from a number -/
theorem GridSpec.ctor_eq_mk' (c : CrsObj) (ty tx : Int) (t : Bool) (x : PyNum) (fx fy : Bool) :
    GridSpec.ctor (.ok (some c)) (.seq t [⟨.int, ty, false⟩, ⟨.int, tx, false⟩]) (.num x) .none fx fy =
      some (GridSpec.mk' c ty tx (resNorm (.num x)).x (resNorm (.num x)).y ⟨.float, 0, false⟩ ⟨.float, 0, false⟩ fx fy) := by
  simp only [GridSpec.ctor, shapeOf_seq_ints, ints?_ints, resOf, orError, XY.mk', Option.map_some]

/-- equivalent spellings of the resolution and of the origin give the same GridSpec:
`8` / `Resolution(8.0, -8.0)`; no origin / `xy_(0.0, 0.0)` -/
theorem GridSpec.ctor_spellings (crs : Res (Option CrsObj)) (s : Arg) (x : PyNum) (fx fy : Bool) :
    GridSpec.ctor crs s (.num x) .none fx fy = GridSpec.ctor crs s (.xy (resNorm (.num x))) .none fx fy ∧
    GridSpec.ctor crs s (.num x) .none fx fy =
      GridSpec.ctor crs s (.num x) (.xy (XY.mk' ⟨.float, 0, false⟩ ⟨.float, 0, false⟩)) fx fy := by
  constructor
  · have : resOf (.xy (resNorm (.num x))) = resOf (.num x) := (resOf_idem (.num x) _ rfl).2
    simp only [GridSpec.ctor, this]
  · rfl

/-- the public constructor reaches the C14 grid model with nothing in between:
`GridSpec(crs, (ty, tx), r)` is the C14 grid `new ty tx r (−r) 0 0 flipx flipy` (exact mode) and
is refused exactly when C14's `new` refuses — so `GridSpec.token_sound_C14` (equal tokens ⇒
same tiles, same point look-ups) speaks about values built through the entry point -/
theorem GridSpec.ctor_to_C14 (c : CrsObj) (ty tx : Int) (t : Bool) (x : PyNum) (fx fy : Bool) :
    (GridSpec.ctor (.ok (some c)) (.seq t [⟨.int, ty, false⟩, ⟨.int, tx, false⟩]) (.num x) .none fx fy).map
        (·.map GridSpec.toC14) =
      some (C14.GridSpec.new id ty tx x.val (-x.val) 0 0 fx fy) := by
  have hy : (resNorm (.num x)).y.val = -x.val := by
    simp only [resNorm, Resolution.mk', PyNum.toFloat, PyNum.neg]
  rw [GridSpec.ctor_eq_mk', Option.map_some, GridSpec.mk'_eq_C14_new, hy]
  rfl

/-! ## End to end: from the arguments of the public constructors to `==`

No named hypothesis between the entry point and the result: the argument normalisers
(`shape_`, `norm_crs`), the construction cache after ANY real history (`construct_sys_correct`)
and the field-wise equality compose.  What remains assumed is stated in the statement: pyproj's
coherence on cache keys (`KeySysCoherent`, `KeyAcceptCoherent`, tabulated from pyproj on every
run) and EPSG coherence of the CRS records involved (`Coherent`; finding K4 is its negation). -/

/-- `GeoBox(shape₁, A, spec₁) == GeoBox(shape₂, A, spec₂)` whenever the two shape arguments
normalise to the same integers and the two CRS specifications denote the same system for
pyproj — whatever spelling each argument has (tuple / list / XY / Shape2d; text in any letter
case / int / pyproj object / dict) and whatever was constructed, dropped or collected before
either call.  (An existing CRS instance as argument is `GBox.ctor_same_instance`.) -/
theorem GBox.ctor_equal_of_equivalent_args {D : CrsObj → Prop} (hD : Coherent D)
    (W : World) (hW : KeySysCoherent W) (hA : KeyAcceptCoherent W)
    (h1 h2 : List Op) (hr1 : ∀ op ∈ h1, op.real = true) (hr2 : ∀ op ∈ h2, op.real = true)
    (a1 a2 : CrsArg) (s1 s2 : Spec) (p1 p2 : Nat) (c1 c2 : CrsObj)
    (hp1 : normPlan a1 false = .build s1) (hp2 : normPlan a2 false = .build s2)
    (hn1 : (normRun W (run W h1).1 (normPlan a1 false) p1).2 = .ok (some c1))
    (hn2 : (normRun W (run W h2).1 (normPlan a2 false) p2).2 = .ok (some c2))
    (hsame : specSys W (run W h1).1 s1 = specSys W (run W h2).1 s2)
    (hd1 : D c1) (hd2 : D c2)
    (sh1 sh2 : Arg) (aff : List PyNum) (g1 g2 : GBox) (v w : XYv)
    (hs1 : shapeOf sh1 = .ok v) (hs2 : shapeOf sh2 = .ok w) (hvw : v.ints? = w.ints?)
    (hg1 : GBox.ctor sh1 aff (some c1) = some (.ok g1)) (hg2 : GBox.ctor sh2 aff (some c2) = some (.ok g2)) :
    g1.eq g2 = true := by
  have hsys : c1.info.sys = c2.info.sys := Option.some.inj <|
    (norm_crs_sys_correct W hW hA h1 hr1 a1 s1 p1 c1 hp1 hn1).symm.trans <|
      hsame.trans (norm_crs_sys_correct W hW hA h2 hr2 a2 s2 p2 c2 hp2 hn2)
  simp only [GBox.ctor, hs1, hs2, ← hvw] at hg1 hg2
  cases hv : v.ints? with
  | none => simp [hv] at hg1
  | some pr =>
    rw [hv] at hg1 hg2
    cases hg1
    cases hg2
    rw [GBox.eq_iff hD _ _ (show OptD D (some c1) from hd1) (show OptD D (some c2) from hd2)]
    exact ⟨rfl, rfl, rfl, by simp [hsys]⟩

/-- the same for `BoundingBox(l, b, r, t, spec)` (the numbers may differ in kind: `0` / `0.0` / `False`) -/
theorem BBox.ctor_equal_of_equivalent_args {D : CrsObj → Prop} (hD : Coherent D)
    (W : World) (hW : KeySysCoherent W) (hA : KeyAcceptCoherent W)
    (h1 h2 : List Op) (hr1 : ∀ op ∈ h1, op.real = true) (hr2 : ∀ op ∈ h2, op.real = true)
    (a1 a2 : CrsArg) (s1 s2 : Spec) (p1 p2 : Nat) (c1 c2 : CrsObj)
    (hp1 : normPlan a1 false = .build s1) (hp2 : normPlan a2 false = .build s2)
    (hn1 : (normRun W (run W h1).1 (normPlan a1 false) p1).2 = .ok (some c1))
    (hn2 : (normRun W (run W h2).1 (normPlan a2 false) p2).2 = .ok (some c2))
    (hsame : specSys W (run W h1).1 s1 = specSys W (run W h2).1 s2)
    (hd1 : D c1) (hd2 : D c2)
    (l b r t l' b' r' t' : PyNum) (hl : l.val = l'.val) (hb : b.val = b'.val) (hr : r.val = r'.val)
    (ht : t.val = t'.val) :
    (BBox.ctor l b r t (some c1)).eq (BBox.ctor l' b' r' t' (some c2)) = true := by
  have hsys : c1.info.sys = c2.info.sys := Option.some.inj <|
    (norm_crs_sys_correct W hW hA h1 hr1 a1 s1 p1 c1 hp1 hn1).symm.trans <|
      hsame.trans (norm_crs_sys_correct W hW hA h2 hr2 a2 s2 p2 c2 hp2 hn2)
  have hc : crsEq c1 c2 = true := (crs_eq_iff_sys hD c1 c2 hd1 hd2).2 hsys
  simp [BBox.eq, BBox.ctor, optCrsEq, hc, PyNum.eq, hl, hb, hr, ht]

/-- … and a value whose CRS argument is an existing instance holds THAT instance
(`norm_crs` passes it through): it is `==` to itself whatever the instance's lazy state is,
with no coherence hypothesis at all -/
theorem GBox.ctor_same_instance (W : World) (σ : State) (v pick : Nat) (c : CrsObj)
    (hv : assoc v σ.vars = some c) (sh : Arg) (aff : List PyNum) (g g' : GBox)
    (hg : GBox.ctor sh aff (some c) = some (.ok g)) (hg' : GBox.ctor sh aff (some c) = some (.ok g')) :
    (normRun W σ (normPlan (.spec (.crs v)) false) pick).2 = .ok (some c) ∧ g.eq g' = true := by
  refine ⟨congrArg Prod.snd (normRun_same W σ v pick c hv), ?_⟩
  cases hg.symm.trans hg'
  simp [GBox.eq, optCrsEq_refl, numsEq_iff]

example : shapeOf (.seq true [⟨.int, 3, false⟩, ⟨.int, 4, false⟩]) = .ok ⟨.shape2d, ⟨.int, 4, false⟩, ⟨.int, 3, false⟩⟩ := by
  decide +kernel
example : ixyOf (.two ⟨.int, 1, false⟩ ⟨.int, 2, false⟩) = .ok (Index2d.mk' ⟨.int, 1, false⟩ ⟨.int, 2, false⟩) := by
  decide +kernel
example : resOf (.num ⟨.int, 8, false⟩) = .ok (resNorm (.num ⟨.int, 8, false⟩)) := rfl
example : utmMode? "utm-n" = some .north ∧ utmMode? "EPSG:4326" = none := by decide +kernel
example : normPlan (.spec (.str "EPSG:4326")) false = .build (.str "EPSG:4326") := by decide +kernel
example : (⟨.shape2d, ⟨.int, 4, false⟩, ⟨.int, 3, false⟩⟩ : XYv).shapeT = .ok [⟨.int, 3, false⟩, ⟨.int, 4, false⟩] := by
  decide +kernel
example : GBox.ctor (.seq true [⟨.int, 3, false⟩]) [] none = some (.error .valueError) := by decide +kernel
example : GCPBox.ctor (.seq true [⟨.int, 3, false⟩, ⟨.int, 4, false⟩]) ⟨0, none, [], []⟩ none =
    some (.ok ⟨3, 4, affIdentity, ⟨0, none, [], []⟩⟩) := by decide +kernel
example : orError (.ok none) = .error .valueError := rfl
example : utmAdjust .north ⟨none, true, true, false⟩ = .error .assertion := by decide +kernel
example : utmAdjust .north (utmFactsOf 55 true) = .ok (some 32655) := by decide +kernel

/-- the data hypotheses of `GBox.ctor_equal_of_equivalent_args` are jointly satisfiable: in the
demo world, `GeoBox((3, 4), A, "A")` in a fresh interpreter and `GeoBox(XY(4, 3), A, "WA")` after
`CRS("A")` was built (two spellings of system 0) -/
example :
    let W := demoWorld
    let h2 : List Op := [.mk 0 (.str "A") 0]
    let c1 : CrsObj := ⟨0, ⟨0, "A", "WA", none⟩, "A", some 0⟩
    let c2 : CrsObj := ⟨1, ⟨0, "WA", "WA", none⟩, "WA", some 0⟩
    normPlan (.spec (.str "A")) false = .build (.str "A") ∧ normPlan (.spec (.str "WA")) false = .build (.str "WA") ∧
    (normRun W (run W []).1 (normPlan (.spec (.str "A")) false) 0).2 = .ok (some c1) ∧
    (normRun W (run W h2).1 (normPlan (.spec (.str "WA")) false) 0).2 = .ok (some c2) ∧
    specSys W (run W []).1 (.str "A") = specSys W (run W h2).1 (.str "WA") ∧
    (∀ op ∈ h2, op.real = true) ∧
    GBox.ctor (.seq true [⟨.int, 3, false⟩, ⟨.int, 4, false⟩]) [] (some c1) = some (.ok ⟨some c1, 3, 4, []⟩) ∧
    GBox.ctor (.xy ⟨.xy, ⟨.int, 4, false⟩, ⟨.int, 3, false⟩⟩) [] (some c2) = some (.ok ⟨some c2, 3, 4, []⟩) := by
  decide +kernel

end OdcGeo.C19
