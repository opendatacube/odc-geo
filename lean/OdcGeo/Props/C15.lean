/-
C15 — GeoTIFF/COG written through GDAL reads back identical.

Property theorems about the *decision core* (`OdcGeo/Model/C15.lean`): block sizes, default overview
levels, band layout, overwrite table, compression options, nodata resolution; then the GeoTIFF
registration tags of `Model/CogShared.lean` (`tags_encode_affine`) and one link to the dask writer
of C05 (`same_tile_rule`: C05's `normBlocksize`; `same_geo_tags` is named after C05 but mentions nothing of it).  That an independent reader decodes the same pixels /
transform / CRS / nodata is established by the GDAL round trip of the harness, with GDAL + rasterio
encode and decode trusted; no theorem here speaks about file bytes.
-/
import OdcGeo.Model.C15
import OdcGeo.Lemmas.C05

namespace OdcGeo.C15
open OdcGeo.C05 (adjustBlocksize alignUp alignUp_dvd alignUp_ge alignUp_lt YX)

/-- `blocksize_mult16_le`: both block sizes handed to GDAL are multiples of 16, never larger
than the requested block rounded up, and for an image side smaller than the block they shrink
to that side rounded up (by less than 16).  `None` means 512. -/
theorem blocksize_mult16_le (blocksize : Option Nat) (w h : Nat) (fl : Bool) :
    let o := cogOpts blocksize w h fl
    let b := blocksize.getD 512
    16 ∣ o.blockxsize ∧ 16 ∣ o.blockysize ∧
    o.blockxsize ≤ alignUp b 16 ∧ o.blockysize ≤ alignUp b 16 ∧
    (0 < w → w < b → w ≤ o.blockxsize ∧ o.blockxsize < w + 16) ∧
    (0 < h → h < b → h ≤ o.blockysize ∧ o.blockysize < h + 16) ∧
    (¬(0 < w ∧ w < b) → o.blockxsize = alignUp b 16) ∧
    (¬(0 < h ∧ h < b) → o.blockysize = alignUp b 16) := by
  intro o b
  have key : ∀ d, 16 ∣ adjustBlocksize b d ∧ adjustBlocksize b d ≤ alignUp b 16 ∧
      (0 < d → d < b → d ≤ adjustBlocksize b d ∧ adjustBlocksize b d < d + 16) ∧
      (¬(0 < d ∧ d < b) → adjustBlocksize b d = alignUp b 16) := by
    intro d
    unfold adjustBlocksize
    split
    · exact ⟨alignUp_dvd _ 16, OdcGeo.C05.alignUp_mono 16 (Nat.le_of_lt ‹0 < d ∧ d < b›.2),
        fun _ _ => ⟨alignUp_ge _ 16 (by decide), alignUp_lt _ 16 (by decide)⟩, fun h => absurd ‹_› h⟩
    · exact ⟨alignUp_dvd _ 16, Nat.le_refl _, fun h1 h2 => absurd (And.intro h1 h2) ‹_›, fun _ => rfl⟩
  obtain ⟨x1, x2, x3, x4⟩ := key w
  obtain ⟨y1, y2, y3, y4⟩ := key h
  exact ⟨x1, y1, x2, y2, x3, y3, x4, y4⟩

/-- the "will be adjusted" warning fires exactly for requested sizes that are not multiples of 16 -/
theorem blocksize_warning (blocksize : Option Nat) (w h : Nat) (fl : Bool) :
    (cogOpts blocksize w h fl).warns = true ↔ ¬ 16 ∣ blocksize.getD 512 := by
  simp [cogOpts, Nat.dvd_iff_mod_eq_zero]

theorem predictor_choice (blocksize : Option Nat) (w h : Nat) (fl : Bool) :
    (cogOpts blocksize w h fl).predictor = if fl then 3 else 2 := rfl

/-- `default_levels`: no overviews by default exactly for images with a side under 512 pixels,
otherwise the five powers of two 2…32; an explicit list is used as given. -/
theorem default_levels (w h : Nat) :
    (levelsFor none w h = [] ↔ min w h < 512) ∧
    (512 ≤ min w h → levelsFor none w h = [2, 4, 8, 16, 32]) ∧
    ∀ l, levelsFor (some l) w h = l := by
  refine ⟨?_, ?_, fun _ => rfl⟩
  · simp only [levelsFor, defaultLevels]
    by_cases h : min w h < 512
    · simp [h]
    · simp [h, List.range_succ]
  · intro h
    simp only [levelsFor, defaultLevels]
    rw [if_neg (by omega)]
    decide

/-- `layout_normalises_to_band_first`: whenever the layout is accepted the normalised height ×
width is the GeoBox shape, no element is lost, and output element `[k, y, x]` is input element
`[y, x, k]` for band-last input (band order preserved by the transpose) and `[k, y, x]` itself
for band-first / 2-D input. -/
theorem layout_normalises_to_band_first (shape : List Nat) (g : YX) (l : Layout)
    (h : normLayout shape g = .ok l) :
    g = ⟨l.h, l.w⟩ ∧ l.nbands * l.h * l.w = shape.foldl (· * ·) 1 ∧
    (∀ k y x, srcIndex l k y x = if l.transposed then (y, x, k) else (k, y, x)) ∧
    (l.transposed = true ↔ ∃ a b c, shape = [a, b, c] ∧ g = ⟨a, b⟩) := by
  unfold normLayout at h
  split at h
  · rename_i hh ww
    split at h
    · rename_i hg; cases h
      refine ⟨hg, by simp, fun _ _ _ => rfl, by simp⟩
    · cases h
  · rename_i a b c
    split at h
    · rename_i hg; cases h
      refine ⟨hg, by simp [Nat.mul_comm, Nat.mul_left_comm], fun _ _ _ => rfl, ?_⟩
      simp only [true_iff]
      exact ⟨a, b, c, rfl, hg⟩
    · rename_i hg
      split at h
      · cases h
      · rename_i hg2; cases h
        refine ⟨by simpa using hg2, by simp [Nat.mul_assoc], fun _ _ _ => rfl, ?_⟩
        simp only [Bool.false_eq_true, false_iff]
        rintro ⟨a', b', c', he, hg'⟩
        cases he
        exact hg hg'
  · cases h

/-- what is rejected: 3-D arrays matching the GeoBox on neither side (`ValueError`), 2-D arrays
of another shape (`AssertionError`), other ranks (`ValueError`) -/
theorem layout_rejects (a b c : Nat) (g : YX) (h1 : g ≠ ⟨a, b⟩) (h2 : g ≠ ⟨b, c⟩) :
    normLayout [a, b, c] g = .error .valueError ∧
    (g ≠ ⟨a, b⟩ → normLayout [a, b] g = .error .assertion) ∧
    normLayout [a] g = .error .valueError := by
  simp [normLayout, h1, h2]

/-- the ambiguous case: an `n×n×n` array over an `n×n` GeoBox is always read as band-last
(bands = last axis), whatever the caller meant -/
theorem layout_ambiguous_cube (n : Nat) :
    normLayout [n, n, n] ⟨n, n⟩ = .ok ⟨n, n, n, true⟩ ∧ ambiguous [n, n, n] ⟨n, n⟩ = true := by
  simp [normLayout, ambiguous]

/-- `overwrite_table`: an existing destination without `overwrite` raises and nothing is
unlinked or written; with `overwrite` it is unlinked, then written; a missing destination is
just written; memory destinations never touch the file system. -/
theorem overwrite_table :
    writePlan false true false = ([], true) ∧
    writePlan false true true = ([.unlink, .write], false) ∧
    (∀ o, writePlan false false o = ([.write], false)) ∧
    (∀ e o, writePlan true e o = ([], false)) := by
  refine ⟨rfl, rfl, ?_, ?_⟩
  · intro o; cases o <;> rfl
  · intro e o; cases e <;> cases o <;> rfl

/-- an unlink happens only when the destination exists and overwriting was requested, and an
error leaves no action behind -/
theorem unlink_only_on_overwrite (m e o : Bool) :
    (Act.unlink ∈ (writePlan m e o).1 ↔ (m = false ∧ e = true ∧ o = true)) ∧
    ((writePlan m e o).2 = true → (writePlan m e o).1 = []) := by
  cases m <;> cases e <;> cases o <;> simp [writePlan]

theorem norm_compression_table (s : String) (kv : List (String × String)) :
    normCompressionOpts (.flag true) = [("compress", "deflate"), ("zlevel", "2")] ∧
    normCompressionOpts (.flag false) = [("compress", "None")] ∧
    normCompressionOpts (.name s) = [("compress", s)] ∧
    normCompressionOpts (.opts kv) = kv := by
  refine ⟨by decide, rfl, rfl, rfl⟩

/-- overview size reference: `⌈w/l⌉ × ⌈h/l⌉` covers the image and wastes less than one cell -/
theorem ovr_size_ceil (w h l : Nat) (hl : 0 < l) :
    w ≤ (ovrSize w h l).1 * l ∧ (ovrSize w h l).1 * l < w + l ∧
    h ≤ (ovrSize w h l).2 * l ∧ (ovrSize w h l).2 * l < h + l := by
  exact ⟨(OdcGeo.C05.chunked_covers w l hl).1, (OdcGeo.C05.chunked_covers w l hl).2, (OdcGeo.C05.chunked_covers h l hl).1,
    (OdcGeo.C05.chunked_covers h l hl).2⟩

/-- `normalised_pixel`: element `[k, y, x]` of the band-first array handed to GDAL is `source[y, x, k]` for band-last
input (the permutation is `[2, 0, 1]`, band order kept) and `source[k, y, x]` itself otherwise -/
theorem normalised_pixel {α : Type} (l : Layout) (pix : Nat → Nat → Nat → α) (k y x : Nat) :
    normalise l pix k y x = if l.transposed then pix y x k else pix k y x := by
  unfold normalise srcIndex
  cases l.transposed <;> rfl

/-- `levels_independent_of_layout`: the overview levels depend on the SPATIAL shape only.  The same `h × w` image over
the same GeoBox, given as 2-D, band-first (`c` bands) or band-last, gets the same levels — also by default (none under
512 px, `[2,4,8,16,32]` otherwise): the rule never sees the band axis.  (`hne`: the layouts are not ambiguous.) -/
theorem levels_independent_of_layout (req : Option (List Nat)) (h w c : Nat)
    (hne : (⟨h, w⟩ : YX) ≠ ⟨c, h⟩) :
    levelsForArray req [h, w] ⟨h, w⟩ = .ok (levelsFor req w h) ∧
    levelsForArray req [c, h, w] ⟨h, w⟩ = .ok (levelsFor req w h) ∧
    levelsForArray req [h, w, c] ⟨h, w⟩ = .ok (levelsFor req w h) := by
  refine ⟨by simp [levelsForArray, normLayout], ?_, by simp [levelsForArray, normLayout]⟩
  simp [levelsForArray, normLayout, hne]

/-- non-vacuity witness, and the point a default-level rule that runs BEFORE the layout is normalised gets wrong (seeded
defect C15-11 of DESIGN.md): a 600 × 513 RGB image, band-last, gets the five default levels (the smaller SPATIAL side is
513, not the band count 3) -/
example : levelsForArray none [600, 513, 3] ⟨600, 513⟩ = .ok [2, 4, 8, 16, 32] ∧
    levelsForArray none [3, 600, 513] ⟨600, 513⟩ = .ok [2, 4, 8, 16, 32] ∧
    levelsForArray none [511, 700, 4] ⟨511, 700⟩ = .ok [] := by decide

/-- `nodata_resolution`: on every entry point an explicit keyword wins, otherwise the array's `attrs['nodata']`,
otherwise none -/
theorem nodata_resolution (e : Entry) (kw attrs : Option Num) :
    resolveNodata e kw attrs = (match kw with | some v => some v | none => attrs) ∧
    (kw = none → attrs = none → resolveNodata e kw attrs = none) ∧
    (∀ v, kw = some v → resolveNodata e kw attrs = some v) := by
  refine ⟨rfl, ?_, ?_⟩
  · rintro rfl rfl; rfl
  · rintro v rfl; rfl

/-- holds by definition: `resolveNodata` ignores its `Entry` argument, the model states the rule once.  That the entry points
of the real module share it is carried by the correspondence and, dictionary by dictionary, by `entry_nodata_direct` /
`layers_nodata_resolution` in `Props/C15Glue.lean` -/
theorem nodata_entry_irrelevant (e e' : Entry) (kw attrs : Option Num) :
    resolveNodata e kw attrs = resolveNodata e' kw attrs := rfl

/-- `nodata_spelling_irrelevant`: the value that reaches GDAL depends on the numbers, not on how they are spelled
(python int / float, numpy scalar of any dtype, 0-d array; any spelling of NaN) nor on which route each took -/
theorem nodata_spelling_irrelevant (e : Entry) (kw kw' attrs attrs' : Option Num)
    (hk : kw.map Num.value = kw'.map Num.value) (ha : attrs.map Num.value = attrs'.map Num.value) :
    (resolveNodata e kw attrs).map Num.value = (resolveNodata e kw' attrs').map Num.value := by
  cases kw <;> cases kw' <;> simp_all [resolveNodata]

example : (resolveNodata .writeCog none (some (.npScalar "int16" (-9999)))).map Num.value =
    (resolveNodata .toCog none (some (.pyInt (-9999)))).map Num.value := by decide

/-- a `bool` / `str` argument yields a new dict; a dict argument comes back as the caller's own object — which is
harmless on HEAD because neither caller writes into the result -/
theorem norm_compression_aliasing (c : CompArg) :
    (normCompressionFresh c = false ↔ ∃ kv, c = .opts kv) ∧ ∀ u : NormUse, u.writesInto = false := by
  refine ⟨?_, fun u => by cases u <;> rfl⟩
  cases c <;> simp [normCompressionFresh]

open OdcGeo.Cog in
/-- `tags_encode_affine`: for EVERY affine (north-up, south-up, mirrored, rotated, sheared) the tags GDAL writes decode
to exactly that affine: ModelPixelScale + ModelTiepoint when north-up, the ModelTransformation matrix otherwise -/
theorem tags_encode_affine (A : Aff) : decodeTransform (encodeTransform A) = some A := by
  obtain ⟨a, b, c, d, e, f⟩ := A
  unfold encodeTransform
  split
  · rename_i h
    obtain ⟨hb, hd, _⟩ := h
    simp only at hb hd
    subst hb; subst hd
    simp [decodeTransform]
  · simp [decodeTransform]

open OdcGeo.Cog in
/-- scale + tiepoint exactly for north-up affines, the matrix for everything else (south-up included) -/
theorem tags_kind (A : Aff) :
    (∃ s t, encodeTransform A = .scaleTie s t) ↔ (A.b = 0 ∧ A.d = 0 ∧ A.e < 0) := by
  unfold encodeTransform
  split <;> simp_all

open OdcGeo.Cog in
/-- the tags do not depend on the image shape (`geotiff_metadata` takes them from `geobox[:2, :2]`); `rfl` because the model's
`cropKeepsAffine` returns the affine unchanged — that cropping a GeoBox keeps its affine is not shown here -/
theorem tags_shape_independent (A : Aff) (s s' : Nat × Nat) :
    encodeTransform (cropKeepsAffine A s) = encodeTransform (cropKeepsAffine A s') := rfl

/-- `same_tile_rule`: for an image at least as large as the requested block both writers use the same tile size — the GDAL
writer's `blockxsize / blockysize` are the dask writer's `norm_blocksize(block)`; they differ only for images smaller than
the block, which the GDAL writer shrinks to the image (`adjust_blocksize(block, dim)`), the dask writer does not -/
theorem same_tile_rule (b w h : Nat) (fl : Bool) (hw : ¬(0 < w ∧ w < b)) (hh : ¬(0 < h ∧ h < b)) :
    (cogOpts (some b) w h fl).blockxsize = (OdcGeo.C05.normBlocksize (.one b)).x ∧
    (cogOpts (some b) w h fl).blockysize = (OdcGeo.C05.normBlocksize (.one b)).y := by
  simp only [cogOpts, Option.getD, OdcGeo.C05.normBlocksize, adjustBlocksize]
  rw [if_neg hw, if_neg hh]
  simp

/-- and the geo-registration tags of both are the encoding of the same affine (C05 copies the tags GDAL writes for the
GeoBox, C15 lets GDAL write them): they decode to the GeoBox's transform.  No C05 definition occurs: the statement is
`tags_encode_affine` and `tags_shape_independent` for two arbitrary shapes -/
theorem same_geo_tags (A : Aff) (shapeC05 shapeC15 : Nat × Nat) :
    OdcGeo.Cog.decodeTransform (OdcGeo.Cog.encodeTransform (OdcGeo.Cog.cropKeepsAffine A shapeC05)) = some A ∧
    OdcGeo.Cog.encodeTransform (OdcGeo.Cog.cropKeepsAffine A shapeC05) =
      OdcGeo.Cog.encodeTransform (OdcGeo.Cog.cropKeepsAffine A shapeC15) :=
  ⟨tags_encode_affine A, rfl⟩

end OdcGeo.C15
