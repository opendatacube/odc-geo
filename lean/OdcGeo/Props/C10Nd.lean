/-
C10 — theorems about the public warp entry points (`OdcGeo.Model.C10Nd`) and about the public calling convention
(`OdcGeo.Model.C10Sig`).
-/
import OdcGeo.Model.C10Nd
import OdcGeo.Model.C10Sig
import OdcGeo.Lemmas.Affine
import OdcGeo.Lemmas.Splice
import OdcGeo.Lemmas.C04Nd
import Mathlib.Data.List.Nodup
namespace OdcGeo.C10
open OdcGeo.C17 OdcGeo.C03

theorem rioDstNodata_idem (f : Bool) (nan : Int) (dn : Option Int) :
    rioDstNodata f nan (rioDstNodata f nan dn) = rioDstNodata f nan dn := by
  cases dn <;> cases f <;> simp [rioDstNodata]

/-- For a non-float destination, or when `dst_nodata` is given, `rio_reproject` is `_rio_reproject`; for a float
destination without `dst_nodata` it is `_rio_reproject` with `dst_nodata = NaN`. -/
theorem rio_reproject2_eq (t : PixT) (f : Bool) (nan : Int) (src dst : Int → Int → Int) (shape : Int × Int) (A : Aff)
    (sn dn : Option Int) (init : Bool) (dy dx : Int) :
    rioReproject2 t f nan src dst shape A sn dn init dy dx =
      rioNN t src dst shape A sn (if f = true ∧ dn = none then some nan else dn) init dy dx := by
  unfold rioReproject2 rioDstNodata
  cases dn <;> cases f <;> simp

/-- `warp_affine(src, dst, A, …)`: the destination → source pixel transform GDAL is given (identity source grid, `A`
as destination grid) is `A` itself. -/
theorem warp_affine_eq (t : PixT) (src dst : Int → Int → Int) (shape : Int × Int) (A : Aff) (sn dn : Option Int)
    (init : Bool) (dy dx : Int) :
    warpAffine t src dst shape A sn dn init dy dx = rioNN t src dst shape A sn dn init dy dx := by
  unfold warpAffine; rw [Aff.inv_id, Aff.id_mul]

/-- **The two public entry points differ on float rasters**: a destination pixel no source pixel maps to, freshly
initialised, no nodata given — `rio_reproject` leaves NaN there, `warp_affine` leaves 0. -/
theorem float_default_differs (nan : Int) (src dst : Int → Int → Int) (shape : Int × Int) (A : Aff) (dy dx : Int)
    (hmiss : nnPick shape A dy dx = none) :
    rioReproject2 .other true nan src dst shape A none none true dy dx = nan ∧
    warpAffine .other src dst shape A none none true dy dx = 0 := by
  constructor
  · simp [rioReproject2, rioDstNodata, rioNN, gdalNN, hmiss, fromWork, stretchNodata, effFill]
  · rw [warp_affine_eq]
    simp [rioNN, gdalNN, hmiss, fromWork, stretchNodata, effFill]

theorem ndindex_eq_C04 : ∀ dims : List Nat, ndindex dims = C04.ndindex dims
  | [] => rfl
  | d :: ds => by rw [ndindex, C04.ndindex, ndindex_eq_C04 ds]

theorem length_of_mem_ndindex (dims idx : List Nat) (h : idx ∈ ndindex dims) : idx.length = dims.length :=
  C04.ndindex_length dims idx (ndindex_eq_C04 dims ▸ h)

theorem ndindex_nodup (dims : List Nat) : (ndindex dims).Nodup :=
  ndindex_eq_C04 dims ▸ C04.ndindex_nodup dims

theorem extraOf_planeCoord (idx : List Nat) (yd y x : Nat) (h : yd ≤ idx.length) :
    extraOf (planeCoord idx yd y x) yd = idx := by
  have hl : (idx.take yd).length = yd := List.length_take_of_le h
  rw [extraOf, planeCoord, splice_take hl, splice_drop hl, List.take_append_drop]

/-- the fold over distinct planes: each listed plane is computed once, from the ORIGINAL content of that plane -/
theorem fold_planes (step : NdArr → List Nat → NdArr) (yd : Nat) (G : List Nat → (Int → Int → Int) → List Nat → Int)
    (hstep : ∀ acc idx c, step acc idx c = if extraOf c yd = idx then G idx (planeOf acc idx yd) c else acc c) :
    ∀ (keys : List (List Nat)), keys.Nodup → (∀ k ∈ keys, yd ≤ k.length) → ∀ (acc : NdArr) (c : List Nat),
      keys.foldl step acc c =
        if extraOf c yd ∈ keys then G (extraOf c yd) (planeOf acc (extraOf c yd) yd) c else acc c
  | [], _, _, acc, c => by simp
  | k :: ks, hnd, hlen, acc, c => by
    rw [List.foldl_cons, fold_planes step yd G hstep ks (List.nodup_cons.mp hnd).2
      (fun k' hk' => hlen k' (List.mem_cons_of_mem _ hk')) (step acc k) c]
    have hk : k ∉ ks := (List.nodup_cons.mp hnd).1
    by_cases he : extraOf c yd ∈ ks
    · have hne : extraOf c yd ≠ k := fun h => hk (h ▸ he)
      rw [if_pos he, if_pos (List.mem_cons_of_mem _ he)]
      congr 1
      funext i j
      simp only [planeOf]
      rw [hstep, if_neg]
      rw [extraOf_planeCoord _ _ _ _ (hlen _ (List.mem_cons_of_mem _ he))]
      exact hne
    · rw [if_neg he, hstep]
      by_cases hek : extraOf c yd = k
      · rw [if_pos hek, if_pos (by rw [hek]; exact List.mem_cons_self), hek]
      · rw [if_neg hek, if_neg]
        simp only [List.mem_cons, not_or]
        exact ⟨hek, he⟩

/-- **Every plane exactly once, independent of the others.**  For an N-d call that does not raise: an element whose
plane index (its coordinate without the Y and X entries) is one of the source's planes holds the 2-D `rio_reproject` of
that source plane INTO THE ORIGINAL content of the same destination plane — whatever was written to other planes
before; every other element (surplus planes of a bigger destination) is unchanged.  `ydim = None` means the last two
axes. -/
theorem nd_every_plane_once (t : PixT) (f : Bool) (nan : Int) (src dst : NdArr) (sshape dshape : List Nat)
    (ydim : Option Nat) (A : Aff) (sn dn : Option Int) (init : Bool) (out : NdArr)
    (hy : ydimOf sshape.length ydim + 2 ≤ sshape.length)
    (h : rioReprojectNd t f nan src dst sshape dshape ydim A sn dn init = .ok out) (c : List Nat) :
    let yd := ydimOf sshape.length ydim
    out c =
      if extraOf c yd ∈ ndindex (extraDims sshape yd) then
        rioReproject2 t f nan (planeOf src (extraOf c yd) yd) (planeOf dst (extraOf c yd) yd)
          ((sshape.getD yd 0 : Nat), (sshape.getD (yd + 1) 0 : Nat)) A sn dn init
          ((c.getD yd 0 : Nat) : Int) ((c.getD (yd + 1) 0 : Nat) : Int)
      else dst c := by
  intro yd
  unfold rioReprojectNd at h
  simp only at h
  split_ifs at h
  simp only [Except.ok.injEq] at h
  subst h
  have hlen : ∀ k ∈ ndindex (extraDims sshape yd), yd ≤ k.length := by
    intro k hk
    rw [length_of_mem_ndindex _ _ hk]
    simp only [extraDims, List.length_append, List.length_take, List.length_drop]
    have : yd + 2 ≤ sshape.length := hy
    omega
  exact fold_planes _ yd
    (fun idx pl c => rioReproject2 t f nan (planeOf src idx yd) pl
      ((sshape.getD yd 0 : Nat), (sshape.getD (yd + 1) 0 : Nat)) A sn dn init
      ((c.getD yd 0 : Nat) : Int) ((c.getD (yd + 1) 0 : Nat) : Int))
    (fun acc idx c => rfl) _ (ndindex_nodup _) hlen dst c

/-- The public defaults of `snap_affine(tol=)`, `is_affine_st(tol=)` and `compute_reproject_roi(stol=)` are the model's
constants (the first two the model's own default arguments), and in the documented positional order the TRANSLATION
tolerance comes before the SCALE tolerance, both in `compute_reproject_roi(src, dst, ttol, stol, …)` and in
`snap_affine(A, ttol, stol, tol)`. -/
theorem signature_defaults_tie :
    defaultOf "math.snap_affine" "tol" = some tol1em8 ∧ defaultOf "math.is_affine_st" "tol" = some tol1em10 ∧
    defaultOf "overlap.compute_reproject_roi" "stol" = some tol1em3 ∧
    (∀ A ttol stol, snapAffine A ttol stol = snapAffine A ttol stol tol1em8) ∧
    (∀ A, isAffineST A = isAffineST A tol1em10) ∧
    positionOf "overlap.compute_reproject_roi" "ttol" = some 2 ∧ positionOf "overlap.compute_reproject_roi" "stol" = some 3 ∧
    positionOf "math.snap_affine" "ttol" = some 1 ∧ positionOf "math.snap_affine" "stol" = some 2 := by
  have table : defaultOf "math.snap_affine" "tol" = some tol1em8 ∧ defaultOf "math.is_affine_st" "tol" = some tol1em10 ∧
      defaultOf "overlap.compute_reproject_roi" "stol" = some tol1em3 ∧
      positionOf "overlap.compute_reproject_roi" "ttol" = some 2 ∧
      positionOf "overlap.compute_reproject_roi" "stol" = some 3 ∧
      positionOf "math.snap_affine" "ttol" = some 1 ∧ positionOf "math.snap_affine" "stol" = some 2 := by
    decide +kernel
  exact ⟨table.1, table.2.1, table.2.2.1, fun _ _ _ => rfl, fun _ => rfl, table.2.2.2⟩

example : ndindex [2, 3] = [[0, 0], [0, 1], [0, 2], [1, 0], [1, 1], [1, 2]] := by decide
example : extraDims [4, 5, 6, 7] 1 = [4, 7] ∧ planeCoord [3, 2] 1 10 20 = [3, 10, 20, 2] ∧ extraOf [3, 10, 20, 2] 1 = [3, 2] := by
  decide
example : ydimOf 3 none = 1 ∧ ydimOf 3 (some 0) = 0 := by decide
-- `nd_every_plane_once`: the call succeeds when every source plane has a destination plane, raises otherwise
example : (rioReprojectNd .other false 0 (fun _ => 1) (fun _ => 0) [2, 3, 4] [2, 5, 6] none Aff.id none none true).toOption.isSome
    = true := by decide +kernel
example : (rioReprojectNd .other false 0 (fun _ => 1) (fun _ => 0) [3, 3, 4] [2, 5, 6] none Aff.id none none true).toOption.isSome
    = false := by decide +kernel

end OdcGeo.C10
