/-
C15 ∘ C09 — the georeference GDAL is handed is the GeoBox the array was built from.

`write_cog` / `to_cog` take `geo_im.odc.geobox` — the accessor of `_xr_interop.py`, which is property C09's model
(`Model/C09.lean`: `wrap` = `xr_coords` / `_mk_crs_coord` / `wrap_xr`, `assignCrs`, `recover` = `_locate_geo_info` incl.
`_extract_transform`, `recoverDropped` = the GeoTransform fall-back of `_extract_geo_transform`) — and pass its shape to the
layout test and its `transform` / `crs` on to GDAL.  In the C15 call-trace model these two are the pass-through tokens
`.ext "transform"` / `.ext "crs"` (printed `x:transform` / `x:crs` in the traces the harness compares).  This file gives the
tokens their meaning (`denote`) and shows: every dataset `_write_cog` opens has the size of the GeoBox the accessor reports and
carries the two tokens untouched (`write_cog_hands_gdal_the_geobox`); and for every way of building the array that C09 models
(`georef_wrap`, `georef_after_history`: wrapped then sliced / computed on, `georef_assign_crs`, `georef_dropped_coords`) what the
accessor reports is the original GeoBox (after slicing: the GeoBox of the window, every pixel where the original had it).  The two
are composed into one statement for `wrap_xr` only (`wrapped_array_written_with_its_geobox`).
-/
import OdcGeo.Props.C15Glue
import OdcGeo.Props.C09Glue

namespace OdcGeo.C15
open OdcGeo.C05 (YX adjustBlocksize)

/-- what the writers read off a DataArray: `geo_im.odc.geobox` as far as they use it -/
structure GeoRef where
  shape : YX
  A : Aff
  crs : Option C09.Crs

/-- `geo_im.odc.geobox` through C09's recovery (`none`: no GeoBox; GCP geoboxes are not what `write_cog` is documented for) -/
def georefOf : Res C09.Recovered → Option GeoRef
  | .ok (.lin g) => some ⟨⟨g.ny, g.nx⟩, g.A, g.crs⟩
  | _ => none

/-- the layer `write_cog` sees for an array whose accessor reports `gr` -/
def layerOfXr (gr : Option GeoRef) (shape : List Nat) (dtype : String) (isFloat : Bool) (nd : V) : Layer :=
  { shape := shape, g := gr.map (·.shape), dtype := dtype, isFloat := isFloat, attrsNodata := nd }

/-- meaning of the two pass-through tokens of the trace model in a call on an array with georeference `gr`:
`transform=geobox.transform`, `crs=str(geobox.crs)` -/
def denote (gr : GeoRef) : V → Option (Aff ⊕ Option C09.Crs)
  | .ext tok => if tok = "transform" then some (.inl gr.A) else if tok = "crs" then some (.inr gr.crs) else none
  | _ => none

/-- the four keys that describe WHERE the image is -/
def georefKeys : List String := ["transform", "crs", "width", "height"]

/-- `open_opts_default`: every dataset `_write_cog` opens (the final one, or the temporary first-pass image) gets odc-geo's own
value for key `k` — for the `georefKeys` the pass-through tokens and the normalised image size — unless the caller overrides it
in the extra options or in the intermediate-compression dict; `hk` excludes the keys the open calls and `tmp_opts` set or
remove themselves -/
theorem open_opts_default (a : WArgs) (l : Layout) (hl : layoutOf a.shape a.g = .ok l) (loc : Loc) (opts : Dict)
    (hev : Ev.openW loc opts ∈ (writeCog a).1) (k : String)
    (hk : k ∉ ["driver", "mode", "nodata", "compress", "predictor", "zlevel"])
    (hx : a.extra.lastGet k = none) (hic : a.icomp.norm.lastGet k = none) :
    Dict.get opts k = Dict.get (baseOpts l a.dtype a.isFloat (a.blocksize.getD 512)) k := by
  simp only [List.mem_cons, List.not_mem_nil, or_false, not_or] at hk
  obtain ⟨hd1, hd2, hd3, hd4⟩ := hk
  have hrio := rio_opts_default l a.dtype a.isFloat (a.blocksize.getD 512) a.nodata a.extra k hx hd3
  refine forall_mem_writeCogFrom (P := fun ev => ∀ loc opts, ev = .openW loc opts → Dict.get opts k = _)
    0 a (fun _ _ _ _ _ => nofun) (fun _ _ => nofun) (fun _ _ _ _ _ => nofun) (fun _ _ => nofun) (fun l' _ hl' => ?_)
    (fun _ _ _ _ => ⟨fun _ _ _ => nofun, fun _ _ => nofun, fun _ _ _ _ _ => nofun, fun _ _ => nofun⟩) _ hev loc opts rfl
  cases hl.symm.trans hl'
  refine ⟨fun _ _ he => ?_, fun _ _ he => ?_, fun _ _ he => ?_⟩ <;> cases he
  · rw [get_memOpenKw _ _ hd1]; exact hrio
  · rw [get_pathOpenKw _ _ hd1 hd2]; exact hrio
  · rw [get_memOpenKw _ _ hd1, tmp_opts_spec, hic]; simpa [hd4] using hrio

/-- `write_cog_hands_gdal_the_geobox`: for an array whose accessor reports the georeference `gr`, written through the direct path
of `write_cog` / `to_cog` in any accepted layout with any options that do not themselves override the georeference: every
dataset opened (temporary or final) has the width × height of `gr` and its `transform` / `crs` options DENOTE `gr.A` / `gr.crs` -/
theorem write_cog_hands_gdal_the_geobox (gr : GeoRef) (shape : List Nat) (dtype : String) (fl : Bool) (nd : V) (a : CArgs)
    (him : a.im = layerOfXr (some gr) shape dtype fl nd) (hov : a.overviews = none) (l : Layout)
    (hl : normLayout shape gr.shape = .ok l)
    (hx : ∀ k ∈ georefKeys, a.extra.lastGet k = none) (hic : ∀ k ∈ georefKeys, a.icomp.norm.lastGet k = none)
    (loc : Loc) (opts : Dict) (hev : Ev.openW loc opts ∈ (writeCogEntry a).1) :
    (Dict.get opts "transform").bind (denote gr) = some (.inl gr.A) ∧
    (Dict.get opts "crs").bind (denote gr) = some (.inr gr.crs) ∧
    Dict.get opts "width" = some (.int gr.shape.x) ∧ Dict.get opts "height" = some (.int gr.shape.y) := by
  unfold writeCogEntry writeCogEntryWith at hev
  simp only [hov, him, layerOfXr, Option.map_some] at hev
  have hlw := (layout_normalises_to_band_first shape gr.shape l hl).1
  have hlo : layoutOf shape (some gr.shape) = .ok l := by simp only [layoutOf, hl]
  have key := fun k hk => open_opts_default _ l hlo loc opts hev k
    ((by decide : ∀ k ∈ georefKeys, k ∉ ["driver", "mode", "nodata", "compress", "predictor", "zlevel"]) k hk)
    (by rw [Dict.lastGet_without, hx k hk, ite_self]) (hic k hk)
  rw [key "transform" (by decide), key "crs" (by decide), key "width" (by decide), key "height" (by decide)]
  obtain ⟨gw, gh, _, _, gt, gc⟩ := baseOpts_grid l dtype fl (a.blocksize.getD 512)
  rw [gt, gc, gw, gh, hlw]
  exact ⟨rfl, rfl, rfl, rfl⟩

open OdcGeo.C09 in
/-- built by `wrap_xr` (any rank, any CRS-coordinate name): axis-aligned boxes (with a CRS, or at least 2 × 2) and rotated /
sheared boxes of every shape -/
theorem georef_wrap (g : C09.GeoBox) (nt nb : Option Nat) (cn : String) (attrs : List String) (a0 : XArr) (hcn : NameOk cn)
    (hny : 1 ≤ g.ny) (hnx : 1 ≤ g.nx)
    (hkind : (g.A.b = 0 ∧ g.A.d = 0 ∧ (g.crs.isSome = true ∨ (2 ≤ g.ny ∧ 2 ≤ g.nx))) ∨ isAffineST g.A = false)
    (hw : wrap (.lin g) nt nb cn attrs = .ok a0) :
    georefOf (recover a0) = some ⟨⟨g.ny, g.nx⟩, g.A, g.crs⟩ := by
  rcases hkind with ⟨hb, hd, hc⟩ | hrot
  · rw [roundtrip_axis_aligned g nt nb cn attrs a0 hcn hb hd hny hnx hc hw]; rfl
  · rw [roundtrip_rotated g nt nb cn attrs a0 hcn hrot hny hnx hw]; rfl

open OdcGeo.C09 in
/-- wrapped without a CRS coordinate, registered later with `.odc.assign_crs` -/
theorem georef_assign_crs (g : C09.GeoBox) (c : Crs) (nt nb : Option Nat) (cn : String) (attrs : List String) (a0 : XArr)
    (hcn : NameOk cn) (hcrs : g.crs = some c) (halign : isAffineST g.A = true → g.A.b = 0 ∧ g.A.d = 0)
    (hshape : (isAffineST g.A = false ∧ 1 ≤ g.ny ∧ 1 ≤ g.nx) ∨ (2 ≤ g.ny ∧ 2 ≤ g.nx))
    (hw : wrapNoName (.lin g) nt nb attrs = .ok a0) :
    georefOf (recover (assignCrs a0 c cn)) = some ⟨⟨g.ny, g.nx⟩, g.A, g.crs⟩ := by
  rw [roundtrip_assign_crs g c nt nb cn attrs a0 hcn hcrs halign hshape hw]; rfl

open OdcGeo.C09 in
/-- axis coordinates dropped (rioxarray style): the GeoTransform of the CRS coordinate, rotated boxes included -/
theorem georef_dropped_coords (g : C09.GeoBox) (c : Crs) (nt nb : Option Nat) (cn : String) (attrs : List String) (a0 : XArr)
    (drop : List String) (hcn : NameOk cn) (hcrs : g.crs = some c) (hw : wrap (.lin g) nt nb cn attrs = .ok a0)
    (hdrop : (dimsOf g.crs).1 ∈ drop ∨ (dimsOf g.crs).2 ∈ drop) :
    georefOf (recoverDropped a0 drop) = some ⟨⟨g.ny, g.nx⟩, g.A, g.crs⟩ := by
  rw [dropped_coords_roundtrip g c nt nb cn attrs a0 drop hcn hcrs hw hdrop]; rfl

open OdcGeo.C09 in
/-- wrapped, then any history of slices (strided, reversed, down to one pixel), arithmetic, `astype`, pickling: the
georeference has the shape of the result, the CRS of the original and maps every remaining pixel centre to where the
original GeoBox puts the pixel it came from -/
theorem georef_after_history (g : C09.GeoBox) (nt nb : Option Nat) (cn : String) (attrs : List String) (ops : List Op)
    (a0 a : XArr) (hcn : NameOk cn) (halign : isAffineST g.A = true → g.A.b = 0 ∧ g.A.d = 0)
    (hw : wrap (.lin g) nt nb cn attrs = .ok a0) (hadm : ∀ op ∈ ops, op.admissible) (hops : applyOps a0 ops = .ok a) :
    let m := track (dimsOf g.crs).1 (dimsOf g.crs).2 (AxMap.ident g.ny, AxMap.ident g.nx) ops
    1 ≤ m.1.len → 1 ≤ m.2.len → HasFallback g m.1 m.2 →
      ∃ gr, georefOf (recover a) = some gr ∧ gr.shape = ⟨m.1.len, m.2.len⟩ ∧ gr.crs = g.crs ∧
        ∀ i j : Nat, i < m.1.len → j < m.2.len →
          gr.A.apply (centre i j) = g.A.apply (centre (m.1.orig i) (m.2.orig j)) := by
  intro m h1 h2 h3
  obtain ⟨r, hr, e1, e2, e3, e4⟩ := survives g nt nb cn attrs ops a0 a hcn halign hw hadm hops h1 h2 h3
  refine ⟨⟨⟨r.ny, r.nx⟩, r.A, r.crs⟩, by rw [hr]; rfl, by simp only [e1, e2]; rfl, e3, e4⟩

open OdcGeo.C09 in
/-- `wrapped_array_written_with_its_geobox`: END TO END for `xx = wrap_xr(pix, g)` written by `to_cog` / `write_cog` (direct path, any
layout `pix` may have over `g`, default or any non-overriding options): every dataset GDAL is asked to create is `g.nx × g.ny`
with `transform = g.A` and `crs = g.crs` — no hypothesis about the accessor in between -/
theorem wrapped_array_written_with_its_geobox (g : C09.GeoBox) (nt nb : Option Nat) (cn : String) (attrs : List String) (a0 : XArr)
    (hcn : NameOk cn) (hny : 1 ≤ g.ny) (hnx : 1 ≤ g.nx)
    (hkind : (g.A.b = 0 ∧ g.A.d = 0 ∧ (g.crs.isSome = true ∨ (2 ≤ g.ny ∧ 2 ≤ g.nx))) ∨ isAffineST g.A = false)
    (hw : wrap (.lin g) nt nb cn attrs = .ok a0)
    (shape : List Nat) (dtype : String) (fl : Bool) (nd : V) (a : CArgs)
    (him : a.im = layerOfXr (georefOf (recover a0)) shape dtype fl nd) (hov : a.overviews = none) (l : Layout)
    (hl : normLayout shape ⟨g.ny, g.nx⟩ = .ok l)
    (hx : ∀ k ∈ georefKeys, a.extra.lastGet k = none) (hic : ∀ k ∈ georefKeys, a.icomp.norm.lastGet k = none)
    (loc : Loc) (opts : Dict) (hev : Ev.openW loc opts ∈ (writeCogEntry a).1) :
    (Dict.get opts "transform").bind (denote ⟨⟨g.ny, g.nx⟩, g.A, g.crs⟩) = some (.inl g.A) ∧
    (Dict.get opts "crs").bind (denote ⟨⟨g.ny, g.nx⟩, g.A, g.crs⟩) = some (.inr g.crs) ∧
    Dict.get opts "width" = some (.int g.nx) ∧ Dict.get opts "height" = some (.int g.ny) := by
  rw [georef_wrap g nt nb cn attrs a0 hcn hny hnx hkind hw] at him
  exact write_cog_hands_gdal_the_geobox ⟨⟨g.ny, g.nx⟩, g.A, g.crs⟩ shape dtype fl nd a him hov l hl hx hic loc opts hev

end OdcGeo.C15
