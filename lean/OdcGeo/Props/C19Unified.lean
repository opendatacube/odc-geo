/-
C19 — theorems about the UNIFIED state (`Model/C19Unified.lean`): the cache
histories and the holders of CRS instances in one model; the key-coherence hypotheses reduced to
pyproj's behaviour on canonical `EPSG:<n>`.
-/
import OdcGeo.Model.C19Unified
import OdcGeo.Props.C19
import OdcGeo.Props.C19Alias

namespace OdcGeo.C19

theorem ustep_moves (W : World) (σ : UState) (uop : UOp) (hreal : uop.real = true) :
    Moves W σ.core (ustep W σ uop).1.core := by
  cases uop with
  | core op =>
    simp only [ustep]
    split
    · exact .refl
    · exact .step hreal
  | del v =>
    simp only [ustep]
    split
    · exact .refl
    · exact .step rfl
  | holdNone hh => exact .refl
  | hold _ _ | rehold _ _ | heq _ _ =>
    simp only [ustep]
    split <;> exact .refl

theorem urunFrom_moves (W : World) : ∀ (uh : List UOp) (σ : UState),
    (∀ op ∈ uh, op.real = true) → Moves W σ.core (urunFrom W σ uh).1.core
  | [], _, _ => .refl
  | uop :: uh, σ, hu =>
    (ustep_moves W σ uop (hu uop List.mem_cons_self)).trans
      (urunFrom_moves W uh _ (fun o ho => hu o (List.mem_cons_of_mem _ ho)))

/-- **Every state a unified history reaches is, on its core, a state of the history model**:
there is a history of real operations with exactly this heap, cache and transformer cache —
so every theorem of part (a) (`transformer_correct`, `cache_pins_every_crs`,
`construct_sys_correct`, `crs_str_history_free_partial` …) holds in the presence of holders. -/
theorem urunFrom_core (W : World) : ∀ (uh : List UOp) (σ : UState) (h : List Op),
    (∀ op ∈ uh, op.real = true) → (∀ op ∈ h, op.real = true) → σ.core = (run W h).1 →
    ∃ h', (∀ op ∈ h', op.real = true) ∧ (urunFrom W σ uh).1.core = (run W h').1
  | uh, σ, h, hu, hr, hc => Moves.trans ⟨h, hr, hc⟩ (urunFrom_moves W uh σ hu)

/-- `CRS(spec)` (or `norm_crs(spec)`, a value type given `crs=spec`) after ANY unified history —
constructions, drops, collections, transformer requests, values created, copied and compared,
`.epsg` read through any of them — denotes the system pyproj assigns to the spec (a text, an int or
a dict; the `match` leaves the other two kinds of spec out) -/
theorem unified_construct_sys_correct (W : World) (hW : KeySysCoherent W) (hA : KeyAcceptCoherent W)
    (uh : List UOp) (hreal : ∀ op ∈ uh, op.real = true) (spec : Spec) (hs : ∀ v, spec ≠ .crs v) (hp : ∀ v, spec ≠ .pyproj v)
    (pick : Nat) (c : CrsObj)
    (hc : (construct W (urun W uh).1.core spec pick).2 = .ok c) :
    (match spec with
      | .int n => (W.fromEpsg n).map (·.sys)
      | .str s => (W.fromText s).map (·.sys)
      | .dict d => (W.fromText d).map (·.sys)
      | _ => none) = some c.info.sys := by
  have := construct_sys_of_moves (coh_exact hW hA) (urunFrom_moves W uh {} hreal) spec pick c hc
  cases spec with
  | int _ | str _ | dict _ => exact this
  | pyproj v => exact absurd rfl (hp v)
  | crs v => exact absurd rfl (hs v)

/-- values that hold one instance are `==` in their CRS field in every reachable state -/
theorem u_shared_holders_equal (W : World) (σ : UState) (h1 h2 v : Nat) (c : CrsObj)
    (e1 : assoc h1 σ.hold = some (some v)) (e2 : assoc h2 σ.hold = some (some v))
    (ev : assoc v σ.core.vars = some c) :
    ustep W σ (.heq h1 h2) = (σ, .bool true) := by
  simp [ustep, UState.crsOf, e1, e2, ev, optCrsEq, crs_eq_refl]

theorem ustep_core_of_free (W : World) (σ : UState) (op : Op) (hb : (op.binds.map σ.held).getD false = false) :
    ustep W σ (.core op) = ({ σ with core := (step W σ.core op).1 }, (step W σ.core op).2) := by
  simp [ustep, hb]

/-- `.epsg` read on the instance (the `.epsg` step of the HISTORY model) is seen by every value
that holds it -/
theorem u_read_seen_by_all_holders (W : World) (σ : UState) (h v : Nat) (c : CrsObj)
    (eh : assoc h σ.hold = some (some v)) (ev : assoc v σ.core.vars = some c) :
    (ustep W σ (.core (.epsg v))).1.crsOf h = some (some (fillEpsg c)) ∧
    (ustep W σ (.core (.epsg v))).2 = .epsg (fillEpsg c).epsg := by
  rw [ustep_core_of_free W σ (.epsg v) rfl]
  simp only [UState.crsOf, eh, assoc_step_epsg W ev, Option.map_some, and_self]

/-- constructing, copying or unpickling ANOTHER instance: no holder sees a different record
afterwards (only `.epsg` on its own instance changes what a holder sees) -/
theorem u_mk_leaves_holders (W : World) (σ : UState) (h v w : Nat) (spec : Spec) (pick : Nat)
    (eh : assoc h σ.hold = some (some v)) (hw : w ≠ v) (hheld : σ.held w = false) :
    (ustep W σ (.core (.mk w spec pick))).1.crsOf h = σ.crsOf h := by
  rw [ustep_core_of_free W σ (.mk w spec pick) (by simp [Op.binds, hheld])]
  simp only [UState.crsOf, eh, assoc_step_mk_ne W σ.core spec pick (Ne.symm hw)]

/-- a held instance survives `del` of its name and the garbage collector: it stays in the heap
of instances, so its pyproj object stays a root and the id-keyed transformer cache stays valid -/
theorem u_held_instance_survives (W : World) (σ : UState) (v : Nat) (c : CrsObj) (hheld : σ.held v = true)
    (ev : assoc v σ.core.vars = some c) :
    assoc v (ustep W σ (.del v)).1.core.vars = some c ∧
    assoc v (ustep W σ (.core .gc)).1.core.vars = some c ∧
    c.obj ∈ roots (ustep W σ (.core .gc)).1.core := by
  refine ⟨?_, ev, ?_⟩
  · simp only [ustep, hheld, if_true]
    exact ev
  · exact (mem_roots (σ := collect σ.core)).2 (.inr (.inr (.inl ⟨(v, c), assoc_mem v _ c ev, rfl⟩)))

/-- `X` is a lossy text of EPSG:4326, `E` stands for `EPSG:4326` itself. -/
def k4World : World where
  fromText := fun t =>
    if t = "X" then some ⟨0, "X", "WX", some 4326⟩
    else if t = "E" then some ⟨1, "E", "WE", some 4326⟩ else none
  fromEpsg := fun _ => none

/-- the K4 witness of `Props/C19Alias` in the unified state, through the real construction
cache: a lossy text of EPSG:4326 held by a box, its copy held by another, `EPSG:4326` by a third -/
theorem u_shared_read_changes_equality_cex :
    (urun k4World [.core (.mk 0 (.str "X") 0), .core (.mk 2 (.crs 0) 0), .core (.mk 1 (.str "E") 0),
             .core (.epsg 1), .hold 1 0, .hold 2 2, .hold 3 1, .heq 1 3, .heq 2 3, .heq 1 2,
             .core (.epsg 0), .heq 1 3, .heq 2 3, .heq 1 2, .del 0, .core .gc, .heq 1 3]).2.drop 7 =
      [.bool false, .bool false, .bool true, .epsg (some 4326), .bool true, .bool false, .bool true,
       .unit, .unit, .bool true] := by
  decide +kernel

/-- the whole assumption about pyproj behind `construct_sys_correct`: an `EPSG:` spelling in any
letter case is read like its upper-cased (canonical) form, and the canonical text `EPSG:<n>`
like the integer `n` — nothing is assumed about any other text -/
def CanonKeyCoherent (W : World) : Prop :=
  (∀ s, isEpsgLike s = true → (W.fromText s).map (·.sys) = (W.fromText (keyOfStr s)).map (·.sys)) ∧
  (∀ n, (W.fromText (keyOfInt n)).map (·.sys) = (W.fromEpsg n).map (·.sys))

theorem sys_of_key (W : World) (h : CanonKeyCoherent W) (s : String) :
    (W.fromText s).map (·.sys) = (W.fromText (keyOfStr s)).map (·.sys) := by
  by_cases hs : isEpsgLike s = true
  · exact h.1 s hs
  · rw [keyOfStr, if_neg hs]

theorem sys_of_same_key (W : World) (h : CanonKeyCoherent W) (s s' : String) (hk : keyOfStr s = keyOfStr s') :
    (W.fromText s).map (·.sys) = (W.fromText s').map (·.sys) := by
  rw [sys_of_key W h s, sys_of_key W h s', hk]

theorem sys_of_int_key (W : World) (h : CanonKeyCoherent W) (s : String) (n : Nat) (hk : keyOfStr s = keyOfInt n) :
    (W.fromText s).map (·.sys) = (W.fromEpsg n).map (·.sys) := by
  rw [sys_of_key W h s, hk, h.2 n]

/-- both hypotheses of `construct_sys_correct` follow -/
theorem keyCoherent_of_canon (W : World) (h : CanonKeyCoherent W) : KeySysCoherent W ∧ KeyAcceptCoherent W := by
  refine ⟨⟨?_, ?_⟩, ⟨?_, ?_⟩⟩
  · intro s s' p p' hk h1 h2
    simpa [h1, h2] using sys_of_same_key W h s s' hk
  · intro s n p p' hk h1 h2
    simpa [h1, h2] using sys_of_int_key W h s n hk
  · intro s s' hk
    simpa using congrArg Option.isSome (sys_of_same_key W h s s' hk)
  · intro s n hk
    simpa using congrArg Option.isSome (sys_of_int_key W h s n hk)

/-- `construct_sys_correct` assuming only pyproj's behaviour on canonical EPSG spellings -/
theorem construct_sys_correct_canon (W : World) (hC : CanonKeyCoherent W)
    (h : List Op) (hreal : ∀ op ∈ h, op.real = true) (spec : Spec) (pick : Nat) (c : CrsObj) :
    (construct W (run W h).1 spec pick).2 = .ok c → specSys W (run W h).1 spec = some c.info.sys :=
  construct_sys_correct W (keyCoherent_of_canon W hC).1 (keyCoherent_of_canon W hC).2 h hreal spec pick c

/-- non-vacuity (the harness tabulates the two facts from pyproj on every run) -/
example : CanonKeyCoherent ⟨fun _ => none, fun _ => none⟩ := ⟨fun _ _ => rfl, fun _ => rfl⟩

end OdcGeo.C19
