/-
C05 — theorems about the option normalisation of the dask COG writer (`Model/C05Opts.lean`).
-/
import OdcGeo.Model.C05Opts
import OdcGeo.Lemmas.C05Assoc
import Mathlib.Tactic.Linarith

namespace OdcGeo.C05

/-- `norm_predictor_table`: `None` / `False` → 1 (none); `True` → 3 for floats, 2 for integers of at most 32 bits, else 1;
a number is taken as is -/
theorem norm_predictor_table (dt : DType) :
    normPredictor .none dt = 1 ∧ normPredictor (.bool false) dt = 1 ∧ (∀ n, normPredictor (.int n) dt = n) ∧
    (dt.kind = 'f' → normPredictor (.bool true) dt = 3) ∧
    ((dt.kind = 'u' ∨ dt.kind = 'i') → dt.size ≤ 4 → normPredictor (.bool true) dt = 2) ∧
    ((dt.kind = 'u' ∨ dt.kind = 'i') → 4 < dt.size → normPredictor (.bool true) dt = 1) ∧
    (dt.kind ≠ 'f' → dt.kind ≠ 'u' → dt.kind ≠ 'i' → normPredictor (.bool true) dt = 1) := by
  refine ⟨rfl, rfl, fun _ => rfl, ?_, ?_, ?_, ?_⟩
  · intro h; simp [normPredictor, h]
  · rintro (h | h) hs <;> simp [normPredictor, h, hs]
  · rintro (h | h) hs <;> simp [normPredictor, h, Nat.not_le.mpr hs]
  · intro h1 h2 h3; simp [normPredictor, h1, h2, h3]

/-- the predictor is always one of the TIFF predictor numbers 1, 2, 3 unless the caller passed a number of their own -/
theorem norm_predictor_range (p : PredArg) (dt : DType) (hp : ∀ n, p ≠ .int n) :
    normPredictor p dt = 1 ∨ normPredictor p dt = 2 ∨ normPredictor p dt = 3 := by
  cases p with
  | none => exact Or.inl rfl
  | bool b =>
    cases b
    · exact Or.inl rfl
    · simp only [normPredictor]; split
      · exact Or.inr (Or.inr rfl)
      · split
        · exact Or.inr (Or.inl rfl)
        · exact Or.inl rfl
  | int n => exact absurd rfl (hp n)

theorem CArgs.get_set (c : CArgs) (k : String) (v : CVal) (k' : String) :
    CArgs.get (c.set k v) k' = if k' = k then some v else CArgs.get c k' := Assoc.get_set c k v k'

theorem lercSplit_level (c : String) (ca : CArgs) (kw0 kw : Kw) :
    CArgs.get (lercSplit c ca kw0 kw).2.1 "level" = CArgs.get ca "level" := by
  unfold lercSplit
  split
  · split <;> simp [CArgs.get_set]
  · split
    · split <;> simp [CArgs.get_set]
    · rfl

theorem lercSplit_fst (c : String) (ca : CArgs) (kw0 kw : Kw) :
    (lercSplit c ca kw0 kw).1 = if c = "LERC_DEFLATE" ∨ c = "LERC_ZSTD" then "LERC" else c := by
  unfold lercSplit
  split
  · rw [if_pos (.inl ‹_›)]; split <;> rfl
  · split
    · rw [if_pos (.inr ‹_›)]; split <;> rfl
    · rw [if_neg (not_or.mpr ⟨‹_›, ‹_›⟩)]

/-- where `compressionargs["level"]` comes from: the level `pickLevel` settles on (the `level=` argument; without one, and
without a level in `compressionargs`, the codec's GDAL-style keyword), else what `compressionargs` held -/
theorem norm_cargs_level (dt : DType) (pred : PredOpt) (comp : Option String) (cargs : Option CArgs) (level : Option String)
    (kw : Kw) :
    CArgs.get (normCompressionTifffile dt pred comp cargs level kw).cargs "level" =
      match (pickLevel level (cargs.getD []) (pickCodec comp kw).2 (pickCodec comp kw).2 (upper (pickCodec comp kw).1)).1 with
      | some l => some (.tok l)
      | none => CArgs.get (cargs.getD []) "level" := by
  unfold normCompressionTifffile
  simp only [lercSplit_level, putLevel]
  split <;> simp only [CArgs.get_set, if_true, *]

/-- `explicit_level_wins`: a `level=` argument always ends up as `compressionargs["level"]` — whatever the codec, whatever
`compressionargs` and GDAL-style keywords say (also a level of 0: values are never tested for truth) -/
theorem explicit_level_wins (dt : DType) (pred : PredOpt) (comp : Option String) (cargs : Option CArgs) (l : String) (kw : Kw) :
    CArgs.get (normCompressionTifffile dt pred comp cargs (some l) kw).cargs "level" = some (.tok l) := by
  rw [norm_cargs_level]; rfl

/-- a level inside `compressionargs` is kept when no `level=` is given, whatever GDAL-style keywords there are -/
theorem cargs_level_kept (dt : DType) (pred : PredOpt) (comp : Option String) (ca : CArgs) (v : CVal) (kw : Kw)
    (h : CArgs.get ca "level" = some v) :
    CArgs.get (normCompressionTifffile dt pred comp (some ca) none kw).cargs "level" = some v := by
  have hh : ca.has "level" = true := (Assoc.get_isSome ca "level").symm.trans (congrArg Option.isSome h)
  rw [norm_cargs_level, pickLevel, Option.getD_some, hh]
  exact h

/-- `gdal_level_used`: without `level=` and without a level in `compressionargs`, the level is what `_gdal_level` finds under
the codec's own GDAL-style keyword -/
theorem gdal_level_used (dt : DType) (pred : PredOpt) (comp : Option String) (kw : Kw) (l : String)
    (h : (gdalLevel (pickCodec comp kw).2 (pickCodec comp kw).2 (upper (pickCodec comp kw).1)).1 = some l) :
    CArgs.get (normCompressionTifffile dt pred comp none none kw).cargs "level" = some (.tok l) := by
  rw [norm_cargs_level, pickLevel, Option.getD_none]
  simp only [Option.isNone_none, CArgs.has, List.any_nil, Bool.not_false, Bool.and_self, if_true, h]

example : (gdalLevel [("ZLEVEL", "0")] [("ZLEVEL", "0")] (upper "deflate")).1 = some "0" := by decide +kernel

/-- the codec name handed to tifffile is never the GDAL spelling `DEFLATE`, `LERC_DEFLATE` or `LERC_ZSTD` -/
theorem codec_names_normalised (dt : DType) (pred : PredOpt) (comp : Option String) (cargs : Option CArgs) (level : Option String) (kw : Kw) :
    let c := (normCompressionTifffile dt pred comp cargs level kw).compression
    c ≠ "DEFLATE" ∧ c ≠ "LERC_DEFLATE" ∧ c ≠ "LERC_ZSTD" := by
  unfold normCompressionTifffile
  simp only [lercSplit_fst]
  generalize upper (pickCodec comp kw).1 = u
  by_cases h1 : u = "DEFLATE"
  · rw [if_pos h1]; decide
  · rw [if_neg h1]
    split
    · decide
    · rename_i h; exact ⟨h1, fun e => h (.inl e), fun e => h (.inr e)⟩

/-- `stats_tag_iff_computed`: the GDAL_METADATA placeholder is reserved in the header exactly when statistics will be computed
and written into it — for `stats=True`, `stats=False` and every level NUMBER including the falsy `stats=0` (so the
`assert md_tag is not None` of `_patch_hdr` cannot fire, and no empty tag is left behind) -/
theorem stats_tag_iff_computed (s : StatsArg) (n : Nat) (l : Option Nat) (h : statsLayer s n = .ok l) :
    (statsTag s = true ↔ l.isSome = true) := by
  cases s with
  | bool b => cases b <;> simp [statsLayer] at h <;> subst h <;> simp [statsTag]
  | int k =>
    simp only [statsLayer] at h
    split at h
    · cases h; simp [statsTag]
    · cases h

/-- the level the statistics come from exists: `True` → the middle level `⌊n/2⌋`, a number → that level (else `IndexError`) -/
theorem stats_layer_exists (s : StatsArg) (n k : Nat) (hn : 0 < n) (h : statsLayer s n = .ok (some k)) : k < n := by
  cases s with
  | bool b =>
    cases b <;> simp [statsLayer] at h
    subst h; omega
  | int m =>
    simp only [statsLayer] at h
    split at h
    · cases h; assumption
    · cases h

example : statsLayer (.int 0) 3 = .ok (some 0) ∧ statsTag (.int 0) = true ∧ statsLayer (.bool false) 3 = .ok none := by decide

/-- `repartition_bounds`: re-partitioning never produces an empty bag and only ever shrinks: above 20 partitions a quarter
(at least 5), otherwise unchanged -/
theorem repartition_bounds (n : Nat) :
    repartition n ≤ n ∧ (1 ≤ n → 1 ≤ repartition n) ∧ (20 < n → repartition n = n / 4 ∧ 5 ≤ repartition n) ∧ (n ≤ 20 → repartition n = n) := by
  unfold repartition
  refine ⟨?_, ?_, ?_, ?_⟩
  · split <;> omega
  · intro h; split <;> omega
  · intro h; rw [if_pos h]; omega
  · intro h; rw [if_neg (by omega)]

/-- RGB photometric interpretation only for band-last images with 3 or 4 samples; samples are interleaved (CONTIG) exactly for
band-last images -/
theorem photo_planar_table (ax : Axis) (ns : Nat) :
    ((photoPlanar ax ns).1 = "RGB" ↔ ax = .YXS ∧ (ns = 3 ∨ ns = 4)) ∧ ((photoPlanar ax ns).2 = "CONTIG" ↔ ax = .YXS) := by
  cases ax <;> simp [photoPlanar]
  omega

/-- `spill_sz` / `writes_per_chunk` are removed from the keywords and from `aws=` (they are not passed on to tifffile / the S3
client) -/
theorem upload_params_removed (kw aws : Kw) (k : String) (hk : k = "writes_per_chunk" ∨ k = "spill_sz") :
    (uploadParams kw aws).2.1.get k = none ∧ (uploadParams kw aws).2.2.get k = none := by
  have key : ∀ (d : Kw), (["writes_per_chunk", "spill_sz"].foldl Kw.erase d).get k = none := by
    intro d
    simp only [List.foldl_cons, List.foldl_nil, Kw.erase, Kw.get, List.filter_filter]
    rw [Option.map_eq_none_iff, List.find?_eq_none]
    intro x hx
    simp only [List.mem_filter, Bool.and_eq_true, bne_iff_ne, ne_eq] at hx
    rcases hk with rfl | rfl <;> simp [hx.2.1, hx.2.2]
  exact ⟨key kw, key aws⟩

end OdcGeo.C05
