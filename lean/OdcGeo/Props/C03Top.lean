/-
C03 — theorems about the glue around the planning core (`OdcGeo.Model.C03Top`): `decompose_rws` in full,
`GbxPointTransform.__call__`, `native_pix_transform`, and `compute_reproject_roi` from its arguments.
-/
import OdcGeo.Props.C03
import OdcGeo.Lemmas.C03Top
namespace OdcGeo.C03
open OdcGeo.C17

/-- `decompose_rws` raises (in the code a `LinAlgError`, a `ValueError`, from the Cholesky step; the kind is not part of the
statement) exactly for singular matrices: with `n` the root of `a² + d²`, `n = 0` makes `A` singular too. -/
theorem rws_error_iff (A : Aff) (n : Rat) :
    (∃ e, decomposeRWS A n = .error e) ↔ (n = 0 ∨ A.det = 0) := by
  unfold decomposeRWS
  split_ifs with h <;> simp [h]

/-- **`A = R · W · S`**, translation included (it is carried by `R`; `W` and `S` have none). -/
theorem rws_reconstructs (A : Aff) (n : Rat) (hn : 0 < n) (hroot : n * n = A.a * A.a + A.d * A.d)
    (f : RWS) (h : decomposeRWS A n = .ok f) : f.R * f.W * f.S = A := by
  obtain ⟨hdet, rfl⟩ := decomposeRWS_ok hn hroot h
  have hn0 : n ≠ 0 := ne_of_gt hn
  have hd' : A.a * A.e - A.b * A.d ≠ 0 := hdet
  obtain ⟨a, b, c, d, e, f'⟩ := A
  simp only [Aff.mul_def, Aff.mul, Aff.det, rwsClosed] at hroot hd' ⊢
  have hd'' : a * e - d * b ≠ 0 := by rw [mul_comm d b]; exact hd'
  congr 1
  · simp only [mul_zero, add_zero, mul_one]; exact div_mul_cancel₀ a hn0
  · simp only [mul_zero, zero_add, mul_one]
    field_simp
    linear_combination (-b) * hroot
  · ring
  · simp only [mul_zero, add_zero, mul_one]; exact div_mul_cancel₀ d hn0
  · simp only [mul_zero, zero_add, mul_one]
    field_simp
    linear_combination (-e) * hroot
  · ring

/-- `R` is a proper rotation: orthonormal columns, determinant `+1` (also for mirrored `A`: the flip moves the
mirroring into the sign of `S.e`). -/
theorem rws_rotation (A : Aff) (n : Rat) (hn : 0 < n) (hroot : n * n = A.a * A.a + A.d * A.d)
    (f : RWS) (h : decomposeRWS A n = .ok f) :
    f.R.a * f.R.a + f.R.d * f.R.d = 1 ∧ f.R.b * f.R.b + f.R.e * f.R.e = 1 ∧ f.R.a * f.R.b + f.R.d * f.R.e = 0 ∧
    f.R.det = 1 ∧ f.R.b = -f.R.d ∧ f.R.e = f.R.a ∧ f.R.c = A.c ∧ f.R.f = A.f := by
  obtain ⟨hdet, rfl⟩ := decomposeRWS_ok hn hroot h
  have hn0 : n ≠ 0 := ne_of_gt hn
  have key : A.a / n * (A.a / n) + A.d / n * (A.d / n) = 1 := by
    rw [div_mul_div_comm, div_mul_div_comm, ← add_div, ← hroot, div_self (mul_ne_zero hn0 hn0)]
  dsimp only [rwsClosed, Aff.det]
  refine ⟨key, ?_, ?_, ?_, ?_, rfl, rfl, rfl⟩
  · rw [← key]; ring
  · ring
  · rw [← key]; ring
  · ring

/-- `W` is a unit upper-triangular shear and `S` a diagonal scale whose first entry is `n = √(a²+d²) > 0` and whose
second is `det A / n` (negative exactly for mirrored transforms). -/
theorem rws_shear_scale (A : Aff) (n : Rat) (hn : 0 < n) (hroot : n * n = A.a * A.a + A.d * A.d)
    (f : RWS) (h : decomposeRWS A n = .ok f) :
    f.W = ⟨1, (A.a * A.b + A.d * A.e) / A.det, 0, 0, 1, 0⟩ ∧ f.S = ⟨n, 0, 0, 0, A.det / n, 0⟩ := by
  obtain ⟨hdet, rfl⟩ := decomposeRWS_ok hn hroot h
  exact ⟨rfl, rfl⟩

/-- `get_scale_from_linear_transform` is `scale2` (what the planner's theorems are stated about) whenever it does not
raise, and it raises exactly for singular transforms. -/
theorem getScale_eq_scale2 (A : Aff) (n : Rat) (hn : 0 < n) (hroot : n * n = A.a * A.a + A.d * A.d) :
    (A.det ≠ 0 → getScale A n = .ok (scale2 A n)) ∧ (A.det = 0 → getScale A n = .error .valueError) := by
  constructor
  · intro hdet
    unfold getScale
    rw [decomposeRWS_closed hn hroot hdet]
    simp only [scale2, rwsClosed, rabs_eq_abs, abs_div, abs_of_pos hn]
  · intro hdet
    unfold getScale decomposeRWS
    rw [if_pos (Or.inr hdet)]

example : decomposeRWS ⟨3, -4, 7, 4, 3, 9⟩ 5 = .ok ⟨⟨3 / 5, -4 / 5, 7, 4 / 5, 3 / 5, 9⟩, ⟨1, 0, 0, 0, 1, 0⟩, ⟨5, 0, 0, 0, 5, 0⟩⟩ := by
  decide +kernel
example : decomposeRWS ⟨2, 1, 5, 0, -4, 7⟩ 2 = .ok ⟨⟨1, 0, 5, 0, 1, 7⟩, ⟨1, -1 / 4, 0, 0, 1, 0⟩, ⟨2, 0, 0, 0, -4, 0⟩⟩ := by
  decide +kernel
example : getScale ⟨1, 2, 0, 2, 4, 0⟩ 1 = .error .valueError := by decide +kernel

theorem npClip_range (x lo hi : Rat) (h : lo ≤ hi) : lo ≤ npClip x lo hi ∧ npClip x lo hi ≤ hi := by
  unfold npClip
  exact ⟨le_min (le_max_right _ _) h, min_le_right _ _⟩

theorem npClip_id (x lo hi : Rat) (h1 : lo ≤ x) (h2 : x ≤ hi) : npClip x lo hi = x := by
  unfold npClip
  rw [max_eq_left h1, min_eq_left h2]

theorem clampGeo_range (w : Rat × Rat) :
    (-180 ≤ (clampGeo w).1 ∧ (clampGeo w).1 ≤ 180) ∧ (-90 ≤ (clampGeo w).2 ∧ (clampGeo w).2 ≤ 90) :=
  ⟨npClip_range _ _ _ (by norm_num), npClip_range _ _ _ (by norm_num)⟩

theorem clampGeo_id (w : Rat × Rat) (h1 : -180 ≤ w.1 ∧ w.1 ≤ 180) (h2 : -90 ≤ w.2 ∧ w.2 ≤ 90) : clampGeo w = w := by
  unfold clampGeo
  rw [npClip_id _ _ _ h1.1 h1.2, npClip_id _ _ _ h2.1 h2.2]

theorem clamp_inactive {g : Bool} {w : Rat × Rat} (h : g = true → clampGeo w = w) :
    (if g = true then clampGeo w else w) = w := by
  split_ifs with c
  exacts [h c, rfl]

/-- **The transformer of a geographic source is only ever evaluated inside the lon/lat box**: two transformers that
agree there give the same pixel transform (what PROJ does with longitude 180.0000001 can not matter). -/
theorem gbx_geographic_domain (P Qi : Aff) (proj proj' : Proj)
    (h : ∀ w : Rat × Rat, (-180 ≤ w.1 ∧ w.1 ≤ 180) → (-90 ≤ w.2 ∧ w.2 ≤ 90) → proj w = proj' w) :
    gbxApply P true proj Qi = gbxApply P true proj' Qi := by
  funext p
  have c := clampGeo_range (P.apply p)
  simp only [gbxApply, if_true]
  rw [h _ c.1 c.2]

/-- A sample comes out with two finite coordinates or with two non-finite ones (so the `isfinite` filter of
`roi_from_points`, which wants both, drops exactly the points the transformer could not convert). -/
theorem gbx_finite_or_not (P Qi : Aff) (g : Bool) (proj : Proj) (p : Rat × Rat) :
    (∃ x y, gbxApply P g proj Qi p = (.fin x, .fin y)) ∨ gbxApply P g proj Qi p = (.nonfinite, .nonfinite) := by
  simp only [gbxApply]
  split
  · exact Or.inl ⟨_, _, rfl⟩
  · exact Or.inr rfl

/-- the identity transformer (equal CRSs) -/
def idProj : Proj := fun w => (.fin w.1, .fin w.2)

/-- **The two branches of `native_pix_transform` agree**: with the identity transformer (and no clamp, or all points
inside the lon/lat box) the generic pixel transform is the linear one `~dst.transform * src.transform`. -/
theorem gbx_identity_is_linear (P Qi : Aff) (g : Bool) (p : Rat × Rat)
    (hg : g = true → ((-180 ≤ (P.apply p).1 ∧ (P.apply p).1 ≤ 180) ∧ (-90 ≤ (P.apply p).2 ∧ (P.apply p).2 ≤ 90))) :
    gbxApply P g idProj Qi p = linTr (Qi * P) p := by
  simp only [gbxApply, clamp_inactive fun c => clampGeo_id _ (hg c).1 (hg c).2, idProj, linTr, Aff.apply_mul]

/-- **`tr.back` undoes `tr`** wherever the two CRS transformers undo each other and no clamp is active: for a pixel `p`
of the source whose world point `w` the forward transformer sends to `u` and the backward transformer sends back,
`tr(p) = q` and `tr.back(q) = p` exactly. -/
theorem gbx_roundtrip (S D : Aff) (gS gD : Bool) (projF projB : Proj) (hS : S.det ≠ 0) (hD : D.det ≠ 0)
    (p u : Rat × Rat)
    (hcS : gS = true → clampGeo (S.apply p) = S.apply p) (hF : projF (S.apply p) = (.fin u.1, .fin u.2))
    (hcD : gD = true → clampGeo u = u) (hB : projB u = (.fin (S.apply p).1, .fin (S.apply p).2)) :
    gbxApply S gS projF D.inv p = (.fin (D.inv.apply u).1, .fin (D.inv.apply u).2) ∧
    gbxApply D gD projB S.inv (D.inv.apply u) = (.fin p.1, .fin p.2) := by
  constructor
  · simp only [gbxApply, clamp_inactive hcS, hF]
  · simp only [gbxApply, Aff.apply_inv_apply D hD, clamp_inactive hcD, hB]
    rw [Aff.inv_apply_apply S hS]

/-- Dispatch: the linear transform is chosen exactly for two `GeoBox`es with equal CRSs (and then it is
`~dst.transform * src.transform`, failing for a singular destination affine); everything else — another CRS, a
`GCPGeoBox` on either side — goes through the generic pixel → world → world → pixel transform. -/
theorem native_dispatch (src dst : Side) (crsEq : Bool) (projF projB : Proj) :
    ((src.isGeoBox = true ∧ dst.isGeoBox = true ∧ crsEq = true) →
      nativePixTransform src dst crsEq projF projB =
        (if dst.aff.det = 0 then .error .valueError else .ok (.linear (dst.aff.inv * src.aff)))) ∧
    (¬ (src.isGeoBox = true ∧ dst.isGeoBox = true ∧ crsEq = true) →
      nativePixTransform src dst crsEq projF projB =
        .ok (.gbx (gbxTr src.aff src.geographic projF dst.aff) (gbxTr dst.aff dst.geographic projB src.aff))) := by
  constructor
  · intro h
    unfold nativePixTransform
    rw [if_pos h]
    unfold Aff.inv?
    split_ifs <;> rfl
  · intro h
    unfold nativePixTransform
    rw [if_neg h]

/-- For two `GeoBox`es of one CRS `compute_reproject_roi` is `reprojectGeoBoxes` of the planning core: every theorem
about `reprojectLinear` / `reprojectGeoBoxes` speaks about the public entry point. -/
theorem top_same_crs_is_core (src dst : Side) (projF projB : Proj) (n : Rat) (scaleAt : Rat × Rat → Rat × Rat)
    (ttol stol : Rat) (padding align : Option Int) (hs : src.isGeoBox = true) (hd : dst.isGeoBox = true) :
    computeReprojectRoi src dst true projF projB n scaleAt ttol stol padding align =
      reprojectGeoBoxes src.shape dst.shape src.aff dst.aff n ttol stol padding align := by
  unfold computeReprojectRoi nativePixTransform reprojectGeoBoxes
  rw [if_pos ⟨hs, hd, rfl⟩]
  cases dst.aff.inv? with
  | error e => rfl
  | ok Di =>
    simp only [planWith]
    cases (Di * src.aff).inv? <;> rfl

/-- The two ways a call succeeds.  On the generic branch `tr.back` needs an invertible source affine; `tr` itself is
never called when the destination affine is singular. -/
theorem computeReprojectRoi_ok {src dst : Side} {crsEq : Bool} {projF projB : Proj} {n : Rat}
    {scaleAt : Rat × Rat → Rat × Rat} {ttol stol : Rat} {padding align : Option Int} {p : Plan}
    (h : computeReprojectRoi src dst crsEq projF projB n scaleAt ttol stol padding align = .ok p) :
    ((src.isGeoBox = true ∧ dst.isGeoBox = true ∧ crsEq = true) ∧
      reprojectGeoBoxes src.shape dst.shape src.aff dst.aff n ttol stol padding align = .ok p) ∨
    (¬ (src.isGeoBox = true ∧ dst.isGeoBox = true ∧ crsEq = true) ∧ src.aff.det ≠ 0 ∧
      ∃ fwd : PtTr, (dst.aff.det ≠ 0 → fwd = gbxApply src.aff src.geographic projF dst.aff.inv) ∧
        reprojectNonlinear src.shape dst.shape (gbxApply dst.aff dst.geographic projB src.aff.inv) fwd scaleAt
          padding align = .ok p) := by
  by_cases hc : src.isGeoBox = true ∧ dst.isGeoBox = true ∧ crsEq = true
  · obtain ⟨hs, hd, rfl⟩ := hc
    rw [top_same_crs_is_core src dst projF projB n scaleAt ttol stol padding align hs hd] at h
    exact Or.inl ⟨⟨hs, hd, rfl⟩, h⟩
  · refine Or.inr ⟨hc, ?_⟩
    unfold computeReprojectRoi nativePixTransform at h
    rw [if_neg hc] at h
    by_cases hS : src.aff.det = 0
    · simp only [planWith, gbxTr, Aff.inv?_of_det_eq hS] at h; cases h
    refine ⟨hS, ?_⟩
    by_cases hD : dst.aff.det = 0
    · simp only [planWith, gbxTr, Aff.inv?_of_det_ne hS, Aff.inv?_of_det_eq hD] at h
      split_ifs at h
      exact ⟨_, fun hD' => absurd hD hD', h⟩
    · simp only [planWith, gbxTr, Aff.inv?_of_det_ne hS, Aff.inv?_of_det_ne hD] at h
      exact ⟨_, fun _ => rfl, h⟩

/-- **Paste only for two `GeoBox`es of the same CRS.**  Whatever the transformers, tolerances and options:
`paste_ok` implies that both sides are `GeoBox`es and their CRSs compare equal. -/
theorem top_paste_only_same_crs (src dst : Side) (crsEq : Bool) (projF projB : Proj) (n : Rat)
    (scaleAt : Rat × Rat → Rat × Rat) (ttol stol : Rat) (padding align : Option Int) (p : Plan)
    (h : computeReprojectRoi src dst crsEq projF projB n scaleAt ttol stol padding align = .ok p)
    (hp : p.pasteOk = true) : src.isGeoBox = true ∧ dst.isGeoBox = true ∧ crsEq = true := by
  rcases computeReprojectRoi_ok h with ⟨hc, _⟩ | ⟨_, _, fwd, _, hn⟩
  · exact hc
  · have := (nonlinear_plan hn).1
    rw [hp] at this; cases this

/-- What a successful same-CRS plan says about its inputs: both affines are invertible, the transform handed to the
core is `A = (D⁻¹ S)⁻¹`, which maps a destination pixel location through the destination grid into the world and
through the inverse source grid into source pixels, and `fwd = D⁻¹ S` undoes it. -/
theorem geoboxes_ok {src dst : Shape} {S D : Aff} {n ttol stol : Rat} {padding align : Option Int} {p : Plan}
    (h : reprojectGeoBoxes src dst S D n ttol stol padding align = .ok p) :
    S.det ≠ 0 ∧ D.det ≠ 0 ∧ (D.inv * S).inv.det ≠ 0 ∧
    reprojectLinear src dst (D.inv * S) (D.inv * S).inv n ttol stol padding align = .ok p ∧
    (∀ q, (D.inv * S).apply ((D.inv * S).inv.apply q) = q) ∧
    (∀ q, (D.inv * S).inv.apply q = S.inv.apply (D.apply q)) := by
  unfold reprojectGeoBoxes Aff.inv? at h
  by_cases hD : D.det = 0
  · rw [if_pos hD] at h; cases h
  rw [if_neg hD] at h
  by_cases hF : (D.inv * S).det = 0
  · simp only [if_pos hF] at h; cases h
  simp only [if_neg hF] at h
  have hS : S.det ≠ 0 := fun hs => hF (by rw [Aff.det_mul, hs, mul_zero])
  exact ⟨hS, hD, Aff.inv_det_ne_zero hF, h, fun q => Aff.apply_inv_apply _ hF q,
    fun q => by rw [Aff.inv_inv_mul hS hD, Aff.apply_mul]⟩

/-- **A singular source affine always raises** (in the code a `TransformNotInvertibleError`; the statement leaves the kind
open), on either branch: the linear branch inverts `~dst.transform * src.transform`, the generic one calls `tr.back`
first, whose `wld2pix` inverts it. -/
theorem top_singular_src_raises (src dst : Side) (crsEq : Bool) (projF projB : Proj) (n : Rat)
    (scaleAt : Rat × Rat → Rat × Rat) (ttol stol : Rat) (padding align : Option Int) (hs : src.aff.det = 0) :
    ∃ e, computeReprojectRoi src dst crsEq projF projB n scaleAt ttol stol padding align = .error e := by
  cases h : computeReprojectRoi src dst crsEq projF projB n scaleAt ttol stol padding align with
  | error e => exact ⟨e, rfl⟩
  | ok p =>
    rcases computeReprojectRoi_ok h with ⟨_, hg⟩ | ⟨_, hS, _⟩
    · exact absurd hs (geoboxes_ok hg).1
    · exact absurd hs hS

/-- **Coverage, end to end, same CRS.**  Source grid `S`, destination grid `D` (pixel → world affines of ANY kind:
rotated, sheared, mirrored, any scales), any tolerances, `padding ≥ 0`, any alignment: whenever the plan is not a
paste plan, every destination pixel whose centre — mapped into the world by `D` and back into source pixels by `S⁻¹` —
falls inside the source image lies in `roi_dst`, and the source pixel it falls into lies in `roi_src`.  No hypothesis
on intermediate values: invertibility of the grids follows from the success of the call. -/
theorem top_linear_covers (src dst : Side) (projF projB : Proj) (n : Rat) (scaleAt : Rat × Rat → Rat × Rat)
    (ttol stol : Rat) (padding align : Option Int) (p : Plan) (hs : src.isGeoBox = true) (hd : dst.isGeoBox = true)
    (h : computeReprojectRoi src dst true projF projB n scaleAt ttol stol padding align = .ok p)
    (hnp : p.pasteOk = false)
    (hpad : ∀ k, padding = some k → 0 ≤ k) (hal : ∀ a, align = some a → 0 ≤ a)
    (dy dx : Int) (hdy : 0 ≤ dy ∧ dy < dst.shape.1) (hdx : 0 ≤ dx ∧ dx < dst.shape.2)
    (hqx : 0 ≤ (src.aff.inv.apply (dst.aff.apply ((dx : Rat) + 1 / 2, (dy : Rat) + 1 / 2))).1 ∧
           (src.aff.inv.apply (dst.aff.apply ((dx : Rat) + 1 / 2, (dy : Rat) + 1 / 2))).1 < src.shape.2)
    (hqy : 0 ≤ (src.aff.inv.apply (dst.aff.apply ((dx : Rat) + 1 / 2, (dy : Rat) + 1 / 2))).2 ∧
           (src.aff.inv.apply (dst.aff.apply ((dx : Rat) + 1 / 2, (dy : Rat) + 1 / 2))).2 < src.shape.1) :
    (p.roiDst.1.start ≤ dy ∧ dy < p.roiDst.1.stop) ∧ (p.roiDst.2.start ≤ dx ∧ dx < p.roiDst.2.stop) ∧
    (p.roiSrc.2.start ≤ (src.aff.inv.apply (dst.aff.apply ((dx : Rat) + 1 / 2, (dy : Rat) + 1 / 2))).1.floor ∧
      (src.aff.inv.apply (dst.aff.apply ((dx : Rat) + 1 / 2, (dy : Rat) + 1 / 2))).1.floor < p.roiSrc.2.stop) ∧
    (p.roiSrc.1.start ≤ (src.aff.inv.apply (dst.aff.apply ((dx : Rat) + 1 / 2, (dy : Rat) + 1 / 2))).2.floor ∧
      (src.aff.inv.apply (dst.aff.apply ((dx : Rat) + 1 / 2, (dy : Rat) + 1 / 2))).2.floor < p.roiSrc.1.stop) := by
  rw [top_same_crs_is_core src dst projF projB n scaleAt ttol stol padding align hs hd] at h
  obtain ⟨_, _, hA, hl, hfa, hinv⟩ := geoboxes_ok h
  obtain ⟨_, _, _, hc⟩ := reprojectLinear_cases hl
  rcases hc with ⟨_, hr⟩ | ⟨hp, _⟩
  · have c := linear_covers src.shape hA le_rfl (le_padOr1 zero_le_one hpad) (normAlign_pos hal) hdy hdx (hfa _)
      (by rw [hinv]; exact ⟨hqx, hqy⟩)
    rw [← hr, hinv] at c
    exact c
  · rw [hp] at hnp; cases hnp

/-- **Within, end to end, every dispatch.**  Whatever the classes of the two sides, their CRSs, the transformers
(non-finite answers included), tolerances, padding and alignment: the destination region lies in the destination
image, the source region starts inside the source image and ends inside it — except on the overview path (`paste_ok`
with read-shrink `k > 1`), where it ends less than `k` beyond it (at the next multiple of `k` at most: `plan_within`). -/
theorem top_within (src dst : Side) (crsEq : Bool) (projF projB : Proj) (n : Rat) (scaleAt : Rat × Rat → Rat × Rat)
    (ttol stol : Rat) (padding align : Option Int) (p : Plan)
    (hs : 1 ≤ src.shape.1 ∧ 1 ≤ src.shape.2) (hd : 0 ≤ dst.shape.1 ∧ 0 ≤ dst.shape.2)
    (h : computeReprojectRoi src dst crsEq projF projB n scaleAt ttol stol padding align = .ok p) :
    ((0 ≤ p.roiDst.1.start ∧ p.roiDst.1.stop ≤ dst.shape.1) ∧ (0 ≤ p.roiDst.2.start ∧ p.roiDst.2.stop ≤ dst.shape.2)) ∧
    (0 ≤ p.roiSrc.1.start ∧ 0 ≤ p.roiSrc.2.start) ∧
    ((p.pasteOk = false ∨ p.readShrink = 1) → p.roiSrc.1.stop ≤ src.shape.1 ∧ p.roiSrc.2.stop ≤ src.shape.2) ∧
    (p.roiSrc.1.stop < src.shape.1 + p.readShrink ∧ p.roiSrc.2.stop < src.shape.2 + p.readShrink) ∧ 1 ≤ p.readShrink := by
  rcases computeReprojectRoi_ok h with ⟨_, hg⟩ | ⟨_, _, fwd, _, hn⟩
  · obtain ⟨_, _, _, hl, _, _⟩ := geoboxes_ok hg
    have w := plan_within src.shape dst.shape _ _ n ttol stol padding align p hs hd hl
    have sc := plan_scale src.shape dst.shape _ _ n ttol stol padding align p hl
    exact ⟨w.1, w.2.1, w.2.2.1, ⟨by omega, by omega⟩, sc.2.2.1⟩
  · obtain ⟨_, hrs, hr⟩ := nonlinear_plan hn
    have w := relative_within src.shape dst.shape (gbxApply dst.aff dst.geographic projB src.aff.inv) fwd 5 (padOr1 padding)
      (normAlign align) ⟨by omega, by omega⟩ hd
    rw [← hr] at w
    simp only at w
    exact ⟨w.2, ⟨w.1.1.1, w.1.2.1⟩, fun _ => ⟨w.1.1.2, w.1.2.2⟩, ⟨by omega, by omega⟩, hrs⟩

theorem top_gbx_rois {src dst : Side} {crsEq : Bool} {projF projB : Proj} {n : Rat}
    {scaleAt : Rat × Rat → Rat × Rat} {ttol stol : Rat} {padding align : Option Int} {p : Plan}
    (hc : ¬ (src.isGeoBox = true ∧ dst.isGeoBox = true ∧ crsEq = true)) (hD : dst.aff.det ≠ 0)
    (h : computeReprojectRoi src dst crsEq projF projB n scaleAt ttol stol padding align = .ok p) :
    (p.roiSrc, p.roiDst) = relativeRois src.shape dst.shape (gbxApply dst.aff dst.geographic projB src.aff.inv)
      (gbxApply src.aff src.geographic projF dst.aff.inv) 5 (padOr1 padding) (normAlign align) := by
  rcases computeReprojectRoi_ok h with ⟨hc', _⟩ | ⟨_, _, fwd, hf, hn⟩
  · exact absurd hc' hc
  · rw [← hf hD]
    exact (nonlinear_plan hn).2.2

/-- **Coverage on the generic (cross-CRS / GCP) branch — partial**, in terms of the public inputs: with the pixel
transforms the code builds from the two affines, the lon/lat clamps and the two CRS transformers, a destination pixel
is covered as soon as the image of its centre lies in the padded envelope of the images of the 16 boundary samples, and
the centre itself in the envelope of the forward images of the boundary samples of `roi_src`.  (See
`nonlinear_covers_partial` for why exactly these two hypotheses remain: what the transformers do BETWEEN samples.) -/
theorem top_gbx_covers_partial (src dst : Side) (crsEq : Bool) (projF projB : Proj) (n : Rat)
    (scaleAt : Rat × Rat → Rat × Rat) (ttol stol : Rat) (padding align : Option Int) (p : Plan)
    (hc : ¬ (src.isGeoBox = true ∧ dst.isGeoBox = true ∧ crsEq = true))
    (hD : dst.aff.det ≠ 0)
    (h : computeReprojectRoi src dst crsEq projF projB n scaleAt ttol stol padding align = .ok p)
    (hal : ∀ a, align = some a → 0 ≤ a)
    (dy dx : Int) (hdy : 0 ≤ dy ∧ dy < dst.shape.1) (hdx : 0 ≤ dx ∧ dx < dst.shape.2)
    (q : Rat × Rat) (hqx : 0 ≤ q.1 ∧ q.1 < src.shape.2) (hqy : 0 ≤ q.2 ∧ q.2 < src.shape.1)
    (henvS : InEnvStrict (finitePts (srcSamples dst.shape (gbxApply dst.aff dst.geographic projB src.aff.inv) 5)) q
      (padOr1 padding))
    (henvD : InEnvClosed (finitePts (dstSamples p.roiSrc (gbxApply src.aff src.geographic projF dst.aff.inv) 5))
      ((dx : Rat) + 1 / 2, (dy : Rat) + 1 / 2)) :
    (p.roiDst.1.start ≤ dy ∧ dy < p.roiDst.1.stop) ∧ (p.roiDst.2.start ≤ dx ∧ dx < p.roiDst.2.stop) ∧
    (p.roiSrc.2.start ≤ q.1.floor ∧ q.1.floor < p.roiSrc.2.stop) ∧ (p.roiSrc.1.start ≤ q.2.floor ∧ q.2.floor < p.roiSrc.1.stop) := by
  have hr := top_gbx_rois hc hD h
  rw [show p.roiSrc = _ from congrArg Prod.fst hr] at henvD
  have c := nonlinear_covers_partial src.shape dst.shape _ _ 5 (padOr1 padding) (normAlign align) (normAlign_pos hal)
    dy dx hdy hdx q hqx hqy henvS henvD
  rw [← hr] at c
  exact c

/-- With a scale estimate that does not fail the error-carrying plan is the plan. -/
theorem nonlinearE_eq (src dst : Shape) (back fwd : PtTr) (sc : Rat × Rat → Rat × Rat) (padding align : Option Int) :
    reprojectNonlinearE src dst back fwd (fun c => .ok (sc c)) padding align =
      reprojectNonlinear src dst back fwd sc padding align := by
  unfold reprojectNonlinearE reprojectNonlinear
  rfl

theorem computeReprojectRoiE_eq (src dst : Side) (crsEq : Bool) (projF projB : Proj) (n : Rat)
    (sc : Rat × Rat → Rat × Rat) (ttol stol : Rat) (padding align : Option Int) :
    computeReprojectRoiE src dst crsEq projF projB n (fun c => .ok (sc c)) ttol stol padding align =
      computeReprojectRoi src dst crsEq projF projB n sc ttol stol padding align := by
  unfold computeReprojectRoiE computeReprojectRoi
  cases nativePixTransform src dst crsEq projF projB with
  | error e => rfl
  | ok tr =>
    cases tr with
    | linear fwd => rfl
    | gbx fwd back =>
      simp only [planWithE, planWith, nonlinearE_eq]

/-- **When the cross-CRS plan raises because of the scale estimate**: exactly when the destination region is not empty
and `get_scale_at_point` at its centre raises (locally singular transform: `decompose_rws`' `LinAlgError`) or yields a
non-positive scale (`_pick_read_scale`'s assertion). -/
theorem nonlinearE_error_iff (src dst : Shape) (back fwd : PtTr) (scaleAt : Rat × Rat → Res (Rat × Rat))
    (padding align : Option Int) :
    (∃ e, reprojectNonlinearE src dst back fwd scaleAt padding align = .error e) ↔
    (let r := relativeRois src dst back fwd 5 (padOr1 padding) (normAlign align)
     ROI.isEmpty r.2 = false ∧
       ((∃ e, scaleAt ((((r.2.2.start + r.2.2.stop : Int) : Rat) / 2, ((r.2.1.start + r.2.1.stop : Int) : Rat) / 2)) = .error e) ∨
        (∃ s, scaleAt ((((r.2.2.start + r.2.2.stop : Int) : Rat) / 2, ((r.2.1.start + r.2.1.stop : Int) : Rat) / 2)) = .ok s ∧
          min s.1 s.2 ≤ 0))) := by
  unfold reprojectNonlinearE
  simp only
  generalize relativeRois src dst back fwd 5 (padOr1 padding) (normAlign align) = r
  by_cases hE : ROI.isEmpty r.2 = true
  · simp [hE]
  · have hE' : ROI.isEmpty r.2 = false := by simpa using hE
    rw [if_pos (by simpa using hE)]
    refine Iff.trans ?_ (Iff.symm (and_iff_right hE'))
    generalize scaleAt ((((r.2.2.start + r.2.2.stop : Int) : Rat) / 2, ((r.2.1.start + r.2.1.stop : Int) : Rat) / 2)) = v
    cases v with
    | error e => simp
    | ok s =>
      simp only [Except.ok.injEq, exists_eq_left', reduceCtorEq, exists_false, false_or]
      rw [← read_shrink_error_iff (min s.1 s.2) tol1em3]
      cases pickReadScale (min s.1 s.2) <;> simp

/-- With an estimate that is never NaN the NaN-aware plan is the error-carrying plan, whatever the fallback flag. -/
theorem nonlinearX_eq_E (fb : Bool) (src dst : Shape) (back fwd : PtTr) (sc : Rat × Rat → Res (Rat × Rat))
    (padding align : Option Int) :
    reprojectNonlinearX fb src dst back fwd (fun c => match sc c with | .ok s => .ok s | .error e => .err e) padding align =
      reprojectNonlinearE src dst back fwd sc padding align := by
  unfold reprojectNonlinearX reprojectNonlinearE
  simp only
  generalize relativeRois src dst back fwd 5 (padOr1 padding) (normAlign align) = r
  by_cases hE : ROI.isEmpty r.2 = true
  · simp only [hE, not_true_eq_false, if_false]
  · simp only [hE]
    cases hv : sc ((((r.2.2.start + r.2.2.stop : Int) : Rat) / 2, ((r.2.1.start + r.2.1.stop : Int) : Rat) / 2)) <;> rfl

/-- **Without the fallback (`fb = false`) a NaN scale at the centre of a non-empty `roi_dst` is an `AssertionError`** —
the plan that was just computed is lost (finding `xcrs-scale-centre-off-domain-raises`: the centre of the destination
region has no image in the source CRS). -/
theorem nan_centre_raises_on_head (src dst : Shape) (back fwd : PtTr) (scaleAt : Rat × Rat → ScaleRes)
    (padding align : Option Int)
    (hne : ROI.isEmpty (relativeRois src dst back fwd 5 (padOr1 padding) (normAlign align)).2 = false)
    (hnan : scaleAt
      ((((relativeRois src dst back fwd 5 (padOr1 padding) (normAlign align)).2.2.start +
          (relativeRois src dst back fwd 5 (padOr1 padding) (normAlign align)).2.2.stop : Int) : Rat) / 2,
       (((relativeRois src dst back fwd 5 (padOr1 padding) (normAlign align)).2.1.start +
          (relativeRois src dst back fwd 5 (padOr1 padding) (normAlign align)).2.1.stop : Int) : Rat) / 2) = .nan) :
    reprojectNonlinearX false src dst back fwd scaleAt padding align = .error .assertion := by
  unfold reprojectNonlinearX
  simp only [hne, Bool.false_eq_true, not_false_eq_true, if_true, hnan, if_false]

/-- **The fallback recovers the plan** (`fb = true`): if the centre of `roi_src` has an image and the estimate there is a
positive scale, the call succeeds with the very regions that were computed and that scale. -/
theorem fallback_recovers (src dst : Shape) (back fwd : PtTr) (scaleAt : Rat × Rat → ScaleRes)
    (padding align : Option Int) (x y : Rat) (sc : Rat × Rat)
    (hne : ROI.isEmpty (relativeRois src dst back fwd 5 (padOr1 padding) (normAlign align)).2 = false)
    (hnan : scaleAt
      ((((relativeRois src dst back fwd 5 (padOr1 padding) (normAlign align)).2.2.start +
          (relativeRois src dst back fwd 5 (padOr1 padding) (normAlign align)).2.2.stop : Int) : Rat) / 2,
       (((relativeRois src dst back fwd 5 (padOr1 padding) (normAlign align)).2.1.start +
          (relativeRois src dst back fwd 5 (padOr1 padding) (normAlign align)).2.1.stop : Int) : Rat) / 2) = .nan)
    (himg : fwd
      ((((relativeRois src dst back fwd 5 (padOr1 padding) (normAlign align)).1.2.start +
          (relativeRois src dst back fwd 5 (padOr1 padding) (normAlign align)).1.2.stop : Int) : Rat) / 2,
       (((relativeRois src dst back fwd 5 (padOr1 padding) (normAlign align)).1.1.start +
          (relativeRois src dst back fwd 5 (padOr1 padding) (normAlign align)).1.1.stop : Int) : Rat) / 2) = (.fin x, .fin y))
    (hsc : scaleAt (x, y) = .ok sc) (hpos : 0 < min sc.1 sc.2) :
    ∃ p, reprojectNonlinearX true src dst back fwd scaleAt padding align = .ok p ∧
      (p.roiSrc, p.roiDst) = relativeRois src dst back fwd 5 (padOr1 padding) (normAlign align) ∧
      p.scale2 = sc ∧ 1 ≤ p.readShrink := by
  unfold reprojectNonlinearX
  simp only [hne, Bool.false_eq_true, not_false_eq_true, if_true, hnan, himg, hsc]
  cases hp : pickReadScale (min sc.1 sc.2) with
  | error e =>
    have := (read_shrink_error_iff _ _).mp ⟨e, hp⟩
    exact absurd hpos (not_lt.mpr this)
  | ok rs => exact ⟨_, rfl, rfl, rfl, read_shrink_pos_int _ _ _ hp⟩

-- same CRS, two GeoBoxes, half-pixel shift (no paste): hypotheses of `top_linear_covers` / `top_within` hold
example : (computeReprojectRoi ⟨true, (10, 10), ⟨2, 0, 100, 0, -2, 200⟩, false⟩ ⟨true, (4, 4), ⟨2, 0, 107, 0, -2, 194⟩, false⟩
    true idProj idProj 1 (fun _ => (1, 1)) (1 / 20) tol1em3 none none).toOption.map
      (fun p => (p.roiSrc, p.roiDst, p.pasteOk, p.readShrink)) = some ((⟨2, 8⟩, ⟨2, 9⟩), (⟨0, 4⟩, ⟨0, 4⟩), false, 1) := by
  decide +kernel
-- different CRSs: geographic source reaching beyond lon 180 (clamped), transformer = scaling by 2
example : (computeReprojectRoi ⟨true, (4, 8), ⟨1, 0, 176, 0, -1, 2⟩, true⟩ ⟨true, (8, 20), ⟨1, 0, 350, 0, -1, 4⟩, false⟩
    false (fun w => (.fin (2 * w.1), .fin (2 * w.2))) (fun w => (.fin (w.1 / 2), .fin (w.2 / 2))) 1 (fun _ => (1 / 2, 1 / 2))
    (1 / 20) tol1em3 none none).toOption.map
      (fun p => (p.roiSrc, p.roiDst, p.pasteOk, p.readShrink)) = some ((⟨0, 4⟩, ⟨0, 8⟩), (⟨0, 8⟩, ⟨2, 10⟩), false, 1) := by
  decide +kernel
-- `gbx_roundtrip`: hypotheses satisfiable (scaling transformer, no clamp)
example : gbxApply ⟨1, 0, 10, 0, -1, 20⟩ false (fun w => (.fin (2 * w.1), .fin (2 * w.2))) (Aff.inv ⟨4, 0, 0, 0, -4, 80⟩) (3, 5)
    = (.fin (13 / 2), .fin (25 / 2)) := by
  simp only [gbxApply, Aff.apply, Aff.inv, Aff.det]; norm_num

end OdcGeo.C03
