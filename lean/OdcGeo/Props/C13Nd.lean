/-
C13 — extra axes: the N-d chunked result is, plane by plane, the 2-d chunked result; hence equal to
the in-memory result for ANY position of the spatial axes (`ydim`), any number of non-spatial axes,
and any chunk table along them (non-uniform, 1-long chunks, …).
-/
import OdcGeo.Model.C13Nd
import OdcGeo.Props.C13
import OdcGeo.Lemmas.Splice

namespace OdcGeo.C13

variable {E EB EL : Type}

theorem srcBlockNd_plane (ax : ExtraAxes E EB EL) (src : E → Img) (sy sx : List Span) {eb : EB}
    {l : EL} {e : E} (hg : ax.glob eb l = some e) (idx : TIdx) :
    (srcBlockNd ax src sy sx eb idx).map (· l) = srcBlock (src e) sy sx idx := by
  unfold srcBlockNd srcBlock
  cases sy[idx.1]? with
  | none => rfl
  | some ys =>
    cases sx[idx.2]? with
    | none => rfl
    | some xs => simp only [Option.bind_eq_bind, Option.bind_some, Option.pure_def, Option.map_some, hg]

theorem dstBlockNd_plane (ax : ExtraAxes E EB EL) (c : Cfg) (G : Gdal) (src : E → Img) {eb : EB}
    {l : EL} {e : E} (hg : ax.glob eb l = some e) (idx : TIdx) (p : Int × Int) :
    (dstBlockNd ax c G src eb idx).bind (fun blk => blk l p) = (dstBlock c G (src e) idx).bind (fun blk => blk p) := by
  unfold dstBlockNd dstBlock
  rw [← mapOpt_map_comm (fun (b : EL → Img) => b l) (srcBlockNd_plane ax src c.sy c.sx hg)]
  cases mapOpt (srcBlockNd ax src c.sy c.sx eb) (lookupDeps c.deps idx) with
  | none => rfl
  | some bs =>
    simp only [Option.bind_eq_bind, Option.bind_some, Option.map_some, dstTaskNd, dstTask]
    split
    · cases constBlock c idx with
      | none => rfl
      | some b => simp only [Option.map_some, Option.bind_some, hg, Option.isSome_some, if_true]
    · simp only [Option.bind_some, hg, Option.isSome_some, if_true]

/-- **Plane by plane.**  For any lawful chunking of the non-spatial index space: element `(e, d)`
of the N-d dask result is pixel `d` of the 2-d dask result of plane `e` of the source. -/
theorem nd_eq_plane (ax : ExtraAxes E EB EL) (hax : ax.Lawful) (c : Cfg) (G : Gdal) (src : E → Img)
    (e : E) (d : Int × Int) (eb : EB) (l : EL) (hloc : ax.locate e = some (eb, l)) :
    daskResultNd ax c G src e d = daskResult c G (src e) d := by
  unfold daskResultNd daskResult
  simp only [hloc, Option.bind_eq_bind, Option.bind_some, dstBlockNd_plane ax c G src (hax e eb l hloc)]

/-- **Chunked equals whole for N-d arrays**: any lawful chunking of the non-spatial axes, every
non-spatial index `e` that lies in the array, every pixel: the dask result equals what
`rio_reproject` writes plane by plane.  Hypotheses on the 2-d part as in `chunked_eq_whole_nn`. -/
theorem chunked_eq_whole_nd (ax : ExtraAxes E EB EL) (hax : ax.Lawful) (c : Cfg) (G : Gdal)
    (src buf : E → Img) (e : E) (eb : EB) (l : EL) (hloc : ax.locate e = some (eb, l))
    (hV : c.variant = Variant.repaired)
    (hbuf : WF (buf e) c.dstH c.dstW)
    (hsy : Chain 0 c.sy c.srcH) (hsx : Chain 0 c.sx c.srcW)
    (hdy : Chain 0 c.dy c.dstH) (hdx : Chain 0 c.dx c.dstW)
    (hS : c.S.det ≠ 0)
    (hvalid : DepsValid c) (hcomplete : deps_complete c)
    (hnd : c.dstNd = none → c.srcNd = none)
    (hnd1 : NodataOk c.kind c.dstNd) (hnd2 : NodataOk c.kind c.srcNd)
    (d : Int × Int) (hd : 0 ≤ d.1 ∧ d.1 < c.dstH ∧ 0 ≤ d.2 ∧ d.2 < c.dstW) :
    daskResultNd ax c G src e d = wholeResultNd c G src buf e d := by
  rw [nd_eq_plane ax hax c G src e d eb l hloc]
  exact chunked_eq_whole_nn c G (src e) (buf e) hV hbuf hsy hsx hdy hdx hS hvalid hcomplete hnd hnd1 hnd2 d hd

theorem listAxes_lawful : ∀ (tables : List (List Span)), (listAxes tables).Lawful
  | [], [], b, l, h => by cases h; rfl
  | [], _ :: _, b, l, h => by cases h
  | _ :: _, [], b, l, h => by cases h
  | t :: ts, v :: vs, b, l, h => by
    simp only [listAxes, locAxes, Option.bind_eq_bind, Option.bind_eq_some_iff, Option.pure_def,
      Option.some.injEq, Prod.mk.injEq] at h
    obtain ⟨i, hi, s, hs, r, hr, rfl, rfl⟩ := h
    obtain ⟨s', hs', s1, s2⟩ := locate_spec hi
    cases hs.symm.trans hs'
    have ih := listAxes_lawful ts vs r.1 r.2 hr
    simp only [listAxes] at ih
    simp only [listAxes, globAxes, hs, Option.bind_eq_bind, Option.bind_some, Option.pure_def]
    rw [if_pos (by omega), ih, Option.bind_some, add_sub_cancel]

theorem splitYX_withYX (ydim : Nat) (e : List Int) (y x : Int) (h : ydim ≤ e.length) :
    splitYX ydim (withYX ydim e y x) = some (e, y, x) := by
  have hl : (e.take ydim).length = ydim := List.length_take_of_le h
  simp only [splitYX, withYX, splice_fst hl, splice_snd hl, splice_take hl, splice_drop hl,
    Option.bind_eq_bind, Option.bind_some, Option.pure_def, List.take_append_drop]

/-- **Any `ydim`, any chunk tables**: element `(*e[:ydim], y, x, *e[ydim:])` of the computed dask
array is pixel `(y, x)` of the 2-d dask result of the plane at non-spatial index `e` — wherever the
two spatial axes sit (leading time axis: `ydim = 1`; band-last: `ydim = 0`; both), whatever the
chunk tables of the other axes. -/
theorem nd_any_ydim (ydim : Nat) (tables : List (List Span)) (c : Cfg) (G : Gdal)
    (arr : List Int → Option Val) (e : List Int) (y x : Int) (hy : ydim ≤ e.length)
    (b : List Nat) (l : List Int) (hloc : locAxes tables e = some (b, l)) :
    daskResultFull ydim tables c G arr (withYX ydim e y x) =
      daskResult c G (planeOf ydim arr e) (y, x) := by
  unfold daskResultFull
  rw [splitYX_withYX ydim e y x hy]
  simp only [Option.bind_eq_bind, Option.bind_some]
  exact nd_eq_plane (listAxes tables) (listAxes_lawful tables) c G (planeOf ydim arr) e (y, x) b l hloc

/-- non-vacuity: a time axis of 5 steps chunked (2, 2, 1): step 4 is local index 0 of chunk 2 -/
example : locAxes [chunksTiling [2, 2, 1]] [4] = some ([2], [0]) := by decide

end OdcGeo.C13
