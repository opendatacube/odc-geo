/-
C04 — dtype / fill-value glue of `BlockAssembler` (model: `Model/C04Dtype.lean`).

What the property needs from it: the mosaic's dtype can hold every block's values (pasting a block
never needs an unsafe cast, whatever the fill), a fill of a *higher* kind than the blocks (NaN into
integer tiles, -1 into unsigned tiles) upgrades the result so that it is held, an integer fill that
the result dtype cannot hold is refused by numpy instead of being wrapped, and the default fill is
NaN exactly for floating results.
-/
import OdcGeo.Model.C04Dtype
import Mathlib.Tactic.Linarith
namespace OdcGeo.C04

theorem maxOf_ge (f : DT → Nat) (l : List DT) (d : DT) (h : d ∈ l) : f d ≤ maxOf f l := by
  induction l with
  | nil => cases h
  | cons a as ih =>
    simp only [maxOf]
    rcases List.mem_cons.1 h with rfl | h'
    · exact Nat.le_max_left _ _
    · exact Nat.le_trans (ih h') (Nat.le_max_right _ _)

theorem maxOf_attained (f : DT → Nat) (l : List DT) (hne : l ≠ []) : ∃ d ∈ l, maxOf f l = f d := by
  induction l with
  | nil => exact absurd rfl hne
  | cons a as ih =>
    cases as with
    | nil => exact ⟨a, by simp, by simp [maxOf]⟩
    | cons b bs =>
      obtain ⟨d, hd, hm⟩ := ih (by simp)
      simp only [maxOf] at hm ⊢
      rcases Nat.le_total (f a) (max (f b) (maxOf f bs)) with h | h
      · exact ⟨d, List.mem_cons_of_mem _ hd, by rw [Nat.max_eq_right h]; exact hm⟩
      · exact ⟨a, by simp, by rw [Nat.max_eq_left h]⟩

theorem floatNeed_le_64 (k : Kind) (bits : Nat) (h : k = .u ∨ k = .i) : floatNeed ⟨k, bits⟩ ≤ 64 := by
  have e : floatNeed ⟨k, bits⟩ = if bits ≤ 8 then 16 else if bits ≤ 16 then 32 else 64 := by
    rcases h with rfl | rfl <;> rfl
  rw [e]
  split
  · decide
  · split <;> decide

/-- **the promoted dtype holds every member** (`np.result_type(*dtypes)` vs `np.can_cast(·, ·, "safe")`):
any number of dtypes, any order -/
theorem result_type_holds_each (l : List DT) (d : DT) (h : d ∈ l) : safeCast d (resultTypeL l) = true := by
  have hK : d.kind.rank ≤ maxOf (·.kind.rank) l := maxOf_ge (·.kind.rank) l d h
  have hu := maxOf_ge uintNeed l d h
  have hi := maxOf_ge intNeed l d h
  have hf := maxOf_ge floatNeed l d h
  have hc := maxOf_ge complexNeed l d h
  obtain ⟨k, bits⟩ := d
  unfold resultTypeL
  simp only
  -- by the highest kind present; members of a higher kind than that do not exist (`hK`)
  by_cases h0 : maxOf (·.kind.rank) l = 0
  · rw [if_pos h0]
    rw [h0] at hK
    cases k with
    | b => rfl
    | _ => exact absurd hK (by dsimp only; decide)
  rw [if_neg h0]
  by_cases h1 : maxOf (·.kind.rank) l = 1
  · rw [if_pos h1]
    rw [h1] at hK
    cases k with
    | b => rfl
    | u => exact decide_eq_true hu
    | _ => exact absurd hK (by dsimp only; decide)
  rw [if_neg h1]
  by_cases h2 : maxOf (·.kind.rank) l = 2
  · rw [if_pos h2]
    rw [h2] at hK
    by_cases hbig : maxOf intNeed l > 64
    · rw [if_pos hbig]
      cases k with
      | b => rfl
      | u => exact decide_eq_true (floatNeed_le_64 _ _ (.inl rfl))
      | i => exact decide_eq_true (floatNeed_le_64 _ _ (.inr rfl))
      | _ => exact absurd hK (by dsimp only; decide)
    · rw [if_neg hbig]
      cases k with
      | b => rfl
      | u => exact decide_eq_true hi
      | i => exact decide_eq_true hi
      | _ => exact absurd hK (by dsimp only; decide)
  rw [if_neg h2]
  by_cases h3 : maxOf (·.kind.rank) l = 3
  · rw [if_pos h3]
    rw [h3] at hK
    cases k with
    | b => rfl
    | c => exact absurd hK (by dsimp only; decide)
    | _ => exact decide_eq_true hf
  rw [if_neg h3]
  cases k with
  | b => rfl
  | c => exact decide_eq_true hc
  | _ => exact decide_eq_true hc

/-- one of numpy's 14 numeric dtypes -/
def DT.Valid (d : DT) : Prop := d ∈ DT.all

instance : DecidablePred DT.Valid := fun d => by unfold DT.Valid; infer_instance

theorem resultTypeL_single : ∀ d ∈ DT.all, resultTypeL [d] = d := by decide +kernel

-- what `resultTypeL` returns in each of its kind branches (unsigned, signed, float, complex) is one of the 14
theorem valid_k1 : ∀ du ∈ DT.all, du.kind.rank ≤ 1 → (⟨.u, uintNeed du⟩ : DT) ∈ DT.all := by decide +kernel
theorem valid_k2 : ∀ di ∈ DT.all, di.kind.rank ≤ 2 →
    (if intNeed di > 64 then (⟨.f, 64⟩ : DT) else ⟨.i, intNeed di⟩) ∈ DT.all := by decide +kernel
theorem valid_k3 : ∀ dK ∈ DT.all, ∀ df ∈ DT.all, dK.kind.rank = 3 → df.kind.rank ≤ 3 →
    floatNeed dK ≤ floatNeed df → (⟨.f, floatNeed df⟩ : DT) ∈ DT.all := by decide +kernel
theorem valid_k4 : ∀ dc ∈ DT.all, (⟨.c, complexNeed dc⟩ : DT) ∈ DT.all := by decide +kernel

theorem result_type_valid (l : List DT) (hne : l ≠ []) (hv : ∀ d ∈ l, d.Valid) : (resultTypeL l).Valid := by
  obtain ⟨dK, hdK, eK⟩ := maxOf_attained (·.kind.rank) l hne
  have rk : ∀ d ∈ l, d.kind.rank ≤ dK.kind.rank := fun d hd => eK ▸ maxOf_ge (·.kind.rank) l d hd
  unfold resultTypeL
  simp only
  rw [eK]
  by_cases h0 : dK.kind.rank = 0
  · rw [if_pos h0]; decide
  rw [if_neg h0]
  by_cases h1 : dK.kind.rank = 1
  · rw [if_pos h1]
    obtain ⟨du, hdu, eu⟩ := maxOf_attained uintNeed l hne
    rw [eu]
    exact valid_k1 du (hv du hdu) (h1 ▸ rk du hdu)
  rw [if_neg h1]
  by_cases h2 : dK.kind.rank = 2
  · rw [if_pos h2]
    obtain ⟨di, hdi, ei⟩ := maxOf_attained intNeed l hne
    rw [ei]
    exact valid_k2 di (hv di hdi) (h2 ▸ rk di hdi)
  rw [if_neg h2]
  by_cases h3 : dK.kind.rank = 3
  · rw [if_pos h3]
    obtain ⟨df, hdf, ef⟩ := maxOf_attained floatNeed l hne
    rw [ef]
    exact valid_k3 dK (hv dK hdK) df (hv df hdf) h3 (h3 ▸ rk df hdf) (ef ▸ maxOf_ge floatNeed l dK hdK)
  rw [if_neg h3]
  obtain ⟨dc, hdc, ec⟩ := maxOf_attained complexNeed l hne
  rw [ec]
  exact valid_k4 dc (hv dc hdc)

theorem assembler_dtype_empty : assemblerDtype [] = DT.f32 := rfl

theorem assembler_dtype_eq (blocks : List DT) (hne : blocks ≠ []) : assemblerDtype blocks = resultTypeL blocks := by
  cases blocks with
  | nil => exact absurd rfl hne
  | cons a as => rfl

/-- **the mosaic's dtype holds every block** (any number of blocks, any mix of numeric dtypes) -/
theorem assembler_dtype_holds_blocks (blocks : List DT) (d : DT) (h : d ∈ blocks) :
    safeCast d (assemblerDtype blocks) = true := by
  rw [assembler_dtype_eq blocks (List.ne_nil_of_mem h)]
  exact result_type_holds_each blocks d h

theorem assembler_dtype_valid (blocks : List DT) (hv : ∀ d ∈ blocks, d.Valid) : (assemblerDtype blocks).Valid := by
  cases blocks with
  | nil => decide
  | cons a as => exact result_type_valid (a :: as) (by simp) hv

/-- an explicit `dtype=` wins over everything -/
theorem extract_dtype_explicit (self d : DT) (fm : Option DT) : extractDtype self (some d) fm = d := rfl

/-- without a fill the assembler's dtype is used -/
theorem extract_dtype_no_fill (self : DT) : extractDtype self none none = self := rfl

/-- with a fill: only a fill of a *higher kind* (`"buifc"`) changes the dtype – to the promotion of both -/
theorem extract_dtype_fill (self m : DT) (hs : self.Valid) (hm : m.Valid) :
    extractDtype self none (some m) =
      if m.kind.rank > self.kind.rank then resultTypeL [self, m] else self := by
  simp only [extractDtype, findCommonType, resultTypeL_single self hs, resultTypeL_single m hm]

/-- what a dtype asks of one that is to hold its values: a sign, integer bits, a fractional part, an
imaginary part (a float counts for the integers numpy lets it hold: 8 / 16 / 64 bits) -/
def capOf (d : DT) : Nat × Nat × Nat × Nat :=
  let fm (bits : Nat) : Nat := if bits ≤ 16 then 8 else if bits ≤ 32 then 16 else 64
  match d.kind with
  | .b => (0, 1, 0, 0)
  | .u => (0, d.bits, 0, 0)
  | .i => (1, d.bits - 1, 0, 0)
  | .f => (1, fm d.bits, 1, 0)
  | .c => (1, fm (d.bits / 2), 1, 1)

/-- on numpy's dtypes `can_cast(·, ·, "safe")` is the componentwise order of the capacities,
hence transitive -/
theorem safeCast_iff_cap : ∀ a ∈ DT.all, ∀ b ∈ DT.all, safeCast a b = true ↔ capOf a ≤ capOf b := by
  decide +kernel

theorem safeCast_trans (d a b : DT) (hd : d.Valid) (ha : a.Valid) (hb : b.Valid)
    (h1 : safeCast d a = true) (h2 : safeCast a b = true) : safeCast d b = true :=
  (safeCast_iff_cap d hd b hb).2
    (le_trans ((safeCast_iff_cap d hd a ha).1 h1) ((safeCast_iff_cap a ha b hb).1 h2))

/-- **whatever the fill, the allocated dtype holds every block** (`dtype=None`): pasting a block into
the window never needs an unsafe cast -/
theorem extract_dtype_holds_blocks (blocks : List DT) (hv : ∀ d ∈ blocks, d.Valid) (fm : Option DT)
    (hfm : ∀ m, fm = some m → m.Valid) (d : DT) (h : d ∈ blocks) :
    safeCast d (extractDtype (assemblerDtype blocks) none fm) = true := by
  have hself := assembler_dtype_holds_blocks blocks d h
  have vself := assembler_dtype_valid blocks hv
  cases fm with
  | none => exact hself
  | some m =>
    rw [extract_dtype_fill _ m vself (hfm m rfl)]
    split
    · exact safeCast_trans d _ _ (hv d h) vself
        (result_type_valid _ (List.cons_ne_nil _ _) (List.forall_mem_cons.2 ⟨vself, List.forall_mem_cons.2 ⟨hfm m rfl, nofun⟩⟩)) hself
        (result_type_holds_each _ _ List.mem_cons_self)
    · exact hself

/-- **a fill of a higher kind is held by the result**: NaN (or any float) into integer tiles gives a
float result, a negative int into unsigned tiles a signed one, … -/
theorem extract_dtype_holds_higher_fill (self m : DT) (hs : self.Valid) (hm : m.Valid)
    (hk : m.kind.rank > self.kind.rank) : safeCast m (extractDtype self none (some m)) = true := by
  rw [extract_dtype_fill self m hs hm, if_pos hk]
  exact result_type_holds_each [self, m] m (by simp)

/-- a fill of the same or a lower kind never changes the dtype – not even when it does not fit … -/
theorem extract_dtype_same_kind_unchanged (self m : DT) (hs : self.Valid) (hm : m.Valid)
    (hk : m.kind.rank ≤ self.kind.rank) : extractDtype self none (some m) = self := by
  rw [extract_dtype_fill self m hs hm, if_neg (by omega)]

/-- … an *integer* fill that does not fit is then refused by numpy (`OverflowError`), never wrapped:
when `extract` allocates an integer window for a Python-int fill, the fill is inside the dtype's range -/
theorem int_fill_never_wraps (blocks : List DT) (dt : Option DT) (v : Int) (d : DT)
    (h : extractAlloc blocks dt (.int v) = .ok d) :
    (d.kind = .u → 0 ≤ v ∧ v < 2 ^ d.bits) ∧
    (d.kind = .i → -(2 ^ (d.bits - 1)) ≤ v ∧ v < 2 ^ (d.bits - 1)) := by
  simp only [extractAlloc] at h
  split at h
  · cases h
  · next hr =>
    cases h
    simp only [fullRaises] at hr
    constructor <;>
    · intro hk
      rw [hk] at hr
      simpa only [decide_eq_true_eq, not_or, not_lt, not_le] using hr

/-- `uint8` tiles, fill 300: refused (replayed on the real code: `OverflowError`) -/
theorem uint8_fill_300_refused_cex : extractAlloc [⟨.u, 8⟩] none (.int 300) = .error () := by decide

/-- `float32` tiles, fill `1e40`: the dtype stays `float32`, which cannot hold the fill – numpy writes
`inf` (replayed on the real code: the absent tiles read `inf`, with a RuntimeWarning).  Observation,
not a defect of the tiling logic: fills are expected to be representable in the data's kind. -/
theorem float32_fill_1e40_overflows_cex :
    extractAlloc [⟨.f, 32⟩] none (.float (.fin 10000000000000000303786028427003666890752)) = .ok ⟨.f, 32⟩ ∧
    safeCast (minScalarFloat (.fin 10000000000000000303786028427003666890752)) ⟨.f, 32⟩ = false := by
  decide +kernel

/-- the default fill is NaN exactly for floating results (complex and integer results get 0) -/
theorem default_fill_nan_iff (d : DT) : effFill d false = .nan ↔ d.kind = .f := by
  simp only [effFill]
  constructor
  · intro h; split at h <;> simp_all
  · intro h; simp [h]

example : (⟨.u, 8⟩ : DT).Valid := by decide
example : extractDtype ⟨.u, 8⟩ none (some ⟨.f, 16⟩) = ⟨.f, 16⟩ := by decide
example : extractDtype ⟨.u, 8⟩ none (some ⟨.i, 8⟩) = ⟨.i, 16⟩ := by decide
example : extractAlloc [⟨.u, 8⟩, ⟨.i, 8⟩] none (.int 5) = .ok ⟨.i, 16⟩ := by decide
example : resultTypeL [⟨.u, 8⟩, ⟨.i, 8⟩, ⟨.f, 16⟩] = ⟨.f, 16⟩ := by decide

end OdcGeo.C04
