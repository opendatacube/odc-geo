/-
C16 — GeoBox and bounding-box set operations respect the common pixel grid (core part; `Props/C16.lean`
imports this file and continues with parts F–K): bounding-box lattice laws over any linear order, pixel-set
semantics of `|`, `&`, `overlap_roi` on a common grid, `enclosing`, `snap_to`, rejection of incompatible grids.
-/
import OdcGeo.Model.C16
import OdcGeo.Lemmas.C16
import OdcGeo.Lemmas.C16Grid
import OdcGeo.Spec.PySlice
import Mathlib.Order.Defs.LinearOrder
import Mathlib.Order.Lattice
import Mathlib.Tactic.Linarith
import Mathlib.Tactic.Ring
import Mathlib.Algebra.Order.Field.Rat

namespace OdcGeo.C16
open OdcGeo

/-! ## Part A — BoundingBox lattice laws (any linear order) -/

section BBoxLaws
variable {α : Type} [LinearOrder α]

/-- point membership (closed box) -/
def BBox.Contains (bb : BBox α) (p : α × α) : Prop :=
  bb.left ≤ p.1 ∧ p.1 ≤ bb.right ∧ bb.bottom ≤ p.2 ∧ p.2 ≤ bb.top

/-- `a` lies within `c` (edge-wise) -/
def BBox.Within (a c : BBox α) : Prop :=
  c.left ≤ a.left ∧ c.bottom ≤ a.bottom ∧ a.right ≤ c.right ∧ a.top ≤ c.top

theorem BBox.Within.trans {a b c : BBox α} (h1 : a.Within b) (h2 : b.Within c) : a.Within c :=
  ⟨h2.1.trans h1.1, h2.2.1.trans h1.2.1, h1.2.2.1.trans h2.2.2.1, h1.2.2.2.trans h2.2.2.2⟩

/-- a point as a degenerate box: `Contains` is `Within` of it, so that facts about `Within` (and, through the dual
order, about `&`) speak about point sets too -/
def BBox.pt (p : α × α) : BBox α := ⟨p.1, p.2, p.1, p.2, none⟩

theorem BBox.pt_within {p : α × α} {bb : BBox α} : (BBox.pt p).Within bb ↔ bb.Contains p :=
  and_congr_right fun _ => and_left_comm

theorem BBox.Within.contains {a c : BBox α} (h : a.Within c) {p : α × α} (hp : a.Contains p) : c.Contains p :=
  BBox.pt_within.mp ((BBox.pt_within.mpr hp).trans h)

theorem bbox_or_eq (a b : BBox α) :
    a.or b = if a.crs ≠ b.crs then .error .crsMismatch
             else .ok ⟨min b.left a.left, min b.bottom a.bottom, max b.right a.right,
                       max b.top a.top, a.crs⟩ := by
  by_cases h : a.crs = b.crs <;> simp [BBox.or, bboxUnion, foldRes, unionStep, h]

theorem bbox_or_ok {a b u : BBox α} (h : a.or b = .ok u) :
    u = ⟨min b.left a.left, min b.bottom a.bottom, max b.right a.right, max b.top a.top, a.crs⟩ := by
  rw [bbox_or_eq] at h
  split at h <;> cases h
  rfl

/-- `&` is `|` in the dual order (`max` for `min`, `min` for `max`), so every law of `|` is a law of `&`. -/
theorem bbox_and_eq (a b : BBox α) :
    a.and b = if a.crs ≠ b.crs then .error .crsMismatch
              else .ok ⟨max b.left a.left, max b.bottom a.bottom, min b.right a.right,
                        min b.top a.top, a.crs⟩ :=
  bbox_or_eq (α := αᵒᵈ) a b

/-- union is commutative (including the error behaviour) -/
theorem bbox_union_comm (a b : BBox α) : a.or b = b.or a := by
  rw [bbox_or_eq, bbox_or_eq]
  by_cases h : a.crs = b.crs
  · simp [h, min_comm, max_comm]
  · have h' : ¬ b.crs = a.crs := fun e => h e.symm
    simp [h, h']

theorem bbox_inter_comm (a b : BBox α) : a.and b = b.and a :=
  bbox_union_comm (α := αᵒᵈ) a b

/-- union is associative: `(a | b) | c = a | (b | c)` (including the error behaviour) -/
theorem bbox_union_assoc (a b c : BBox α) :
    (a.or b >>= fun ab => ab.or c) = (b.or c >>= fun bc => a.or bc) := by
  simp only [bbox_or_eq, bind, Except.bind, ne_eq]
  by_cases h1 : a.crs = b.crs
  · by_cases h2 : b.crs = c.crs
    · simp only [h1, h2, not_true_eq_false, if_false, min_assoc, max_assoc]
    · simp only [h1, h2, not_true_eq_false, not_false_eq_true, if_false, if_true]
  · by_cases h2 : b.crs = c.crs
    · have h1' : ¬ a.crs = c.crs := h2 ▸ h1
      simp only [h2, h1', not_true_eq_false, not_false_eq_true, if_false, if_true]
    · simp only [h1, h2, not_false_eq_true, if_true]

theorem bbox_inter_assoc (a b c : BBox α) :
    (a.and b >>= fun ab => ab.and c) = (b.and c >>= fun bc => a.and bc) :=
  bbox_union_assoc (α := αᵒᵈ) a b c

theorem bbox_union_idem (a : BBox α) : a.or a = .ok a := by
  rw [bbox_or_eq]; simp

theorem bbox_inter_idem (a : BBox α) : a.and a = .ok a :=
  bbox_union_idem (α := αᵒᵈ) a

/-- absorption `a | (a & b) = a` -/
theorem bbox_absorb₁ (a b : BBox α) (h : a.crs = b.crs) :
    (a.and b >>= fun ab => a.or ab) = .ok a := by
  simp only [bbox_and_eq, bbox_or_eq, h, bind, Except.bind, ne_eq, not_true_eq_false, if_false,
    min_eq_right (le_max_right _ _), max_eq_right (min_le_right _ _)]
  rw [← h]

/-- absorption `a & (a | b) = a` -/
theorem bbox_absorb₂ (a b : BBox α) (h : a.crs = b.crs) :
    (a.or b >>= fun ab => a.and ab) = .ok a :=
  bbox_absorb₁ (α := αᵒᵈ) a b h

/-- the union contains both operands (edge-wise and point-wise) -/
theorem bbox_union_contains (a b u : BBox α) (h : a.or b = .ok u) :
    a.Within u ∧ b.Within u ∧ ∀ p, a.Contains p ∨ b.Contains p → u.Contains p := by
  suffices hw : a.Within u ∧ b.Within u from ⟨hw.1, hw.2, fun p hp => hp.elim hw.1.contains hw.2.contains⟩
  obtain rfl := bbox_or_ok h
  exact ⟨⟨min_le_right _ _, min_le_right _ _, le_max_right _ _, le_max_right _ _⟩,
    ⟨min_le_left _ _, min_le_left _ _, le_max_left _ _, le_max_left _ _⟩⟩

theorem bbox_union_least (a b u c : BBox α) (h : a.or b = .ok u) (ha : a.Within c) (hb : b.Within c) :
    u.Within c := by
  obtain rfl := bbox_or_ok h
  exact ⟨le_min hb.1 ha.1, le_min hb.2.1 ha.2.1, max_le hb.2.2.1 ha.2.2.1, max_le hb.2.2.2 ha.2.2.2⟩

/-- n-ary union of a non-empty stream: contains every member and is the least such box (an
empty stream is an error: `bbox_union_empty`). -/
theorem bbox_union_list (b : BBox α) (bs : List (BBox α)) (u : BBox α)
    (h : bboxUnion (b :: bs) = .ok u) :
    (∀ x ∈ b :: bs, x.Within u) ∧
    (∀ c : BBox α, (∀ x ∈ b :: bs, x.Within c) → u.Within c) := by
  simp only [bboxUnion] at h
  induction bs generalizing b with
  | nil =>
    simp only [foldRes] at h; cases h
    exact ⟨by simp [BBox.Within], fun c hc => hc _ (by simp)⟩
  | cons x xs ih =>
    simp only [foldRes] at h
    cases hstep : unionStep b x with
    | error e => rw [hstep] at h; cases h
    | ok acc =>
      rw [hstep] at h
      have hor : b.or x = .ok acc := by simp only [BBox.or, bboxUnion, foldRes, hstep]
      obtain ⟨hb, hx, -⟩ := bbox_union_contains b x acc hor
      obtain ⟨ih1, ih2⟩ := ih _ h
      simp only [List.forall_mem_cons] at ih1 ih2 ⊢
      exact ⟨⟨hb.trans ih1.1, hx.trans ih1.1, ih1.2⟩,
        fun c ⟨cb, cx, cxs⟩ => ih2 c ⟨bbox_union_least b x _ c hor cb cx, cxs⟩⟩

theorem bbox_union_empty : bboxUnion ([] : List (BBox α)) = .error .valueError := rfl
theorem bbox_inter_empty : bboxIntersection ([] : List (BBox α)) = .error .valueError := rfl

/-- n-ary intersection: exactly the points common to every member (the greatest box within all of them, by
duality from `bbox_union_list`, read on points). -/
theorem bbox_inter_list (b : BBox α) (bs : List (BBox α)) (i : BBox α)
    (h : bboxIntersection (b :: bs) = .ok i) (p : α × α) :
    i.Contains p ↔ ∀ x ∈ b :: bs, x.Contains p :=
  have ⟨(h1 : ∀ x ∈ b :: bs, i.Within x), (h2 : ∀ c : BBox α, (∀ x ∈ b :: bs, c.Within x) → c.Within i)⟩ :=
    bbox_union_list (α := αᵒᵈ) b bs i h
  ⟨fun hp x hx => (h1 x hx).contains hp,
   fun hp => BBox.pt_within.mp (h2 (.pt p) fun x hx => BBox.pt_within.mpr (hp x hx))⟩

theorem bbox_inter_contained (a b i : BBox α) (h : a.and b = .ok i) :
    (∀ p, i.Contains p ↔ a.Contains p ∧ b.Contains p) ∧ i.Within a ∧ i.Within b ∧
    ∀ c : BBox α, c.Within a → c.Within b → c.Within i :=
  have hd := bbox_union_contains (α := αᵒᵈ) a b i h
  ⟨fun p => (bbox_inter_list a [b] i h p).trans forall_mem_pair, hd.1, hd.2.1,
    fun c ha hb => bbox_union_least (α := αᵒᵈ) a b i c h ha hb⟩

end BBoxLaws

/-! ## Part B — pixel-set semantics on a common grid

The family of a base grid `g0` ("derived from a base grid by integer pixel shifts and arbitrary
shapes"): `onGrid g0 r` is `g0` shifted so that it covers the index rectangle `r` of `g0`'s pixel
frame.  `g0` may be any GeoBox with an invertible affine: north-up, mirrored, rotated, sheared.
On a common grid a pixel is identified by the world position of its corner (`HasPixel`). -/

/-- Every GeoBox that is `g0` shifted by whole pixels (same CRS) is a member of the family. -/
theorem eq_onGrid (g0 g : GeoBox) (tx ty : Int) (h : g.aff = g0.aff * Aff.translation tx ty)
    (hc : g.crs = g0.crs) : g = onGrid g0 ⟨tx, ty, tx + g.nx, ty + g.ny⟩ := by
  obtain ⟨ny, nx, aff, crs⟩ := g
  simp only [onGrid, GeoBox.mk.injEq]
  simp only at h hc
  refine ⟨by omega, by omega, h, hc⟩

theorem self_onGrid (g : GeoBox) : g = onGrid g ⟨0, 0, g.nx, g.ny⟩ := by
  have := eq_onGrid g g 0 0 (by simp [Aff.translation_zero, Aff.mul_id]) rfl
  simpa using this

theorem union_list_onGrid (g0 : GeoBox) (hdet : g0.aff.det ≠ 0) (r : Rect) (ss : List Rect) :
    geoboxUnionConservative ((r :: ss).map (onGrid g0)) = .ok (onGrid g0 (ss.foldl Rect.union r)) := by
  have h := allBBoxes_onGrid g0 hdet r (r :: ss)
  simp only [List.map] at h ⊢
  simp only [geoboxUnionConservative, h, bboxUnion, foldRes_union_rel, geoboxOfPixBBox_relBB]

theorem inter_list_onGrid (g0 : GeoBox) (hdet : g0.aff.det ≠ 0) (r : Rect) (ss : List Rect) :
    geoboxIntersectionConservative ((r :: ss).map (onGrid g0)) =
      .ok (onGrid g0 (ss.foldl Rect.rawInter r).norm) := by
  have h := allBBoxes_onGrid g0 hdet r (r :: ss)
  simp only [List.map] at h ⊢
  simp only [geoboxIntersectionConservative, h, bboxIntersection, foldRes_inter_rel, normEmpty_relBB,
    geoboxOfPixBBox_relBB]

theorem or_onGrid (g0 : GeoBox) (hdet : g0.aff.det ≠ 0) (r s : Rect) :
    (onGrid g0 r).or (onGrid g0 s) = .ok (onGrid g0 (r.union s)) :=
  union_list_onGrid g0 hdet r [s]

theorem and_onGrid (g0 : GeoBox) (hdet : g0.aff.det ≠ 0) (r s : Rect) :
    (onGrid g0 r).and (onGrid g0 s) = .ok (onGrid g0 (r.inter s)) :=
  inter_list_onGrid g0 hdet r [s]

/-- **n-ary intersection = exactly the pixels common to all operands** -/
theorem inter_list_pixels (g0 : GeoBox) (hdet : g0.aff.det ≠ 0) (r : Rect) (ss : List Rect) :
    ∃ g, geoboxIntersectionConservative ((r :: ss).map (onGrid g0)) = .ok g ∧
      ∀ w, HasPixel g w ↔ ∀ s ∈ r :: ss, HasPixel (onGrid g0 s) w := by
  refine ⟨_, inter_list_onGrid g0 hdet r ss, fun w => ⟨fun h s hs => ?_, fun h => ?_⟩⟩
  · obtain ⟨i, j, hh, rfl⟩ := (hasPixel_onGrid _ _ _).mp h
    rw [Rect.has_norm, foldl_rawInter_has] at hh
    exact (hasPixel_idx g0 hdet s i j).mpr (hh s hs)
  · obtain ⟨i, j, -, rfl⟩ := (hasPixel_onGrid _ _ _).mp (h r (List.mem_cons_self ..))
    rw [hasPixel_idx g0 hdet, Rect.has_norm, foldl_rawInter_has]
    exact fun s hs => (hasPixel_idx g0 hdet s i j).mp (h s hs)

/-- the n-ary intersection is an empty GeoBox exactly when no pixel is common to all operands, and
never has a negative shape -/
theorem inter_list_empty_iff (g0 : GeoBox) (hdet : g0.aff.det ≠ 0) (r : Rect) (ss : List Rect) :
    ∃ g, geoboxIntersectionConservative ((r :: ss).map (onGrid g0)) = .ok g ∧ 0 ≤ g.nx ∧ 0 ≤ g.ny ∧
      (g.isEmpty = true ↔ ¬ ∃ w, ∀ s ∈ r :: ss, HasPixel (onGrid g0 s) w) := by
  obtain ⟨g, hg, hpix⟩ := inter_list_pixels g0 hdet r ss
  cases (inter_list_onGrid g0 hdet r ss).symm.trans hg
  have hv := (List.foldl Rect.rawInter r ss).norm_valid
  refine ⟨_, hg, sub_nonneg.mpr hv.1, sub_nonneg.mpr hv.2, ?_⟩
  rw [isEmpty_onGrid g0 hv, ← exists_hasPixel_onGrid g0]
  simp only [hpix]

/-- **n-ary union = smallest member of the family containing all (non-empty) operands** -/
theorem union_list_pixels (g0 : GeoBox) (hdet : g0.aff.det ≠ 0) (r : Rect) (ss : List Rect) :
    ∃ g, geoboxUnionConservative ((r :: ss).map (onGrid g0)) = .ok g ∧
      (∀ s ∈ r :: ss, ∀ w, HasPixel (onGrid g0 s) w → HasPixel g w) ∧
      ((∀ s ∈ r :: ss, s.NonEmpty) → ∀ t : Rect,
        (∀ s ∈ r :: ss, ∀ w, HasPixel (onGrid g0 s) w → HasPixel (onGrid g0 t) w) →
        ∀ w, HasPixel g w → HasPixel (onGrid g0 t) w) := by
  refine ⟨_, union_list_onGrid g0 hdet r ss, fun s hs => ?_, fun hne t ht => ?_⟩
  · exact (forall_hasPixel g0 hdet _ _).mpr fun i j => ((foldl_union_spec r ss).1 s hs).has
  · refine (forall_hasPixel g0 hdet _ _).mpr fun i j =>
      Rect.Within.has ((foldl_union_spec r ss).2 t fun s hs => ?_)
    exact Rect.within_of_has (hne s hs) ((forall_hasPixel g0 hdet _ _).mp (ht s hs))

/-- **Intersection is exactly the set of shared pixels** (an empty GeoBox when there are none;
never a negative shape). -/
theorem inter_pixels (g0 : GeoBox) (hdet : g0.aff.det ≠ 0) (r s : Rect) :
    ∃ g, (onGrid g0 r).and (onGrid g0 s) = .ok g ∧
      (∀ w, HasPixel g w ↔ HasPixel (onGrid g0 r) w ∧ HasPixel (onGrid g0 s) w) ∧
      (g.isEmpty = true ↔ ¬ ∃ w, HasPixel (onGrid g0 r) w ∧ HasPixel (onGrid g0 s) w) ∧
      0 ≤ g.nx ∧ 0 ≤ g.ny := by
  obtain ⟨g, hg, hnx, hny, hemp⟩ := inter_list_empty_iff g0 hdet r [s]
  obtain ⟨g', hg', hpix⟩ := inter_list_pixels g0 hdet r [s]
  cases hg.symm.trans hg'
  simp only [forall_mem_pair] at hemp hpix
  exact ⟨g, hg, hpix, hemp, hnx, hny⟩

/-- **Union is the smallest GeoBox on the grid containing the operands** (minimality for operands with at least one
pixel each: an empty operand still stretches the hull). -/
theorem union_smallest (g0 : GeoBox) (hdet : g0.aff.det ≠ 0) (r s : Rect) :
    ∃ g, (onGrid g0 r).or (onGrid g0 s) = .ok g ∧
      (∀ w, HasPixel (onGrid g0 r) w ∨ HasPixel (onGrid g0 s) w → HasPixel g w) ∧
      (r.NonEmpty → s.NonEmpty → ∀ t : Rect,
        (∀ w, HasPixel (onGrid g0 r) w ∨ HasPixel (onGrid g0 s) w → HasPixel (onGrid g0 t) w) →
        ∀ w, HasPixel g w → HasPixel (onGrid g0 t) w) := by
  obtain ⟨g, hg, h1, h2⟩ := union_list_pixels g0 hdet r [s]
  rw [forall_mem_pair] at h1
  exact ⟨g, hg, fun w hw => hw.elim (h1.1 w) (h1.2 w), fun hr hs t ht =>
    h2 (forall_mem_pair.mpr ⟨hr, hs⟩) t
      (forall_mem_pair.mpr ⟨fun w hw => ht w (Or.inl hw), fun w hw => ht w (Or.inr hw)⟩)⟩

theorem overlapRoi_onGrid (g0 : GeoBox) (hdet : g0.aff.det ≠ 0) (r s : Rect) (tol : Rat) (htol : 0 < tol) :
    (onGrid g0 r).overlapRoi (onGrid g0 s) tol = .ok (r.roiIn (r.inter s)) := by
  simp only [GeoBox.overlapRoi, bbpd_onGrid g0 hdet _ _ _ htol]
  simp only [relBB, onGrid, Rect.roiIn, Rect.inter, ← max_sub_sub_right, ← min_sub_sub_right, sub_self,
    min_comm (s.x1 - r.x0), min_comm (s.y1 - r.y0)]

/-- **`overlap_roi` indexes exactly the shared pixels within the first operand**, under numpy's
slice semantics (`Spec/PySlice`), for every tolerance `tol > 0`. -/
theorem overlap_roi_exact (g0 : GeoBox) (hdet : g0.aff.det ≠ 0) (r s : Rect) (hr : r.Valid)
    (tol : Rat) (htol : 0 < tol) :
    ∃ roi, (onGrid g0 r).overlapRoi (onGrid g0 s) tol = .ok roi ∧
      ∀ i j : Int,
        (PySlice.Sel (onGrid g0 r).nx (.slc (some roi.x0) (some roi.x1)) i ∧
         PySlice.Sel (onGrid g0 r).ny (.slc (some roi.y0) (some roi.y1)) j) ↔
        (0 ≤ i ∧ i < (onGrid g0 r).nx ∧ 0 ≤ j ∧ j < (onGrid g0 r).ny ∧
         HasPixel (onGrid g0 s) ((onGrid g0 r).aff.apply ((i : Rat), (j : Rat)))) := by
  refine ⟨_, overlapRoi_onGrid g0 hdet r s tol htol, fun i j => ?_⟩
  have hw : (onGrid g0 r).aff.apply ((i : Rat), (j : Rat)) =
      g0.aff.apply (((i + r.x0 : Int) : Rat), ((j + r.y0 : Int) : Rat)) := by
    simp only [onGrid, Aff.apply_mul_translation]; push_cast; rfl
  rw [hw, hasPixel_idx g0 hdet]
  simp only [Rect.roiIn, Rect.inter, onGrid, sel_inter_axis, Rect.Has]
  tauto

/-- commutativity, **including the world affine whichever operand is the reference** -/
theorem union_comm_world (g0 : GeoBox) (hdet : g0.aff.det ≠ 0) (r s : Rect) :
    (onGrid g0 r).or (onGrid g0 s) = (onGrid g0 s).or (onGrid g0 r) := by
  rw [or_onGrid g0 hdet, or_onGrid g0 hdet, Rect.union_comm]

theorem inter_comm_world (g0 : GeoBox) (hdet : g0.aff.det ≠ 0) (r s : Rect) :
    (onGrid g0 r).and (onGrid g0 s) = (onGrid g0 s).and (onGrid g0 r) := by
  rw [and_onGrid g0 hdet, and_onGrid g0 hdet, Rect.inter_comm]

/-- associativity `(a | b) | c = a | (b | c)`: same shape and same world affine although the
reference operand differs (`a | b` on the left, `a` on the right) -/
theorem union_assoc_world (g0 : GeoBox) (hdet : g0.aff.det ≠ 0) (r s t : Rect) :
    ((onGrid g0 r).or (onGrid g0 s) >>= fun x => x.or (onGrid g0 t)) =
    ((onGrid g0 s).or (onGrid g0 t) >>= fun y => (onGrid g0 r).or y) := by
  simp only [or_onGrid g0 hdet, bind, Except.bind, Rect.union_assoc]

/-- associativity of intersection, empty intermediate results included -/
theorem inter_assoc_world (g0 : GeoBox) (hdet : g0.aff.det ≠ 0) (r s t : Rect) :
    ((onGrid g0 r).and (onGrid g0 s) >>= fun x => x.and (onGrid g0 t)) =
    ((onGrid g0 s).and (onGrid g0 t) >>= fun y => (onGrid g0 r).and y) := by
  simp only [and_onGrid g0 hdet, bind, Except.bind, Rect.inter_assoc]

/-- Commutativity phrased for two arbitrary GeoBoxes related by a whole-pixel shift. -/
theorem union_inter_comm_of_shift (a b : GeoBox) (hdet : a.aff.det ≠ 0) (tx ty : Int)
    (h : b.aff = a.aff * Aff.translation tx ty) (hc : b.crs = a.crs) :
    a.or b = b.or a ∧ a.and b = b.and a := by
  have ha := self_onGrid a
  have hb := eq_onGrid a b tx ty h hc
  have h1 := union_comm_world a hdet ⟨0, 0, a.nx, a.ny⟩ ⟨tx, ty, tx + b.nx, ty + b.ny⟩
  have h2 := inter_comm_world a hdet ⟨0, 0, a.nx, a.ny⟩ ⟨tx, ty, tx + b.nx, ty + b.ny⟩
  rw [← hb, ← ha] at h1 h2
  exact ⟨h1, h2⟩

/-! ## Part C — `enclosing`, `BoundingBox.round`, `BoundingBox.transform` -/

/-- `BoundingBox.round()` expands to integers by less than one unit on every side. -/
theorem bbox_round_spec (bb : BBox Rat) :
    ((bb.round.left : Rat) ≤ bb.left ∧ bb.left < bb.round.left + 1) ∧
    ((bb.round.bottom : Rat) ≤ bb.bottom ∧ bb.bottom < bb.round.bottom + 1) ∧
    (bb.right ≤ bb.round.right ∧ (bb.round.right : Rat) < bb.right + 1) ∧
    (bb.top ≤ bb.round.top ∧ (bb.round.top : Rat) < bb.top + 1) :=
  ⟨floor_bounds bb.left, floor_bounds bb.bottom, ceil_bounds bb.right, ceil_bounds bb.top⟩

theorem bboxOfPoints_contains (p : Rat × Rat) (ps : List (Rat × Rat)) (crs : Option Nat) {q : Rat × Rat}
    (hq : q ∈ p :: ps) : (bboxOfPoints p ps crs).Contains q :=
  have h1 : q.1 ∈ p.1 :: ps.map (·.1) := List.mem_map_of_mem (f := (·.1)) hq
  have h2 : q.2 ∈ p.2 :: ps.map (·.2) := List.mem_map_of_mem (f := (·.2)) hq
  ⟨minL_le_of_mem h1, le_maxL_of_mem h1, minL_le_of_mem h2, le_maxL_of_mem h2⟩

theorem bboxOfPoints_attained (p : Rat × Rat) (ps : List (Rat × Rat)) (crs : Option Nat) :
    (∃ q ∈ p :: ps, q.1 = (bboxOfPoints p ps crs).left) ∧ (∃ q ∈ p :: ps, q.2 = (bboxOfPoints p ps crs).bottom) ∧
    (∃ q ∈ p :: ps, q.1 = (bboxOfPoints p ps crs).right) ∧ (∃ q ∈ p :: ps, q.2 = (bboxOfPoints p ps crs).top) :=
  ⟨List.exists_of_mem_map (f := (·.1)) (l := p :: ps) (minL_mem_cons _ _),
   List.exists_of_mem_map (f := (·.2)) (l := p :: ps) (minL_mem_cons _ _),
   List.exists_of_mem_map (f := (·.1)) (l := p :: ps) (maxL_mem_cons _ _),
   List.exists_of_mem_map (f := (·.2)) (l := p :: ps) (maxL_mem_cons _ _)⟩

theorem bboxOfPoints_within (p : Rat × Rat) (ps : List (Rat × Rat)) (crs : Option Nat) (c : BBox Rat)
    (h : ∀ q ∈ p :: ps, c.Contains q) : (bboxOfPoints p ps crs).Within c := by
  obtain ⟨⟨q1, m1, e1⟩, ⟨q2, m2, e2⟩, ⟨q3, m3, e3⟩, ⟨q4, m4, e4⟩⟩ := bboxOfPoints_attained p ps crs
  exact ⟨(h q1 m1).1.trans_eq e1, (h q2 m2).2.2.1.trans_eq e2, e3.symm.trans_le (h q3 m3).2.1,
    e4.symm.trans_le (h q4 m4).2.2.2⟩

theorem bboxOfPoints_map_contains (f : Rat × Rat → Rat × Rat) (p : Rat × Rat) (ps : List (Rat × Rat))
    (crs : Option Nat) {q : Rat × Rat} (hq : q ∈ p :: ps) : (bboxOfPoints (f p) (ps.map f) crs).Contains (f q) :=
  bboxOfPoints_contains _ _ _ (List.mem_map_of_mem (f := f) hq)

theorem bboxOfPoints_map_within (f : Rat × Rat → Rat × Rat) (p : Rat × Rat) (ps : List (Rat × Rat))
    (crs : Option Nat) (c : BBox Rat) (h : ∀ q ∈ p :: ps, c.Contains (f q)) :
    (bboxOfPoints (f p) (ps.map f) crs).Within c :=
  bboxOfPoints_within _ _ _ c ((List.forall_mem_map (l := p :: ps)).mpr h)

/-- `bb.transform A` is the bounding box of the images of the four corners `bb.points` -/
theorem transform_contains_corner (bb : BBox Rat) (A : Aff) {q : Rat × Rat} (hq : q ∈ bb.points) :
    (bb.transform A).Contains (A.apply q) :=
  bboxOfPoints_map_contains A.apply (bb.left, bb.bottom) [(bb.left, bb.top), (bb.right, bb.bottom), (bb.right, bb.top)]
    bb.crs hq

theorem transform_within (bb : BBox Rat) (A : Aff) (c : BBox Rat) (h : ∀ q ∈ bb.points, c.Contains (A.apply q)) :
    (bb.transform A).Within c :=
  bboxOfPoints_map_within A.apply (bb.left, bb.bottom) [(bb.left, bb.top), (bb.right, bb.bottom), (bb.right, bb.top)]
    bb.crs c h

/-- `BoundingBox.transform(A)`: the image of every point of the box lies in the result (each coordinate of the image
is an affine form on the box, so it stays in any range that holds its four corner values). -/
theorem bbox_transform_covers (bb : BBox Rat) (A : Aff) (p : Rat × Rat) (hp : bb.Contains p) :
    (bb.transform A).Contains (A.apply p) := by
  have c00 := transform_contains_corner bb A (q := (bb.left, bb.bottom)) (by simp [BBox.points])
  have c01 := transform_contains_corner bb A (q := (bb.left, bb.top)) (by simp [BBox.points])
  have c10 := transform_contains_corner bb A (q := (bb.right, bb.bottom)) (by simp [BBox.points])
  have c11 := transform_contains_corner bb A (q := (bb.right, bb.top)) (by simp [BBox.points])
  exact A.apply_mem_box ⟨hp.1, hp.2.1⟩ hp.2.2 c00 c10 c11 c01

/-- outward rounding of a pixel-space box to whole pixels, at least one pixel per axis -/
def enclosingRect (P : BBox Rat) : Rect :=
  ⟨P.left.floor, P.bottom.floor, P.left.floor + max 1 (P.right.ceil - P.left.floor),
   P.bottom.floor + max 1 (P.top.ceil - P.bottom.floor)⟩

/-- `enclosing` in one formula: the three refusals in the order the code makes them, otherwise the member of the
grid on the outward-rounded pixel box of the vertices -/
theorem enclosing_eq (g : GeoBox) (rc : Option Nat) (p : Rat × Rat) (ps : List (Rat × Rat)) :
    g.enclosing rc p ps =
      if rc = none then .error .valueError else if g.crs = none then .error .assertion
      else if g.aff.det = 0 then .error .valueError
      else .ok (onGrid g (enclosingRect (bboxOfPoints (g.aff.inv.apply p) (ps.map g.aff.inv.apply) none))) := by
  simp only [GeoBox.enclosing, Aff.inv?, BBox.round, GeoBox.translatePix, onGrid, enclosingRect, add_sub_cancel_left]
  split_ifs <;> rfl

theorem enclosing_eq_onGrid (g : GeoBox) (hdet : g.aff.det ≠ 0) (rc : Option Nat) (hrc : rc ≠ none)
    (hg : g.crs ≠ none) (p : Rat × Rat) (ps : List (Rat × Rat)) :
    g.enclosing rc p ps =
      .ok (onGrid g (enclosingRect (bboxOfPoints (g.aff.inv.apply p) (ps.map g.aff.inv.apply) none))) := by
  rw [enclosing_eq, if_neg hrc, if_neg hg, if_neg hdet]

/-- the world point `w` lies in the footprint of `g` (image of the pixel rectangle `[0,nx]×[0,ny]`) -/
def GeoBox.Covers (g : GeoBox) (w : Rat × Rat) : Prop :=
  ∃ x y : Rat, 0 ≤ x ∧ x ≤ g.nx ∧ 0 ≤ y ∧ y ≤ g.ny ∧ g.aff.apply (x, y) = w

/-- What `enclosing` promises about its result `res` for the vertices `vs` (in the CRS of `g`): it lies on the
source grid (whole-pixel shift `(tx, ty)`), and on each axis its pixel interval encloses the pixel coordinates of
the vertices as `EnclosesAxis` says (`Encloses.covers` for the footprint). -/
structure Encloses (g res : GeoBox) (tx ty : Int) (vs : List (Rat × Rat)) : Prop where
  onGrid : res = onGrid g ⟨tx, ty, tx + res.nx, ty + res.ny⟩
  x : EnclosesAxis vs (fun q => (g.aff.inv.apply q).1) tx res.nx
  y : EnclosesAxis vs (fun q => (g.aff.inv.apply q).2) ty res.ny

/-- **`enclosing`** of a geo-registered region with vertices `p :: ps` (already in the CRS of the GeoBox) -/
theorem enclosing_spec (g : GeoBox) (hdet : g.aff.det ≠ 0) (rc : Option Nat) (hrc : rc ≠ none)
    (hg : g.crs ≠ none) (p : Rat × Rat) (ps : List (Rat × Rat)) :
    ∃ (res : GeoBox) (tx ty : Int), g.enclosing rc p ps = .ok res ∧ Encloses g res tx ty (p :: ps) := by
  obtain ⟨x0, y0, x1, y1⟩ := bboxOfPoints_attained (g.aff.inv.apply p) (ps.map g.aff.inv.apply) none
  have hc := fun q hq => bboxOfPoints_map_contains g.aff.inv.apply p ps none (q := q) hq
  have att : ∀ {φ : Rat × Rat → Rat} {v : Rat}, (∃ q ∈ g.aff.inv.apply p :: ps.map g.aff.inv.apply, φ q = v) →
      ∃ q ∈ p :: ps, φ (g.aff.inv.apply q) = v := fun ⟨q', hq', e⟩ => by
    obtain ⟨q, hq, rfl⟩ := List.mem_map.mp (show q' ∈ (p :: ps).map g.aff.inv.apply from hq')
    exact ⟨q, hq, e⟩
  rw [enclosing_eq_onGrid g hdet rc hrc hg p ps]
  generalize bboxOfPoints (g.aff.inv.apply p) (ps.map g.aff.inv.apply) none = P at x0 y0 x1 y1 hc ⊢
  refine ⟨_, (enclosingRect P).x0, (enclosingRect P).y0, rfl, by simp only [onGrid, enclosingRect, add_sub_cancel], ?_, ?_⟩
  · rw [show (onGrid g (enclosingRect P)).nx = _ from add_sub_cancel_left _ _]
    exact enclose_axis _ _ (att x0) (att x1) fun q hq => ⟨(hc q hq).1, (hc q hq).2.1⟩
  · rw [show (onGrid g (enclosingRect P)).ny = _ from add_sub_cancel_left _ _]
    exact enclose_axis _ _ (att y0) (att y1) fun q hq => (hc q hq).2.2

theorem Encloses.aff_eq {g res : GeoBox} {tx ty : Int} {vs : List (Rat × Rat)} (e : Encloses g res tx ty vs) :
    res.aff = g.aff * Aff.translation tx ty := by
  rw [e.onGrid]; rfl

theorem Encloses.covers {g res : GeoBox} {tx ty : Int} {vs : List (Rat × Rat)} (e : Encloses g res tx ty vs)
    (hdet : g.aff.det ≠ 0) {q : Rat × Rat} (hq : q ∈ vs) : res.Covers q := by
  obtain ⟨⟨x0, x1⟩, y0, y1⟩ := e.x.bounds q hq, e.y.bounds q hq
  refine ⟨_, _, sub_nonneg.mpr x0, sub_le_iff_le_add'.mpr x1, sub_nonneg.mpr y0, sub_le_iff_le_add'.mpr y1, ?_⟩
  rw [e.aff_eq, Aff.apply_mul_translation]
  simp only [sub_add_cancel]
  exact Aff.apply_inv_apply g.aff hdet q

/-! ## Part D — `snap_to` -/

/-- **`snap_to`**: when `other` has the same pixel size and orientation (`other = self` moved by
any, generally fractional, `(tx, ty)` pixels) the result is `self` moved by at most half a pixel
per axis, shape unchanged, and it lies on `other`'s grid: a whole-pixel shift from `other`,
exactly — except that a required move below `1e-8` px is not made (`maybe_zero`), leaving the
result within `1e-8` px of the grid. -/
theorem snap_to_half_pixel (self other : GeoBox) (hdet : self.aff.det ≠ 0) (tx ty : Rat)
    (h : other.aff = self.aff * Aff.translation tx ty) (hc : other.crs = self.crs) :
    ∃ (res : GeoBox) (dx dy : Rat) (kx ky : Int) (ex ey : Rat), self.snapTo other = .ok res ∧
      res.aff = self.aff * Aff.translation dx dy ∧ res.nx = self.nx ∧ res.ny = self.ny ∧
      res.crs = self.crs ∧ |dx| ≤ 1 / 2 ∧ |dy| ≤ 1 / 2 ∧
      res.aff = other.aff * Aff.translation (kx + ex) (ky + ey) ∧
      (ex = 0 ∨ (dx = 0 ∧ |ex| < tolPix)) ∧ (ey = 0 ∨ (dy = 0 ∧ |ey| < tolPix)) := by
  have key : ∀ dx dy : Rat, self.aff * Aff.translation dx dy =
      other.aff * Aff.translation (dx - tx) (dy - ty) := by
    intro dx dy
    rw [h, Aff.mul_assoc', Aff.translation_mul_translation]
    congr 2 <;> ring
  simp only [GeoBox.snapTo, pixelTranslation_of_mul other self hc hdet tx ty h, GeoBox.translatePix]
  have sub_cases : ∀ t : Rat, |subpix t| ≤ 1 / 2 ∧ ∃ (w : Int) (e : Rat), subpix t - t = ((-w : Int) : Rat) + e ∧
      (e = 0 ∨ (subpix t = 0 ∧ |e| < tolPix)) := by
    intro t
    obtain ⟨w, -, hw, habs⟩ := splitFloat_spec t
    unfold subpix maybeZero
    rw [qabs_eq_abs]
    split
    · exact ⟨by simp, w, -(splitFloat t).2, by push_cast; linarith, Or.inr ⟨rfl, by rwa [abs_neg]⟩⟩
    · exact ⟨habs, w, 0, by push_cast; linarith, Or.inl rfl⟩
  obtain ⟨ax, wx, ex, hex, hex'⟩ := sub_cases tx
  obtain ⟨ay, wy, ey, hey, hey'⟩ := sub_cases ty
  refine ⟨_, subpix tx, subpix ty, -wx, -wy, ex, ey, rfl, rfl, rfl, rfl, rfl, ax, ay, ?_, hex', hey'⟩
  show self.aff * Aff.translation (subpix tx) (subpix ty) = _
  rw [key, hex, hey]

/-! ## Part E — incompatible grids are rejected -/

/-- Python `round`: nearest integer, ties go to the even one. -/
theorem pyRound_spec (x : Rat) :
    |x - pyRound x| ≤ 1 / 2 ∧ (|x - pyRound x| = 1 / 2 → pyRound x % 2 = 0) :=
  Gen.Py.roundHalfEven_spec x

theorem pyRound_near (x : Rat) (k : Int) (h : |x - k| < 1 / 2) : pyRound x = k :=
  Gen.Py.roundHalfEven_near h

/-- What `bounding_box_in_pixel_domain(g, ref, tol)` decides, in one formula: with
`M = ~ref.affine * g.affine`, it succeeds exactly when the CRSs are equal, `ref` is invertible,
`M`'s linear part passes the four `isclose` tests and both offsets pass `is_almost_int`; every
failure is a `ValueError` (to which the model also maps the `TransformNotInvertibleError` of a degenerate `ref`, see
`pixelTranslation`). -/
theorem bbpd_eq (g ref : GeoBox) (tol : Rat) :
    bboxInPixelDomain g ref tol =
      if g.crs = ref.crs ∧ ref.aff.det ≠ 0 ∧
         closeOne (ref.aff.inv * g.aff).a = true ∧ closeZero (ref.aff.inv * g.aff).b = true ∧
         closeZero (ref.aff.inv * g.aff).d = true ∧ closeOne (ref.aff.inv * g.aff).e = true ∧
         isAlmostInt (ref.aff.inv * g.aff).c tol = true ∧ isAlmostInt (ref.aff.inv * g.aff).f tol = true
      then .ok ⟨pyRound (ref.aff.inv * g.aff).c, pyRound (ref.aff.inv * g.aff).f,
                pyRound (ref.aff.inv * g.aff).c + g.nx, pyRound (ref.aff.inv * g.aff).f + g.ny, none⟩
      else .error .valueError := by
  unfold bboxInPixelDomain pixelTranslation Aff.inv?
  by_cases h1 : g.crs = ref.crs
  · by_cases h2 : ref.aff.det = 0
    · simp only [h1, h2, ne_eq, not_true_eq_false, if_false, if_true, false_and, and_false]
    · simp only [h1, h2, ne_eq, not_true_eq_false, not_false_eq_true, if_false, true_and, Bool.and_eq_true,
        Bool.not_eq_true', Bool.and_eq_false_iff]
      split_ifs <;> simp_all
  · simp only [h1, ne_eq, not_false_eq_true, if_true, false_and, if_false]

theorem bbpd_error {g ref : GeoBox} {tol : Rat} {e : ErrKind} (h : bboxInPixelDomain g ref tol = .error e) :
    e = .valueError := by
  rw [bbpd_eq] at h
  split at h <;> cases h
  rfl

/-- **Accepted ⇒ compatible.**  If the pixel-domain bounding box of `g` with respect to `ref` is
computed at all, then: same CRS; and the pixel-to-pixel transform `M = ~ref.affine * g.affine`
has `|sx−1|, |sy−1| ≤ 1e-8 + 1e-5`, `|z1|, |z2| ≤ 1e-8`, and both offsets within `tol` of an
integer.  (Contrapositive: a different CRS, pixel size, orientation, or a sub-pixel offset
beyond the thresholds is rejected.) -/
theorem incompatible_rejected (g ref : GeoBox) (tol : Rat) (bb : BBox Int)
    (h : bboxInPixelDomain g ref tol = .ok bb) :
    g.crs = ref.crs ∧ ref.aff.det ≠ 0 ∧
    |(ref.aff.inv * g.aff).a - 1| ≤ tolOne ∧ |(ref.aff.inv * g.aff).e - 1| ≤ tolOne ∧
    |(ref.aff.inv * g.aff).b| ≤ tolZero ∧ |(ref.aff.inv * g.aff).d| ≤ tolZero ∧
    (∃ kx : Int, |(ref.aff.inv * g.aff).c - kx| < tol) ∧
    (∃ ky : Int, |(ref.aff.inv * g.aff).f - ky| < tol) := by
  rw [bbpd_eq] at h
  split at h
  · rename_i hc
    obtain ⟨c1, c2, c3, c4, c5, c6, c7, c8⟩ := hc
    simp only [closeOne, closeZero, decide_eq_true_eq, qabs_eq_abs] at c3 c4 c5 c6
    exact ⟨c1, c2, c3, c6, c4, c5, (isAlmostInt_iff _ _).mp c7, (isAlmostInt_iff _ _).mp c8⟩
  · cases h

/-- **Compatible ⇒ accepted, and treated as the whole-pixel shift.**  A grid within `tol ≤ 1/2` px
of a whole-pixel shift `(kx, ky)` of `ref` is accepted and handled exactly as that shift (the
converse of `incompatible_rejected` for grids of equal pixel size and orientation). -/
theorem compatible_accepted (g ref : GeoBox) (hcrs : g.crs = ref.crs) (hdet : ref.aff.det ≠ 0)
    (kx ky : Int) (ex ey tol : Rat) (h : g.aff = ref.aff * Aff.translation (kx + ex) (ky + ey))
    (hx : |ex| < tol) (hy : |ey| < tol) (htol : tol ≤ 1 / 2) :
    bboxInPixelDomain g ref tol = .ok ⟨kx, ky, kx + g.nx, ky + g.ny, none⟩ := by
  have near : ∀ (k : Int) (e : Rat), |e| < tol → isAlmostInt (k + e) tol = true ∧ pyRound (k + e) = k :=
    fun k e he => ⟨(isAlmostInt_iff _ _).mpr ⟨k, by rwa [add_sub_cancel_left]⟩,
      pyRound_near _ _ (by rw [add_sub_cancel_left]; exact he.trans_le htol)⟩
  unfold bboxInPixelDomain
  rw [pixelTranslation_of_mul g ref hcrs hdet _ _ h]
  simp [near kx ex hx, near ky ey hy]

theorem bbpd_crs_none (g ref : GeoBox) (tol : Rat) (bb : BBox Int) (h : bboxInPixelDomain g ref tol = .ok bb) :
    bb.crs = none := by
  rw [bbpd_eq] at h
  split at h
  · cases h; rfl
  · cases h

theorem bbpd_self (a : GeoBox) (hdet : a.aff.det ≠ 0) (tol : Rat) (htol : 0 < tol) :
    bboxInPixelDomain a a tol = .ok ⟨0, 0, a.nx, a.ny, none⟩ := by
  have := bboxInPixelDomain_of_mul a a rfl hdet 0 0 (by rw [Int.cast_zero, Aff.translation_zero, Aff.mul_id]) tol htol
  rwa [zero_add, zero_add] at this

theorem geoboxOfPixBBox_self (a : GeoBox) : geoboxOfPixBBox a ⟨0, 0, a.nx, a.ny, none⟩ = a := by
  simp only [geoboxOfPixBBox, sub_zero, Int.cast_zero, Aff.translation_zero, Aff.mul_id]

theorem or_eq_bbpd (a b : GeoBox) (hdet : a.aff.det ≠ 0) :
    a.or b = (bboxInPixelDomain b a tolPix).map fun bb =>
      geoboxOfPixBBox a ⟨min bb.left 0, min bb.bottom 0, max bb.right a.nx, max bb.top a.ny, none⟩ := by
  simp only [GeoBox.or, geoboxUnionConservative, allBBoxes, bbpd_self a hdet tolPix tolPix_pos]
  cases hb : bboxInPixelDomain b a tolPix with
  | error e => rfl
  | ok bb =>
    simp only [Except.map, bboxUnion, foldRes, unionStep, bbpd_crs_none b a tolPix bb hb, ne_eq, not_true_eq_false,
      if_false]

theorem and_eq_bbpd (a b : GeoBox) (hdet : a.aff.det ≠ 0) :
    a.and b = (bboxInPixelDomain b a tolPix).map fun bb =>
      geoboxOfPixBBox a (normEmpty ⟨max bb.left 0, max bb.bottom 0, min bb.right a.nx, min bb.top a.ny, none⟩) := by
  simp only [GeoBox.and, geoboxIntersectionConservative, allBBoxes, bbpd_self a hdet tolPix tolPix_pos]
  cases hb : bboxInPixelDomain b a tolPix with
  | error e => rfl
  | ok bb =>
    simp only [Except.map, bboxIntersection, foldRes, interStep, bbpd_crs_none b a tolPix bb hb, ne_eq,
      not_true_eq_false, if_false]

theorem ops_succeed_of_accepted (a b : GeoBox) (hdet : a.aff.det ≠ 0) (bb : BBox Int)
    (h : bboxInPixelDomain b a tolPix = .ok bb) :
    (∃ u, a.or b = .ok u) ∧ (∃ i, a.and b = .ok i) ∧ (∃ roi, a.overlapRoi b tolPix = .ok roi) :=
  ⟨⟨_, by rw [or_eq_bbpd a b hdet, h]; rfl⟩, ⟨_, by rw [and_eq_bbpd a b hdet, h]; rfl⟩,
   ⟨_, by rw [GeoBox.overlapRoi, h]⟩⟩

/-- A grid that differs from `ref` by the pixel-space transform `M` (`g.affine = ref.affine * M`)
with `M` outside the thresholds is rejected with `ValueError`. -/
theorem relative_transform_rejected (g ref : GeoBox) (M : Aff) (hdet : ref.aff.det ≠ 0)
    (hM : g.aff = ref.aff * M) (tol : Rat)
    (hbad : tolOne < |M.a - 1| ∨ tolOne < |M.e - 1| ∨ tolZero < |M.b| ∨ tolZero < |M.d| ∨
            (∀ k : Int, tol ≤ |M.c - k|) ∨ (∀ k : Int, tol ≤ |M.f - k|)) :
    bboxInPixelDomain g ref tol = .error .valueError := by
  cases hres : bboxInPixelDomain g ref tol with
  | error e => rw [bbpd_error hres]
  | ok bb =>
    exfalso
    obtain ⟨_, _, a1, a2, a3, a4, ⟨kx, a5⟩, ⟨ky, a6⟩⟩ := incompatible_rejected g ref tol bb hres
    rw [hM, Aff.inv_mul_cancel_left _ _ hdet] at a1 a2 a3 a4 a5 a6
    rcases hbad with h | h | h | h | h | h
    exacts [h.not_ge a1, h.not_ge a2, h.not_ge a3, h.not_ge a4, (h kx).not_gt a5, (h ky).not_gt a6]

/-- A rejected operand makes `|`, `&` and `overlap_roi` fail with the same `ValueError` (nothing is
resampled silently), whichever of the two is the reference for the failing test. -/
theorem rejection_propagates (a b : GeoBox) (tol : Rat)
    (h : bboxInPixelDomain b a tolPix = .error .valueError) :
    a.or b = .error .valueError ∧ a.and b = .error .valueError ∧
    (bboxInPixelDomain b a tol = .error .valueError → a.overlapRoi b tol = .error .valueError) := by
  have hall : allBBoxes a tolPix [a, b] = .error .valueError := by
    simp only [allBBoxes, h]
    cases haa : bboxInPixelDomain a a tolPix with
    | error e => rw [bbpd_error haa]
    | ok bb => rfl
  exact ⟨by simp only [GeoBox.or, geoboxUnionConservative, hall],
    by simp only [GeoBox.and, geoboxIntersectionConservative, hall],
    fun h' => by simp only [GeoBox.overlapRoi, h']⟩

theorem crs_mismatch_rejected (a b : GeoBox) (hc : a.crs ≠ b.crs) (tol : Rat) :
    a.or b = .error .valueError ∧ a.and b = .error .valueError ∧
    a.overlapRoi b tol = .error .valueError ∧ a.snapTo b = .error .valueError := by
  have hb : ∀ t, bboxInPixelDomain b a t = .error .valueError := fun t => by
    rw [bbpd_eq, if_neg fun h => hc h.1.symm]
  obtain ⟨h1, h2, h3⟩ := rejection_propagates a b tol (hb tolPix)
  refine ⟨h1, h2, h3 (hb tol), ?_⟩
  simp [GeoBox.snapTo, pixelTranslation, Ne.symm hc]

/-- The defect of `overlap_roi` without the clamp of each stop at its start (`overlapRoiUnrepaired`;
replayed on the real code by the harness, key `overlap-roi-not-shared-pixels`): for `b` wholly to the
left of `a` the ROI has a negative stop, which numpy wraps around — column 0 of `a` is selected although
`a & b` is empty.  The clamped `overlap_roi` gives an empty slice. -/
theorem overlap_roi_unrepaired_cex :
    let a : GeoBox := onGrid ⟨0, 0, Aff.id, some 1⟩ ⟨0, 0, 10, 10⟩
    let b : GeoBox := onGrid ⟨0, 0, Aff.id, some 1⟩ ⟨-8, 2, -5, 5⟩
    a.overlapRoiUnrepaired b tolPix = .ok ⟨2, 5, 0, -5⟩ ∧
    PySlice.Sel 10 (.slc (some 0) (some (-5))) 0 ∧
    (∃ g, a.and b = .ok g ∧ g.isEmpty = true) ∧
    a.overlapRoi b tolPix = .ok ⟨2, 5, 0, 0⟩ := by
  have hdet : (⟨0, 0, Aff.id, some 1⟩ : GeoBox).aff.det ≠ 0 := by simp [Aff.det, Aff.id]
  refine ⟨?_, by decide, ⟨_, and_onGrid _ hdet _ _, by decide⟩, ?_⟩
  · simp only [GeoBox.overlapRoiUnrepaired, bbpd_onGrid _ hdet _ _ _ tolPix_pos]
    decide
  · simp only [GeoBox.overlapRoi, bbpd_onGrid _ hdet _ _ _ tolPix_pos]
    decide

/-- non-vacuity: a rotated, scaled base grid satisfies the hypotheses of Part B -/
example : (⟨4, 5, ⟨3, -4, 100, 4, 3, 200⟩, some 1⟩ : GeoBox).aff.det ≠ 0 := by
  simp [Aff.det]; norm_num

/-- instances of `relative_transform_rejected`: double pixel size, 90° rotation, mirror image, half-pixel offset -/
theorem rejected_examples (ref : GeoBox) (hdet : ref.aff.det ≠ 0) (ny nx : Int) (c f : Rat) :
    bboxInPixelDomain ⟨ny, nx, ref.aff * ⟨2, 0, c, 0, 2, f⟩, ref.crs⟩ ref tolPix = .error .valueError ∧
    bboxInPixelDomain ⟨ny, nx, ref.aff * ⟨0, -1, c, 1, 0, f⟩, ref.crs⟩ ref tolPix = .error .valueError ∧
    bboxInPixelDomain ⟨ny, nx, ref.aff * ⟨-1, 0, c, 0, 1, f⟩, ref.crs⟩ ref tolPix = .error .valueError ∧
    bboxInPixelDomain ⟨ny, nx, ref.aff * Aff.translation (1 / 2) 0, ref.crs⟩ ref tolPix = .error .valueError := by
  have t1 : tolOne < 1 := by unfold tolOne; norm_num
  refine ⟨?_, ?_, ?_, ?_⟩
  · exact relative_transform_rejected _ ref _ hdet rfl _ (Or.inl (by norm_num; exact t1))
  · exact relative_transform_rejected _ ref _ hdet rfl _ (Or.inl (by norm_num; exact t1))
  · exact relative_transform_rejected _ ref _ hdet rfl _ (Or.inl (by norm_num; linarith))
  · refine relative_transform_rejected _ ref _ hdet rfl _ (Or.inr (Or.inr (Or.inr (Or.inr (Or.inl fun k => ?_)))))
    calc tolPix ≤ |(1 / 2 : Rat) - (0 : Int)| := by norm_num; exact tolPix_le_half
      _ ≤ |1 / 2 - (k : Rat)| := abs_sub_intCast_le (by norm_num) k

end OdcGeo.C16
