/- C01 — operations never silently mix coordinate reference systems.

Every theorem about `run` is stated for an **arbitrary** `OpSpec` (any walk, any arity, any
error kind) and an arbitrary delegate, which is stronger than quantifying over `opTable`;
the `table_*` theorems record the facts that are specific to `opTable`.  Also here: the first-mismatch
forms of the interleaved walks (no `StepsTotal`), operations as statement lists (`Prog.safe`),
`norm_crs_or_error`, the bounding-box folds with their real arithmetic, the converting operations
(`ConvSound`) and the equality tests. -/
import OdcGeo.Model.C01
import OdcGeo.Lemmas.C01
namespace OdcGeo.C01

variable {S R : Type}

theorem crsEq_refl (a : CrsRec) : crsEq a a = true := if_pos rfl

theorem crsEq_symm (a b : CrsRec) : crsEq a b = crsEq b a := crsEq_symm' a b

/-- For well-formed records `CRS.__eq__` decides exactly pyproj equality. -/
theorem crsEq_iff_sameClass (a b : CrsRec) (h : WF a b) : crsEq a b = true ↔ a.cls = b.cls := by
  unfold crsEq
  by_cases h1 : a.objId = b.objId
  · simp [h1, h.obj h1]
  · by_cases h2 : a.epsg ≠ 0 ∧ b.epsg ≠ 0
    · rw [if_neg h1, if_pos h2, decide_eq_true_eq]
      exact h.epsg h2.1 h2.2
    · by_cases h4 : a.str = b.str
      · simp [h1, h2, h4, h.str h4]
      · simp [h1, h2, h4]

/-- The same CRS in another spelling (EPSG code vs WKT vs PROJJSON …) is accepted. -/
theorem crsEq_spelling (a b : CrsRec) (h : WF a b) (hc : a.cls = b.cls) : crsEq a b = true :=
  (crsEq_iff_sameClass a b h).mpr hc

/-- On well-formed records `CRS.__eq__` is transitive (it is not on arbitrary records). -/
theorem crsEq_trans (a b c : CrsRec) (hab : WF a b) (hbc : WF b c) (hac : WF a c)
    (h1 : crsEq a b = true) (h2 : crsEq b c = true) : crsEq a c = true :=
  (crsEq_iff_sameClass a c hac).mpr
    (((crsEq_iff_sameClass a b hab).mp h1).trans ((crsEq_iff_sameClass b c hbc).mp h2))

/-- Without well-formedness transitivity fails: this is why `WF` is checked on the live CRS pool. -/
theorem crsEq_not_trans_cex :
    crsEq ⟨1, 5, 1, 1⟩ ⟨2, 0, 1, 2⟩ = true ∧ crsEq ⟨2, 0, 1, 2⟩ ⟨3, 6, 3, 2⟩ = true ∧
    crsEq ⟨1, 5, 1, 1⟩ ⟨3, 6, 3, 2⟩ = false := by decide

/-- The EPSG short-cut needs a code on both sides: without it, records that differ in object, text and
pyproj class are unequal. -/
theorem crsEq_of_distinct {a b : CrsRec} (he : a.epsg = 0 ∨ b.epsg = 0) (ho : a.objId ≠ b.objId)
    (hs : a.str ≠ b.str) (hc : a.cls ≠ b.cls) : crsEq a b = false := by
  unfold crsEq
  rw [if_neg ho, if_neg fun h => he.elim h.1 h.2, if_neg hs]
  exact decide_eq_false hc

/-- "exactly one operand has no CRS" always counts as a mismatch, in both operand orders -/
theorem tagNe_none_some (c : CrsRec) : tagNe none (some c) = true ∧ tagNe (some c) none = true :=
  ⟨rfl, rfl⟩

theorem tagNe_none_none : tagNe none none = false := rfl

/-- what leaves the operation on a CRS mismatch -/
def raisedErr (op : OpSpec) : Err :=
  match op.walk with
  | .pixelEach => op.mismatchErr.asValueError
  | _ => op.mismatchErr

/-- delegates that cannot fail between two CRS checks (only the interleaved walks need it) -/
def StepsTotal (D : Delegate S R) (op : OpSpec) : Prop :=
  match op.walk with
  | .reduce => ∀ acc s, ∃ acc', D.step op.name acc s = .ok acc'
  | .pixelEach => ∀ s r, ∃ b, D.pix op.name s r = .ok b
  | _ => True

theorem run_of_not_allEq (op : OpSpec) (D : Delegate S R) (x0 : Obj S) (rest : List (Obj S))
    (hna : ¬ AllEq x0.crs rest) :
    ∃ e, run op D (x0 :: rest) = .error e ∧
      ((op.arity = .two → rest.length = 1) → StepsTotal D op → e = raisedErr op) := by
  unfold run
  dsimp only
  by_cases har : op.arity = .two ∧ rest.length ≠ 1
  · rw [if_pos har]; exact ⟨_, rfl, fun h => absurd (h har.1) har.2⟩
  · rw [if_neg har]
    unfold StepsTotal raisedErr
    cases op.walk with
    | guardFirst rev =>
      dsimp only
      rw [(guardAll_spec rev _ _ rest).2 hna]
      exact ⟨_, rfl, fun _ _ => rfl⟩
    | reduce =>
      obtain ⟨e', he, ht⟩ := (reduceGo_spec D op.name op.mismatchErr x0.crs rest (D.init op.name x0.raw)).2 hna
      dsimp only
      rw [he]
      exact ⟨e', rfl, fun _ hD => ht hD⟩
    | foldCheckInside =>
      dsimp only
      rw [(foldGo_spec D _ _ _ rest _).2 hna]
      exact ⟨_, rfl, fun _ _ => rfl⟩
    | pixelEach =>
      obtain ⟨e', he, ht⟩ := (pixGo_spec D op.name op.mismatchErr x0 (x0 :: rest)).2 fun h => hna (allEq_cons.mp h).2
      dsimp only
      rw [he]
      exact ⟨_, rfl, fun _ hD => congrArg Err.asValueError (ht hD)⟩

/-- **No mixed result**: whenever an operation returns, every operand's CRS compared equal to
the first operand's.  No hypothesis on the delegate, the operand count or the walk. -/
theorem no_mixed_result (op : OpSpec) (D : Delegate S R) (x0 : Obj S) (rest : List (Obj S))
    (r : Out R) (h : run op D (x0 :: rest) = .ok r) : ∀ x ∈ rest, tagEq x0.crs x.crs = true :=
  Decidable.byContradiction fun hna => by
    obtain ⟨e, he, _⟩ := run_of_not_allEq op D x0 rest hna
    rw [he] at h; cases h

/-- A mismatch anywhere (in particular exactly one operand without CRS) never yields a result. -/
theorem mismatch_never_ok (op : OpSpec) (D : Delegate S R) (x0 : Obj S) (rest : List (Obj S))
    (hmis : ∃ x ∈ rest, tagNe x0.crs x.crs = true) : ∃ e, run op D (x0 :: rest) = .error e :=
  let ⟨e, he, _⟩ := run_of_not_allEq op D x0 rest (not_allEq_of_mismatch hmis)
  ⟨e, he⟩

/-- **Mismatch raises**: with the right number of operands, a mismatch anywhere raises the
operation's CRS error (`CRSMismatchError`, or the GeoBox family's `ValueError`), for operand
lists of any length.  For the two interleaved walks the delegate must not fail first
(`StepsTotal`; see `mismatch_raises_two` for the hypothesis-free binary case). -/
theorem mismatch_raises (op : OpSpec) (D : Delegate S R) (x0 : Obj S) (rest : List (Obj S))
    (har : op.arity = .two → rest.length = 1) (hD : StepsTotal D op)
    (hmis : ∃ x ∈ rest, tagNe x0.crs x.crs = true) :
    run op D (x0 :: rest) = .error (raisedErr op) := by
  obtain ⟨e, he, h⟩ := run_of_not_allEq op D x0 rest (not_allEq_of_mismatch hmis)
  rw [he, h har hD]

/-- Binary form (`a.op(b)`, `a | b`, …): no assumption on shapely; for the GeoBox `|`/`&` only
that the reference's own pixel box can be computed. -/
theorem mismatch_raises_two (op : OpSpec) (D : Delegate S R) (a b : Obj S)
    (hpix : op.walk = .pixelEach → ∃ bx, D.pix op.name a.raw a.raw = .ok bx)
    (hmis : tagNe a.crs b.crs = true) :
    run op D [a, b] = .error (raisedErr op) := by
  unfold run raisedErr
  have hne' : tagNe b.crs a.crs = true := by rw [tagNe_symm]; exact hmis
  cases hw : op.walk with
  | guardFirst rev =>
    cases rev <;> simp [guardAll, hmis, hne']
  | reduce => simp [reduceGo, hmis]
  | foldCheckInside => simp [foldGo, hmis]
  | pixelEach =>
    obtain ⟨bx, hb⟩ := hpix hw
    have hself : tagNe a.crs a.crs = false := by simp [tagNe, tagEq_refl]
    simp [pixGo, hself, hb, hne']

/-- **Equal delegates**: when all CRSs compare equal (in whatever spelling) the result is
exactly the un-guarded computation on the raw shapes, re-tagged with the first operand's CRS
(or left untagged for predicates / ROIs), errors of the delegate included. -/
theorem equal_delegates (op : OpSpec) (D : Delegate S R) (x0 : Obj S) (rest : List (Obj S))
    (heq : ∀ x ∈ rest, tagEq x0.crs x.crs = true) :
    run op D (x0 :: rest) = (rawRun op D (x0.raw :: rest.map (·.raw))).map (retag op x0.crs) := by
  unfold run rawRun
  dsimp only
  by_cases har : op.arity = .two ∧ rest.length ≠ 1
  · rw [if_pos har, if_pos (by rwa [List.length_map])]; rfl
  · rw [if_neg har, if_neg (by rwa [List.length_map])]
    cases op.walk with
    | guardFirst rev =>
      dsimp only
      rw [(guardAll_spec rev _ _ rest).1 heq]
      cases D.call op.name (x0.raw :: rest.map (·.raw)) <;> rfl
    | reduce =>
      dsimp only
      rw [(reduceGo_spec D _ _ _ rest _).1 heq]
      cases rawReduce D op.name (D.init op.name x0.raw) (rest.map (·.raw)) <;> rfl
    | foldCheckInside =>
      dsimp only
      rw [(foldGo_spec D _ _ _ rest _).1 heq]
      rfl
    | pixelEach =>
      dsimp only
      rw [(pixGo_spec D _ _ x0 (x0 :: rest)).1 (allEq_cons.mpr ⟨tagEq_refl _, heq⟩), List.map_cons]
      cases rawPix D op.name x0.raw (x0.raw :: rest.map (·.raw)) with
      | error e => rfl
      | ok bs => dsimp only; cases D.fin op.name x0.raw bs <;> rfl

/-- no operands at all: nothing to mix; the model answers what the raw operation answers -/
theorem equal_delegates_nil (op : OpSpec) (D : Delegate S R) :
    run op D [] = (rawRun op D []).map (retag op none) := by
  unfold run rawRun
  cases op.arity with
  | two => rfl
  | many => cases op.onEmpty <;> rfl

/-- the result carries the first operand's CRS, or no CRS at all when it is not a geo-object -/
theorem result_tag (op : OpSpec) (D : Delegate S R) (x0 : Obj S) (rest : List (Obj S))
    (t : Option Tag) (r : R) (h : run op D (x0 :: rest) = .ok (.val t r)) :
    t = outTag op x0.crs := by
  rw [equal_delegates op D x0 rest (no_mixed_result op D x0 rest _ h)] at h
  generalize rawRun op D _ = q at h
  cases q with
  | error e => cases h
  | ok o =>
    cases o with
    | none => cases h
    | some r' => cases h; rfl

theorem tagEq_trans (a b c : Tag) (hab : TagWF a b) (hbc : TagWF b c) (hac : TagWF a c)
    (h1 : tagEq a b = true) (h2 : tagEq b c = true) : tagEq a c = true := by
  cases a <;> cases b <;> cases c <;> simp_all [tagEq, TagWF]
  exact crsEq_trans _ _ _ hab hbc hac h1 h2

/-- With well-formed CRS records a returned result means that **all operands pairwise** carry
equal CRSs (not only "equal to the first"): nothing computed from two different systems. -/
theorem no_mixed_result_pairwise (op : OpSpec) (D : Delegate S R) (x0 : Obj S) (rest : List (Obj S))
    (r : Out R) (h : run op D (x0 :: rest) = .ok r)
    (hwf : ∀ x ∈ x0 :: rest, ∀ y ∈ x0 :: rest, TagWF x.crs y.crs) :
    ∀ x ∈ x0 :: rest, ∀ y ∈ x0 :: rest, tagEq x.crs y.crs = true := by
  have hfirst : ∀ x ∈ x0 :: rest, tagEq x0.crs x.crs = true :=
    List.forall_mem_cons.mpr ⟨tagEq_refl _, no_mixed_result op D x0 rest r h⟩
  have h0 := List.mem_cons_self (a := x0) (l := rest)
  intro x hx y hy
  exact tagEq_trans x.crs x0.crs y.crs (hwf x hx x0 h0) (hwf x0 h0 y hy) (hwf x hx y hy)
    (tagEq_symm .. ▸ hfirst x hx) (hfirst y hy)

/-- `bbox_union` / `bbox_intersection` loop: whatever follows the first differing box is never
looked at, and the (already updated) accumulator is discarded. -/
theorem fold_first_mismatch (D : Delegate S R) (name : String) (e : Err) (t0 : Tag) (acc : R)
    (pre post : List (Obj S)) (y : Obj S)
    (_hpre : ∀ x ∈ pre, tagEq t0 x.crs = true) (hy : tagNe t0 y.crs = true) :
    foldGo D name e t0 acc (pre ++ y :: post) = .error e :=
  (foldGo_spec D name e t0 (pre ++ y :: post) acc).2 (not_allEq_of_mismatch ⟨y, by simp, hy⟩)

theorem table_names_nodup : (opTable.map (·.name)).Nodup := nodup_of_sized (by decide +kernel)

/-- every table entry raises a `ValueError` (CRSMismatchError or plain) on mismatch, also after
the re-raise inside the bounding-box fold -/
theorem table_mismatch_is_valueError :
    ∀ op ∈ opTable, (raisedErr op).isValueError = true ∧ raisedErr op = op.mismatchErr := by decide +kernel

theorem table_mismatch_raises (op : OpSpec) (hop : op ∈ opTable) (D : Delegate S R) (x0 : Obj S)
    (rest : List (Obj S)) (har : op.arity = .two → rest.length = 1) (hD : StepsTotal D op)
    (hmis : ∃ x ∈ rest, tagNe x0.crs x.crs = true) :
    ∃ e, run op D (x0 :: rest) = .error e ∧ e.isValueError = true :=
  ⟨raisedErr op, mismatch_raises op D x0 rest har hD hmis, (table_mismatch_is_valueError op hop).1⟩

/-- the positional-only operations are table entries, each a guard-first binary `Geometry` method -/
theorem positionalOnly_in_table :
    ∀ n ∈ positionalOnly, ∃ op ∈ opTable, op.name = n ∧ op.walk = .guardFirst false ∧ op.arity = .two := by
  intro n hn
  obtain ⟨m, hm, rfl⟩ := List.mem_map.mp hn
  -- the first eight names are those of the table's `geomPred` entries, the other eight those of `geomSet`
  have halves : ∀ l : List String, m ∈ l → m ∈ l.take 8 ∨ m ∈ l.drop 8 :=
    fun l h => List.mem_append.mp (by rwa [List.take_append_drop])
  rcases halves _ hm with h | h
  · exact ⟨geomPred m, List.mem_append_left _ (List.mem_append_left _ (List.mem_map_of_mem h)), rfl, rfl, rfl⟩
  · exact ⟨geomSet m, List.mem_append_left _ (List.mem_append_right _ (List.mem_map_of_mem h)), rfl, rfl, rfl⟩

/-- every operation takes its operands positionally.  The call form is not a parameter of `run`:
a refused form is a `TypeError` from Python's argument binding (no result, hence no mixed one),
an accepted one is the operation `run` models. -/
theorem callForm_positional_always (n : String) : callFormAccepted n .positional = true := rfl

/-- a foreign CRS object is identified by its own WKT whatever its (fuzzy) `to_epsg()` or
`to_string()` say, and is refused without `to_wkt()` -/
theorem foreign_identity_ignores_epsg (w e e' s s' : Bool) :
    foreignIdentity w e s = foreignIdentity w e' s' ∧
    (foreignIdentity true e s = .ok .wkt) ∧ (∃ err, foreignIdentity false e s = .error err) :=
  ⟨rfl, rfl, _, rfl⟩

/-- `mismatch_raises` without `StepsTotal`, for `functools.reduce`: the CRS error is raised at
the first differing operand provided shapely succeeded on the CRS-consistent operands before
it (if shapely fails earlier, that failure is what propagates — still no result). -/
theorem reduce_first_mismatch (D : Delegate S R) (name : String) (e : Err) (t0 : Tag) :
    ∀ (pre : List (Obj S)) (acc acc' : R) (y : Obj S) (post : List (Obj S)),
      (∀ x ∈ pre, tagEq t0 x.crs = true) → rawReduce D name acc (pre.map (·.raw)) = .ok acc' →
      tagNe t0 y.crs = true → reduceGo D name e t0 acc (pre ++ y :: post) = .error e := by
  intro pre
  induction pre with
  | nil => intro acc acc' y post _ _ hy; exact if_pos hy
  | cons x pre ih =>
    intro acc acc' y post hall
    obtain ⟨hx, hpre⟩ := List.forall_mem_cons.mp hall
    rw [List.map_cons, rawReduce, List.cons_append, reduceGo, (tagNe_false_iff _ _).mpr hx]
    cases D.step name acc x.raw with
    | error e' => nofun
    | ok a1 => exact ih a1 acc' y post hpre

/-- the same for the pixel-domain generator of `geobox_*_conservative` -/
theorem pixel_first_mismatch (D : Delegate S R) (name : String) (e : Err) (ref : Obj S) :
    ∀ (pre : List (Obj S)) (bs : List R) (y : Obj S) (post : List (Obj S)),
      (∀ x ∈ pre, tagEq ref.crs x.crs = true) → rawPix D name ref.raw (pre.map (·.raw)) = .ok bs →
      tagNe y.crs ref.crs = true → pixGo D name e ref (pre ++ y :: post) = .error e := by
  intro pre
  induction pre with
  | nil => intro bs y post _ _ hy; exact if_pos hy
  | cons x pre ih =>
    intro bs y post hall
    obtain ⟨hx, hpre⟩ := List.forall_mem_cons.mp hall
    rw [List.map_cons, rawPix, List.cons_append, pixGo, tagNe_symm x.crs, (tagNe_false_iff _ _).mpr hx]
    cases D.pix name x.raw ref.raw with
    | error e' => nofun
    | ok b =>
      cases hr : rawPix D name ref.raw (pre.map (·.raw)) with
      | error e' => nofun
      | ok bs' => intro _ hy; rw [ih bs' y post hpre hr hy]; rfl

theorem runBody_of_eq (op : OpSpec) (D : Delegate S R) (Q : Quick S R) (t0 : Tag) (x : Obj S)
    (hx : tagNe t0 x.crs = false) :
    ∀ (body : List LoopStmt) (acc : R), ∃ acc', runBody op D Q t0 x acc body = .ok acc' := by
  intro body
  induction body with
  | nil => intro acc; exact ⟨acc, rfl⟩
  | cons st more ih =>
    intro acc
    cases st with
    | accumulate => exact ih _
    | check => rw [runBody, hx]; exact ih acc
    | continueIf p =>
      rw [runBody]
      cases Q.skip p x.raw
      · exact ih acc
      · exact ⟨acc, rfl⟩

theorem runBody_safe_mismatch (op : OpSpec) (D : Delegate S R) (Q : Quick S R) (t0 : Tag) (x : Obj S)
    (hx : tagNe t0 x.crs = true) :
    ∀ (body : List LoopStmt), safeBody body = true → ∀ (acc : R),
      runBody op D Q t0 x acc body = .error op.mismatchErr
  | .check :: _, _, _ => if_pos hx
  | .accumulate :: more, h, _ => runBody_safe_mismatch op D Q t0 x hx more h _

theorem runProg_safe_of_not_allEq (op : OpSpec) (D : Delegate S R) (Q : Quick S R) (p : Prog)
    (hs : p.safe = true) (x0 : Obj S) (rest : List (Obj S)) (hna : ¬ AllEq x0.crs rest) :
    runProg op D Q p x0 rest = .error op.mismatchErr := by
  match p, hs with
  | .straight (.checkRest rev :: _), _ => rw [runProg, runStmts, (guardAll_spec rev _ _ rest).2 hna]
  | .loop body, hs =>
    have key : ∀ (ys : List (Obj S)) (a0 : R), ¬ AllEq x0.crs ys →
        runLoop op D Q x0.crs body a0 ys = .error op.mismatchErr := by
      intro ys
      induction ys with
      | nil => exact fun _ h => absurd (allEq_nil _) h
      | cons y ys ih =>
        intro a0
        unfold runLoop
        refine step_cases x0.crs y ys (fun hne _ _ => ?_) (fun heq hiff hna => ?_)
        · rw [runBody_safe_mismatch op D Q x0.crs y hne body hs a0]
        · obtain ⟨a1, ha⟩ := runBody_of_eq op D Q x0.crs y heq body a0
          rw [ha]
          exact ih a1 (mt hiff.mpr hna)
    rw [runProg, key rest _ hna]

/-- **Safe programs never mix**: if the program text has the CRS comparison before anything
that can return, skip or call shapely, then a returned result means every operand's CRS
compared equal to the first — whatever quick rejects, `continue`s or delegates follow. -/
theorem safe_prog_no_mixed (op : OpSpec) (D : Delegate S R) (Q : Quick S R) (p : Prog)
    (hs : p.safe = true) (x0 : Obj S) (rest : List (Obj S)) (r : Out R)
    (h : runProg op D Q p x0 rest = .ok r) : ∀ x ∈ rest, tagEq x0.crs x.crs = true :=
  Decidable.byContradiction fun hna => by
    rw [runProg_safe_of_not_allEq op D Q p hs x0 rest hna] at h; cases h

/-- **Safe programs raise on every mismatch**, wherever in the operand list it sits. -/
theorem safe_prog_mismatch_raises (op : OpSpec) (D : Delegate S R) (Q : Quick S R) (p : Prog)
    (hs : p.safe = true) (x0 : Obj S) (rest : List (Obj S))
    (hmis : ∃ x ∈ rest, tagNe x0.crs x.crs = true) :
    runProg op D Q p x0 rest = .error op.mismatchErr :=
  runProg_safe_of_not_allEq op D Q p hs x0 rest (not_allEq_of_mismatch hmis)

/-- the program of a walk *is* the operation: `run` executes exactly that statement list -/
theorem prog_refines_run (op : OpSpec) (D : Delegate S R) (Q : Quick S R) (p : Prog)
    (hp : progOf op.walk = some p) (x0 : Obj S) (rest : List (Obj S))
    (har : op.arity = .two → rest.length = 1) :
    run op D (x0 :: rest) = runProg op D Q p x0 rest := by
  have loop : ∀ (ys : List (Obj S)) (a0 : R),
      foldGo D op.name op.mismatchErr x0.crs a0 ys = runLoop op D Q x0.crs [.accumulate, .check] a0 ys := by
    intro ys
    induction ys with
    | nil => exact fun _ => rfl
    | cons y ys ih =>
      intro a0
      rw [foldGo, runLoop, runBody, runBody]
      cases tagNe x0.crs y.crs
      · exact ih _
      · rfl
  unfold run
  dsimp only
  rw [if_neg fun h => h.2 (har h.1)]
  cases hw : op.walk <;> rw [hw] at hp <;> cases hp
  · rfl
  · rw [runProg, ← loop]

theorem progOf_safe : ∀ (w : Walk) (p : Prog), progOf w = some p → p.safe = true
  | .guardFirst _, _, h => by cases h; rfl
  | .foldCheckInside, _, h => by cases h; rfl

/-- every walk of the table that has a program has a **safe** one: no table operation places a
quick reject, an early return or a `continue` above its CRS comparison -/
theorem table_progs_safe : ∀ op ∈ opTable, ∀ p, progOf op.walk = some p → p.safe = true :=
  fun op _ => progOf_safe op.walk

/-- why `safe` is needed — the shape of seeded change C01-10: a bounding-box quick reject above
the check returns a result for operands in different CRSs … -/
theorem unsafe_quick_reject_mixes_cex :
    (Prog.straight [.returnIf 0, .checkRest true, .delegate]).safe = false ∧
    (match runProg (S := Nat) (R := Nat) ⟨"Geometry.split", .guardFirst true, .two, .nothing, .first, .crsMismatch⟩
        ⟨fun _ _ => .ok 0, fun _ s => s, fun _ a _ => .ok a, fun _ a _ => a, fun _ _ _ => .ok 0, fun _ _ _ => .ok 0⟩
        ⟨fun _ _ => true, fun _ _ => 7, fun _ _ => false⟩
        (.straight [.returnIf 0, .checkRest true, .delegate]) ⟨some ⟨1, 4326, 1, 1⟩, 0⟩ [⟨none, 1⟩] with
      | .ok (.val _ 7) => true
      | _ => false) = true := by decide

/-- … and the shape of C01-11: a `continue` above the check lets an operand of another CRS through -/
theorem unsafe_continue_mixes_cex :
    (Prog.loop [.continueIf 0, .accumulate, .check]).safe = false ∧
    (match runProg (S := Nat) (R := Nat) ⟨"geom.bbox_union", .foldCheckInside, .many, .err .valueError, .first, .crsMismatch⟩
        ⟨fun _ _ => .ok 0, fun _ s => s, fun _ a _ => .ok a, fun _ a s => a + s, fun _ _ _ => .ok 0, fun _ _ _ => .ok 0⟩
        ⟨fun _ _ => false, fun _ _ => 0, fun _ s => s == 99⟩
        (.loop [.continueIf 0, .accumulate, .check]) ⟨some ⟨1, 4326, 1, 1⟩, 1⟩ [⟨some ⟨2, 3857, 2, 2⟩, 99⟩, ⟨some ⟨1, 4326, 1, 1⟩, 5⟩] with
      | .ok (.val _ 6) => true
      | _ => false) = true := by decide

/-- what the access-logging probe of the harness must see: an operand's CRS is read before its
coordinates (`'C'`) unless the walk is the stream fold, which reads the numbers first and compares in
the same iteration (`'R'`) -/
theorem accessPattern_spec (w : Walk) :
    (accessPattern w = 'R' ↔ w = .foldCheckInside) := by
  cases w <;> simp [accessPattern]

/-- `norm_crs_or_error` never hands back "no CRS": it returns a CRS or raises, and raises the
`ValueError` exactly where `norm_crs` would answer `None` -/
theorem normCrsOrError_spec (i : CrsInput) :
    normCrsOrError i ≠ .ok .nothing ∧
    (normCrs i = .ok .nothing → normCrsOrError i = .error .valueError) ∧
    (∀ n, n ≠ .nothing → normCrs i = .ok n → normCrsOrError i = .ok n) ∧
    (∀ e, normCrs i = .error e → normCrsOrError i = .error e) := by
  cases i with
  | none => simp [normCrsOrError, normCrs]; exact fun n h h' => h h'.symm
  | unset => simp [normCrsOrError, normCrs]; exact fun n h h' => h h'.symm
  | odc => simp [normCrsOrError, normCrs]
  | utmText c => cases c <;> simp [normCrsOrError, normCrs]
  | otherSpec a => cases a <;> simp [normCrsOrError, normCrs]

theorem bbox_mismatch (x0 : Obj BBox) (rest : List (Obj BBox))
    (hmis : ∃ x ∈ rest, tagNe x0.crs x.crs = true) :
    bboxUnion (x0 :: rest) = .error .crsMismatch ∧ bboxIntersection (x0 :: rest) = .error .crsMismatch :=
  ⟨mismatch_raises bboxUnionSpec (bboxDelegate unionStep) x0 rest nofun trivial hmis,
   mismatch_raises bboxInterSpec (bboxDelegate interStep) x0 rest nofun trivial hmis⟩

theorem rawFold_bboxDelegate (stp : BBox → BBox → BBox) (name : String) :
    ∀ (ss : List BBox) (acc : BBox), rawFold (bboxDelegate stp) name acc ss = ss.foldl stp acc
  | [], _ => rfl
  | _ :: ss, _ => rawFold_bboxDelegate stp name ss _

theorem bboxUnion_equal (x0 : Obj BBox) (rest : List (Obj BBox))
    (heq : ∀ x ∈ rest, tagEq x0.crs x.crs = true) :
    bboxUnion (x0 :: rest) = .ok (.val (some x0.crs) ((rest.map (·.raw)).foldl unionStep x0.raw)) := by
  unfold bboxUnion
  rw [equal_delegates _ _ _ _ heq]
  exact congrArg (fun b => Except.ok (Out.val (some x0.crs) b)) (rawFold_bboxDelegate unionStep _ _ _)

theorem bboxIntersection_equal (x0 : Obj BBox) (rest : List (Obj BBox))
    (heq : ∀ x ∈ rest, tagEq x0.crs x.crs = true) :
    bboxIntersection (x0 :: rest)
      = .ok (.val (some x0.crs) ((rest.map (·.raw)).foldl interStep x0.raw)) := by
  unfold bboxIntersection
  rw [equal_delegates _ _ _ _ heq]
  exact congrArg (fun b => Except.ok (Out.val (some x0.crs) b)) (rawFold_bboxDelegate interStep _ _ _)

/-- what a converting operation may do with the two CRSs -/
def ConvSound (self other : Tag) (r : Except Err ConvOut) : Prop :=
  ∀ o, r = .ok o →
    (o.path = .same → tagEq self other = true) ∧
    (o.path = .converted → self ≠ none ∧ other ≠ none ∧ tagEq self other = false) ∧
    (o.path = .pixelPlane → other = none)

theorem convSound_error (self other : Tag) (e : Err) : ConvSound self other (.error e) :=
  fun _ h => nomatch h

theorem convSound_same {self other : Tag} {t : Option Tag} (h : tagEq self other = true) :
    ConvSound self other (.ok ⟨.same, t⟩) := fun o ho => by
  cases ho; exact ⟨fun _ => h, nofun, nofun⟩

theorem convSound_converted {a b : CrsRec} {t : Option Tag} (h : tagEq (some a) (some b) = false) :
    ConvSound (some a) (some b) (.ok ⟨.converted, t⟩) := fun o ho => by
  cases ho; exact ⟨nofun, fun _ => ⟨nofun, nofun, h⟩, nofun⟩

theorem convSound_pixelPlane (self : Tag) (t : Option Tag) : ConvSound self none (.ok ⟨.pixelPlane, t⟩) :=
  fun o ho => by cases ho; exact ⟨nofun, nofun, fun _ => rfl⟩

/-- the test every converting operation makes once both sides carry a CRS -/
theorem convSound_ite (a b : CrsRec) (t : Option Tag) :
    ConvSound (some a) (some b) (if tagNe (some b) (some a) then .ok ⟨.converted, t⟩ else .ok ⟨.same, t⟩) := by
  cases h : tagNe (some b) (some a)
  · exact convSound_same (by rw [tagEq_symm]; exact (tagNe_false_iff _ _).mp h)
  · exact convSound_converted (by rw [tagEq_symm]; exact (tagNe_true_iff _ _).mp h)

theorem projectOp_sound : ∀ self g : Tag, ConvSound self g (projectOp self g)
  | self, none => convSound_pixelPlane self _
  | none, some _ => convSound_error _ _ _
  | some a, some b => convSound_ite a b _

/-- operations that call `project` and only change the tag of the result -/
theorem viaProject_sound (self other : Tag) (t : Option Tag) :
    ConvSound self other (match projectOp self other with
      | .error e => .error e
      | .ok o => .ok ⟨o.path, t⟩) := by
  intro o h
  cases hp : projectOp self other with
  | error e => rw [hp] at h; cases h
  | ok o' => rw [hp] at h; cases h; exact projectOp_sound self other o' hp

theorem tilesOp_sound (isBBox : Bool) (self q : Tag) : ConvSound self q (tilesOp isBBox self q) := by
  unfold tilesOp
  by_cases h0 : isBBox = true ∧ q = none
  · rw [if_pos h0, h0.2]; exact convSound_pixelPlane self _
  · rw [if_neg h0]
    cases self with
    | none =>
      cases q with
      | none => exact convSound_same rfl
      | some b => exact convSound_error _ _ _
    | some a =>
      cases q with
      | none => exact convSound_error _ _ _
      | some b => exact convSound_ite a b _

theorem gridIntersectOp_sound (self src : Tag) : ConvSound self src (gridIntersectOp self src) := by
  unfold gridIntersectOp
  cases h : tagEq src self
  · cases src <;> cases self <;> first
      | exact convSound_error _ _ _
      | exact convSound_converted (by rw [tagEq_symm]; exact h)
  · exact convSound_same (by rw [tagEq_symm]; exact h)

theorem enclosingOp_sound : ∀ self region : Tag, ConvSound self region (enclosingOp self region)
  | _, none => convSound_error _ _ _
  | self, some b => viaProject_sound self (some b) _

theorem cropOp_sound (tagged : Bool) : ∀ self roi : Tag, ConvSound self roi (cropOp tagged self roi)
  | self, none => convSound_pixelPlane self _
  | self, some b => viaProject_sound self (some b) _

theorem rangeFromBBoxOp_sound : ∀ self bbox : Tag, ConvSound self bbox (rangeFromBBoxOp self bbox)
  | self, none => convSound_pixelPlane self _
  | self, some b => viaProject_sound self (some b) _

/-- one step down the `if name = … then some … else …` chain of `convRun` -/
theorem of_ite_some {α : Type} {P : α → Prop} {c : Prop} [Decidable c] {a r : α} {rest : Option α}
    (h : (if c then some a else rest) = some r) (ha : P a) (hrest : rest = some r → P r) : P r := by
  by_cases hc : c
  · rw [if_pos hc] at h; cases h; exact ha
  · rw [if_neg hc] at h; exact hrest h

/-- A converting operation that returns either found equal CRSs, or converted between two
*known* CRSs, or read an operand **without** CRS as pixel-plane coordinates (documented);
it never combines coordinates of two different known systems as they are. -/
theorem conv_never_mixes (name : String) (isBBox : Bool) (self other : Tag)
    (r : Except Err ConvOut) (h : convRun name isBBox self other = some r) :
    ConvSound self other r := by
  unfold convRun at h
  refine of_ite_some h (projectOp_sound self other) fun h => ?_
  refine of_ite_some h (enclosingOp_sound self other) fun h => ?_
  refine of_ite_some h (cropOp_sound false self other) fun h => ?_
  refine of_ite_some h (cropOp_sound true self other) fun h => ?_
  refine of_ite_some h (rangeFromBBoxOp_sound self other) fun h => ?_
  refine of_ite_some h (tilesOp_sound isBBox self other) fun h => ?_
  refine of_ite_some h (gridIntersectOp_sound self other) fun h => ?_
  cases h

theorem convTable_covered (isBBox : Bool) (self other : Tag) :
    ∀ n ∈ convTable, (convRun n isBBox self other).isSome = true := by
  intro n hn
  simp only [convTable, List.mem_cons, List.not_mem_nil, or_false] at hn
  rcases hn with rfl | rfl | rfl | rfl | rfl | rfl | rfl <;> simp [convRun]

/-- equality tests answer `False` as soon as the CRSs differ -/
theorem eq_mismatch_false (a b : Tag) (rawEq : Bool) (h : tagNe a b = true) :
    eqRun a b rawEq = false := by
  rw [eqRun, (tagNe_true_iff a b).mp h]; rfl

/-- EPSG:4326 by code vs. the same CRS from WKT (no resolved code, other object, other text) -/
example : crsEq ⟨1, 4326, 1, 7⟩ ⟨2, 0, 2, 7⟩ = true ∧ WF ⟨1, 4326, 1, 7⟩ ⟨2, 0, 2, 7⟩ :=
  ⟨by decide,
   { obj := fun h => absurd h (by decide), str := fun h => absurd h (by decide),
     epsg := fun _ h => absurd rfl h }⟩

example : (findOp "geom.bbox_union").isSome = true :=
  List.find?_isSome.mpr ⟨opTable[22], List.getElem_mem _, decide_eq_true rfl⟩

/-- equal CRSs in two spellings: the union box, tagged with the first operand's CRS -/
example : (match bboxUnion [⟨some ⟨1, 4326, 1, 7⟩, ⟨0, 0, 1, 1⟩⟩, ⟨some ⟨2, 0, 2, 7⟩, ⟨2, -1, 3, 4⟩⟩] with
    | .ok (.val (some (some c)) b) => decide (c.objId = 1 ∧ b = ⟨0, -1, 3, 4⟩)
    | _ => false) = true := by decide

/-- a box without CRS in the middle of the stream: CRSMismatchError -/
example : (match bboxUnion [⟨some ⟨1, 4326, 1, 7⟩, ⟨0, 0, 1, 1⟩⟩, ⟨none, ⟨2, -1, 3, 4⟩⟩,
      ⟨some ⟨1, 4326, 1, 7⟩, ⟨0, 0, 9, 9⟩⟩] with
    | .error .crsMismatch => true
    | _ => false) = true := by decide

end OdcGeo.C01
