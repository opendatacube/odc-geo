/- C01 — theorems about the glue around the CRS guard (`Model/C01Glue.lean`): how an object
gets its CRS, comparison with non-CRS values, the `'utm…'` branch of `norm_crs`, and the CRS carried
through single-operand operations into a combining operation (composition with `mismatch_raises`). -/
import OdcGeo.Model.C01Glue
import OdcGeo.Props.C01
import Batteries.Data.List.Basic

namespace OdcGeo.C01

variable {S R : Type}

/-- `crs == x` is `False` for everything no CRS can be built from (`None`, garbage), and otherwise
`CRS.__eq__` of the two CRSs — symmetric, and the class test under well-formedness -/
theorem crsEqAny_spec (a : CrsRec) :
    crsEqAny a none = false ∧ (∀ b, crsEqAny a (some b) = crsEq a b) ∧
    (∀ b, crsEqAny a (some b) = crsEqAny b (some a)) ∧
    (∀ b, WF a b → (crsEqAny a (some b) = true ↔ a.cls = b.cls)) :=
  ⟨rfl, fun _ => rfl, fun b => crsEq_symm a b, fun b h => crsEq_iff_sameClass a b h⟩

/-- **`BoundingBox.aoi` / `map_bounds` never read the numbers of another CRS as lon/lat**: the raw
numbers are used only for a box without CRS (documented) or in a CRS equal to EPSG:4326 -/
theorem lonlatDispatch_spec (crs : Tag) (t4326 : CrsRec) :
    (lonlatDispatch crs t4326 = .raw ↔ crs = none ∨ ∃ c, crs = some c ∧ crsEq c t4326 = true) ∧
    (∀ c, crs = some c → WF c t4326 → (lonlatDispatch crs t4326 = .converted ↔ c.cls ≠ t4326.cls)) := by
  have key : ∀ c, lonlatDispatch (some c) t4326 = if crsEq c t4326 then .raw else .converted := fun _ => rfl
  constructor
  · cases crs with
    | none => exact ⟨fun _ => .inl rfl, fun _ => rfl⟩
    | some c =>
      rw [key]
      cases h : crsEq c t4326
      · exact ⟨nofun, fun h' => by
          obtain h' | ⟨_, hc, hc'⟩ := h'
          · cases h'
          · cases hc; rw [h] at hc'; cases hc'⟩
      · exact ⟨fun _ => .inr ⟨c, rfl, h⟩, fun _ => rfl⟩
  · intro c hc hwf
    subst hc
    have hcls := crsEq_iff_sameClass c t4326 hwf
    rw [key]
    cases h : crsEq c t4326
    · exact ⟨fun _ hcl => absurd (hcls.mpr hcl) (by rw [h]; exact Bool.false_ne_true), fun _ => rfl⟩
    · exact ⟨nofun, fun hne => absurd (hcls.mp h) hne⟩

/-- cloning keeps the CRS and takes no `crs` argument -/
theorem geomInit_clone (t4326 : CrsRec) (t : Tag) :
    geomInit t4326 (.geometry t) .omitted = .ok t ∧
    geomInit t4326 (.geometry t) .unset = .error .assertion ∧
    ∀ r, geomInit t4326 (.geometry t) (.given r) = .error .assertion := ⟨rfl, rfl, fun _ => rfl⟩

/-- **Only a GeoJSON Feature / FeatureCollection without an explicit CRS is assumed to be in
EPSG:4326**; a shapely geometry or a plain geometry dict without `crs` has no CRS; `Unset()` is not
`None` and does not trigger the default; anything that is not a geometry is refused whatever `crs`. -/
theorem geomInit_default (t4326 : CrsRec) :
    geomInit t4326 (.dict true) .omitted = .ok (some t4326) ∧
    geomInit t4326 (.dict true) .unset = .ok none ∧
    geomInit t4326 (.dict false) .omitted = .ok none ∧
    geomInit t4326 .shapely .omitted = .ok none ∧
    (∀ c, ∃ e, geomInit t4326 .other c = .error e) := by
  refine ⟨rfl, rfl, rfl, rfl, fun c => ?_⟩
  rcases c with _ | _ | ⟨_ | _⟩ <;> exact ⟨_, rfl⟩

/-- an explicit CRS always wins, for every kind of geometry input and every bounding-box constructor;
an invalid one is an error, never a silently CRS-less object -/
theorem init_explicit (t4326 : CrsRec) (r : Except Err Tag) :
    geomInit t4326 .shapely (.given r) = r ∧ geomInit t4326 (.dict true) (.given r) = r ∧
    geomInit t4326 (.dict false) (.given r) = r ∧ bboxInit (.given r) = r ∧
    bboxInit .omitted = .ok none ∧ bboxInit .unset = .ok none := ⟨rfl, rfl, rfl, rfl, rfl, rfl⟩

/-- `Geometry.transform(func, crs=…)`: the default keeps the CRS, `crs=None` removes it, anything else
is normalised like a constructor argument -/
theorem transformTag_spec (self : Tag) (r : Except Err Tag) :
    transformTag self .unset = .ok self ∧ transformTag self .omitted = .ok none ∧
    transformTag self (.given r) = r := ⟨rfl, rfl, rfl⟩

theorem utmPick_code (txt : UtmText) (zone : Nat) (south : Bool) :
    utmPick txt south (if south then utmSouthCode zone else utmNorthCode zone) =
      match txt with
      | .north => utmNorthCode zone
      | .south => utmSouthCode zone
      | _ => if south then utmSouthCode zone else utmNorthCode zone := by
  cases txt with
  | north =>
    cases south
    · rfl
    · simp only [utmPick, utmSouthCode, utmNorthCode, if_true]; omega
  | south =>
    cases south
    · simp only [utmPick, utmSouthCode, utmNorthCode, Bool.false_eq_true, if_false]; omega
    · rfl
  | _ => rfl

/-- **Hemisphere arithmetic of `norm_crs`**: for every UTM zone and either hemisphere of the context,
`'utm-n'` is the northern and `'utm-s'` the southern WGS 84 / UTM code of the *same zone*;
`'utm'` (and any other text starting with `utm`) is the zone of the context itself. -/
theorem utmPick_spec (zone : Nat) (south : Bool) :
    let epsg := if south then utmSouthCode zone else utmNorthCode zone
    utmPick .north south epsg = utmNorthCode zone ∧ utmPick .south south epsg = utmSouthCode zone ∧
    utmPick .plain south epsg = epsg ∧ utmPick .otherSuffix south epsg = epsg :=
  ⟨utmPick_code .north zone south, utmPick_code .south zone south, rfl, rfl⟩

/-- the result is again a WGS 84 / UTM code (326xx / 327xx) of a zone 1…60 -/
theorem utmPick_in_range (txt : UtmText) (zone : Nat) (south : Bool) (hz : 1 ≤ zone ∧ zone ≤ 60) :
    let r := utmPick txt south (if south then utmSouthCode zone else utmNorthCode zone)
    (32601 ≤ r ∧ r ≤ 32660) ∨ (32701 ≤ r ∧ r ≤ 32760) := by
  intro r
  rw [show r = _ from utmPick_code txt zone south]
  cases txt <;> cases south <;> simp only [utmNorthCode, utmSouthCode, Bool.false_eq_true, reduceIte] <;> omega

theorem utmText_spec :
    utmText "utm" = some .plain ∧ utmText "utm-n" = some .north ∧ utmText "utm-s" = some .south ∧
    utmText "utm-x" = some .otherSuffix ∧ utmText "utmzone" = some .otherSuffix ∧ utmText "epsg:32633" = none ∧
    utmText "ut" = none := by decide +kernel

theorem unaryTable_nodup : (unaryTable.map (·.1)).Nodup := nodup_of_sized (by decide +kernel)

/-- the CRS handed back, by kind: the receiver's (`keep`), the argument's (`fromArg`), for `to_crs` (`target`) the
receiver's if the two compare equal, else the argument's.  Trap: `∧` binds tighter than `∨`: this reads
`(five conjuncts) ∨ tagEq self arg = true`, silent when the CRSs compare equal. -/
theorem unaryTag_spec (self arg : Tag) :
    unaryTag .keep self arg = self ∧ unaryTag .fromArg self arg = arg ∧
    (tagEq self arg = true → unaryTag .target self arg = self) ∧
    (tagEq self arg = false → unaryTag .target self arg = arg) ∧
    tagEq (unaryTag .target self arg) arg = tagEq arg arg ∨ tagEq self arg = true := by
  by_cases h : tagEq self arg = true <;> simp [unaryTag, h]

/-- every entry of the `Geometry` / `BoundingBox` table other than `assign_crs` / `to_crs` hands back objects in the
CRS of the object it was called on (`Geometry.transform` with `crs=`: `transformTag_spec`) -/
theorem unaryTable_keep :
    ∀ e ∈ unaryTable, e.2 = .keep ∨ e.1 = "Geometry.assign_crs" ∨ e.1 = "Geometry.to_crs" ∨ e.1 = "BoundingBox.to_crs" := by
  decide +kernel

theorem forall₂_exists_mem {α β : Type} {r : α → β → Prop} {l₁ : List α} {l₂ : List β}
    (h : List.Forall₂ r l₁ l₂) : ∀ x ∈ l₁, ∃ y ∈ l₂, r x y := by
  induction h with
  | nil => nofun
  | cons hxy _ ih =>
    exact List.forall_mem_cons.mpr ⟨⟨_, List.mem_cons_self .., hxy⟩,
      fun x hx => (ih x hx).imp fun _ h => ⟨List.mem_cons_of_mem _ h.1, h.2⟩⟩

/-- **Composition**: operands derived through CRS-keeping single-operand operations (boundary,
exterior, buffer, segmented, centroid, polygon of a box, …, in any number and order) from objects in
different CRSs are refused by every combining operation of the table exactly like the original
objects — the mismatch cannot be laundered through a derived geometry. -/
theorem derived_operands_mismatch_raises (op : OpSpec) (hop : op ∈ opTable) (D : Delegate S R)
    (x0 : Obj S) (rest : List (Obj S)) (y0 : Obj S) (ys : List (Obj S))
    (h0 : y0.crs = unaryTag .keep x0.crs none)
    (hys : List.Forall₂ (fun x y => y.crs = unaryTag .keep x.crs none) rest ys)
    (har : op.arity = .two → ys.length = 1) (hD : StepsTotal D op)
    (hmis : ∃ x ∈ rest, tagNe x0.crs x.crs = true) :
    ∃ e, run op D (y0 :: ys) = .error e ∧ e.isValueError = true := by
  obtain ⟨x, hx, hne⟩ := hmis
  obtain ⟨y, hy, hc⟩ := forall₂_exists_mem hys x hx
  exact table_mismatch_raises op hop D y0 ys har hD ⟨y, hy, by rw [h0, hc]; exact hne⟩

/-- `hmis` can be met -/
example : ∃ x ∈ [(⟨some ⟨2, 3857, 2, 2⟩, ()⟩ : Obj Unit)], tagNe (some ⟨1, 4326, 1, 1⟩) x.crs = true :=
  ⟨_, List.mem_cons_self .., by decide⟩

end OdcGeo.C01
