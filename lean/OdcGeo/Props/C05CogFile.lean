/-
C05 ∘ C06 ∘ C18, C05 side — the tile table of every IFD against the FILE the sink leaves.

`Props/C06Cog.lean` proves `C06.cog_file_end_to_end`: `mpu_write` over the tile bags, `_patch_hdr` on the observed
stream and `MPUFileSink.finalise` leave `header ++ tiles` at the destination and every header entry addresses its tile's bytes.
This file adds what the C05 statement says about that FILE (not only about the stream): every tile offset / byte-count entry
lies inside the file, behind the header, and all overview tile data precedes all full-resolution tile data.
Plain `patchHdr` (no statistics); with statistics, up to the uploaded parts: `Props/C05File.lean`.
-/
import OdcGeo.Props.C06Cog

namespace OdcGeo.C05
open OdcGeo

/-- `cog_file_tile_table`: under the hypotheses of `C06.cog_file_end_to_end` (any pyramid, any cutting of the tile stream into bags
and partitions, any writer limits / spill size / writes-per-chunk, any header of length `hdrSz`) the destination FILE and the
patched tile table satisfy: every tile with data has an entry `(off, size)` with `hdrSz ≤ off` and `off + size ≤ len(file)`
holding exactly its bytes, and the data of every overview tile ends before the data of any full-resolution tile starts -/
theorem cog_file_tile_table (W : C06.Writer) (spill wpc : Nat) (bags : List (List (List (List Nat × Int))))
    (mkHdr : Option (List (Nat × Int) → List Nat))
    (hb : bags ≠ []) (hp : ∀ b ∈ bags, b ≠ []) (hc : ∀ b ∈ bags, ∀ p ∈ b, p ≠ [])
    (hcap : W.minPart + 1 + bags.flatten.length * wpc ≤ W.maxPart + 1)
    (hdrSz : Nat) (hH : (C06.optBytes (mkHdr.map (fun f => f (C06.bagsObs bags)))).length = hdrSz)
    (m0 : Meta) (rest : List Meta) (hpl : ∀ m ∈ rest, m.planes = m0.planes)
    (hcount : (C06.bagsChunks bags).length = (writeOrder (m0 :: rest)).length) :
    let ms := m0 :: rest
    let tiles := List.zipWith obsOf (writeOrder ms) ((C06.bagsChunks bags).map List.length)
    ∃ (info : TileInfo) (file : List Nat) (wsAll fp : List (C06.Part Nat)),
      patchHdr ms tiles hdrSz = .ok info ∧
      (C18.Sink.finalise true (C18.sinkAfter wsAll) (fp.map (·.id)) false).1.dst = some file ∧
      (∀ i (hi : i < tiles.length), tiles[i].sz ≠ 0 →
        ∃ l f, obsKey ms tiles[i] = .ok (l, f) ∧
          look info l f = some (hdrSz + streamOff 0 tiles i, tiles[i].sz) ∧
          hdrSz + streamOff 0 tiles i + tiles[i].sz ≤ file.length ∧
          (file.drop (hdrSz + streamOff 0 tiles i)).take tiles[i].sz = (C06.bagsChunks bags)[i]'(by
            have : tiles.length ≤ ((C06.bagsChunks bags).map List.length).length := by
              simp only [tiles, List.length_zipWith]; omega
            simpa using Nat.lt_of_lt_of_le hi this)) ∧
      (∀ i j (hi : i < tiles.length) (hj : j < tiles.length), 0 < tiles[i].lvl → tiles[j].lvl = 0 →
        hdrSz + streamOff 0 tiles i + tiles[i].sz ≤ hdrSz + streamOff 0 tiles j) := by
  intro ms tiles
  obtain ⟨wsF, fp, wsAll, info, hrun, hpatch, hs2, hs3, hdst, hfile⟩ :=
    C06.cog_file_end_to_end W spill wpc bags mkHdr hb hp hc hcap hdrSz hH m0 rest hpl hcount
  obtain ⟨info', hpatch', hstream⟩ := write_order_patched m0 rest hpl ((C06.bagsChunks bags).map List.length) hdrSz
  cases hpatch.symm.trans hpatch'
  refine ⟨info, _, wsAll, fp, hpatch, hdst, ?_, ?_⟩
  · intro i hi hsz
    have hci : i < (C06.bagsChunks bags).length := Nat.lt_of_lt_of_le hi <| by
      simp only [tiles, List.length_zipWith, List.length_map]; exact Nat.min_le_right _ _
    obtain ⟨l, f, hk, hl⟩ := hstream i hi hsz
    obtain ⟨l', f', off, hk', hlook', hbytes⟩ := hfile _ hdst i hi hci hsz
    cases hk.symm.trans hk'
    obtain rfl : off = streamOff 0 tiles i + hdrSz := (Prod.mk.inj (Option.some.inj (hlook'.symm.trans hl))).1
    have hszlen : tiles[i].sz = ((C06.bagsChunks bags)[i]).length := by
      simp only [tiles, List.getElem_zipWith, List.getElem_map, obsOf]
    rw [Nat.add_comm hdrSz]
    refine ⟨l, f, hk, hl, ?_, hbytes⟩
    have hl2 := congrArg List.length hbytes
    rw [List.length_take, List.length_drop, ← hszlen] at hl2
    omega
  · intro i j hi hj hov hfull
    have := overview_data_before_fullres ms 0 tiles (zipWith_obsOf_lvl _ _ (by simp [ms, hcount])) i j hi hj hov hfull
    omega

end OdcGeo.C05
