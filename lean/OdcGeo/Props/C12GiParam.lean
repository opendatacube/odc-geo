/-
C12 — the branches of the public `grid_intersect` whose footprints are parameters (different CRSs
with a non-empty common footprint; a non-linear base such as `GCPGeoBox`): the dispatcher hands them to
the general path with the model's own candidate ranges, so `general_deps_complete_ranges` holds for the
PUBLIC entry point.  What a non-linear base has to guarantee is only the bounding-box contract: the
pixel bounding box handed to `tiles()` meets every tile that overlaps (checked on real `GCPGeoBox`es by
the harness, oracle `gcp-extent-misses-boundary`).
-/
import OdcGeo.Props.C12Gi
namespace OdcGeo.C12
open OdcGeo OdcGeo.C17 OdcGeo.C04

def ParamBranch (dst src : TGB) (fr : Foreign) : Prop :=
  (src.crs ≠ dst.crs ∧ fr.fpEmpty = false) ∨
  (src.crs = dst.crs ∧ (dst.linear = false ∨ src.linear = false))

theorem grid_intersect_param_eq (dst src : TGB) (ttol stol tol sttol : Rat) (fr : Foreign)
    (hp : ParamBranch dst src fr) :
    gridIntersect dst src ttol stol tol sttol fr =
      gridIntersectGeneralR dst.g src.g fr.fp fr.dstDisjoint fr.ext fr.srcDisjoint := by
  rcases hp with ⟨hc, he⟩ | ⟨hc, hl⟩
  · simp only [gridIntersect, check_linear_crs_differ dst src ttol stol tol sttol hc, bind, Except.bind,
      if_neg hc, he]
    rfl
  · simp only [gridIntersect, check_linear_nonlinear dst src ttol stol tol sttol hl, bind, Except.bind, if_pos hc]
    rcases hl with hl | hl
    · simp [hl]
    · simp [hl]

/-- **different CRSs / non-linear base, public entry point**: source tile `s` is listed for
destination tile `d` whenever `d` meets the pixel box of the (re)projected source footprint, `s` meets
the pixel box of `d`'s (re)projected extent, and shapely calls neither pair disjoint -/
theorem grid_intersect_param_complete (dst src : TGB) (hd : dst.g.WF) (hs : src.g.WF)
    (ttol stol tol sttol : Rat) (fr : Foreign) (hp : ParamBranch dst src fr) (d s : Int × Int)
    (h1 : TileMeets dst.g fr.fp d) (h2 : fr.dstDisjoint d = false)
    (h3 : TileMeets src.g (fr.ext d) s) (h4 : fr.srcDisjoint d s = false) :
    ∃ l deps, gridIntersect dst src ttol stol tol sttol fr = .ok l ∧ (d, deps) ∈ l ∧ s ∈ deps := by
  rw [grid_intersect_param_eq dst src ttol stol tol sttol fr hp]
  exact general_deps_complete_ranges dst.g src.g hd hs fr.fp fr.dstDisjoint fr.ext fr.srcDisjoint d s h1 h2 h3 h4

/-- different CRSs: either the empty graph (no common footprint) or the general path – nothing else -/
theorem grid_intersect_cross_crs_cases (dst src : TGB) (ttol stol tol sttol : Rat) (fr : Foreign)
    (hc : src.crs ≠ dst.crs) :
    gridIntersect dst src ttol stol tol sttol fr =
      if fr.fpEmpty then .ok [] else gridIntersectGeneralR dst.g src.g fr.fp fr.dstDisjoint fr.ext fr.srcDisjoint := by
  cases he : fr.fpEmpty with
  | true => rw [grid_intersect_cross_crs_apart dst src ttol stol tol sttol fr hc he]; rfl
  | false => rw [grid_intersect_param_eq dst src ttol stol tol sttol fr (Or.inl ⟨hc, he⟩)]; rfl

example : ParamBranch ⟨some 1, false, Aff.id, g20⟩ ⟨some 1, true, Aff.id, g20⟩
    ⟨false, ⟨0, 0, 1, 1⟩, fun _ => false, fun _ => ⟨0, 0, 1, 1⟩, fun _ _ => false⟩ := Or.inr ⟨rfl, Or.inl rfl⟩

end OdcGeo.C12
