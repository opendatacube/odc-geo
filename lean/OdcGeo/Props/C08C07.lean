/-
C08 ∘ C07 — `GeoBox.from_geopolygon(geom, …, crs=…)` from its arguments to its result through C07's model of
`Geometry.to_crs` (`Model/C08C07.lean`, `fromGeopolygonVia`): the projection is C07's `proj s t` instead of a parameter
of the C08 model, the re-projection step is C07's `toCrs` with its CRS comparison, its "geometry without CRS" error and
its default `resolution=None`.
-/
import OdcGeo.Model.C08C07
import OdcGeo.Props.C07
import OdcGeo.Props.C08

namespace OdcGeo.C08

theorem toPt_ofPt (p : C07.Pt Rat) : toPt (ofPt p) = p := by cases p; rfl

variable (E : C07.Env Rat) (proj : C01.CrsRec → C01.CrsRec → C07.Pt Rat → C07.Pt Rat) (autoRes : C07.Geom Rat → Rat)

/-- **`crs=None` / `Unset()`**: nothing is re-projected — the same-CRS construction `fromGeopolygon` on the vertices of
the geometry (all of them: exterior, holes, parts), tagged with the geometry's CRS. -/
theorem from_geopolygon_via_c07_unset (g : C07.Tagged Rat) (v : Rat × Rat) (vs : List (Rat × Rat))
    (hv : (C07.vertices g.geom).map ofPt = v :: vs) (res : ResArg) (align : Option (Rat × Rat)) (shape : ShapeArg)
    (tight : Bool) (anchor : AnchorArg) (tol : Rat) :
    fromGeopolygonVia E proj autoRes g .unset res align shape tight anchor tol =
      some ((fromGeopolygon v vs res align shape tight anchor tol).map fun gb => (gb, g.crs)) := by
  unfold fromGeopolygonVia fromGeopolygon
  cases alignToAnchor align res anchor with
  | error e => rfl
  | ok ra => simp only [hv, bind, Except.bind]

/-- **`crs=t` differing from the geometry's CRS `s`**: C07's `to_crs` maps every vertex through `proj s t` (no
densification), and the result is C08's cross-CRS construction `fromGeopolygonCrs` with exactly that projection,
tagged `t`. -/
theorem from_geopolygon_via_c07_projects (g : C07.Tagged Rat) (s t : C01.CrsRec) (hs : g.crs = some s)
    (hne : C01.tagEq (some s) (some t) = false) (v : Rat × Rat) (vs : List (Rat × Rat))
    (hv : (C07.vertices g.geom).map ofPt = v :: vs) (res : ResArg) (align : Option (Rat × Rat)) (shape : ShapeArg)
    (tight : Bool) (anchor : AnchorArg) (tol : Rat) :
    fromGeopolygonVia E proj autoRes g (.given (some t)) res align shape tight anchor tol =
      some ((fromGeopolygonCrs (fun q => ofPt (proj s t (toPt q))) v vs res align shape tight anchor tol).map
        fun gb => (gb, some t)) := by
  unfold fromGeopolygonVia fromGeopolygonCrs fromGeopolygon
  cases alignToAnchor align res anchor with
  | error e => rfl
  | ok ra =>
    have hto : C07.toCrs E proj autoRes g (some t) .none = .ok ⟨some t, C07.mapPts (proj s t) g.geom⟩ := by
      unfold C07.toCrs
      simp only [hs, hne, Bool.false_eq_true, if_false]
    have hvs : (C07.vertices (C07.mapPts (proj s t) g.geom)).map ofPt =
        (fun q => ofPt (proj s t (toPt q))) v :: vs.map (fun q => ofPt (proj s t (toPt q))) := by
      rw [C07.vertices_mapPts, List.map_map]
      show _ = (v :: vs).map fun q => ofPt (proj s t (toPt q))
      rw [← hv, List.map_map]
      exact List.map_congr_left fun p _ => by simp only [Function.comp, toPt_ofPt]
    simp only [hto, hvs, bind, Except.bind]

/-- **Same CRS given explicitly** (`crs == geom.crs` under `CRS.__eq__`): `to_crs` returns the geometry itself. -/
theorem from_geopolygon_via_c07_same_crs (g : C07.Tagged Rat) (t : C01.CrsRec)
    (heq : C01.tagEq g.crs (some t) = true) (crs res align shape tight anchor tol) (hc : crs = CrsArgTag.given (some t)) :
    fromGeopolygonVia E proj autoRes g crs res align shape tight anchor tol =
      fromGeopolygonVia E proj autoRes g .unset res align shape tight anchor tol := by
  subst hc
  unfold fromGeopolygonVia
  simp only [C07.to_crs_same_is_identity E proj autoRes g t .none heq]

/-- A geometry **without CRS** cannot be given a `crs=`: `ValueError` (C07's "Cannot project geometries without CRS"),
once the old-style `align` handling got through. -/
theorem from_geopolygon_via_c07_no_crs (g : C07.Tagged Rat) (t : C01.CrsRec) (hs : g.crs = none)
    (res : ResArg) (align : Option (Rat × Rat)) (shape : ShapeArg) (tight : Bool) (anchor : AnchorArg) (tol : Rat)
    {ra : ResArg × AnchorArg} (hal : alignToAnchor align res anchor = .ok ra) :
    fromGeopolygonVia E proj autoRes g (.given (some t)) res align shape tight anchor tol = some (.error .valueError) := by
  obtain ⟨_, geom⟩ := g
  cases hs
  unfold fromGeopolygonVia
  simp only [hal, C07.to_crs_none_errors]

/-- **End to end: every vertex of the geometry, re-projected by C07's `to_crs`, lies inside the geobox up to `tol` of a
pixel** — exterior, holes and parts alike, for any geometry kind. -/
theorem from_geopolygon_via_c07_covers (g : C07.Tagged Rat) (s t : C01.CrsRec) (hs : g.crs = some s)
    (hne : C01.tagEq (some s) (some t) = false) (v : Rat × Rat) (vs : List (Rat × Rat))
    (hv : (C07.vertices g.geom).map ofPt = v :: vs) {res : ResArg} {shape : ShapeArg} {tight : Bool}
    {anchor : AnchorArg} {tol rx ry : Rat} {gb : GeoBox} {tag : C01.Tag} (hsh : ∀ n, shape ≠ .int n)
    (hres : res.xy? = some (rx, ry))
    (val : ValidRes (bboxOfPts (ofPt (proj s t (toPt v))) (vs.map fun q => ofPt (proj s t (toPt q)))) rx ry tol
      (snapOf tight (normAnchor anchor)))
    (h : fromGeopolygonVia E proj autoRes g (.given (some t)) res none shape tight anchor tol = some (.ok (gb, tag))) :
    tag = some t ∧ ∀ p ∈ C07.vertices g.geom,
      gb.xmin - tol * |rx| ≤ (proj s t p).x ∧ (proj s t p).x ≤ gb.xmax + tol * |rx| ∧
      gb.ymin - tol * |ry| ≤ (proj s t p).y ∧ (proj s t p).y ≤ gb.ymax + tol * |ry| := by
  rw [from_geopolygon_via_c07_projects E proj autoRes g s t hs hne v vs hv] at h
  obtain ⟨gb', hc, hg⟩ := map_ok_iff.1 (Option.some.inj h)
  obtain ⟨rfl, rfl⟩ := Prod.mk.inj hg
  refine ⟨rfl, fun p hp => ?_⟩
  have := from_geopolygon_crs_covers_vertices (fun q => ofPt (proj s t (toPt q))) v vs hsh hres val hc (ofPt p)
    (hv ▸ List.mem_map_of_mem hp)
  simp only [toPt_ofPt] at this
  simpa [ofPt] using this

example : fromGeopolygonVia (E := ⟨fun _ _ => 0, fun _ _ _ => 0⟩) (fun _ _ p => ⟨p.x + p.y, p.y⟩) (fun _ => 0)
    ⟨some ⟨1, 4326, 1, 1⟩, .polygon [⟨0, 0⟩, ⟨4, 0⟩, ⟨0, 4⟩, ⟨0, 0⟩] []⟩ (.given (some ⟨2, 3857, 2, 1⟩)) (.scalar 1) none .none
    false (.name .default) (1 / 100) =
    some (.ok (⟨4, 4, ⟨1, 0, 0, 0, -1, 4⟩⟩, some ⟨2, 3857, 2, 1⟩)) := by decide +kernel

end OdcGeo.C08
