/-
C13 glue × C12Gi — the public entry point on ROTATED / SHEARED / MIRRORED grids of one CRS (the path on which
`_check_linear` answers `None` and `grid_intersect` goes through `polygon_from_transform` footprints), from the
arguments of `xr_reproject` to the pixels, with no dependency hypothesis: `C12.chunked_eq_whole_same_crs_general`
(Props/C12GiC13) composed with the glue of Props/C13Glue / C13GlueC12 (nodata defaulting, `chunks=` forms, tiling
translation).
-/
import OdcGeo.Props.C13GlueC12
import OdcGeo.Props.C12GiC13

namespace OdcGeo.C13
open OdcGeo OdcGeo.C17 OdcGeo.C04

theorem tiling12_wf {H W : Nat} {sy sx : List Nat} {a : ChunkArg} (ha : a.Small) (hH : 1 ≤ H) (hW : 1 ≤ W)
    {dy dx : List Span} (h : dstTilings H W sy sx a = .ok (dy, dx)) :
    C12.GBT.WF ⟨H, W, tiling12 H W sy sx a⟩ := by
  cases a with
  | var ys xs =>
    obtain ⟨h1, h2, _⟩ := dstTilings_var_ok h
    exact varTiles_wf ha.1 ha.2 h1 h2 hH hW
  | _ =>
    obtain ⟨h1, h2, _⟩ := tilesPair_ok h
    exact ⟨h1, h2, rfl, rfl, by simp only; omega, by simp only; omega⟩

/-- **`xr_reproject` on rotated / sheared / mirrored grids of one CRS, from the arguments to the pixels.**  Nearest
neighbour; the two geoboxes share a CRS and are related by ANY invertible affine map (the general path of
`grid_intersect`).  For EVERY nodata attribute, `src_nodata=`, `dst_nodata=`, EVERY accepted form of `chunks=`, every
source chunking (sums below 2³¹): with the dependency table that the model of the public `grid_intersect`
(`C12.gridIntersectSameCrs`: footprints from `polygon_from_transform`, convex disjointness) computes for the two tilings
`GeoboxTiles` builds from these arguments, every pixel of the computed dask array equals the pixel of the numpy-backed
call.  No dependency / footprint / shapely hypothesis (`C12.chunked_eq_whole_same_crs_general`), no tiling
hypothesis, no nodata hypothesis; what remains are facts about the inputs (non-empty rasters, invertible transforms,
chunk sums, boolean nodata, buffer shape). -/
theorem xr_entry_same_crs_general (a : XrArgs) (G : Gdal) (src buf r : Img) (crs : Option Nat)
    (L : List ((Int × Int) × List (Int × Int)))
    (hL : C12.gridIntersectSameCrs
            ⟨crs, true, a.D, ⟨a.dstH, a.dstW, tiling12 a.dstH a.dstW a.sy a.sx a.chunks⟩⟩
            ⟨crs, true, a.S, ⟨a.srcH, a.srcW, ⟨.var (intChunks a.sy), .var (intChunks a.sx)⟩⟩⟩ = .ok L)
    (hr : xrDask a G (depsOfC12 L) src = .ok r)
    (hsmall : a.chunks.Small) (hsy' : ChunksOK (intChunks a.sy)) (hsx' : ChunksOK (intChunks a.sx))
    (hbuf : WF buf a.dstH a.dstW)
    (hsy : a.sy.sum = a.srcH) (hsx : a.sx.sum = a.srcW)
    (hH : 1 ≤ a.srcH) (hW : 1 ≤ a.srcW) (hdH : 1 ≤ a.dstH) (hdW : 1 ≤ a.dstW)
    (hS : a.S.det ≠ 0) (hD : a.D.det ≠ 0)
    (hnd1 : NodataOk a.kind (xrNodata a.attrNd a.kwSrcNd a.dstNd).2)
    (hnd2 : NodataOk a.kind (xrNodata a.attrNd a.kwSrcNd a.dstNd).1)
    (d : Int × Int) (hd : 0 ≤ d.1 ∧ d.1 < a.dstH ∧ 0 ≤ d.2 ∧ d.2 < a.dstW) :
    r d = xrNumpy a G src buf d := by
  obtain ⟨c, hc, _, rfl⟩ := xrDask_ok_iff.1 hr
  have hrel := xrCfg_gridRel hc hsmall hsy' hsx'
  obtain ⟨dy, dx, ht, rfl⟩ := xrCfg_ok hc
  obtain ⟨hdy, hdx⟩ := dstTilings_chain ht
  rw [← daskResultP_id]
  exact C12.chunked_eq_whole_same_crs_general _ G src buf
    ⟨crs, true, a.D, ⟨a.dstH, a.dstW, tiling12 a.dstH a.dstW a.sy a.sx a.chunks⟩⟩
    ⟨crs, true, a.S, ⟨a.srcH, a.srcW, ⟨.var (intChunks a.sy), .var (intChunks a.sx)⟩⟩⟩
    ⟨hrel, rfl, rfl⟩ ⟨tiling12_wf hsmall hdH hdW ht, hD⟩
    ⟨varTiles_wf hsy' hsx' hsy hsx hH hW, hS⟩ L hL rfl rfl hbuf
    (hsy ▸ chunksTiling_isTiling a.sy) (hsx ▸ chunksTiling_isTiling a.sx) hdy hdx (xrNodata_guarantee _ _ _)
    hnd1 hnd2 d hd

/-! ### the hypotheses are satisfiable: a 2×2 raster onto the same raster rotated by 90° -/

def rotArgs : XrArgs :=
  { kind := .float, srcH := 2, srcW := 2, S := Aff.id, dstH := 2, dstW := 2, D := ⟨0, -1, 2, 1, 0, 0⟩, sy := [2], sx := [2],
    attrNd := none, kwSrcNd := none, dstNd := none, chunks := .var [2] [2] }

theorem rotArgs_deps :
    C12.gridIntersectSameCrs
      ⟨some 1, true, rotArgs.D, ⟨rotArgs.dstH, rotArgs.dstW, tiling12 rotArgs.dstH rotArgs.dstW rotArgs.sy rotArgs.sx rotArgs.chunks⟩⟩
      ⟨some 1, true, rotArgs.S, ⟨rotArgs.srcH, rotArgs.srcW, ⟨.var (intChunks rotArgs.sy), .var (intChunks rotArgs.sx)⟩⟩⟩
      = .ok [((0, 0), [(0, 0)])] := by decide +kernel

example (src : Img) : ∃ r, xrDask rotArgs cexGdal (depsOfC12 [((0, 0), [(0, 0)])]) src = .ok r ∧
    r (1, 0) = xrNumpy rotArgs cexGdal src (full 2 2 (.num 77)) (1, 0) :=
  ⟨_, rfl, xr_entry_same_crs_general rotArgs cexGdal src (full 2 2 (.num 77)) _ (some 1) _ rotArgs_deps rfl
    ⟨⟨by decide, by decide⟩, ⟨by decide, by decide⟩⟩ ⟨by decide, by decide⟩ ⟨by decide, by decide⟩
    (full_wf _ _ _)
    rfl rfl (by decide) (by decide) (by decide) (by decide) (by decide +kernel) (by decide +kernel)
    nofun nofun (1, 0) (by decide)⟩

end OdcGeo.C13
