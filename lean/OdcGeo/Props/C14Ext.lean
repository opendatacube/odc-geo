/-
C14 — `Bin1D` / `GridSpec` on the whole float domain (`Model/C14Ext.lean`): what the code does with non-finite and
overflowing tile sizes / resolutions / origins / coordinates, float-valued tile indices and integer indices beyond 2^53,
stated as theorems; on finite inputs without overflow the extended model IS the model of `Model/C14.lean`.
-/
import OdcGeo.Model.C14Ext
import OdcGeo.Lemmas.C14Ext
import OdcGeo.Props.C14

namespace OdcGeo.C14

/-- `Bin1D` on finite values with rounding `fl` and no overflow: index→interval (for an int index that `float()` keeps),
    point→index and the constructor coincide with `Model/C14.lean` -/
theorem ext_bin1d_finite (fl : Rnd) (b : Bin1D) (k : Int) (x : Rat) (hk : fl (k : Rat) = (k : Rat)) :
    b.toX.lo ⟨fl, none⟩ (.int k) = .ok (.fin (b.lo fl k)) ∧
    b.toX.hi ⟨fl, none⟩ (.int k) = .ok (.fin (b.hi fl k)) ∧
    b.toX.bin ⟨fl, none⟩ (.fin x) = .ok (b.bin fl x) ∧
    Bin1DX.new (.fin b.sz) (.fin b.origin) b.dir = liftK ((Bin1D.new b.sz b.origin b.dir).map Bin1D.toX) := by
  refine ⟨?_, ?_, ?_, ?_⟩
  · rw [Bin1DX.lo_int, hk]; rfl
  · unfold Bin1DX.hi
    rw [Bin1DX.lo_int, hk]; rfl
  · simp [Bin1DX.bin, XF.subX, XF.neg, XF.addX, XF.divPos, XF.floor, FEnv.ofRat, Bin1D.toX, Bin1D.bin, bind, Except.bind,
      pure, Except.pure, sub_eq_add_neg]
  · unfold Bin1DX.new Bin1D.new
    by_cases hd : b.dir = -1 ∨ b.dir = 1
    · by_cases hs : 0 < b.sz
      · simp [hd, hs, XF.isPos, liftK, Except.map, Bin1D.toX]
      · simp [hd, hs, XF.isPos, liftK, Except.map]
    · simp [hd, liftK, Except.map]

/-- a float-valued tile index is accepted and interpolates linearly: "tile 2.5" starts half a tile after tile 2 -/
theorem ext_float_index (b : Bin1D) (k : Rat) :
    b.toX.lo FEnv.exact (.flt k) = .ok (.fin (k * b.sz * (b.dir : Rat) + b.origin)) := rfl

/-- an integer index is converted to a float BEFORE the multiplication: beyond 2^53 that is one extra rounding, beyond the
    float range an `OverflowError` (stated for the upper end of the range) -/
theorem ext_int_index_converted_first (fl : Rnd) (M : Rat) (b : Bin1D) (k : Int) :
    (¬ M ≤ fl (k : Rat) → ¬ fl (k : Rat) ≤ -M →
      b.toX.lo ⟨fl, some M⟩ (.int k) = .ok
        ((((XF.fin (fl (k : Rat))).mul ⟨fl, some M⟩ (.fin b.sz)).mul ⟨fl, some M⟩ (.fin (b.dir : Rat))).addX ⟨fl, some M⟩
          (.fin b.origin))) ∧
    (M ≤ fl (k : Rat) → b.toX.lo ⟨fl, some M⟩ (.int k) = .error .overflow) := by
  constructor
  · intro h1 h2
    simp [Bin1DX.lo, Num.toXF, FEnv.ofInt, FEnv.ofRat, h1, h2, Bin1D.toX, bind, Except.bind, pure, Except.pure]
  · intro h
    simp [Bin1DX.lo, Num.toXF, FEnv.ofInt, FEnv.ofRat, h, bind, Except.bind]

/-- `Bin1D(sz, origin, direction)` accepts exactly positive sizes, `+inf` included; `nan`, `-inf`, zero and negative sizes
    trip `assert sz > 0`; the origin is not looked at; the only error is `AssertionError` -/
theorem ext_bin1d_accepts_iff (sz o : XF) (d : Int) :
    ((∃ b, Bin1DX.new sz o d = .ok b) ↔ (d = -1 ∨ d = 1) ∧ sz.isPos = true) ∧
    (∀ e, Bin1DX.new sz o d = .error e → e = .k .assertion) := by
  unfold Bin1DX.new
  by_cases hd : d = -1 ∨ d = 1 <;> cases hs : sz.isPos <;> simp [hd]

/-- a `nan` resolution never yields a grid (tile size `n·|nan| = nan` fails `assert sz > 0`): `AssertionError` -/
theorem ext_nan_resolution_rejected (fl : Rnd) (ny nx : Int) (ox oy r : XF) (fx fy : Bool) :
    GridSpecX.new ⟨fl, none⟩ ny nx .nan r ox oy fx fy = .error (.k .assertion) ∧
    GridSpecX.new ⟨fl, none⟩ ny nx r .nan ox oy fx fy = .error (.k .assertion) := by
  have hd : ∀ f : Bool, dirOf f = -1 ∨ dirOf f = 1 := fun f => (GridSpec.dirOf_cases f).symm
  constructor
  · unfold GridSpecX.new
    have hn : XF.abs .nan = .nan := rfl
    simp only [FEnv.ofInt, FEnv.ofRat, bind, Except.bind, hn, XF.mul_nan_right]
    cases h : Bin1DX.new ((XF.fin (fl (ny : Rat))).mul ⟨fl, none⟩ r.abs) oy (dirOf fy) with
    | error e => rw [(ext_bin1d_accepts_iff _ _ _).2 e h]
    | ok b => simp [Bin1DX.new, hd, XF.isPos]
  · unfold GridSpecX.new
    simp [FEnv.ofInt, FEnv.ofRat, bind, Except.bind, XF.abs, XF.mul_nan_right, Bin1DX.new, hd, XF.isPos]

/-- an infinite tile size (resolution `±inf`) IS accepted; such a binning has a single bin for point lookup — every finite
    point is in "tile 0" — but no usable footprint: tile 0 starts at `nan` (`0·inf`), every other tile at `±inf`. -/
theorem ext_infinite_tile (fl : Rnd) (o x : Rat) (d k : Int) (hd : d = -1 ∨ d = 1) (h0 : fl 0 = 0)
    (hk : fl (k : Rat) ≠ 0) :
    (∃ b, Bin1DX.new .pinf (.fin o) d = .ok b) ∧
    (⟨.pinf, .fin o, d⟩ : Bin1DX).bin ⟨fl, none⟩ (.fin x) = .ok 0 ∧
    (⟨.pinf, .fin o, d⟩ : Bin1DX).lo ⟨fl, none⟩ (.int 0) = .ok .nan ∧
    ((⟨.pinf, .fin o, d⟩ : Bin1DX).lo ⟨fl, none⟩ (.int k) = .ok .pinf ∨
     (⟨.pinf, .fin o, d⟩ : Bin1DX).lo ⟨fl, none⟩ (.int k) = .ok .ninf) := by
  refine ⟨((ext_bin1d_accepts_iff _ _ _).1).mpr ⟨hd, rfl⟩, ?_, ?_, ?_⟩
  · simp only [Bin1DX.bin, XF.subX, XF.addX, XF.neg, XF.divPos, XF.floor, FEnv.ofRat, bind, Except.bind, pure, Except.pure]
    have : Rat.floor 0 = 0 := rfl
    rw [this, mul_zero]
  · rw [Bin1DX.lo_int, Int.cast_zero, h0, XF.fin_mul_pinf, if_neg (lt_irrefl 0), if_neg (lt_irrefl 0)]; rfl
  · -- `k·inf` is `±inf` for `k ≠ 0`
    simp only [Bin1DX.lo_int, Except.ok.injEq]
    refine XF.inf_mul_unit_add _ ?_ hd o
    rw [XF.fin_mul_pinf]
    rcases lt_or_gt_of_ne hk with h | h
    · exact Or.inr (by rw [if_neg (not_lt.mpr h.le), if_pos h])
    · exact Or.inl (if_pos h)

/-- an infinite or `nan` origin with a finite tile size: every point lookup raises (`OverflowError` for `±inf`, `ValueError`
    for `nan`); with a `nan` origin every tile starts at `nan` -/
theorem ext_nonfinite_origin (fl : Rnd) (sz x : Rat) (d : Int) :
    (⟨.fin sz, .pinf, d⟩ : Bin1DX).bin ⟨fl, none⟩ (.fin x) = .error .overflow ∧
    (⟨.fin sz, .ninf, d⟩ : Bin1DX).bin ⟨fl, none⟩ (.fin x) = .error .overflow ∧
    (⟨.fin sz, .nan, d⟩ : Bin1DX).bin ⟨fl, none⟩ (.fin x) = .error (.k .valueError) ∧
    (∀ k : Int, (⟨.fin sz, .nan, d⟩ : Bin1DX).lo ⟨fl, none⟩ (.int k) = .ok .nan) := by
  exact ⟨rfl, rfl, rfl, fun k => congrArg Except.ok (XF.addX_nan_right _ _)⟩

/-- `GridSpec.tile_shape` is the shape the constructor was given; `dimensions` follows the CRS class -/
theorem tile_shape_and_dimensions {ny nx : Int} {rx ry ox oy : Rat} {fx fy : Bool} {g : GridSpec}
    (hg : GridSpec.new id ny nx rx ry ox oy fx fy = .ok g) :
    g.tileShape = (ny, nx) ∧ dimensions .geographic = .ok ("latitude", "longitude") ∧
    dimensions .projected = .ok ("y", "x") ∧ dimensions .otherKind = .error .valueError := by
  obtain ⟨h1, h2, _⟩ := gridspec_new_fields hg
  exact ⟨by unfold GridSpec.tileShape; rw [h1, h2], rfl, rfl, rfl⟩

end OdcGeo.C14
