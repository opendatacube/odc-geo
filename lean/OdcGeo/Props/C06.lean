/-
C06 — Multi-part assembly preserves the byte stream under any schedule.

`main` / `main_no_writer` over every merge tree (a dask `fold` / `collate` graph is a binary merge tree over adjacent
partitions, and `eval` / `run` are functions of the tree: `Model/C06.lean`), `file_chunk_bytes`, the schedule theorems
over `Spec/C06Schedule.lean`, the seeding of the partitions by `mpu_write`, and replays of the findings F7, F8, F9 on
the code as found (the model follows `_mpu.py` as repaired by their `fix:` commits).
-/
import OdcGeo.Lemmas.C06
import OdcGeo.Model.C06AsFound


namespace OdcGeo.C06
variable {α : Type}

/-- `append` refines "append to the byte stream" and keeps the invariant. -/
theorem append_refines {W : Writer} {c : Chunk α} {lo hi : Nat} {B : List α} {O : List (Nat × Int)}
    (h : Inv W c lo hi B O false) (d : List α) (cid : Int) :
    Inv W (c.append d cid) lo hi (B ++ d) (O ++ [(d.length, cid)]) false :=
  append_inv h d cid

/-- `maybe_write` never fails under the invariant, leaves the byte stream unchanged, keeps the
invariant (in particular: every part it writes has at least `min_write_sz` bytes and a
non-final section keeps one write credit and `min_write_sz` bytes), whatever `spill_sz` is. -/
theorem maybeWrite_refines {W : Writer} {c : Chunk α} {lo hi : Nat} {B : List α} {O : List (Nat × Int)}
    {fin : Bool} (spill : Nat) (h : Inv W c lo hi B O fin) :
    ∃ c' ws, maybeWrite W spill c = .ok (c', ws) ∧ Inv W c' lo hi B O fin ∧ c'.parts = c.parts ++ ws :=
  maybeWrite_inv spill h

/-- `merge` of two adjacent sections never fails under the invariant and refines concatenation of
the byte streams and of the observed lists (both the "concatenate" branch and the
"flush left / move to left_data" branch). -/
theorem merge_refines {W : Writer} {l r : Chunk α} {lo mid hi : Nat} {Bl Br : List α}
    {Ol Or : List (Nat × Int)} {fin : Bool}
    (hl : Inv W l lo mid Bl Ol false) (hr : Inv W r mid hi Br Or fin)
    (hminP : W.minPart < lo) (hmax : mid ≤ W.maxPart + 1) (hobs : (Ol ++ Or).length ≠ 0) :
    ∃ m ws, merge (some W) l r = .ok (m, ws) ∧ Inv W m lo hi (Bl ++ Br) (Ol ++ Or) fin ∧
      m.parts = l.parts ++ ws ++ r.parts :=
  merge_inv hl hr hminP hmax hobs

/-- Every merge tree (any bracketing of adjacent merges) over partitions with ≥ 1 chunk each
evaluates without failure to a chunk satisfying the invariant for the whole sub-stream, and the
writer calls made so far are, up to order, the parts the chunk remembers. -/
theorem tree_refines (W : Writer) (spill wpc : Nat) (markFinal : Bool) (total : Nat)
    (hcap : (⟨some W, spill, wpc, markFinal⟩ : Cfg).base total ≤ W.maxPart + 1) (t : Tree α)
    (idx : Nat) (hle : idx + t.leaves ≤ total) (hne : t.NonEmpty) :
    ∃ c ws, eval ⟨some W, spill, wpc, markFinal⟩ total t idx = .ok (c, ws) ∧
      Inv W c ((⟨some W, spill, wpc, markFinal⟩ : Cfg).base idx)
        ((⟨some W, spill, wpc, markFinal⟩ : Cfg).base (idx + t.leaves)) t.bytes t.obs
        (markFinal && decide (idx + t.leaves = total)) ∧ List.Perm ws c.parts :=
  eval_inv _ W rfl total hcap t idx hle hne

/-- the conclusions of `main` (below) as the fields of `Written`, and `ne`: `finalise` is never handed an empty list
(the writers assert that) -/
theorem main_written (W : Writer) (spill wpc : Nat) (t : Tree α)
    (mkHdr mkFtr : Option (List (Nat × Int) → List α))
    (hne : t.NonEmpty) (hcap : W.minPart + 1 + t.leaves * wpc ≤ W.maxPart + 1) :
    ∃ wsF fp wsAll,
      run ⟨some W, spill, wpc, mkFtr.isNone⟩ t mkHdr mkFtr = .ok (.written wsF fp, wsAll, t.obs) ∧
      Written W (optBytes (mkHdr.map (fun f => f t.obs)) ++ t.bytes ++ optBytes (mkFtr.map (fun f => f t.obs)))
        fp wsAll := by
  obtain ⟨root, ws, e, hI, hperm⟩ := eval_inv ⟨some W, spill, wpc, mkFtr.isNone⟩ W rfl t.leaves hcap t 0 (by omega) hne
  simp only [Nat.zero_add, decide_true, Bool.and_true] at hI
  have hff : (mkFtr.map (fun f => f t.obs)) ≠ none → mkFtr.isNone = false := by
    cases mkFtr <;> simp
  obtain ⟨O', hI1⟩ := addFooter_inv hI (mkFtr.map (fun f => f t.obs)) hff
  obtain ⟨root2, e2, hbytes, hparts, hP⟩ := addHeader_spec (hI1.preFlush hcap) (mkHdr.map (fun f => f t.obs))
  have hlo : W.minPart < (⟨some W, spill, wpc, mkFtr.isNone⟩ : Cfg).base 0 := by
    simp only [Cfg.base, Cfg.minPart]; omega
  obtain ⟨wsF, fp, e3, hF⟩ := flush_spec hP hlo (by omega)
  refine ⟨wsF, fp, ws ++ ([] ++ wsF), ?_, { hF with bytes := ?_, perm := ?_ }⟩
  · simp only [run, e, hI.obs, finalizer_eq, e2, e3]
  · rw [hF.bytes, hbytes, hI1.stream, List.append_assoc]
  · have hp := hF.perm
    rw [hparts, (addFooter_fields root _).1] at hp
    exact (hperm.append_right _).trans hp

/-- **C06, writer present.**  For every writer limits `W`, spill size, writes-per-chunk, every
merge tree `t` over partitions holding ≥ 1 chunk each (chunk sizes arbitrary, 0 included), every
header / footer callback (absent, returning nothing, returning bytes), provided the writer has
enough part numbers (`min_part + 1 + #partitions·wpc ≤ max_part + 1`):

* the run does not fail and both callbacks were shown the complete ordered `(size, id)` list;
* the list `fp` handed to `finalise` concatenates to header ++ chunks ++ footer;
* its part numbers strictly increase (hence are unique) and lie in `[min_part, max_part]`;
* every part except the last has at least `min_write_sz` bytes;
* the writer calls made anywhere in the graph (`wsAll`) are exactly `fp` (as a multiset), so the
  parts concatenated in increasing part number are header ++ chunks ++ footer. -/
theorem main (W : Writer) (spill wpc : Nat) (t : Tree α)
    (mkHdr mkFtr : Option (List (Nat × Int) → List α))
    (hne : t.NonEmpty) (hcap : W.minPart + 1 + t.leaves * wpc ≤ W.maxPart + 1) :
    ∃ wsF fp wsAll,
      run ⟨some W, spill, wpc, mkFtr.isNone⟩ t mkHdr mkFtr = .ok (.written wsF fp, wsAll, t.obs) ∧
      partsBytes fp = optBytes (mkHdr.map (fun f => f t.obs)) ++ t.bytes ++
                      optBytes (mkFtr.map (fun f => f t.obs)) ∧
      fp.Pairwise (fun a b => a.id < b.id) ∧
      (∀ p ∈ fp, W.minPart ≤ p.id ∧ p.id ≤ W.maxPart) ∧
      (∀ p ∈ fp.dropLast, W.minWrite ≤ p.data.length) ∧
      List.Perm wsAll fp :=
  let ⟨wsF, fp, wsAll, h, hw⟩ := main_written W spill wpc t mkHdr mkFtr hne hcap
  ⟨wsF, fp, wsAll, h, hw.bytes, hw.incr, hw.range, hw.sizes, hw.perm⟩

/-- **C06, no writer** (`write=None`): nothing is written; the root chunk returned by the
finaliser holds header ++ chunks ++ footer in its data section and the complete observed list was
shown to the callbacks. -/
theorem main_no_writer (spill wpc : Nat) (t : Tree α)
    (mkHdr mkFtr : Option (List (Nat × Int) → List α)) (hne : t.NonEmpty) :
    ∃ c, run ⟨none, spill, wpc, mkFtr.isNone⟩ t mkHdr mkFtr = .ok (.chunk c, [], t.obs) ∧
      c.parts = [] ∧ c.left = [] ∧
      c.data = optBytes (mkHdr.map (fun f => f t.obs)) ++ t.bytes ++
               optBytes (mkFtr.map (fun f => f t.obs)) := by
  obtain ⟨root, e, h1, h2, h3, h4⟩ := eval_none (α := α) spill wpc mkFtr.isNone t.leaves t 0 hne
  obtain ⟨fp, fl, fd⟩ := addFooter_fields root (mkFtr.map (fun f => f t.obs))
  rw [h1] at fp; rw [h2] at fl; rw [h3] at fd
  -- a chunk that has written nothing meets what the header stage asks, for any writer
  obtain ⟨root2, e2, hb, hparts, hP2⟩ :=
    addHeader_spec (PreFlush.of_unstarted ⟨0, 0, 0⟩ 0 fp fl) (mkHdr.map (fun f => f t.obs))
  have p2 : root2.parts = [] := hparts.trans fp
  refine ⟨root2, ?_, p2, hP2.unstarted p2, ?_⟩
  · simp only [run, e, h4, finalizer_eq, e2, List.append_nil]
  · rw [p2, hP2.unstarted p2, fp, fl, fd] at hb
    simpa [List.append_assoc] using hb

/-- **The written object, chunk by chunk.**  With a header of fixed length `hdrSz` (the COG header is
patched in place, its length does not depend on the observed list) and no footer, the bytes of the
`i`-th chunk of the stream sit in the finished object exactly at offset
`hdrSz + (total size of the chunks before it)`. -/
theorem file_chunk_bytes (W : Writer) (spill wpc : Nat) (t : Tree α)
    (mkHdr : Option (List (Nat × Int) → List α))
    (hne : t.NonEmpty) (hcap : W.minPart + 1 + t.leaves * wpc ≤ W.maxPart + 1)
    (hdrSz : Nat) (hH : (optBytes (mkHdr.map (fun f => f t.obs))).length = hdrSz) :
    ∃ wsF fp wsAll,
      run ⟨some W, spill, wpc, true⟩ t mkHdr none = .ok (.written wsF fp, wsAll, t.obs) ∧
      ∀ i (hi : i < t.chunks.length),
        ((partsBytes fp).drop (hdrSz + (t.chunks.take i).flatten.length)).take (t.chunks[i].length)
          = t.chunks[i] := by
  obtain ⟨wsF, fp, wsAll, hrun, hbytes, _, _, _, _⟩ := main W spill wpc t mkHdr none hne hcap
  refine ⟨wsF, fp, wsAll, by simpa using hrun, ?_⟩
  intro i hi
  rw [hbytes]
  rw [Tree.bytes_eq_flatten, ← hH]
  exact slice_flatten _ _ _ i hi

/-- **Schedule independence.**  However the scheduler orders the tasks of the graph (any sequence of
enabled partition / merge tasks, interleaved arbitrarily across the tree), an execution that runs
the graph to completion ends with exactly the chunk `eval` computes, and the writer calls it made
are exactly `eval`'s, up to order. -/
theorem schedule_result (cfg : Cfg) (total : Nat) (t : Tree α) (idx : Nat) (c : Chunk α)
    (log : List (Part α))
    (h : Steps cfg total (Run.ofTree t idx, []) (.done c, log)) :
    ∃ ws, eval cfg total t idx = .ok (c, ws) ∧ List.Perm log ws := by
  obtain ⟨ws', hr, hp⟩ := steps_rel cfg total h (rel_ofTree cfg total t idx) (List.Perm.refl _)
  cases hr with
  | done _ _ _ ws _ he hpw => exact ⟨ws, he, List.Perm.trans hp hpw⟩

/-- **No schedule gets stuck**: while `eval` of the whole tree succeeds, every state that is not
finished has an enabled task. -/
theorem schedule_progress (cfg : Cfg) (total : Nat) {r : Run α} {t : Tree α} {idx : Nat}
    {ws : List (Part α)} (hr : Rel cfg total r t idx ws) (log : List (Part α))
    (hok : ∃ c w, eval cfg total t idx = .ok (c, w)) :
    (∃ c, r = .done c) ∨ ∃ r' log', Step cfg total (r, log) (r', log') := by
  induction hr generalizing log with
  | leafTodo idx chunks =>
    right
    obtain ⟨c, w, he⟩ := hok
    exact ⟨.done c, log ++ w, Step.leaf idx chunks c w log (by simpa [eval] using he)⟩
  | nodeTodo l r tl tr idx wl wr hl hr ihl ihr =>
    right
    obtain ⟨c, w, he⟩ := hok
    obtain ⟨cl, wl', cr, wr', m, wm, hel, her, hm⟩ := eval_node_ok he
    rcases ihl log ⟨cl, wl', hel⟩ with ⟨cl0, rfl⟩ | ⟨l', log', hs⟩
    · rcases ihr log ⟨cr, wr', her⟩ with ⟨cr0, rfl⟩ | ⟨r', log', hs⟩
      · -- both done: the merge task is enabled
        cases hl with
        | done _ _ _ wsl _ hel' _ =>
          cases hr with
          | done _ _ _ wsr _ her' _ =>
            cases hel.symm.trans hel'
            cases her.symm.trans her'
            exact ⟨.done m, log ++ wm, Step.node cl cr m wm log hm⟩
      · exact ⟨.nodeTodo (.done cl0) r', log', Step.right _ _ _ _ _ hs⟩
    · exact ⟨.nodeTodo l' r, log', Step.left _ _ _ _ _ hs⟩
  | done c t idx ws ws' he hp => left; exact ⟨c, rfl⟩

/-- **Each step consumes a task** (the one-step fact behind "every schedule is finite"): a task that fires
removes exactly one task from the to-do set. -/
theorem schedule_step_count (cfg : Cfg) (total : Nat) {s s' : Run α × List (Part α)}
    (h : Step cfg total s s') : s'.1.todo + 1 = s.1.todo := by
  induction h with
  | leaf => rfl
  | node => rfl
  | left l l' r log log' _ ih => simp only [Run.todo] at ih ⊢; omega
  | right l r r' log log' _ ih => simp only [Run.todo] at ih ⊢; omega

theorem genBunch_eq (cfg : Cfg) (total off n : Nat) (last : Bool)
    (hlast : last = true → off + n = total) (hnot : last = false → off + n < total) :
    genBunch (cfg.base off) n cfg.wpc (cfg.markFinal && last) cfg.lhsKeep
      = (List.range n).map fun p => cfg.seed total (off + p) := by
  simp only [genBunch, Cfg.seed, base_add]
  apply List.map_congr_left
  intro p hp
  have hp' : p < n := List.mem_range.mp hp
  congr 1
  cases last with
  | true =>
    have := hlast rfl
    have : (p + 1 = n) ↔ (off + p + 1 = total) := by omega
    simp [this]
  | false =>
    have := hnot rfl
    have : ¬ (off + p + 1 = total) := by omega
    simp [this]

/-- **Seeding.**  For every list of bags with at least one partition each, the sections `mpu_write` creates
(`gen_bunch` per bag, running part counter, final flag on the last partition of the last bag only, one `lhs_keep` for
all) are, read in stream order, exactly the seeds `eval` uses for global partition indices `0 … total-1`.  Hence
`main` / `schedule_result`, stated over global indices, speak about what `mpu_write` builds from several bags. -/
theorem mpu_write_seeds_global (cfg : Cfg) (nparts : List Nat) (hpos : ∀ n ∈ nparts, 0 < n) :
    (mpuWriteSeeds cfg nparts).flatten = (List.range nparts.sum).map (cfg.seed nparts.sum) := by
  suffices h : ∀ (total off : Nat) (ns : List Nat), (∀ n ∈ ns, 0 < n) → off + ns.sum = total →
      (mpuWriteSeedsFrom cfg (cfg.base off) ns).flatten = (List.range ns.sum).map fun p => cfg.seed total (off + p) by
    have := h nparts.sum 0 nparts hpos (by simp)
    simpa [mpuWriteSeeds, Cfg.base] using this
  intro total off ns
  induction ns generalizing off with
  | nil => intro _ _; simp [mpuWriteSeedsFrom]
  | cons n rest ih =>
    intro hp hsum
    have hn : 0 < n := hp n (by simp)
    have hrest : ∀ m ∈ rest, 0 < m := fun m hm => hp m (by simp [hm])
    simp only [List.sum_cons] at hsum
    simp only [mpuWriteSeedsFrom, List.flatten_cons, List.sum_cons, ← base_add]
    rw [ih (off + n) hrest (by omega)]
    rw [genBunch_eq cfg total off n rest.isEmpty]
    · rw [List.range_add, List.map_append, List.map_map]
      congr 1
      apply List.map_congr_left
      intro p _
      simp [Nat.add_assoc]
    · intro he
      have : rest = [] := by simpa using he
      subst this; simp at hsum; omega
    · intro he
      cases rest with
      | nil => simp at he
      | cons m ms =>
        have := hrest m (by simp)
        simp only [List.sum_cons] at hsum
        omega

/-- ids handed to different partitions never collide and stay in stream order: partition `i` owns
`[base i, base i + wpc)` -/
theorem seed_ranges_disjoint (cfg : Cfg) (i j : Nat) (h : i < j) : cfg.base i + cfg.wpc ≤ cfg.base j :=
  base_succ cfg i ▸ base_mono cfg h

example : mpuWriteSeeds ⟨some ⟨10, 3, 100⟩, 0, 2, true⟩ [2, 1, 3]
    = [[⟨4, 2, false, 10⟩, ⟨6, 2, false, 10⟩], [⟨8, 2, false, 10⟩],
       [⟨10, 2, false, 10⟩, ⟨12, 2, false, 10⟩, ⟨14, 2, true, 10⟩]] := by decide

def bytes (n : Nat) : List Nat := List.replicate n 7

/-- F7 as found: final partition with two 30-byte chunks, `spill_sz = 20`, `min_write_sz = 10`,
one write credit: the credit is spent after the first chunk and the final flush fails. -/
theorem cex_final_two_chunks_as_found :
    (match AsFound.appendChunksOp true ⟨10, 1, 100⟩ 20 (mkChunk 2 1 true 10 : Chunk Nat)
        [(bytes 30, 0), (bytes 30, 1)] with
     | .ok (c, _) => (match flush ⟨10, 1, 100⟩ c (some 1) with | .error .assertion => true | _ => false)
     | .error _ => false) = true := by decide

/-- … and the repaired `_mpu_append_chunks_op` on the same input flushes fine. -/
theorem cex_final_two_chunks_repaired :
    (match appendChunksOp (some ⟨10, 1, 100⟩) 20 (mkChunk 2 1 true 10 : Chunk Nat)
        [(bytes 30, 0), (bytes 30, 1)] with
     | .ok (c, _) => (match flush ⟨10, 1, 100⟩ c (some 1) with | .ok _ => true | _ => false)
     | .error _ => false) = true := by decide

/-- F8 as found: `spill_sz = 1 < min_write_sz = 10`, two write credits: a 5-byte part is written in
the middle of the stream. -/
theorem cex_small_spill_as_found :
    (match AsFound.appendChunksOp false ⟨10, 1, 100⟩ 1 (mkChunk 2 2 false 10 : Chunk Nat)
        [(bytes 25, 0), (bytes 25, 1)] with
     | .ok (_, ws) => ws.any (fun p => decide (p.data.length < 10))
     | .error _ => false) = true := by decide

/-- F9 as found: the finaliser passed `leftPartId = 1`; for a writer with `min_part = 5` that part
number is below the allowed range.  The repaired finaliser passes `min_part`. -/
theorem cex_min_part_as_found :
    (match flush ⟨10, 5, 100⟩ ({ (mkChunk 6 1 false 10 : Chunk Nat) with data := bytes 30 }) (some 1) with
     | .ok (ws, _) => ws.any (fun p => decide (p.id < 5))
     | .error _ => false) = true := by decide

/-- the hypotheses of `main` are satisfiable (two partitions, three chunks, writer range 1..100) -/
example :
    let t : Tree Nat := .node (.leaf [([1, 2, 3], 0)]) (.leaf [([4, 5], 1), ([6], 2)])
    t.NonEmpty ∧ (1 + 1 + t.leaves * 1 ≤ 100 + 1) := by
  simp [Tree.NonEmpty, Tree.leaves]

end OdcGeo.C06
