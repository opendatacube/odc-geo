/-
C10 ∘ C03 — every plan that `compute_reproject_roi` (model: `C03.reprojectLinear`) returns with
`paste_ok` satisfies the hypotheses of C10's paste contract, and the contract follows end to end:

* the planned regions come from `box_overlap` of a *unit* transform (scale ±1 with the signs of the true transform,
  whole-pixel offsets in overview pixels), for every read-shrink `k ≥ 1`;
* shape law: `shape(roi_src) = k · shape(roi_dst)`;
* `plan_paste_eq_warp`: under an explicit half-pixel budget on the tolerances the pasted image equals the
  nearest-neighbour warp under the TRUE transform, pixel for pixel, for every read-shrink `k` (of the `k`-fold overview
  under the true overview transform); `paste_equals_nearest` is read-shrink 1 (of the source itself);
* without the budget (`ttol > ½`) the contract can fail at an exact half-pixel tie: `paste_tie_cex`.
-/
import OdcGeo.Model.C10
import OdcGeo.Lemmas.C10
import OdcGeo.Props.C03
import OdcGeo.Props.C10
namespace OdcGeo.C10
open OdcGeo.C17 OdcGeo.C03

theorem snapAffine_overview_unit (A : Aff) (n stol ttol : Rat) (rs : Int) (hc : PasteCond A n stol ttol rs)
    (hstol : stol ≤ 1 / 2) :
    ∃ tx ty : Int, UnitSnap (overviewTr A rs) (snapAffine (overviewTr A rs) ttol stol) ttol tx ty := by
  obtain ⟨kx, hkx, mkx⟩ := isAlmostInt_spec _ _ hc.tx
  obtain ⟨ky, hky, mky⟩ := isAlmostInt_spec _ _ hc.ty
  refine ⟨kx, ky, ?_⟩
  rw [snapAffine_of_st _ _ _ hc.ov_st.1 hc.ov_st.2, snap_scale_unit_band _ stol hstol hc.sx,
    snap_scale_unit_band _ stol hstol hc.sy, mkx, mky]
  exact ⟨⟨rfl, rfl, (ite_eq_or_eq _ _ _).symm, (ite_eq_or_eq _ _ _).symm, rfl, rfl⟩, rfl, rfl, hkx, hky⟩

/-- **Link: a pasteable plan is `box_overlap` of a unit transform, for every read-shrink.**  If the plan reports
`paste_ok` (and `stol ≤ ½`), then with `k = read_shrink` and `B = scale(1/k)·A` the transform into the raster the block is
read from (`readShape`: the source for `k = 1`, its `k`-fold overview otherwise): `S = snap_affine B` is a unit scale +
whole-pixel shift with the signs of `B`, its offsets are within `ttol` of those of `B`, and the regions are `box_overlap`
of `S`, the source region scaled back up by `k`.  These are the hypotheses on `S` of `paste_eq_warp`,
`paste_roi_shapes_equal`, `paste_dst_exact`. -/
theorem plan_satisfies_paste_contract {src dst : Shape} {fwd A : Aff} {n ttol stol : Rat} {padding align : Option Int}
    {p : Plan} (h : reprojectLinear src dst fwd A n ttol stol padding align = .ok p) (hp : p.pasteOk = true)
    (hstol : stol ≤ 1 / 2) :
    ∃ (tx ty : Int) (r' : ROI),
      UnitSnap (overviewTr A p.readShrink) (snapAffine (overviewTr A p.readShrink) ttol stol) ttol tx ty ∧
      boxOverlap (readShape src p.readShrink) dst (snapAffine (overviewTr A p.readShrink) ttol stol) =
        .ok (r', p.roiDst) ∧
      p.roiSrc = scaledUpROI r' p.readShrink := by
  obtain ⟨hcp, r', hb, hsrc⟩ := plan_paste_box h hp
  obtain ⟨h1, _⟩ := reprojectLinear_cases h
  obtain ⟨rs, hc⟩ := (canPaste_true_iff A n stol ttol).mp hcp
  obtain rfl : p.readShrink = rs := Except.ok.inj (h1.symm.trans hc.hrs)
  obtain ⟨tx, ty, hS⟩ := snapAffine_overview_unit A n stol ttol _ hc hstol
  exact ⟨tx, ty, r', hS, hb, hsrc⟩

/-- **Shape law of every pasteable plan**: `shape(roi_src) = read_shrink · shape(roi_dst)`, on both axes, for every
read-shrink (the two-sided oracle `paste-src-shape-not-shrink-times-dst` of the harness, as a theorem). -/
theorem paste_shape_law (src dst : Shape) (fwd A : Aff) (n ttol stol : Rat) (padding align : Option Int)
    (p : Plan) (h : reprojectLinear src dst fwd A n ttol stol padding align = .ok p) (hp : p.pasteOk = true)
    (hstol : stol ≤ 1 / 2) (hs : 0 ≤ src.1 ∧ 0 ≤ src.2) (hd : 0 ≤ dst.1 ∧ 0 ≤ dst.2) :
    p.roiSrc.1.stop - p.roiSrc.1.start = p.readShrink * (p.roiDst.1.stop - p.roiDst.1.start) ∧
    p.roiSrc.2.stop - p.roiSrc.2.start = p.readShrink * (p.roiDst.2.stop - p.roiDst.2.start) := by
  obtain ⟨tx, ty, r', hS, hb, hsrc⟩ := plan_satisfies_paste_contract h hp hstol
  have := paste_roi_shapes_equal _ dst _ tx ty hS.unit (readShape_nonneg hs _) hd _ hb
  rw [hsrc, ← this.1, ← this.2]
  simp only [scaledUpROI, scaledUpSlice]
  constructor <;> ring

theorem paste_eq_warp_of_budget {α : Type} (img : Int → Int → α) (nodata : α) {src dst : Shape} {B S : Aff}
    {ttol : Rat} {tx ty : Int} (hS : UnitSnap B S ttol tx ty) (hs : 0 ≤ src.1 ∧ 0 ≤ src.2)
    (hd : 0 ≤ dst.1 ∧ 0 ≤ dst.2) {r : ROI × ROI} (hb : boxOverlap src dst S = .ok r)
    (hbx : rabs (rabs B.a - 1) * dst.2 + rabs B.b * dst.1 + ttol ≤ 1 / 2)
    (hby : rabs (rabs B.e - 1) * dst.1 + rabs B.d * dst.2 + ttol ≤ 1 / 2)
    (dy dx : Int) (hdy : 0 ≤ dy ∧ dy < dst.1) (hdx : 0 ≤ dx ∧ dx < dst.2) :
    pasted img (decide (B.e < 0)) (decide (B.a < 0)) r.1 r.2 nodata dy dx = Warp.nnWarp img src B nodata dy dx := by
  have hu := centre_interior hdx.1 hdx.2
  have hv := centre_interior hdy.1 hdy.2
  have cx := close_of_budget B.a B.b B.c tx ttol dst.2 dst.1 _ _ hu hv hS.cx hbx
  have cy := close_of_budget B.e B.d B.f ty ttol dst.1 dst.2 _ _ hv hu hS.cy hby
  rw [← hS.sa] at cx
  rw [← hS.se] at cy
  rw [← decide_neg_of_sign hS.sa, ← decide_neg_of_sign hS.se]
  refine paste_eq_warp img nodata src dst S B tx ty hS.unit hs hd r hb dy dx hdy hdx ?_ ?_
  · rw [hS.unit.apply_eq]; exact cx
  · rw [hS.unit.apply_eq, Aff.apply, add_comm (B.d * _)]; exact cy

/-- **Paste = nearest-neighbour warp, for every read-shrink `k`.**  `rd` is the raster the block is read from and
`B = scale(1/k)·A` the TRUE transform into it.  With the half-pixel budget stated for `B` (in pixels of `rd`:
`||B.a|−1|·nx + |B.b|·ny + ttol ≤ ½`, `|B.d|·nx + ||B.e|−1|·ny + ttol ≤ ½`, `ny × nx` the destination shape), the
destination region filled from the block `r'` (`roi_src = k · r'`), reversed along mirrored axes, nodata elsewhere, equals
the nearest-neighbour warp of the whole of `rd` under `B` — for every destination pixel and pixel type. -/
theorem plan_paste_eq_warp {α : Type} (ov : Int → Int → α) (nodata : α) {src dst : Shape} {fwd A : Aff}
    {n ttol stol : Rat} {padding align : Option Int} {p : Plan}
    (h : reprojectLinear src dst fwd A n ttol stol padding align = .ok p) (hp : p.pasteOk = true)
    (hstol : stol ≤ 1 / 2) {B : Aff} (hB : overviewTr A p.readShrink = B) {rd : Shape}
    (hrd : readShape src p.readShrink = rd) (hs : 0 ≤ rd.1 ∧ 0 ≤ rd.2) (hd : 0 ≤ dst.1 ∧ 0 ≤ dst.2)
    (hbx : rabs (rabs B.a - 1) * dst.2 + rabs B.b * dst.1 + ttol ≤ 1 / 2)
    (hby : rabs (rabs B.e - 1) * dst.1 + rabs B.d * dst.2 + ttol ≤ 1 / 2) :
    ∃ r' : ROI, p.roiSrc = scaledUpROI r' p.readShrink ∧
      ∀ dy dx : Int, 0 ≤ dy ∧ dy < dst.1 → 0 ≤ dx ∧ dx < dst.2 →
        pasted ov (decide (B.e < 0)) (decide (B.a < 0)) r' p.roiDst nodata dy dx = Warp.nnWarp ov rd B nodata dy dx := by
  subst hB hrd
  obtain ⟨tx, ty, r', hS, hb, hsrc⟩ := plan_satisfies_paste_contract h hp hstol
  exact ⟨r', hsrc, fun dy dx hdy hdx =>
    paste_eq_warp_of_budget ov nodata hS hs hd hb hbx hby dy dx hdy hdx⟩

/-- **`paste_equals_nearest`, read-shrink 1.**  Plan with `paste_ok`, read-shrink 1, `stol ≤ ½`, and the explicit
half-pixel budget `||A.a|−1|·nx + |A.b|·ny + ttol ≤ ½`, `|A.d|·nx + ||A.e|−1|·ny + ttol ≤ ½` (`ny × nx` the destination
shape: scale residue and rotation residue accumulated over the destination, plus the shift tolerance).  Then for EVERY
destination pixel and every pixel type the pasted image — `roi_src` copied into `roi_dst`, reversed along mirrored axes,
nodata elsewhere — is the nearest-neighbour warp of the whole source under the TRUE transform `A`. -/
theorem paste_equals_nearest {α : Type} (img : Int → Int → α) (nodata : α) (src dst : Shape) (fwd A : Aff)
    (n ttol stol : Rat) (padding align : Option Int) (p : Plan)
    (h : reprojectLinear src dst fwd A n ttol stol padding align = .ok p) (hp : p.pasteOk = true)
    (hrs : p.readShrink = 1) (hstol : stol ≤ 1 / 2)
    (hs : 0 ≤ src.1 ∧ 0 ≤ src.2) (hd : 0 ≤ dst.1 ∧ 0 ≤ dst.2)
    (hbx : rabs (rabs A.a - 1) * dst.2 + rabs A.b * dst.1 + ttol ≤ 1 / 2)
    (hby : rabs (rabs A.e - 1) * dst.1 + rabs A.d * dst.2 + ttol ≤ 1 / 2)
    (dy dx : Int) (hdy : 0 ≤ dy ∧ dy < dst.1) (hdx : 0 ≤ dx ∧ dx < dst.2) :
    pasted img (decide (A.e < 0)) (decide (A.a < 0)) p.roiSrc p.roiDst nodata dy dx =
      Warp.nnWarp img src A nodata dy dx := by
  obtain ⟨r', hsrc, hall⟩ := plan_paste_eq_warp img nodata h hp hstol (by rw [hrs, overviewTr_one])
    (by rw [hrs, readShape_one]) hs hd hbx hby
  rw [hrs, scaledUpROI_one] at hsrc
  exact hsrc ▸ hall dy dx hdy hdx

/-- **Paste = nearest-neighbour warp for whole-pixel shifts with a sub-pixel residue,
mirrored or not.**  If the true transform has exactly unit scales (`A.a, A.e ∈ {1, -1}`, no
rotation) and the plan reports `paste_ok` with read-shrink 1 (so the offsets are within
`ttol ≤ ½` of whole pixels), then for *every* destination pixel and every pixel type the pasted image
equals the nearest-neighbour warp of the whole source under the true transform. -/
theorem plan_paste_eq_warp_shift {α : Type} (img : Int → Int → α) (nodata : α) (src dst : Shape) (fwd A : Aff)
    (n ttol stol : Rat) (padding align : Option Int) (p : Plan)
    (h : reprojectLinear src dst fwd A n ttol stol padding align = .ok p) (hp : p.pasteOk = true)
    (hrs : p.readShrink = 1) (hstol : stol ≤ 1 / 2) (httol : ttol ≤ 1 / 2)
    (hs : 0 ≤ src.1 ∧ 0 ≤ src.2) (hd : 0 ≤ dst.1 ∧ 0 ≤ dst.2)
    (ha : A.a = 1 ∨ A.a = -1) (he : A.e = 1 ∨ A.e = -1) (hb : A.b = 0) (hd' : A.d = 0)
    (dy dx : Int) (hdy : 0 ≤ dy ∧ dy < dst.1) (hdx : 0 ≤ dx ∧ dx < dst.2) :
    pasted img (decide (A.e < 0)) (decide (A.a < 0)) p.roiSrc p.roiDst nodata dy dx =
      Warp.nnWarp img src A nodata dy dx := by
  -- no scale or rotation residue: the budget of `paste_equals_nearest` is just `ttol ≤ ½`
  have z : rabs (rabs A.a - 1) = 0 ∧ rabs (rabs A.e - 1) = 0 := by
    rcases ha with e | e <;> rcases he with e' | e' <;> rw [e, e'] <;> decide +kernel
  exact paste_equals_nearest img nodata src dst fwd A n ttol stol padding align p h hp hrs hstol hs hd
    (by rw [z.1, hb, show rabs 0 = 0 from rfl, zero_mul, zero_mul, zero_add, zero_add]; exact httol)
    (by rw [z.2, hd', show rabs 0 = 0 from rfl, zero_mul, zero_mul, zero_add, zero_add]; exact httol)
    dy dx hdy hdx

/-- **Counterexample without the budget (`ttol > ½`), model side.**  odc-geo admits tolerances above one half (loaders pass
`ttol = 0.9` for nearest resampling).  With the true shift exactly half a pixel, `A = x + ½`, `ttol = 9/10`: the plan
reports `paste_ok`, snaps the shift to 0 (`maybe_int(½) = 0`) and pastes column `d ↦ d`; the centre of destination pixel
`d` maps to `d + 1` exactly, so the nearest-neighbour warp reads column `d + 1`.  (Replayed on the real code: GDAL reads
`src[d+1]`; an exact tie, so it is excluded from the harness' pixel comparison by its 1e-6 px edge band.) -/
theorem paste_tie_cex :
    (reprojectLinear (1, 4) (1, 4) ⟨1, 0, -1 / 2, 0, 1, 0⟩ ⟨1, 0, 1 / 2, 0, 1, 0⟩ 1 (9 / 10) tol1em3 none none).toOption.map
        (fun p => (p.pasteOk, p.readShrink, p.roiSrc, p.roiDst)) =
      some (true, 1, (⟨0, 1⟩, ⟨0, 4⟩), (⟨0, 1⟩, ⟨0, 4⟩)) ∧
    pasted (fun _ c => c) false false (⟨0, 1⟩, ⟨0, 4⟩) (⟨0, 1⟩, ⟨0, 4⟩) (-1) 0 1 = 1 ∧
    Warp.nnWarp (fun _ c => c) (1, 4) ⟨1, 0, 1 / 2, 0, 1, 0⟩ (-1) 0 1 = 2 := by
  refine ⟨by decide +kernel, by decide +kernel, by decide +kernel⟩

end OdcGeo.C10
