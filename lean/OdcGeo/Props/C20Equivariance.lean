/-
C20 / snap_grid — exact-arithmetic laws of the one-axis snapping model: shifting the interval by whole pixels shifts
the grid by the same pixels and keeps the pixel count (`maybe_int`, `_snap_edge_pos`, `snap_grid`, both the snapped and
the floating branch).
-/
import OdcGeo.Lemmas.C20

namespace OdcGeo.C20

/-- **`maybe_int` commutes with integer shifts** (`tol ≤ 1/2`): `maybe_int(x + j) = maybe_int(x) + j`. -/
theorem maybe_int_add_int (x tol : Rat) (j : Int) (ht : tol ≤ 1 / 2) :
    maybeInt (x + j) tol = maybeInt x tol + j := by
  cases h : maybeInt? x tol with
  | some k =>
    have hk : |x + j - ((k + j : Int) : Rat)| < tol := by
      rw [Int.cast_add, add_sub_add_right_eq_sub]; exact (maybeInt?_some h).2.1
    rw [maybeInt_of_some h, maybeInt_of_some (maybeInt?_of_near ht hk), Int.cast_add]
  | none =>
    cases h' : maybeInt? (x + j) tol with
    | none => rw [maybeInt_of_none h, maybeInt_of_none h']
    | some k' =>
      -- were `x + j` snapped to `k'`, `x` would be snapped to `k' - j`
      have hk : |x - ((k' - j : Int) : Rat)| < tol := by
        rw [Int.cast_sub, ← sub_add, sub_add_eq_add_sub]; exact (maybeInt?_some h').2.1
      cases h.symm.trans (maybeInt?_of_near ht hk)

theorem snap_edge_pos_shift (x0 x1 res tol : Rat) (j : Int) (ht : tol ≤ 1 / 2) :
    snapEdgePos (x0 + j * res) (x1 + j * res) res tol =
      (snapEdgePos x0 x1 res tol).map fun r => (r.1 + j * res, r.2) := by
  unfold snapEdgePos
  simp only [ge_iff_le, add_le_add_iff_right]
  split_ifs with hr hx
  · have e (x : Rat) : (x + j * res) / res = x / res + j := by rw [add_div, mul_div_cancel_right₀ _ hr.ne']
    rw [e, e, maybe_int_add_int _ _ _ ht, maybe_int_add_int _ _ _ ht, Rat.floor_add_intCast, Rat.ceil_add_intCast,
      add_sub_add_right_eq_sub, Int.cast_add, add_mul]
    rfl
  · rfl
  · rfl

/-- **`snap_grid` is shift-equivariant**: translating the interval by `j` whole pixels translates the grid origin by the
same amount and leaves the pixel count unchanged — snapped (any anchor fraction) and floating, both signs of `res`. -/
theorem snap_grid_shift (x0 x1 res tol : Rat) (off : Option Rat) (j : Int) (ht : tol ≤ 1 / 2) :
    snapGrid (x0 + j * |res|) (x1 + j * |res|) res off tol =
      (snapGrid x0 x1 res off tol).map fun r => (r.1 + j * |res|, r.2) := by
  cases off with
  | some op =>
    by_cases hop : 0 ≤ op ∧ op < 1
    · rw [snapGrid_some_eq hop, snapGrid_some_eq hop, add_sub_right_comm, add_sub_right_comm x1,
        snap_edge_pos_shift _ _ |res| tol j ht]
      cases snapEdgePos (x0 - op * |res|) (x1 - op * |res|) |res| tol with
      | error e => rfl
      | ok r =>
        simp only [Except.map]
        split <;> congr 2 <;> ring
    · rw [snapGrid, snapGrid, if_pos hop, if_pos hop]
      rfl
  | none =>
    rcases eq_or_ne res 0 with rfl | hr
    · simp [snapGrid, Except.map]
    · rw [snapGrid_none_eq hr, snapGrid_none_eq hr, add_sub_add_right_eq_sub]
      split_ifs <;> rfl

example : snapGrid (1 / 4) (21 / 4) 1 (some (1 / 2)) (1 / 100) = .ok (-1 / 2, 6) ∧
    snapGrid (1 / 4 + 7) (21 / 4 + 7) 1 (some (1 / 2)) (1 / 100) = .ok (-1 / 2 + 7, 6) := by decide +kernel
example : maybeInt (5 / 2 + 1 / 1000) (1 / 100) = 5 / 2 + 1 / 1000 ∧ maybeInt (3 + 1 / 1000) (1 / 100) = 3 := by
  decide +kernel

end OdcGeo.C20
