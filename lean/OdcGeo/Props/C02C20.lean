/-
C02 ∘ C20: a GCP geobox whose control points are *exactly* affinely related.

`GCPMapping.approx` is `affine_from_pts(pix, wld)` (C20 model, `Props/C20.affine_from_pts_exact`);
`GCPGeoBox.approx`, `.resolution` and every view operation sit on top of it (C02 model).  Composed: from the
control points as given to the pixel-to-world mapping, the resolution and the view contracts of the best-fit
linear geobox, with the only hypothesis left being C20's contract on the least-squares back-end (it returns *a*
minimiser).
-/
import OdcGeo.Props.C02Glue
import OdcGeo.Props.C20

namespace OdcGeo.C02

/-- If the control points satisfy `wld = B(pix)` exactly and three of them are not collinear, then for **every
view** `g` of the GCP geobox (any pixel-side affine produced by crop / pad / zoom / centre pixel) the best-fit
linear geobox `approx` is the geobox with affine `B ∘ A`: it maps pixel `p` to `B(A p)`, agrees with the GCP
geobox itself wherever the fitted pixel-to-world function `P` reproduces `B`, and has the resolution of `B ∘ A`. -/
theorem gcp_approx_of_exact_gcps (lstsq : List (Rat × Rat) → List (Rat × Rat) → Option Aff)
    (X Y : List (Rat × Rat)) (B M : Aff)
    (hsolver : ∀ M0, lstsq X Y = some M0 → ∀ M' : Aff, C20.sqResidual M0 (X.zip Y) ≤ C20.sqResidual M' (X.zip Y))
    (hexact : ∀ q ∈ X.zip Y, B.apply q.1 = q.2)
    (p q r : (Rat × Rat) × (Rat × Rat)) (hp : p ∈ X.zip Y) (hq : q ∈ X.zip Y) (hr : r ∈ X.zip Y)
    (hnc : (q.1.1 - p.1.1) * (r.1.2 - p.1.2) - (q.1.2 - p.1.2) * (r.1.1 - p.1.1) ≠ 0)
    (h : C20.affineFromPts lstsq X Y = .ok M) (g : GeoBox) :
    gcpApprox M g = mulWld B g ∧
    (∀ x : Pt, pix2wld (gcpApprox M g) x = B.apply (g.A.apply x)) ∧
    (∀ P : Pt → Pt, (∀ x, P x = B.apply x) → ∀ x, gcpPix2wld P g x = pix2wld (gcpApprox M g) x) ∧
    (∀ n m, gcpResolution M g n m = resolution (mulWld B g) n m) ∧
    (gcpApprox M g).crs = g.crs ∧ (gcpApprox M g).ny = g.ny ∧ (gcpApprox M g).nx = g.nx := by
  have hM : M = B := C20.affine_from_pts_exact lstsq X Y B M hsolver hexact p q r hp hq hr hnc h
  subst hM
  refine ⟨rfl, ?_, ?_, fun _ _ => rfl, rfl, rfl, rfl⟩
  · intro x; simp [gcpApprox, mulWld, pix2wld, Aff.apply_mul]
  · exact fun P hP x => (gcp_exact_when_affine P M hP g x).1

/-- … and the view operations commute with taking the best-fit geobox: `approx` of a cropped / padded / zoomed
GCP view is the same crop / pad / zoom of `approx` (so every contract of `Props/C02.lean` holds for it). -/
theorem gcp_approx_commutes_with_views (B : Aff) (g : GeoBox) :
    (∀ sy sx, gcpApprox B (crop g (.two sy sx)) = crop (gcpApprox B g) (.two sy sx)) ∧
    (∀ px py, gcpApprox B (pad g px py) = pad (gcpApprox B g) px py) ∧
    (∀ f, (zoomOut g f).map (gcpApprox B) = zoomOut (gcpApprox B g) f) ∧
    (∀ ny nx, (zoomToShape g ny nx).map (gcpApprox B) = zoomToShape (gcpApprox B g) ny nx) ∧
    (∀ n, (zoomToNum g n).map (gcpApprox B) = zoomToNum (gcpApprox B g) n) ∧
    gcpApprox B (centerPixel g) = centerPixel (gcpApprox B g) := by
  obtain ⟨-, -, -, hc, hp, -, -, -, hz⟩ := affine_composition_laws g B B
  refine ⟨fun sy sx => (hc sy sx).symm, fun px py => (hp px py).symm, fun f => (hz f).symm, fun ny nx => ?_, fun n => ?_,
    (hc _ _).symm⟩
  · unfold zoomToShape; split <;> simp only [Except.map, gcpApprox, mulWld, Aff.mul_assoc']
  · simp only [zoomToNum, gcpApprox, mulWld, Except.map, Aff.mul_assoc']
    split_ifs <;> rfl

/-- C02 ∘ C20 is not vacuous: a solver returning the exact map is a minimiser on exact data. -/
example : gcpApprox ⟨2, 0, 1, 0, 3, 1⟩ gEx = mulWld ⟨2, 0, 1, 0, 3, 1⟩ gEx := by
  let B : Aff := ⟨2, 0, 1, 0, 3, 1⟩
  let X : List (Rat × Rat) := [(0, 0), (1, 0), (0, 1)]
  let Y : List (Rat × Rat) := [(1, 1), (3, 1), (1, 4)]
  have hex : ∀ q ∈ X.zip Y, B.apply q.1 = q.2 := by decide +kernel
  have hs : ∀ M0, (fun _ _ => some B : List (Rat × Rat) → List (Rat × Rat) → Option Aff) X Y = some M0 →
      ∀ M' : Aff, C20.sqResidual M0 (X.zip Y) ≤ C20.sqResidual M' (X.zip Y) := by
    intro M0 h M'
    have : M0 = B := (Option.some.inj h).symm
    subst this
    rw [(C20.sqResidual_eq_zero_iff B _).mpr hex]
    exact C20.sqResidual_nonneg M' _
  exact (gcp_approx_of_exact_gcps (fun _ _ => some B) X Y B B hs hex ((0, 0), (1, 1)) ((1, 0), (3, 1)) ((0, 1), (1, 4))
    (.head _) (.tail _ (.head _)) (.tail _ (.tail _ (.head _))) (by decide +kernel) (by decide +kernel) gEx).1

end OdcGeo.C02
