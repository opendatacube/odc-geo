/-
C17 — bounds that are not Python ints (`Model/C17Np.lean`): floats / strings, and numpy integer scalars of a fixed width.
"Inside the no-overflow domain the helpers equal the Python-int answer" as theorems over the bounded-width carrier.
-/
import OdcGeo.Model.C17Np
import OdcGeo.Props.C17
import Mathlib.Tactic.Positivity

namespace OdcGeo.C17
open OdcGeo.C04 (NpT)

theorem npt_span (t : NpT) (hb : 1 ≤ t.bits) : t.hi - t.lo = 2 ^ t.bits := by
  unfold NpT.hi NpT.lo
  cases t.signed
  · simp
  · simp only [if_true]
    have : (2 : Int) * 2 ^ (t.bits - 1) = 2 ^ t.bits := by rw [← pow_succ', Nat.sub_add_cancel hb]
    omega

/-- a value the type can hold is not changed by the wrap-around -/
theorem wrap_of_fits (t : NpT) (hb : 1 ≤ t.bits) (v : Int) (h : t.fits v = true) : t.wrap v = v := by
  have hs := npt_span t hb
  rw [NpT.fits, decide_eq_true_eq] at h
  rw [NpT.wrap, Int.emod_eq_of_lt (by omega) (by omega)]
  omega

/-- … and a value it cannot hold IS changed (the result always fits) -/
theorem wrap_fits (t : NpT) (hb : 1 ≤ t.bits) (v : Int) : t.fits (t.wrap v) = true := by
  have hs := npt_span t hb
  have hp : (0 : Int) < 2 ^ t.bits := by positivity
  have h1 := Int.emod_nonneg (v - t.lo) hp.ne'
  have h2 := Int.emod_lt_of_pos (v - t.lo) hp
  rw [NpT.fits, NpT.wrap, decide_eq_true_eq]
  omega

theorem wrapNegW_eq (t : NpT) (hb : 1 ≤ t.bits) (n x : Int) (hx : x < 0 → t.fits (n + x) = true) :
    wrapNegW t n x = wrapNeg n x := by
  unfold wrapNegW wrapNeg wadd
  split
  · rfl
  · rw [wrap_of_fits t hb _ (hx (by omega))]

/-- **`roi_normalise` with numpy scalars of one type: inside the no-overflow domain (the sums `n + a`, `n + b` the helper
forms for negative bounds fit the type) the answer is the Python-int answer** -/
theorem normSliceW_eq (t : NpT) (hb : 1 ≤ t.bits) (a b n : Int)
    (ha : a < 0 → t.fits (n + a) = true) (hbb : b < 0 → t.fits (n + b) = true) :
    normSliceW t a b n = normSlice (.slc (some a) (some b)) n := by
  simp only [normSliceW, normSlice, wrapNegW_eq t hb n a ha, wrapNegW_eq t hb n b hbb]

/-- **`roi_pad`**: with `n + a`, `n + b` (negative bounds), `start - pad` and `stop + pad` inside the type -/
theorem padSliceW_eq (t : NpT) (hb : 1 ≤ t.bits) (a b pad n : Int)
    (ha : a < 0 → t.fits (n + a) = true) (hbb : b < 0 → t.fits (n + b) = true)
    (h1 : t.fits ((normSlice (.slc (some a) (some b)) n).start - pad) = true)
    (h2 : t.fits ((normSlice (.slc (some a) (some b)) n).stop + pad) = true) :
    padSliceW t a b pad n = padSlice (.slc (some a) (some b)) pad n := by
  simp only [padSliceW, padSlice, normSliceW_eq t hb a b n ha hbb, wsub, wadd, wrap_of_fits t hb _ h1,
    wrap_of_fits t hb _ h2]

/-- **`roi_shape`**: with `stop - start` inside the type -/
theorem sliceDimW_eq (t : NpT) (hb : 1 ≤ t.bits) (a b : Int) (h : t.fits (b - a) = true) :
    sliceDim (.slc (some a) (some b)) = .ok (sliceDimW t a b) := by
  simp only [sliceDim, sliceDimW, wsub, wrap_of_fits t hb _ h]

/-- **`align_down` / `align_up`** (`align > 0`): with `x - x % align`, `align - 1`, `x + (align - 1)` and the final difference
inside the type -/
theorem alignDownW_eq (t : NpT) (hb : 1 ≤ t.bits) (x a : Int) (h : t.fits (x - x % a) = true) :
    alignDownW t x a = alignDown x a := by
  simp only [alignDownW, alignDown, wsub, wrap_of_fits t hb _ h]

theorem alignUpW_eq (t : NpT) (hb : 1 ≤ t.bits) (x a : Int) (h1 : t.fits (a - 1) = true)
    (h2 : t.fits (x + (a - 1)) = true) (h3 : t.fits (alignUp x a) = true) :
    alignUpW t x a = alignUp x a := by
  unfold alignUpW alignUp
  simp only [wsub, wadd, wrap_of_fits t hb _ h1, wrap_of_fits t hb _ h2]
  exact alignDownW_eq t hb _ a h3

/-- **`scaled_down_roi` / `scaled_up_roi`** per axis -/
theorem scaledDownSliceW_eq (t : NpT) (hb : 1 ≤ t.bits) (s : NSlice) (k : Int) (h1 : t.fits (k - 1) = true)
    (h2 : t.fits (s.stop + (k - 1)) = true) (h3 : t.fits (alignUp s.stop k) = true) :
    scaledDownSliceW t s k = scaledDownSlice s k := by
  simp only [scaledDownSliceW, scaledDownSlice, fdiv, alignUpW_eq t hb s.stop k h1 h2 h3]

theorem scaledUpSliceW_eq (t : NpT) (hb : 1 ≤ t.bits) (s : NSlice) (k : Int)
    (h1 : t.fits (s.start * k) = true) (h2 : t.fits (s.stop * k) = true) :
    scaledUpSliceW t s k = scaledUpSlice s k none := by
  simp only [scaledUpSliceW, scaledUpSlice, wmul, wrap_of_fits t hb _ h1, wrap_of_fits t hb _ h2]

/-- **outside the domain the answer wraps** (plain numpy arithmetic): `roi_pad(slice(uint8 2, uint8 5), uint8 3, uint8 9)`
starts at `max(0, 2 - 3) = 255`; `scaled_up_roi` of `0:100` by 3 in `int8` ends at `300 - 256 = 44`.  Replayed on the real
code by the correspondence. -/
theorem numpy_scalars_wrap_cex :
    padSliceW ⟨false, 8⟩ 2 5 3 9 = ⟨255, 8⟩ ∧ padSlice (.slc (some 2) (some 5)) 3 9 = ⟨0, 8⟩ ∧
    scaledUpSliceW ⟨true, 8⟩ ⟨0, 100⟩ 3 = ⟨0, 44⟩ := by decide

theorem wrapNegB_int (n x : Int) : wrapNegB n (.int x) = .ok (.int (wrapNeg n x)) := by
  unfold wrapNegB wrapNeg
  simp only [Bnd.num, Bnd.addInt, ge_iff_le, gt_iff_lt, Int.cast_nonneg_iff, Int.cast_pos]
  split
  · rfl
  · split
    · rw [max_eq_right (by omega)]
    · rw [max_eq_left (by omega)]

/-- on Python ints the any-type normalisation is `_norm_slice` -/
theorem normSliceB_int (a b n : Int) :
    normSliceB (some (.int a)) (some (.int b)) n
      = .ok (.int (normSlice (.slc (some a) (some b)) n).start, .int (normSlice (.slc (some a) (some b)) n).stop) := by
  simp only [normSliceB, Option.getD_some, wrapNegB_int, normSlice]

/-- **a float bound is answered with a float of the same value the integer formula gives** (no rounding on dyadic inputs;
the result is a float exactly when the bound it comes from is one) -/
theorem wrapNegB_float (n : Int) (q : Rat) :
    wrapNegB n (.flt q) = .ok (if q ≥ 0 then .flt q else if (n : Rat) + q > 0 then .flt ((n : Rat) + q) else .int 0) := by
  unfold wrapNegB
  simp only [Bnd.num, Bnd.addInt]
  split
  · rfl
  · split <;> rfl

/-- **a string bound is a `TypeError`**, wherever it stands (nothing is validated: it is the first comparison that fails) -/
theorem normSliceB_str (o : Option Bnd) (n : Int) :
    normSliceB (some .str) o n = .error .typeError ∧
    (∀ x e, wrapNegB n x = .error e → e = .typeError) ∧
    normSliceB o (some .str) n = .error .typeError := by
  have herr : ∀ x e, wrapNegB n x = .error e → e = .typeError := by
    intro x e h
    cases x with
    | str => cases h; rfl
    | int v => rw [wrapNegB_int] at h; cases h
    | flt v => rw [wrapNegB_float] at h; cases h
  refine ⟨rfl, herr, ?_⟩
  unfold normSliceB
  cases hw : wrapNegB n (o.getD (Bnd.int 0)) with
  | ok v => rfl
  | error e => rw [herr _ e hw]

/-- `roi_shape` with such bounds: float in, float out; a string anywhere is a `TypeError`; an open stop the `ValueError` -/
theorem sliceDimB_cases (a : Option Bnd) (x y : Int) (q : Rat) :
    sliceDimB (some (.int x)) (some (.int y)) = .ok (.int (y - x)) ∧
    sliceDimB (some (.flt q)) (some (.int y)) = .ok (.flt ((y : Rat) - q)) ∧
    sliceDimB (some .str) (some (.int y)) = .error .typeError ∧
    sliceDimB (some (.int x)) (some .str) = .error .typeError ∧
    sliceDimB a none = .error (.std .valueError) := ⟨rfl, rfl, rfl, rfl, rfl⟩

example : normSliceB (some (.int (-7))) (some (.int 9)) 5 = .ok (.int 0, .int 9) := by
  rw [normSliceB_int]; decide
example : (⟨false, 8⟩ : NpT).fits (9 + (-3)) = true ∧ (1 ≤ (⟨false, 8⟩ : NpT).bits) := by decide

end OdcGeo.C17
