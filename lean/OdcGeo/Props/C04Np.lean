/-
C04 — numpy integer scalars as tile / pixel index (model: `Model/C04Np.lean`): on the repaired code
the one-axis entry points (`tile_shape`, `locate`, `__getitem__`) answer exactly like the same call with Python
ints, or raise.  The `GeoboxTiles` / `BlockAssembler` entry points over the same model: `Props/C04NpWin.lean`.
-/
import OdcGeo.Model.C04Np
import Mathlib.Tactic.Linarith
namespace OdcGeo.C04
open OdcGeo OdcGeo.C17 OdcGeo.NpArray

/-- same value, Python spelling -/
def IntArg.toPy (i : IntArg) : IntArg := .py i.val

/-- **`tile_shape`: any integer type, the Python-int answer** (as repaired) -/
theorem tileShapeI_eq_py (t : Tiling) (i : IntArg) : tileShapeI t i = tileShapeI t i.toPy := rfl

/-- **`locate`: the Python-int answer or a refusal** – a numpy pixel coordinate whose type cannot hold
the tile size is refused with `OverflowError`, nothing else differs -/
theorem locateI_py_or_error (t : Tiling) (y : IntArg) :
    locateI t y = locateI t y.toPy ∨ locateI t y = .error .overflow := by
  cases y with
  | py v => left; rfl
  | np ty v =>
    cases t with
    | var ch => left; rfl
    | reg N n =>
      simp only [locateI, IntArg.toPy, IntArg.val, Tiling.locate, C04.locate]
      by_cases hr : v < 0 ∨ v ≥ N
      · rw [if_pos hr, if_pos hr]
        exact .inl rfl
      · rw [if_neg hr, if_neg hr]
        cases C04.tileShape N n 0 with
        | error e => exact .inl rfl
        | ok ny =>
          simp only [liftN, bind, Except.bind, npFloorDiv, pure, Except.pure]
          split
          · exact .inl rfl
          · exact .inr rfl

/-- **`[]`, `crop`, `pix_bbox`: a numpy scalar is refused**, never answered with another region -/
theorem getItemI_np_refused (t : Tiling) (ty : NpT) (v : Int) : getItemI t (.np ty v) = .error .attribute := rfl

theorem getItemI_py (t : Tiling) (v : Int) : getItemI t (.py v) = liftN (t.getItem (.idx v)) := rfl

/-- the three together: on the repaired code no indexing entry point returns anything but the
Python-int answer for a numpy index -/
theorem np_index_py_or_error (t : Tiling) (i : IntArg) :
    (tileShapeI t i = tileShapeI t i.toPy) ∧
    (locateI t i = locateI t i.toPy ∨ ∃ e, locateI t i = .error e) ∧
    (getItemI t i = getItemI t i.toPy ∨ ∃ e, getItemI t i = .error e) := by
  refine ⟨rfl, (locateI_py_or_error t i).imp_right fun h => ⟨_, h⟩, ?_⟩
  cases i with
  | py v => exact .inl rfl
  | np ty v => exact .inr ⟨_, rfl⟩

/-- **as found** (F61): `np.uint8(255)` on a column of 300 one-pixel tiles – `i + 1` wrapped to 0 and the
tile's height came out as `offsets[0] - offsets[255] = -255`; the Python-int answer is 1 -/
theorem vtile_shape_uint8_as_found_cex :
    vtileShapeAsFound (List.replicate 300 1) (.np ⟨false, 8⟩ 255) = .ok (-255) ∧
    tileShapeI (.var (List.replicate 300 1)) (.np ⟨false, 8⟩ 255) = .ok 1 := by
  decide +kernel

/-- as found, `np.int8(127)` with 128+ tiles: `i + 1 = -128` indexes the offsets from the end -/
theorem vtile_shape_int8_as_found_cex :
    vtileShapeAsFound (List.replicate 140 3) (.np ⟨true, 8⟩ 127) = .ok (-342) ∧
    tileShapeI (.var (List.replicate 140 3)) (.np ⟨true, 8⟩ 127) = .ok 3 := by
  decide +kernel

end OdcGeo.C04
