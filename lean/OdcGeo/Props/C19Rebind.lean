/-
C19 — rebinding the name of a held CRS instance in the unified state (`Model/C19Rebind.lean`): what
the holders see after one rebinding step, and that every state reached by a history that rebinds held
names is, on its core, a state of the history model.
-/
import OdcGeo.Model.C19Rebind
import OdcGeo.Props.C19Unified

namespace OdcGeo.C19

theorem assoc_retarget (v fresh h : Nat) : ∀ hold : List (Nat × Option Nat),
    assoc h (retarget v fresh hold) =
      (assoc h hold).map (fun r => if r = some v then some fresh else r)
  | [] => rfl
  | (k, r) :: t => by
    have ih := assoc_retarget v fresh h t
    unfold retarget at ih ⊢
    rw [List.map_cons]
    by_cases hv : r = some v <;> by_cases hk : k = h <;>
      simp only [hv, hk, assoc, if_true, if_false, ih, Option.map_some]

/-- the core after the renaming part of a rebinding: the old record sits under `fresh`, the
name `v` is free -/
theorem rename_core (W : World) (σ : State) (v fresh : Nat) (c : CrsObj) (ev : assoc v σ.vars = some c)
    (hf : fresh ≠ v) :
    (step W (step W σ (.mk fresh (.crs v) 0)).1 (.drop v)).1.vars = delVar v (setVar fresh c σ.vars) ∧
    assoc fresh (delVar v (setVar fresh c σ.vars)) = some c := by
  refine ⟨by simp only [step, construct, ev], ?_⟩
  unfold delVar
  rw [assoc_filter_ne fresh v hf, assoc_setVar]

/-- **`v = CRS(spec)` while a value holds the old `v`**: the value keeps seeing the OLD record
(all three fields, the lazy `_epsg` as it was), the name `v` denotes the new instance -/
theorem rebind_mk_holder_keeps_old (W : World) (σ : UState) (h v fresh : Nat) (spec : Spec) (pick : Nat)
    (c c' : CrsObj) (eh : assoc h σ.hold = some (some v)) (ev : assoc v σ.core.vars = some c)
    (hheld : σ.held v = true) (hf : fresh ≠ v)
    (hc : (construct W (step W (step W σ.core (.mk fresh (.crs v) 0)).1 (.drop v)).1 spec pick).2 = .ok c') :
    (ustepR W σ fresh (.core (.mk v spec pick))).1.crsOf h = some (some c) ∧
    assoc v (ustepR W σ fresh (.core (.mk v spec pick))).1.core.vars = some c' := by
  obtain ⟨hvars, hfr⟩ := rename_core W σ.core v fresh c ev hf
  simp only [ustepR, Op.binds, hheld, if_true, UState.crsOf, assoc_retarget, eh, Option.map_some,
    assoc_step_mk_ne _ _ spec pick hf, assoc_step_mk_self hc, hvars, hfr, and_self]

/-- values holding OTHER instances are not touched by the rebinding -/
theorem rebind_mk_leaves_others (W : World) (σ : UState) (h v w fresh : Nat) (spec : Spec) (pick : Nat)
    (cw : CrsObj) (eh : assoc h σ.hold = some (some w)) (ew : assoc w σ.core.vars = some cw)
    (hw : w ≠ v) (hwf : w ≠ fresh) (hheld : σ.held v = true) (c : CrsObj) (ev : assoc v σ.core.vars = some c)
    (hf : fresh ≠ v) :
    (ustepR W σ fresh (.core (.mk v spec pick))).1.crsOf h = some (some cw) := by
  obtain ⟨hvars, _⟩ := rename_core W σ.core v fresh c ev hf
  have hr : (some w : Option Nat) ≠ some v := fun e => hw (Option.some.inj e)
  simp only [ustepR, Op.binds, hheld, if_true, UState.crsOf, assoc_retarget, eh, Option.map_some,
    if_neg hr, assoc_step_mk_ne _ _ spec pick hw, hvars, delVar, assoc_filter_ne w v hw,
    assoc_setVar_ne w fresh _ _ hwf, ew]

/-- non-vacuity: the K4 world, a box holding `X`, then `x = CRS("E")` under the same name -/
example :
    let σ := (urun k4World [.core (.mk 0 (.str "X") 0), .hold 1 0]).1
    σ.held 0 = true ∧
    (ustepR k4World σ 7 (.core (.mk 0 (.str "E") 0))).1.crsOf 1 = some (some ⟨0, ⟨0, "X", "WX", some 4326⟩, "X", some 0⟩) ∧
    (assoc 0 (ustepR k4World σ 7 (.core (.mk 0 (.str "E") 0))).1.core.vars).map (·.str) = some "E" := by
  decide +kernel

/-- One step moves the core by real operations of the history model; a rebinding by three: `CRS(v)`
into the fresh name, `del v`, the operation itself. -/
theorem ustepR_moves (W : World) (σ : UState) (fresh : Nat) (uop : UOp) (hreal : uop.real = true) :
    Moves W σ.core (ustepR W σ fresh uop).1.core := by
  have plain := ustep_moves W σ uop hreal
  cases uop with
  | core op =>
    cases hb : op.binds with
    | none => simpa only [ustepR, hb] using plain
    | some v =>
      cases hh : σ.held v with
      | true =>
        simp only [ustepR, hb, hh, if_true]
        exact ((Moves.step rfl).trans (Moves.step rfl)).trans (Moves.step hreal)
      | false => simpa only [ustepR, hb, hh, Bool.false_eq_true, if_false] using plain
  | _ => exact plain

/-- **every state reached by a unified history that may rebind held names is, on its core, a
state of the history model** — `transformer_correct`, `cache_pins_every_crs`,
`construct_sys_correct` … hold after such histories too -/
theorem urunRFrom_moves (W : World) : ∀ (uh : List (Nat × UOp)) (σ : UState),
    (∀ e ∈ uh, e.2.real = true) → Moves W σ.core (urunRFrom W σ uh).1.core
  | [], _, _ => .refl
  | (fresh, uop) :: uh, σ, hu =>
    (ustepR_moves W σ fresh uop (hu (fresh, uop) List.mem_cons_self)).trans
      (urunRFrom_moves W uh _ (fun e he => hu e (List.mem_cons_of_mem _ he)))

/-- `CRS(spec)` after any unified history with rebinding denotes the system of the spec -/
theorem rebind_construct_sys_correct (W : World) (hC : CanonKeyCoherent W)
    (uh : List (Nat × UOp)) (hreal : ∀ e ∈ uh, e.2.real = true) (spec : Spec) (pick : Nat) (c : CrsObj)
    (hc : (construct W (urunRFrom W {} uh).1.core spec pick).2 = .ok c) :
    ∃ h', (∀ op ∈ h', op.real = true) ∧ (urunRFrom W {} uh).1.core = (run W h').1 ∧
      specSys W (run W h').1 spec = some c.info.sys := by
  obtain ⟨h', hr', e⟩ := urunRFrom_moves W uh {} hreal
  exact ⟨h', hr', e, construct_sys_correct_canon W hC h' hr' spec pick c (e ▸ hc)⟩

/-- non-vacuity: a history that rebinds a held name -/
example : ∀ e ∈ ([(9, .core (.mk 0 (.str "X") 0)), (9, .hold 1 0), (7, .core (.mk 0 (.str "E") 0))] : List (Nat × UOp)),
    e.2.real = true := by decide

end OdcGeo.C19
