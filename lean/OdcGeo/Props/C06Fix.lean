/-
C06 for `_mpu.py` as repaired on branch `fix3-C06` (`Model/C06Fix.lean`, the `…R` functions: `maybe_write` asserts the
writer's part number range).  Under `main`'s capacity hypothesis each `…R` function is its counterpart of
`Model/C06.lean`, step by step, so the whole of C06 carries over (`main_repaired`); without it the repaired
`maybe_write` fails where that of `Model/C06.lean` handed the writer a number beyond `max_part`
(`max_part_repaired_cex` against `max_part_unchecked_cex` of `Props/C06Ops.lean`).
-/
import OdcGeo.Model.C06Fix
import OdcGeo.Props.C06Dask


namespace OdcGeo.C06
variable {α : Type}

/-- whenever the repaired `maybe_write` hands a part to the writer, the chunk's part counter (the number it writes
under) is in the writer's range — whatever the state of the chunk, no invariant, no capacity hypothesis -/
theorem maybeWriteR_in_range (W : Writer) (spill : Nat) (c c' : Chunk α) (ws : List (Part α))
    (h : maybeWriteR W spill c = .ok (c', ws)) (hne : ws ≠ []) : W.minPart ≤ c.next ∧ c.next ≤ W.maxPart := by
  unfold maybeWriteR at h
  split at h
  · cases h
  · split at h
    · cases h
      exact absurd (List.isEmpty_iff.1 ‹_›) hne
    · split at h
      · assumption
      · cases h

/-- **Inside the capacity the repair changes nothing**: under the invariant of a section whose part-number range
`[lo, hi)` lies within the writer's range the repaired `maybe_write` is `maybe_write`. -/
theorem maybeWriteR_eq {W : Writer} {c : Chunk α} {lo hi : Nat} {B : List α} {O : List (Nat × Int)} {fin : Bool}
    (spill : Nat) (h : Inv W c lo hi B O fin) (hlo : W.minPart ≤ lo) (hhi : hi ≤ W.maxPart + 1) :
    maybeWriteR W spill c = maybeWrite W spill c := by
  rcases maybeWrite_eq W spill c (fun hs => (h.unstarted hs).1) with e | ⟨_, _, _, _, _, _, _, hP, e⟩
  · rw [maybeWriteR, e]; rfl
  · -- a write spends a credit, so `next < next + credits = hi`
    have hr := h.range
    have hl := h.lo_le
    have : W.minPart ≤ c.next ∧ c.next ≤ W.maxPart := by split at hP <;> omega
    rw [maybeWriteR, e]
    simp [this]

theorem appendStepR_eq {W : Writer} {spill : Nat} {c : Chunk α} {ws : List (Part α)} {lo hi : Nat}
    {B : List α} {O : List (Nat × Int)} (h : Inv W c lo hi B O false) (hlo : W.minPart ≤ lo) (hhi : hi ≤ W.maxPart + 1)
    (ch : List α × Int) :
    appendStepR (some W) spill (.ok (c, ws)) ch = appendStep (some W) spill (.ok (c, ws)) ch := by
  simp only [appendStepR, appendStep, maybeWriteR_eq spill (append_inv h ch.1 ch.2) hlo hhi]
  rfl

theorem foldl_appendStepR_eq {W : Writer} {spill : Nat} {c : Chunk α} {ws : List (Part α)} {lo hi : Nat} {B : List α}
    {O : List (Nat × Int)} (chunks : List (List α × Int)) (h : Inv W c lo hi B O false) (hp : c.parts = ws)
    (hlo : W.minPart ≤ lo) (hhi : hi ≤ W.maxPart + 1) :
    chunks.foldl (appendStepR (some W) spill) (.ok (c, ws)) = chunks.foldl (appendStep (some W) spill) (.ok (c, ws)) := by
  induction chunks generalizing c ws B O with
  | nil => rfl
  | cons ch rest ih =>
    obtain ⟨c1, ws1, e1, h1, hp1⟩ := appendStep_inv (spill := spill) h hp ch
    rw [List.foldl_cons, List.foldl_cons, appendStepR_eq h hlo hhi ch, e1]
    exact ih h1 hp1

theorem appendChunksOpR_eq (W : Writer) (spill lo wpc : Nat) (fin : Bool) (chunks : List (List α × Int))
    (hlo : W.minPart ≤ lo) (hhi : lo + wpc ≤ W.maxPart + 1) :
    appendChunksOpR (some W) spill (mkChunk lo wpc fin W.minWrite : Chunk α) chunks
      = appendChunksOp (some W) spill (mkChunk lo wpc fin W.minWrite : Chunk α) chunks := by
  simp only [appendChunksOpR, appendChunksOp]
  rw [foldl_appendStepR_eq (spill := spill) (ws := []) chunks (mkChunk_inv (α := α) W lo wpc fin) rfl hlo hhi]
  rfl

theorem mergeAndSpillR_eq {W : Writer} {spill : Nat} {l r : Chunk α} {lo mid hi : Nat} {Bl Br : List α}
    {Ol Or : List (Nat × Int)} {fin : Bool}
    (hl : Inv W l lo mid Bl Ol false) (hr : Inv W r mid hi Br Or fin)
    (hminP : W.minPart < lo) (hmax : mid ≤ W.maxPart + 1) (hhi : hi ≤ W.maxPart + 1) (hobs : (Ol ++ Or).length ≠ 0) :
    mergeAndSpillR (some W) spill l r = mergeAndSpill (some W) spill l r := by
  obtain ⟨m, wm, e, hm, hp⟩ := merge_inv hl hr hminP hmax hobs
  simp only [mergeAndSpillR, mergeAndSpill, e, maybeWriteR_eq spill hm (Nat.le_of_lt hminP) hhi]
  rfl

theorem evalR_eq (cfg : Cfg) (W : Writer) (hW : cfg.writer = some W) (total : Nat)
    (hcap : cfg.base total ≤ W.maxPart + 1) (t : Tree α) :
    ∀ idx, idx + t.leaves ≤ total → t.NonEmpty → evalR cfg total t idx = eval cfg total t idx := by
  have hmp : cfg.minPart = W.minPart := by rw [Cfg.minPart, hW]
  induction t with
  | leaf chunks =>
    intro idx hle hne
    have hhi : cfg.base idx + cfg.wpc ≤ W.maxPart + 1 := base_succ cfg idx ▸ le_trans (base_mono cfg hle) hcap
    have hlo : W.minPart ≤ cfg.base idx := by rw [Cfg.base, hmp]; omega
    rw [evalR, eval, hW, Cfg.lhsKeep, hW]
    exact appendChunksOpR_eq (α := α) W cfg.spill _ cfg.wpc _ chunks hlo hhi
  | node l r ihl ihr =>
    intro idx hle hne
    simp only [Tree.leaves] at hle
    have hlp := l.leaves_pos
    have hrp := r.leaves_pos
    obtain ⟨cl, wl, el, hl, _⟩ := eval_inv cfg W hW total hcap l idx (by omega) hne.1
    obtain ⟨cr, wr, er, hr, _⟩ := eval_inv cfg W hW total hcap r (idx + l.leaves) (by omega) hne.2
    rw [decide_eq_false (by omega), Bool.and_false] at hl
    have hobs : (l.obs ++ r.obs).length ≠ 0 := (Tree.node l r).obs_ne_nil hne
    rw [evalR, eval, ihl idx (by omega) hne.1, ihr (idx + l.leaves) (by omega) hne.2, el, er]
    dsimp only
    rw [hW, mergeAndSpillR_eq (spill := cfg.spill) hl hr (by rw [Cfg.base, hmp]; omega)
      (le_trans (base_mono _ (by omega)) hcap) (le_trans (base_mono _ (by omega)) hcap) hobs]
    rfl

theorem runR_eq (W : Writer) (spill wpc : Nat) (markFinal : Bool) (t : Tree α)
    (mkHdr mkFtr : Option (List (Nat × Int) → List α))
    (hne : t.NonEmpty) (hcap : W.minPart + 1 + t.leaves * wpc ≤ W.maxPart + 1) :
    runR ⟨some W, spill, wpc, markFinal⟩ t mkHdr mkFtr = run ⟨some W, spill, wpc, markFinal⟩ t mkHdr mkFtr := by
  simp only [runR, run, evalR_eq ⟨some W, spill, wpc, markFinal⟩ W rfl t.leaves hcap t 0 (by omega) hne]
  rfl

/-- **C06 for the repaired code, writer present**: word for word the conclusion of `main`, about `runR`. -/
theorem main_repaired (W : Writer) (spill wpc : Nat) (t : Tree α)
    (mkHdr mkFtr : Option (List (Nat × Int) → List α))
    (hne : t.NonEmpty) (hcap : W.minPart + 1 + t.leaves * wpc ≤ W.maxPart + 1) :
    ∃ wsF fp wsAll,
      runR ⟨some W, spill, wpc, mkFtr.isNone⟩ t mkHdr mkFtr = .ok (.written wsF fp, wsAll, t.obs) ∧
      partsBytes fp = optBytes (mkHdr.map (fun f => f t.obs)) ++ t.bytes ++
                      optBytes (mkFtr.map (fun f => f t.obs)) ∧
      fp.Pairwise (fun a b => a.id < b.id) ∧
      (∀ p ∈ fp, W.minPart ≤ p.id ∧ p.id ≤ W.maxPart) ∧
      (∀ p ∈ fp.dropLast, W.minWrite ≤ p.data.length) ∧
      List.Perm wsAll fp := by
  rw [runR_eq W spill wpc _ t mkHdr mkFtr hne hcap]
  exact main W spill wpc t mkHdr mkFtr hne hcap

/-- without a writer `maybe_write` is never reached: nothing changes at all -/
theorem evalR_no_writer (spill wpc : Nat) (markFinal : Bool) (total : Nat) (t : Tree α) (idx : Nat) :
    evalR ⟨none, spill, wpc, markFinal⟩ total t idx = eval ⟨none, spill, wpc, markFinal⟩ total t idx := by
  have hstep : appendStepR (α := α) none spill = appendStep none spill := rfl
  induction t generalizing idx with
  | leaf chunks =>
    simp only [evalR, eval, appendChunksOpR, appendChunksOp, hstep]
    rfl
  | node l r ihl ihr =>
    simp only [evalR, eval, ihl, ihr]
    rfl

/-- **The repaired public entry point**: inside the capacity it is `mpuWrite` (so `mpu_write_end_to_end` carries over
to `mpuWriteR`). -/
theorem mpu_write_repaired_eq (W : Writer) (spill wpc : Nat) (bags : List (List (List (List α × Int))))
    (mkHdr mkFtr : Option (List (Nat × Int) → List α))
    (hb : bags ≠ []) (hp : ∀ b ∈ bags, b ≠ []) (hc : ∀ b ∈ bags, ∀ p ∈ b, p ≠ [])
    (hcap : W.minPart + 1 + bags.flatten.length * wpc ≤ W.maxPart + 1) :
    mpuWriteR (some W) spill wpc bags mkHdr mkFtr = mpuWrite (some W) spill wpc bags mkHdr mkFtr := by
  obtain ⟨t, ht, _, _, _, hleaves, hne⟩ := mpu_write_tree_leaves mpuWriteSplitEvery (by decide) bags hb hp
  rw [mpuWrite_eq_run hb ht, ← runR_eq W spill wpc _ t mkHdr mkFtr (hne hc) (by rw [hleaves]; exact hcap), mpuWriteR,
    if_neg (by simpa using hb), ht]
  rfl

/-- the witness of finding `part-number-above-max-part-unchecked` on the repaired code: the run FAILS (loudly) instead of
finishing with parts 5 and 6 for a writer that allows 1..3 (`max_part_unchecked_cex` of `Props/C06Ops.lean` is the
same input on `run`) -/
theorem max_part_repaired_cex :
    (match runR (α := Nat) ⟨some ⟨2, 1, 3⟩, 2, 3, true⟩ (.node (.leaf [(List.replicate 8 7, 0)]) (.leaf [(List.replicate 8 7, 1)]))
        none none with
     | .error .assertion => true
     | _ => false) = true := by decide

example : (match maybeWriteR ⟨2, 1, 100⟩ 2 ({ (mkChunk 2 2 false 2 : Chunk Nat) with data := [1, 2, 3, 4, 5, 6] }) with
    | .ok (_, ws) => ws.map (·.id) == [2]
    | .error _ => false) = true := by decide

end OdcGeo.C06
