/-
C16 ∘ C14 — the tile GeoBoxes of one GridSpec are pairwise on a common pixel grid.

GridSpec, Bin1D and `tile_geobox` are those of `Model/C14.lean`, at exact arithmetic (`fl = id`).
Every tile is the tile `(0, 0)` shifted by whole pixels (`± ix·nx`, `± iy·ny`, the signs given by the
flip flags and the signs of the resolution), so the set operations of C16 between tiles of one grid
never refuse: `|` of two tiles is the smallest GeoBox on the grid holding both, `&` of two different
tiles is an empty GeoBox, and the union of a row of `m + 1` consecutive tiles is the GeoBox of the row.
-/
import OdcGeo.Props.C16Core
import OdcGeo.Lemmas.C14
import OdcGeo.Model.C16C14

namespace OdcGeo.C16
open OdcGeo

/-- pixel rectangle of tile `k` in the pixel frame of tile `(0, 0)` -/
def tileRect (g : C14.GridSpec) (k : Int × Int) : Rect :=
  ⟨tileStep g.xbin.dir g.rx * k.1 * g.nx, tileStep g.ybin.dir g.ry * k.2 * g.ny,
   tileStep g.xbin.dir g.rx * k.1 * g.nx + g.nx, tileStep g.ybin.dir g.ry * k.2 * g.ny + g.ny⟩

/-- the same rectangle as the driver prints it (`Model/C16C14.tileRectT`) -/
theorem tileRect_eq (g : C14.GridSpec) (k : Int × Int) :
    tileRect g k = ⟨(tileRectT g k).1, (tileRectT g k).2.1, (tileRectT g k).2.2.1, (tileRectT g k).2.2.2⟩ := rfl

section
variable {ny nx : Int} {rx ry ox oy : Rat} {fx fy : Bool} {g : C14.GridSpec}

theorem rabs_mul_sign (r : Rat) (d : Int) : (if 0 < r then (d : Rat) else -(d : Rat)) * r = (d : Rat) * C14.rabs r
    ∨ r = 0 := by
  rcases lt_trichotomy r 0 with h | h | h
  · left
    rw [if_neg (not_lt.mpr h.le), C14.GridSpec.rabs_of_neg h]; ring
  · right; exact h
  · left
    rw [if_pos h, C14.GridSpec.rabs_of_pos h]

/-- one axis: the world position of pixel 0 of tile `k` is that of tile 0 plus `step·k·n` pixels (the pixel shift
between the tiles `k` and `0` of `C14.GridSpec.axis_pixel_shift`, read at pixel 0) -/
theorem tile_origin_axis (b : C14.Bin1D) (n : Int) (r : Rat) (hsz : b.sz = (n : Rat) * C14.rabs r) (k : Int) :
    (if 0 < r then b.lo id k else b.hi id k) =
      r * ((tileStep b.dir r * k * n : Int) : Rat) + (if 0 < r then b.lo id 0 else b.hi id 0) := by
  have h := C14.GridSpec.axis_pixel_shift b hsz k (-k) 0
  rw [add_neg_cancel, mul_zero, zero_add, zero_add] at h
  rw [← h, tileStep]
  split_ifs <;> push_cast <;> ring

/-! `g.WF` holds of every constructed GridSpec (`C14.GridSpec.new_ok`). -/

theorem tile_shape (w : g.WF) :
    (0 < g.nx ∧ (0 < g.rx ∨ g.rx < 0)) ∧ (0 < g.ny ∧ (0 < g.ry ∨ g.ry < 0)) :=
  ⟨⟨C14.GridSpec.n_pos_of_sz (w.szx ▸ w.x.sz_pos), C14.GridSpec.res_pos_or_neg w.x.sz_pos w.szx⟩,
    C14.GridSpec.n_pos_of_sz (w.szy ▸ w.y.sz_pos), C14.GridSpec.res_pos_or_neg w.y.sz_pos w.szy⟩

/-- **Every tile of a GridSpec is the tile `(0, 0)` shifted by whole pixels**: all tiles of one grid
lie on one pixel grid (all four flip / sign combinations, any origin, any tile index). -/
theorem tile_onGrid (w : g.WF) (crs : Option Nat) (k : Int × Int) :
    ofC14 (g.tileGeobox id k) crs = onGrid (ofC14 (g.tileGeobox id (0, 0)) crs) (tileRect g k) := by
  have ax := tile_origin_axis g.xbin g.nx g.rx w.szx k.1
  have ay := tile_origin_axis g.ybin g.ny g.ry w.szy k.2
  simp only [ofC14, onGrid, C14.GridSpec.tileGeobox, C14.GridSpec.tileTxy, tileRect, GeoBox.mk.injEq,
    Aff.mul_def, Aff.mul, Aff.translation, Aff.mk.injEq]
  refine ⟨by ring, by ring, ?_, trivial⟩
  refine ⟨by ring, by ring, ?_, by ring, by ring, ?_⟩
  · rw [ax]; ring
  · rw [ay]; ring

theorem tile_det (w : g.WF) (crs : Option Nat) :
    (ofC14 (g.tileGeobox id (0, 0)) crs).aff.det ≠ 0 := by
  obtain ⟨⟨-, hx0⟩, -, hy0⟩ := tile_shape w
  simp only [ofC14, C14.GridSpec.tileGeobox, Aff.det, mul_zero, sub_zero]
  exact mul_ne_zero (hx0.elim ne_of_gt ne_of_lt) (hy0.elim ne_of_gt ne_of_lt)

/-- **`|` and `&` of any two tiles of one GridSpec succeed** and are the members of the tile grid
covering the smallest rectangle holding both / exactly the shared pixels. -/
theorem tiles_ops_succeed (w : g.WF) (crs : Option Nat)
    (k k' : Int × Int) :
    (ofC14 (g.tileGeobox id k) crs).or (ofC14 (g.tileGeobox id k') crs) =
      .ok (onGrid (ofC14 (g.tileGeobox id (0, 0)) crs) ((tileRect g k).union (tileRect g k'))) ∧
    (ofC14 (g.tileGeobox id k) crs).and (ofC14 (g.tileGeobox id k') crs) =
      .ok (onGrid (ofC14 (g.tileGeobox id (0, 0)) crs) ((tileRect g k).inter (tileRect g k'))) := by
  rw [tile_onGrid w crs k, tile_onGrid w crs k']
  exact ⟨or_onGrid _ (tile_det w crs) _ _, and_onGrid _ (tile_det w crs) _ _⟩

theorem tileStep_cases (w : g.WF) :
    (tileStep g.xbin.dir g.rx = 1 ∨ tileStep g.xbin.dir g.rx = -1) ∧
    (tileStep g.ybin.dir g.ry = 1 ∨ tileStep g.ybin.dir g.ry = -1) ∧ 0 < g.nx ∧ 0 < g.ny := by
  refine ⟨?_, ?_, (tile_shape w).1.1, (tile_shape w).2.1⟩
  · rcases w.x.dir with h | h <;> unfold tileStep <;> split_ifs <;> simp [h]
  · rcases w.y.dir with h | h <;> unfold tileStep <;> split_ifs <;> simp [h]

theorem step_apart (s a b n : Int) (hs : s = 1 ∨ s = -1) (hn : 0 < n) (hab : a ≠ b) :
    s * a * n + n ≤ s * b * n ∨ s * b * n + n ≤ s * a * n := by
  have key : ∀ p q : Int, p < q → p * n + n ≤ q * n := fun p q h => by
    have := Int.mul_le_mul_of_nonneg_right (Int.add_one_le_of_lt h) hn.le
    rwa [add_mul, one_mul] at this
  have hne : s * a ≠ s * b := by rcases hs with rfl | rfl <;> omega
  exact (lt_or_gt_of_ne hne).imp (key _ _) (key _ _)

/-- **Two different tiles of a GridSpec share no pixel**: `tile(k) & tile(k')` is an empty GeoBox
(never an error, never a negative shape). -/
theorem tiles_disjoint (hg : C14.GridSpec.new id ny nx rx ry ox oy fx fy = .ok g) (crs : Option Nat)
    (k k' : Int × Int) (hk : k ≠ k') :
    ∃ i, (ofC14 (g.tileGeobox id k) crs).and (ofC14 (g.tileGeobox id k') crs) = .ok i ∧ i.isEmpty = true ∧
      0 ≤ i.nx ∧ 0 ≤ i.ny := by
  obtain ⟨-, w⟩ := C14.GridSpec.new_ok hg
  obtain ⟨sx, sy, px, py⟩ := tileStep_cases w
  have hv := (tileRect g k).inter_valid (tileRect g k')
  refine ⟨_, (tiles_ops_succeed w crs k k').2, ?_, sub_nonneg.mpr hv.1, sub_nonneg.mpr hv.2⟩
  rw [isEmpty_onGrid _ hv]
  exact Rect.inter_empty_of_apart ((not_and_or.mp (mt Prod.ext_iff.mpr hk)).imp
    (step_apart _ k.1 k'.1 g.nx sx px) (step_apart _ k.2 k'.2 g.ny sy py))

theorem tile_row_between (w : g.WF) (i0 iy j k : Int)
    (hj : 0 ≤ j) (hjk : j ≤ k) :
    (tileRect g (i0 + j, iy)).Within ((tileRect g (i0, iy)).union (tileRect g (i0 + k, iy))) := by
  obtain ⟨sx, -, px, -⟩ := tileStep_cases w
  have h1 : 0 ≤ j * g.nx := Int.mul_nonneg hj px.le
  have h2 : j * g.nx ≤ k * g.nx := Int.mul_le_mul_of_nonneg_right hjk px.le
  simp only [Rect.Within, Rect.union, tileRect, mul_add, add_mul, min_self, max_self, le_refl, true_and, and_true]
  rcases sx with s | s <;> simp only [s, one_mul, neg_mul] <;> omega

theorem foldl_union_row (w : g.WF) (i0 iy : Int) (m : Nat) :
    List.foldl Rect.union (tileRect g (i0, iy)) ((rowRest i0 iy m).map (tileRect g)) =
      (tileRect g (i0, iy)).union (tileRect g (i0 + (m : Int), iy)) := by
  induction m with
  | zero => simp only [rowRest, List.map_nil, List.foldl_nil, Nat.cast_zero, add_zero, Rect.union_self]
  | succ m ih =>
    rw [rowRest, List.map_append, List.foldl_append, ih, List.map_cons, List.map_nil, List.foldl_cons, List.foldl_nil]
    exact Rect.union_union_of_within
      (tile_row_between w i0 iy m ((m + 1 : Nat) : Int) (Int.natCast_nonneg m) (by push_cast; omega))

/-- **The union of a row of consecutive tiles is the GeoBox of the row**:
`geobox_union_conservative([tile(i0, iy), …, tile(i0 + m, iy)])` succeeds and is the member of the tile
grid of shape `(ny, (m + 1)·nx)` spanning from the first to the last tile (whichever way the row runs
in pixel space). -/
theorem row_union (hg : C14.GridSpec.new id ny nx rx ry ox oy fx fy = .ok g) (crs : Option Nat)
    (i0 iy : Int) (m : Nat) :
    ∃ u, rowUnion g crs i0 iy m = .ok u ∧
      u.ny = g.ny ∧ u.nx = ((m : Int) + 1) * g.nx ∧
      u = onGrid (ofC14 (g.tileGeobox id (0, 0)) crs)
        ⟨min (tileRect g (i0, iy)).x0 (tileRect g (i0 + (m : Int), iy)).x0, (tileRect g (i0, iy)).y0,
         max (tileRect g (i0, iy)).x1 (tileRect g (i0 + (m : Int), iy)).x1, (tileRect g (i0, iy)).y1⟩ := by
  obtain ⟨-, w⟩ := C14.GridSpec.new_ok hg
  rw [rowUnion, List.map_congr_left (g := onGrid _ ∘ tileRect g) fun k _ => tile_onGrid w crs k, ← List.map_map,
    List.map_cons, union_list_onGrid _ (tile_det w crs), foldl_union_row w]
  refine ⟨_, rfl, ?_, ?_, ?_⟩
  · simp only [onGrid, Rect.union, tileRect, min_self, max_self, add_sub_cancel_left]
  · obtain ⟨sx, -, px, -⟩ := tileStep_cases w
    have hm : 0 ≤ (m : Int) * g.nx := Int.mul_nonneg (Int.natCast_nonneg m) px.le
    simp only [onGrid, Rect.union, tileRect, mul_add, add_mul, one_mul]
    rcases sx with s | s <;> simp only [s, one_mul, neg_mul] <;> omega
  · simp only [Rect.union, tileRect, min_self, max_self]

/-- non-vacuity: a GridSpec exists (north-up, 4 × 5 pixel tiles of 10 m) -/
example : ∃ g : C14.GridSpec, C14.GridSpec.new id 4 5 10 (-10) 0 0 false false = .ok g :=
  ⟨_, C14.GridSpec.new_eq_ok 0 0 false false (by norm_num [C14.rabs]) (by norm_num [C14.rabs])⟩

end
end OdcGeo.C16
