/-
C12 — tile queries and tile dependency graphs are complete.

Tilings are those of C04 (regular and variable, `Tiling.WF`); pixel coordinates are exact rationals.

"Intersects" is positive-area overlap: tile `(r, c)` *meets* a box when it owns an image pixel
whose open unit square meets the open box (`TileMeets`).  Tiles that merely touch the query
along an edge are not returned by the code (the test-suite pins this: the extent of tile
`(0,0)` queries to `[(0,0)]`), so nothing is claimed for degenerate (zero-area) queries.
-/
import OdcGeo.Model.C12
import OdcGeo.Lemmas.C12
import OdcGeo.Lemmas.Except
import OdcGeo.Props.C04
import Mathlib.Tactic.Linarith
import Mathlib.Algebra.Order.Field.Rat
namespace OdcGeo.C12
open OdcGeo OdcGeo.C17 OdcGeo.C04

/-- pixel `j` (the unit interval `(j, j+1)`) meets the open span `(a1, a2)` -/
def PixMeets (a1 a2 : Rat) (j : Int) : Prop := (j : Rat) < a2 ∧ a1 < (j : Rat) + 1

theorem PixMeets.of_mem {a1 a2 x : Rat} {j : Int} (h : a1 ≤ x ∧ x ≤ a2) (hx : (j : Rat) < x ∧ x < j + 1) :
    PixMeets a1 a2 j := ⟨lt_of_lt_of_le hx.1 h.2, lt_of_le_of_lt h.1 hx.2⟩

theorem PixMeets.overlaps {a1 a2 : Rat} {j N : Int} (hj : 0 ≤ j ∧ j < N) (h : PixMeets a1 a2 j) :
    0 < a2 ∧ a1 < N := by
  have h1 : (0 : Rat) ≤ j := Int.cast_nonneg hj.1
  have h2 : (j : Rat) + 1 ≤ N := by exact_mod_cast hj.2
  exact ⟨lt_of_le_of_lt h1 h.1, lt_of_lt_of_le h.2 h2⟩

theorem clampSpan_covers (a1 a2 : Rat) (N : Int) (hN : 1 ≤ N) :
    ∃ p q, clampSpan a1 a2 N = .ok (p, q) ∧ (0 ≤ p ∧ p ≤ N - 1) ∧ (0 ≤ q ∧ q ≤ N - 1) ∧
      ∀ j : Int, 0 ≤ j ∧ j < N → PixMeets a1 a2 j → p ≤ j ∧ j ≤ q := by
  refine ⟨max 0 (min a1.floor (N - 1)), max 1 (min a2.ceil N) - 1, ?_,
    ⟨le_max_left 0 _, max_le (by omega) (min_le_right _ _)⟩,
    ⟨Int.sub_nonneg_of_le (le_max_left 1 _), Int.sub_le_sub_right (max_le hN (min_le_right _ _)) 1⟩,
    fun j hj hm => ?_⟩
  · simp only [clampSpan, clamp_ok _ 0 (N - 1) (by omega), clamp_ok _ 1 N hN, bind, Except.bind, pure,
      Except.pure]
  · have h1 : a1.floor < j + 1 := by rw [Rat.floor_lt_iff]; push_cast; exact hm.2
    have h2 : j < a2.ceil := Rat.lt_ceil_iff.2 hm.1
    omega

theorem range_superset_axis (t : Tiling) (hw : t.WF) (N : Int) (hN : 1 ≤ N) (hb : t.base = N) (a1 a2 : Rat) :
    ∃ p q t1 t2, clampSpan a1 a2 N = .ok (p, q) ∧ t.locate p = .ok t1 ∧ t.locate q = .ok t2 ∧
      (0 ≤ t1 ∧ t2 < t.count) ∧
      ∀ i j : Int, 0 ≤ i → 0 ≤ j ∧ j < N → (t.region i).Has j → PixMeets a1 a2 j → t1 ≤ i ∧ i ≤ t2 := by
  obtain ⟨p, q, hc, hp, hq, hcov⟩ := clampSpan_covers a1 a2 N hN
  obtain ⟨t1, l1, b1, m1⟩ := t.locate_spec hw p (by omega)
  obtain ⟨t2, l2, b2, m2⟩ := t.locate_spec hw q (by omega)
  refine ⟨p, q, t1, t2, hc, l1, l2, ⟨b1.1, b2.2⟩, fun i j hi hj hsj hm => ?_⟩
  obtain ⟨hpj, hjq⟩ := hcov j hj hm
  exact ⟨t.region_mono hw hi m1 hsj hpj, t.region_mono hw b2.1 hsj m2 hjq⟩

/-- a tiled GeoBox is well formed: both axes are, the tiling covers the image, the image is
not empty -/
structure GBT.WF (g : GBT) : Prop where
  y : g.tiles.y.WF
  x : g.tiles.x.WF
  by_ : g.tiles.y.base = g.ny
  bx : g.tiles.x.base = g.nx
  ny : 1 ≤ g.ny
  nx : 1 ≤ g.nx

/-- tile `(r, c)` owns an image pixel whose unit square meets the (open) box -/
def TileMeets (g : GBT) (b : BBox) (rc : Int × Int) : Prop :=
  (0 ≤ rc.1 ∧ rc.1 < g.tiles.y.count) ∧ (0 ≤ rc.2 ∧ rc.2 < g.tiles.x.count) ∧
  ∃ sy sx jy jx, g.tiles.y.getItem (.idx rc.1) = .ok sy ∧ g.tiles.x.getItem (.idx rc.2) = .ok sx ∧
    sy.Has jy ∧ sx.Has jx ∧ (0 ≤ jy ∧ jy < g.ny) ∧ (0 ≤ jx ∧ jx < g.nx) ∧
    PixMeets b.y1 b.y2 jy ∧ PixMeets b.x1 b.x2 jx

/-- the point `p` of pixel space lies in the interior of an image pixel owned by tile `rc` -/
def GBT.Sees (g : GBT) (rc : Int × Int) (p : Rat × Rat) : Prop :=
  ((0 ≤ rc.1 ∧ rc.1 < g.tiles.y.count) ∧ (0 ≤ rc.2 ∧ rc.2 < g.tiles.x.count)) ∧
  ∃ sy sx jy jx, g.tiles.y.getItem (.idx rc.1) = .ok sy ∧ g.tiles.x.getItem (.idx rc.2) = .ok sx ∧
    sy.Has jy ∧ sx.Has jx ∧ (0 ≤ jy ∧ jy < g.ny) ∧ (0 ≤ jx ∧ jx < g.nx) ∧
    ((jx : Rat) < p.1 ∧ p.1 < jx + 1) ∧ ((jy : Rat) < p.2 ∧ p.2 < jy + 1)

theorem pixBBox_ok {g : GBT} {idx : Int × Int} {sy sx : NSlice} (gy : g.tiles.y.getItem (.idx idx.1) = .ok sy)
    (gx : g.tiles.x.getItem (.idx idx.2) = .ok sx) :
    pixBBox g idx = .ok ⟨sx.start, sy.start, sx.stop, sy.stop⟩ := by
  simp only [pixBBox, getItem2, zip2, gy, gx, bind, Except.bind, pure, Except.pure]

theorem pixBBox_inv {g : GBT} {idx : Int × Int} {tb : BBox} (h : pixBBox g idx = .ok tb) :
    ∃ sy sx, g.tiles.y.getItem (.idx idx.1) = .ok sy ∧ g.tiles.x.getItem (.idx idx.2) = .ok sx ∧
      tb = ⟨sx.start, sy.start, sx.stop, sy.stop⟩ := by
  unfold pixBBox at h
  cases h2 : getItem2 g.tiles (.idx idx.1) (.idx idx.2) with
  | error e => rw [h2] at h; cases h
  | ok r =>
    rw [h2] at h
    cases h
    exact ⟨r.1, r.2, (zip2_ok_iff.1 h2).1, (zip2_ok_iff.1 h2).2, rfl⟩

theorem pixBBox_valid {g : GBT} (hg : g.WF) {idx : Int × Int}
    (hv : (0 ≤ idx.1 ∧ idx.1 < g.tiles.y.count) ∧ (0 ≤ idx.2 ∧ idx.2 < g.tiles.x.count)) : ∃ tb, pixBBox g idx = .ok tb :=
  ⟨_, pixBBox_ok (g.tiles.y.getItem_idx hg.y hv.1) (g.tiles.x.getItem_idx hg.x hv.2)⟩

theorem GBT.Sees.within {g : GBT} {rc : Int × Int} {p : Rat × Rat} (h : g.Sees rc p) :
    ∃ tb, pixBBox g rc = .ok tb ∧ tb.Has p := by
  obtain ⟨_, sy, sx, jy, jx, gy, gx, my, mx, _, _, hx, hy⟩ := h
  exact ⟨_, pixBBox_ok gy gx, within_of_pixel mx hx, within_of_pixel my hy⟩

theorem GBT.Sees.within_image {g : GBT} {rc : Int × Int} {p : Rat × Rat} (h : g.Sees rc p) :
    (BBox.mk 0 0 g.nx g.ny).Has p := by
  obtain ⟨_, _, _, jy, jx, _, _, _, _, bjy, bjx, hx, hy⟩ := h
  simpa only [BBox.Has, Int.cast_zero] using And.intro (within_of_pixel bjx hx) (within_of_pixel bjy hy)

theorem GBT.Sees.meets {g : GBT} {rc : Int × Int} {p : Rat × Rat} (h : g.Sees rc p) {b : BBox} (hb : b.Has p) :
    TileMeets g b rc := by
  obtain ⟨hv, sy, sx, jy, jx, gy, gx, my, mx, bjy, bjx, px, py⟩ := h
  exact ⟨hv.1, hv.2, sy, sx, jy, jx, gy, gx, my, mx, bjy, bjx, PixMeets.of_mem hb.2 py, PixMeets.of_mem hb.1 px⟩

/-- a pixel of a tile's region is an image pixel -/
theorem GBT.Sees.of_has {g : GBT} (hg : g.WF) {rc : Int × Int} {p : Rat × Rat}
    (hv : (0 ≤ rc.1 ∧ rc.1 < g.tiles.y.count) ∧ (0 ≤ rc.2 ∧ rc.2 < g.tiles.x.count))
    {sy sx : NSlice} {jy jx : Int} (gy : g.tiles.y.getItem (.idx rc.1) = .ok sy)
    (gx : g.tiles.x.getItem (.idx rc.2) = .ok sx) (my : sy.Has jy) (mx : sx.Has jx)
    (hx : (jx : Rat) < p.1 ∧ p.1 < jx + 1) (hy : (jy : Rat) < p.2 ∧ p.2 < jy + 1) : g.Sees rc p := by
  cases (g.tiles.y.getItem_idx hg.y hv.1).symm.trans gy
  cases (g.tiles.x.getItem_idx hg.x hv.2).symm.trans gx
  obtain ⟨y0, _, y2⟩ := g.tiles.y.region_within hg.y hv.1
  obtain ⟨x0, _, x2⟩ := g.tiles.x.region_within hg.x hv.2
  exact ⟨hv, _, _, jy, jx, gy, gx, my, mx, ⟨le_trans y0 my.1, lt_of_lt_of_le my.2 (hg.by_ ▸ y2)⟩,
    ⟨le_trans x0 mx.1, lt_of_lt_of_le mx.2 (hg.bx ▸ x2)⟩, hx, hy⟩

theorem rangeFromBBox_spec (g : GBT) (hg : g.WF) (b : BBox) :
    ∃ r1 r2 c1 c2, rangeFromBBox g b = .ok ((r1, r2), (c1, c2)) ∧
      candidates g b = .ok (product (irange r1 r2) (irange c1 c2)) ∧
      (0 ≤ r1 ∧ r2 < g.tiles.y.count) ∧ (0 ≤ c1 ∧ c2 < g.tiles.x.count) ∧
      ∀ rc, TileMeets g b rc → (r1 ≤ rc.1 ∧ rc.1 ≤ r2) ∧ (c1 ≤ rc.2 ∧ rc.2 ≤ c2) := by
  obtain ⟨px1, px2, c1, c2, hcx, lc1, lc2, bc, supx⟩ :=
    range_superset_axis g.tiles.x hg.x g.nx hg.nx hg.bx b.x1 b.x2
  obtain ⟨py1, py2, r1, r2, hcy, lr1, lr2, br, supy⟩ :=
    range_superset_axis g.tiles.y hg.y g.ny hg.ny hg.by_ b.y1 b.y2
  have hr : rangeFromBBox g b = .ok ((r1, r2), (c1, c2)) := by
    simp only [rangeFromBBox, hcx, hcy, locate2, zip2, lr1, lr2, lc1, lc2, bind, Except.bind, pure, Except.pure]
  refine ⟨r1, r2, c1, c2, hr, by simp only [candidates, hr, bind, Except.bind, pure, Except.pure], br, bc, ?_⟩
  rintro ⟨r, c⟩ ⟨hr', hc', sy, sx, jy, jx, gy, gx, my, mx, bjy, bjx, pmy, pmx⟩
  cases (g.tiles.y.getItem_idx hg.y hr').symm.trans gy
  cases (g.tiles.x.getItem_idx hg.x hc').symm.trans gx
  exact ⟨supy r jy hr'.1 bjy my pmy, supx c jx hc'.1 bjx mx pmx⟩

/-- **range_superset**: `range_from_bbox` succeeds and its ranges contain every tile whose
pixel rectangle meets the query box (clamped to the image); hence the candidate list does. -/
theorem range_superset (g : GBT) (hg : g.WF) (b : BBox) :
    ∃ r1 r2 c1 c2, rangeFromBBox g b = .ok ((r1, r2), (c1, c2)) ∧
      candidates g b = .ok (product (irange r1 r2) (irange c1 c2)) ∧
      ∀ rc, TileMeets g b rc → (r1 ≤ rc.1 ∧ rc.1 ≤ r2) ∧ (c1 ≤ rc.2 ∧ rc.2 ≤ c2) := by
  obtain ⟨r1, r2, c1, c2, hr, hc, _, _, hsup⟩ := rangeFromBBox_spec g hg b
  exact ⟨r1, r2, c1, c2, hr, hc, hsup⟩

/-- candidate list of a box, as a total function (used only to name the result) -/
def candsOf (g : GBT) (b : BBox) : List (Int × Int) :=
  match candidates g b with
  | .ok c => c
  | .error _ => []

theorem candidates_ok (g : GBT) (hg : g.WF) (b : BBox) :
    candidates g b = .ok (candsOf g b) ∧
      (∀ rc ∈ candsOf g b, (0 ≤ rc.1 ∧ rc.1 < g.tiles.y.count) ∧ (0 ≤ rc.2 ∧ rc.2 < g.tiles.x.count)) ∧
      ∀ rc, TileMeets g b rc → rc ∈ candsOf g b := by
  obtain ⟨r1, r2, c1, c2, _, hc, hrr, hcc, hsup⟩ := rangeFromBBox_spec g hg b
  simp only [candsOf, hc, mem_product, mem_irange]
  exact ⟨trivial, fun rc h => by omega, hsup⟩

theorem tiles_pix_complete (g : GBT) (hg : g.WF) (b : BBox) :
    ∃ l, tilesFromPixBBox g b = .ok l ∧ ∀ rc, TileMeets g b rc → rc ∈ l := by
  simp only [tilesFromPixBBox]
  split
  · next hout =>
    refine ⟨[], rfl, ?_⟩
    rintro rc ⟨_, _, sy, sx, jy, jx, _, _, _, _, bjy, bjx, pmy, pmx⟩
    obtain ⟨y2, y1⟩ := pmy.overlaps bjy
    obtain ⟨x2, x1⟩ := pmx.overlaps bjx
    exact absurd hout (by simp only [not_or, not_le, ge_iff_le]; exact ⟨x2, x1, y2, y1⟩)
  · obtain ⟨hc, _, hsup⟩ := candidates_ok g hg b
    exact ⟨_, hc, hsup⟩

/-- F15: a box that does not overlap the image gets no tile (before the repair the clamped edge tiles came back:
`clamped_candidates_outside_cex`) -/
theorem tiles_pix_outside_empty (g : GBT) (b : BBox)
    (hout : b.x2 ≤ 0 ∨ b.x1 ≥ g.nx ∨ b.y2 ≤ 0 ∨ b.y1 ≥ g.ny) : tilesFromPixBBox g b = .ok [] := by
  simp only [tilesFromPixBBox, if_pos hout]

theorem mem_filter_not {α} {l : List α} {f : α → Bool} {a : α} :
    a ∈ l.filter (fun x => !f x) ↔ a ∈ l ∧ f a = false := by
  simp [List.mem_filter]

/-- **tiles_geom_exact**: a geometry query returns exactly the candidates of its bounding box
that shapely does not call disjoint – so (with `range_superset`, and shapely's contract that a
footprint overlapping the query is not disjoint from it) every intersecting tile and only
intersecting tiles. -/
theorem tiles_geom_exact (g : GBT) (hg : g.WF) (b : BBox) (disjoint : Int × Int → Bool) :
    ∃ c l, candidates g b = .ok c ∧ tilesGeom g b disjoint = .ok l ∧
      (∀ rc, rc ∈ l ↔ rc ∈ c ∧ disjoint rc = false) ∧
      (∀ rc, TileMeets g b rc → disjoint rc = false → rc ∈ l) := by
  obtain ⟨hc, _, hsup⟩ := candidates_ok g hg b
  refine ⟨_, (candsOf g b).filter fun idx => !disjoint idx, hc,
    by simp only [tilesGeom, hc, bind, Except.bind, pure, Except.pure], fun rc => mem_filter_not,
    fun rc hm hd => mem_filter_not.2 ⟨hsup rc hm, hd⟩⟩

theorem mapCorners_affine_contains (A : Aff) (b : BBox) (p : Rat × Rat) (h : b.Has p) :
    (b.mapCorners A.apply).Has (A.apply p) := by
  simp only [BBox.Has, BBox.mapCorners, Aff.apply]
  exact ⟨affine_form_between A.a A.b A.c b.x1 b.x2 b.y1 b.y2 p.1 p.2 h.1 h.2,
    affine_form_between A.d A.e A.f b.x1 b.x2 b.y1 b.y2 p.1 p.2 h.1 h.2⟩

/-- the rounded image box of a tile contains the image of every point of the tile: `transform` is the
corner bounding box, `round` moves its edges outward -/
theorem transform_round_contains (A : Aff) (tb : BBox) (p : Rat × Rat) (h : tb.Has p) :
    (tb.transform A).round.Has (A.apply p) := by
  obtain ⟨⟨x1, x2⟩, y1, y2⟩ := mapCorners_affine_contains A tb p h
  exact ⟨⟨le_trans (Rat.floor_le _) x1, le_trans x2 Rat.le_ceil⟩, le_trans (Rat.floor_le _) y1, le_trans y2 Rat.le_ceil⟩

theorem linearDeps_eq {dst : GBT} {idx : Int × Int} {tb : BBox} (htb : pixBBox dst idx = .ok tb) (src : GBT) (A : Aff) :
    linearDeps dst src A idx = tilesFromPixBBox src (tb.transform A).round := by
  simp only [linearDeps, htb, bind, Except.bind]

theorem linearDeps_complete (dst src : GBT) (hs : src.WF) (A : Aff) {idx rc : Int × Int} {tb : BBox}
    (htb : pixBBox dst idx = .ok tb) {u : Rat × Rat} (hu : tb.Has u) (h : src.Sees rc (A.apply u)) :
    ∃ l, linearDeps dst src A idx = .ok l ∧ rc ∈ l := by
  obtain ⟨l, hl, hall⟩ := tiles_pix_complete src hs (tb.transform A).round
  exact ⟨l, (linearDeps_eq htb src A).trans hl, hall rc (h.meets (transform_round_contains A tb u hu))⟩

/-- **linear_deps_complete**: on the linear path (snapped scale + translation map `A` from
destination to source pixels, mirrored axes included) the dependencies of destination tile
`idx` contain every source tile `rc` owning a pixel `(jx, jy)` whose open unit square contains
the image of a point `(u, v)` of the destination tile – i.e. every source tile whose footprint
overlaps the tile's with non-empty interior. -/
theorem linear_deps_complete (dst src : GBT) (hs : src.WF) (A : Aff) (hb : A.b = 0) (hd : A.d = 0)
    (idx : Int × Int) (tb : BBox) (htb : pixBBox dst idx = .ok tb)
    (rc : Int × Int) (hr : 0 ≤ rc.1 ∧ rc.1 < src.tiles.y.count) (hc : 0 ≤ rc.2 ∧ rc.2 < src.tiles.x.count)
    (sy sx : NSlice) (gy : src.tiles.y.getItem (.idx rc.1) = .ok sy)
    (gx : src.tiles.x.getItem (.idx rc.2) = .ok sx)
    (jy jx : Int) (my : sy.Has jy) (mx : sx.Has jx) (bjy : 0 ≤ jy ∧ jy < src.ny)
    (bjx : 0 ≤ jx ∧ jx < src.nx) (u v : Rat)
    (hu : tb.x1 ≤ u ∧ u ≤ tb.x2) (hv : tb.y1 ≤ v ∧ v ≤ tb.y2)
    (hx : (jx : Rat) < A.a * u + A.c ∧ A.a * u + A.c < jx + 1)
    (hy : (jy : Rat) < A.e * v + A.f ∧ A.e * v + A.f < jy + 1) :
    ∃ l, linearDeps dst src A idx = .ok l ∧ rc ∈ l := by
  refine linearDeps_complete dst src hs A htb (u := (u, v)) ⟨hu, hv⟩
    ⟨⟨hr, hc⟩, sy, sx, jy, jx, gy, gx, my, mx, bjy, bjx, ?_, ?_⟩ <;> rw [Aff.apply_of_st hb hd]
  exacts [hx, hy]

/-- **linear_disjoint_empty** (F15 repaired): a destination tile whose rounded image box has
no overlap with the source image depends on no source tile (before the repair the clamped
edge tiles were returned, see `DESIGN.md` §5 F15). -/
theorem linear_disjoint_empty (dst src : GBT) (A : Aff) (idx : Int × Int) (tb : BBox)
    (htb : pixBBox dst idx = .ok tb)
    (hout : (tb.transform A).round.x2 ≤ 0 ∨ (tb.transform A).round.x1 ≥ src.nx ∨
            (tb.transform A).round.y2 ≤ 0 ∨ (tb.transform A).round.y1 ≥ src.ny) :
    linearDeps dst src A idx = .ok [] :=
  (linearDeps_eq htb src A).trans (tiles_pix_outside_empty src _ hout)

/-- what `_check_linear` accepts has no rotation / shear terms at all (for tolerances with
`st_tol ≤ tol`, as the code's `1e-10 ≤ 1e-8`): either `snap_affine` zeroed them or the test fails -/
theorem check_linear_some_st (srcT dstT : Aff) (ttol stol tol sttol : Rat) (ht : sttol ≤ tol) (A : Aff)
    (h : checkLinear srcT dstT ttol stol tol sttol = .ok (some A)) : A.b = 0 ∧ A.d = 0 := by
  simp only [checkLinear, Aff.inv?] at h
  split at h
  · cases h
  · simp only [bind, Except.bind, pure, Except.pure] at h
    split at h
    · rename_i hst
      cases h
      simp only [snapAffine] at hst ⊢
      split
      · rename_i hbig
        rw [if_pos hbig] at hst
        rcases hbig with hb | hb <;> linarith only [hb, hst.1, hst.2, ht]
      · exact ⟨rfl, rfl⟩
    · cases h

theorem mem_allTiles (g : GBT) (rc : Int × Int) :
    rc ∈ allTiles g ↔ (0 ≤ rc.1 ∧ rc.1 < g.tiles.y.count) ∧ (0 ≤ rc.2 ∧ rc.2 < g.tiles.x.count) := by
  simp only [allTiles, mem_product, mem_irange]
  omega

/-- the dependencies of a destination tile on the linear path, as a total function -/
def linDepsOf (dst src : GBT) (A : Aff) (idx : Int × Int) : List (Int × Int) :=
  match linearDeps dst src A idx with
  | .ok l => l
  | .error _ => []

theorem linearDeps_ok (dst src : GBT) (hd : dst.WF) (hs : src.WF) (A : Aff) (idx : Int × Int)
    (hv : idx ∈ allTiles dst) : linearDeps dst src A idx = .ok (linDepsOf dst src A idx) := by
  obtain ⟨tb, htb⟩ := pixBBox_valid hd ((mem_allTiles dst idx).1 hv)
  obtain ⟨l, hl, _⟩ := tiles_pix_complete src hs (tb.transform A).round
  simp only [linDepsOf, linearDeps_eq htb, hl]

theorem grid_intersect_linear_eq (dst src : GBT) (hd : dst.WF) (hs : src.WF) (A : Aff) :
    gridIntersectLinear dst src A = .ok ((allTiles dst).map fun idx => (idx, linDepsOf dst src A idx)) := by
  exact mapM_ok_of_forall _ fun idx hidx => by
    simp only [linearDeps_ok dst src hd hs A idx hidx, bind, Except.bind, pure, Except.pure]

/-- **the linear path is complete for any affine `A`** (the code takes it only for scale + translation maps): source
tile `s` is listed for destination tile `d` whenever it sees the image `A·u` of a point `u` of `d`'s pixel box -/
theorem linear_path_complete (dst src : GBT) (hd : dst.WF) (hs : src.WF) (A : Aff) {d s : Int × Int} {tb : BBox}
    (htb : pixBBox dst d = .ok tb) (hvd : d ∈ allTiles dst) {u : Rat × Rat} (hu : tb.Has u) (h : src.Sees s (A.apply u)) :
    ∃ l deps, gridIntersectLinear dst src A = .ok l ∧ (d, deps) ∈ l ∧ s ∈ deps := by
  obtain ⟨deps, hdeps, hin⟩ := linearDeps_complete dst src hs A htb hu h
  cases hdeps.symm.trans (linearDeps_ok dst src hd hs A d hvd)
  exact ⟨_, _, grid_intersect_linear_eq dst src hd hs A, List.mem_map.2 ⟨d, hvd, rfl⟩, hin⟩

/-- **C12 ∘ C04**: on the linear path every source pixel `(jx, jy)` that destination tile `idx`
needs (its open unit square contains the image of a point of the tile) lies in exactly one source
tile (C04 `tiles2_partition`), and that tile is among the dependencies of `idx`: the listed
source tiles split the needed source pixels exactly, none is lost and none is served twice. -/
theorem linear_deps_partition_needed_pixels (dst src : GBT) (hs : src.WF) (A : Aff)
    (hb : A.b = 0) (hd : A.d = 0) (idx : Int × Int) (tb : BBox) (htb : pixBBox dst idx = .ok tb)
    (jy jx : Int) (bjy : 0 ≤ jy ∧ jy < src.ny) (bjx : 0 ≤ jx ∧ jx < src.nx) (u v : Rat)
    (hu : tb.x1 ≤ u ∧ u ≤ tb.x2) (hv : tb.y1 ≤ v ∧ v ≤ tb.y2)
    (hx : (jx : Rat) < A.a * u + A.c ∧ A.a * u + A.c < jx + 1)
    (hy : (jy : Rat) < A.e * v + A.f ∧ A.e * v + A.f < jy + 1) :
    ∃ l, linearDeps dst src A idx = .ok l ∧
      ∃! rc : Int × Int, (((0 ≤ rc.1 ∧ rc.1 < src.tiles.y.count) ∧ (0 ≤ rc.2 ∧ rc.2 < src.tiles.x.count)) ∧
        ∃ sy sx, getItem2 src.tiles (.idx rc.1) (.idx rc.2) = .ok (sy, sx) ∧ sy.Has jy ∧ sx.Has jx) ∧
        rc ∈ l := by
  obtain ⟨rc, ⟨hbnd, sy, sx, hget, hyy, hxx⟩, huniq⟩ := tiles2_partition src.tiles hs.y hs.x jy jx
    (hs.by_ ▸ bjy) (hs.bx ▸ bjx)
  obtain ⟨gy, gx⟩ := zip2_ok_iff.1 hget
  obtain ⟨l, hl, hin⟩ := linear_deps_complete dst src hs A hb hd idx tb htb rc hbnd.1 hbnd.2 sy sx gy gx
    jy jx hyy hxx bjy bjx u v hu hv hx hy
  exact ⟨l, hl, rc, ⟨⟨hbnd, sy, sx, hget, hyy, hxx⟩, hin⟩, fun rc' h' => huniq rc' h'.1⟩

/-- **general_deps_complete_partial**: the control flow of the general path drops nothing:
if the (re)projected footprints handed to `tiles()` are supersets of the true ones – so that
an overlapping destination tile `d` is a non-disjoint candidate for the source footprint and an
overlapping source tile `s` a non-disjoint candidate for `d`'s extent – then `s ∈ deps d`.
Partial: the footprint-superset hypothesis itself (pyproj, densification, the 2-pixel buffer of
`footprint(4326, 2)`) is assumed, not proved; it is sampled by the harness oracle. -/
theorem general_deps_complete_partial (dstCand : List (Int × Int)) (dstDisjoint : Int × Int → Bool)
    (srcCand : Int × Int → List (Int × Int)) (srcDisjoint : Int × Int → Int × Int → Bool)
    (d s : Int × Int) (hd : d ∈ dstCand) (hdd : dstDisjoint d = false)
    (hs : s ∈ srcCand d) (hsd : srcDisjoint d s = false) :
    ∃ deps, (d, deps) ∈ gridIntersectGeneral dstCand dstDisjoint srcCand srcDisjoint ∧ s ∈ deps := by
  exact ⟨(srcCand d).filter fun s => !srcDisjoint d s,
    List.mem_map.2 ⟨d, mem_filter_not.2 ⟨hd, hdd⟩, rfl⟩, mem_filter_not.2 ⟨hs, hsd⟩⟩

theorem general_deps_listed {dstCand : List (Int × Int)} {dstDisjoint : Int × Int → Bool}
    {srcCand : Int × Int → List (Int × Int)} {srcDisjoint : Int × Int → Int × Int → Bool}
    {e : (Int × Int) × List (Int × Int)} (he : e ∈ gridIntersectGeneral dstCand dstDisjoint srcCand srcDisjoint) :
    e.1 ∈ dstCand ∧ ∀ s ∈ e.2, s ∈ srcCand e.1 := by
  obtain ⟨d, hd, rfl⟩ := List.mem_map.1 he
  exact ⟨List.mem_of_mem_filter hd, fun s hs => List.mem_of_mem_filter hs⟩

/-- the general path lists only destination tiles that shapely does not call disjoint from
the source footprint: for disjoint rasters (every candidate disjoint) the graph is empty. -/
theorem general_disjoint_empty (dstCand : List (Int × Int)) (dstDisjoint : Int × Int → Bool)
    (srcCand : Int × Int → List (Int × Int)) (srcDisjoint : Int × Int → Int × Int → Bool)
    (h : ∀ d ∈ dstCand, dstDisjoint d = true) :
    gridIntersectGeneral dstCand dstDisjoint srcCand srcDisjoint = [] := by
  simp only [gridIntersectGeneral, List.map_eq_nil_iff, List.filter_eq_nil_iff]
  intro d hd
  simp [h d hd]

theorem projectBBox_ok {W : Aff} (hW : W.det ≠ 0) (proj : Rat × Rat → Rat × Rat) (b : BBox) :
    projectBBox W proj b = .ok (b.mapCorners fun p => W.inv.apply (proj p)) := by
  simp only [projectBBox, Aff.inv?_of_det_ne hW, bind, Except.bind, pure, Except.pure]

/-- same CRS: the box goes through `~affine` only -/
theorem projectBBox_id {W : Aff} (hW : W.det ≠ 0) (b : BBox) : projectBBox W id b = .ok (b.mapCorners W.inv.apply) :=
  projectBBox_ok hW id b

/-- **range_superset, world space (same CRS; any invertible pixel-to-world affine – north-up,
mirrored, rotated)**: `range_from_bbox` of a box carrying the raster's CRS succeeds, and every
tile owning an image pixel `(jx, jy)` whose open unit square contains the pixel coordinates
`~W · (u, v)` of some point `(u, v)` of the box is inside the returned ranges (the box is
rounded outward, never inward). -/
theorem range_superset_world (g : GBT) (hg : g.WF) (W : Aff) (hW : W.det ≠ 0) (b : BBox)
    (rc : Int × Int) (hr : 0 ≤ rc.1 ∧ rc.1 < g.tiles.y.count) (hc : 0 ≤ rc.2 ∧ rc.2 < g.tiles.x.count)
    (sy sx : NSlice) (gy : g.tiles.y.getItem (.idx rc.1) = .ok sy)
    (gx : g.tiles.x.getItem (.idx rc.2) = .ok sx)
    (jy jx : Int) (my : sy.Has jy) (mx : sx.Has jx) (bjy : 0 ≤ jy ∧ jy < g.ny) (bjx : 0 ≤ jx ∧ jx < g.nx)
    (u v : Rat) (hu : b.x1 ≤ u ∧ u ≤ b.x2) (hv : b.y1 ≤ v ∧ v ≤ b.y2)
    (hx : (jx : Rat) < (W.inv.apply (u, v)).1 ∧ (W.inv.apply (u, v)).1 < jx + 1)
    (hy : (jy : Rat) < (W.inv.apply (u, v)).2 ∧ (W.inv.apply (u, v)).2 < jy + 1) :
    ∃ r1 r2 c1 c2, rangeFromBBoxWorld g W id b = .ok ((r1, r2), (c1, c2)) ∧
      candidatesWorld g W id b = .ok (product (irange r1 r2) (irange c1 c2)) ∧
      (r1 ≤ rc.1 ∧ rc.1 ≤ r2) ∧ (c1 ≤ rc.2 ∧ rc.2 ≤ c2) := by
  have hsees : g.Sees rc (W.inv.apply (u, v)) := ⟨⟨hr, hc⟩, sy, sx, jy, jx, gy, gx, my, mx, bjy, bjx, hx, hy⟩
  obtain ⟨r1, r2, c1, c2, hrange, hcand, hsup⟩ := range_superset g hg (b.mapCorners W.inv.apply)
  exact ⟨r1, r2, c1, c2, by simp only [rangeFromBBoxWorld, projectBBox_id hW, hrange, bind, Except.bind],
    by simp only [candidatesWorld, projectBBox_id hW, hcand, bind, Except.bind],
    hsup rc (hsees.meets (mapCorners_affine_contains W.inv b (u, v) ⟨hu, hv⟩))⟩

/-- **tiles(geometry) = range ∩ not-disjoint, world space**: the result is exactly the candidates
of the geometry's bounding box that shapely does not call disjoint. -/
theorem tiles_geom_world_exact (g : GBT) (W : Aff) (b : BBox) (disjoint : Int × Int → Bool)
    (c : List (Int × Int)) (hc : candidatesWorld g W id b = .ok c) :
    tilesGeomWorld g W b disjoint = .ok (c.filter fun idx => !disjoint idx) ∧
      ∀ rc, rc ∈ (c.filter fun idx => !disjoint idx) ↔ rc ∈ c ∧ disjoint rc = false := by
  exact ⟨by simp only [tilesGeomWorld, hc, bind, Except.bind, pure, Except.pure], fun rc => mem_filter_not⟩

/-- a box in a *foreign* CRS: only the four corners are transformed (`bbox.polygon` has no other
vertices), so what is guaranteed is that the pixel box contains the images of the corners –
nothing about the curved edges in between (the chord reading of cross-CRS queries; the harness
samples the bulge, see `curved_queries`). -/
theorem projectBBox_contains_corners (W : Aff) (hW : W.det ≠ 0) (proj : Rat × Rat → Rat × Rat) (b : BBox)
    (p : Rat × Rat) (hp : p ∈ b.corners) :
    ∃ pb, projectBBox W proj b = .ok pb ∧
      (pb.x1 ≤ (W.inv.apply (proj p)).1 ∧ (W.inv.apply (proj p)).1 ≤ pb.x2) ∧
      (pb.y1 ≤ (W.inv.apply (proj p)).2 ∧ (W.inv.apply (proj p)).2 ≤ pb.y2) := by
  refine ⟨_, projectBBox_ok hW proj b, ?_⟩
  simp only [BBox.corners, List.mem_cons, List.mem_nil_iff, or_false] at hp
  simp only [BBox.mapCorners]
  rcases hp with rfl | rfl | rfl | rfl <;> simp only [min4_le, le_max4, and_self]

/-- **negative relative scale**: with `a < 0` the image of the tile's x-range `[x1, x2]` is
`[a·x2 + c, a·x1 + c]`, and the rounded box is `[⌊a·x2 + c⌋, ⌈a·x1 + c⌉]`: the *far* edge is
floored and the *near* edge is ceiled – still outward on both sides. -/
theorem round_negative_scale (A : Aff) (hb : A.b = 0) (ha : A.a < 0) (tb : BBox) (hx : tb.x1 ≤ tb.x2) :
    (tb.transform A).round.x1 = ((A.a * tb.x2 + A.c).floor : Int) ∧
    (tb.transform A).round.x2 = ((A.a * tb.x1 + A.c).ceil : Int) := by
  have h : A.a * tb.x2 + A.c ≤ A.a * tb.x1 + A.c := (add_le_add_iff_right A.c).2 (mul_le_mul_of_nonpos_left hx ha.le)
  simp only [BBox.transform, BBox.round, Aff.apply, hb, zero_mul, add_zero, min4, max4, min_self, max_self,
    min_eq_right h, max_eq_left h, and_self]

theorem gridIntersectGeneralR_eq (dst src : GBT) (hd : dst.WF) (hs : src.WF) (fp : BBox)
    (dstDisjoint : Int × Int → Bool) (ext : Int × Int → BBox) (srcDisjoint : Int × Int → Int × Int → Bool) :
    gridIntersectGeneralR dst src fp dstDisjoint ext srcDisjoint =
      .ok (gridIntersectGeneral (candsOf dst fp) dstDisjoint (fun d => candsOf src (ext d)) srcDisjoint) := by
  simp only [gridIntersectGeneralR, (candidates_ok dst hd fp).1, bind, Except.bind]
  exact mapM_ok_of_forall _ fun d _ => by simp only [(candidates_ok src hs (ext d)).1, pure, Except.pure]

/-- **general_deps_complete_ranges** (`general_deps_complete_partial` with the candidate lists
computed, not assumed): on the general path – rotated / sheared same-CRS grids and different CRSs –
with the candidate ranges computed by the model itself (`range_from_bbox` on the bounding boxes
handed to `tiles`), `grid_intersect` succeeds and lists source tile `s` for destination tile `d` whenever

* `d` meets the pixel bounding box `fp` of the (re)projected source footprint and `s` meets the
  pixel bounding box `ext d` of the (re)projected extent of `d`   (`TileMeets`), and
* shapely does not call the footprint / `d`, resp. the extent of `d` / `s`, disjoint.

What is assumed, and why it cannot be discharged here: (1) geometry – that a truly
overlapping pair satisfies the two `TileMeets` facts, i.e. that the projected footprint / extent
polygons (pyproj, `footprint(4326, 2)` with its 2 px padding and 100-point densification, the
4-corner tile extent) *contain* the true overlap region; for same-CRS pairs this is
`mapCorners_affine_contains`, for different CRSs it depends on the curvature of the projection
between the sampled vertices (harness: `dense_dep_oracle`, `large_cross_crs`); (2) shapely's
contract that polygons with a common interior point are not `disjoint`. -/
theorem general_deps_complete_ranges (dst src : GBT) (hd : dst.WF) (hs : src.WF) (fp : BBox)
    (dstDisjoint : Int × Int → Bool) (ext : Int × Int → BBox)
    (srcDisjoint : Int × Int → Int × Int → Bool) (d s : Int × Int)
    (h1 : TileMeets dst fp d) (h2 : dstDisjoint d = false)
    (h3 : TileMeets src (ext d) s) (h4 : srcDisjoint d s = false) :
    ∃ l deps, gridIntersectGeneralR dst src fp dstDisjoint ext srcDisjoint = .ok l ∧
      (d, deps) ∈ l ∧ s ∈ deps := by
  obtain ⟨deps, h, hs'⟩ := general_deps_complete_partial (candsOf dst fp) dstDisjoint (fun d => candsOf src (ext d))
    srcDisjoint d s ((candidates_ok dst hd fp).2.2 d h1) h2 ((candidates_ok src hs (ext d)).2.2 s h3) h4
  exact ⟨_, deps, gridIntersectGeneralR_eq dst src hd hs fp dstDisjoint ext srcDisjoint, h, hs'⟩

/-- the 20×20 image of 10×10 tiles used below -/
def g20 : GBT := ⟨20, 20, ⟨.reg 20 10, .reg 20 10⟩⟩

example : g20.WF := ⟨by show (0:Int) < 10; decide, by show (0:Int) < 10; decide, rfl, rfl, by decide, by decide⟩
example : tilesFromPixBBox g20 ⟨5, 5, 15, 6⟩ = .ok [(0, 0), (0, 1)] := by decide

/-- F15: `range_from_bbox` alone (what the pixel-box query used before the repair) answers a
box far outside the image with the nearest edge tile – `candidates` is not empty there, which
is why `_tiles_from_pix_bbox` must test for an empty overlap first. -/
theorem clamped_candidates_outside_cex :
    candidates g20 ⟨100, 100, 120, 120⟩ = .ok [(1, 1)] ∧
    tilesFromPixBBox g20 ⟨100, 100, 120, 120⟩ = .ok [] := by decide

end OdcGeo.C12
