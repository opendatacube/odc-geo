/-
C14 — point lookup under binary64 with an EXPLICIT exclusion band (no representability hypothesis).

`fl64_rounding_error`: the binary64 rounding of the model satisfies, for EVERY rational, `|fl64 q − q| ≤ 2^-53·|q| + 2^-1075`
(proved from its definition: `Lemmas/C14FlBound.lean`).  Hence `bin_transfer_band_fl64`: `Bin1D.bin fl64 x` is the exact tile index
for every point that keeps more than `ε·|q| + η'` (in units of the tile size, `q = (x − origin)/sz`, `ε = 2u + u²`, `u = 2^-53`,
`η' = 2^-1075·((1+u)/sz + 1)`) from both edges of its tile — the F-mode transfer of `pt2idx` has an explicit band instead of a
hypothesis on representability.  This is `bin_transfer_band` (`Props/C14Band.lean`) with its error-model hypothesis discharged;
the purely relative `bin_transfer_band_partial` does not apply to `fl64` (gradual underflow needs the absolute term).
-/
import OdcGeo.Lemmas.C14FlBound
import OdcGeo.Props.C14Band

namespace OdcGeo.C14

/-- ERROR BOUND of the binary64 rounding of the model, for every rational: relative `2^-53` plus the subnormal quantum `2^-1075` -/
theorem fl64_rounding_error (q : Rat) : |fl64 q - q| ≤ 1 / 2 ^ 53 * |q| + pow2 (-1074) / 2 := by
  rcases lt_trichotomy q 0 with h | h | h
  · have := fl64_error_pos (-q) (neg_pos.mpr h)
    rw [fl64_neg, neg_sub_neg, abs_sub_comm] at this
    rwa [abs_of_neg h]
  · subst h
    rw [show fl64 0 = 0 from if_pos rfl, sub_zero, abs_zero, mul_zero, zero_add]
    exact (half_pos (pow2_pos _)).le
  · rw [abs_of_pos h]; exact fl64_error_pos q h

/-- BINARY64, UNCONDITIONAL: outside the explicit band the rounded point lookup is the exact one and the point lies in the tile
    it returns (`u = 2^-53`, `η = 2^-1075`) -/
theorem bin_transfer_band_fl64 {sz o : Rat} {d : Int} {b : Bin1D} (hb : Bin1D.new sz o d = .ok b) (x : Rat)
    (hlo : (2 * (1 / 2 ^ 53) + 1 / 2 ^ 53 * (1 / 2 ^ 53)) * |(x - b.origin) / b.sz| +
        pow2 (-1074) / 2 * ((1 + 1 / 2 ^ 53) / b.sz + 1) ≤ (x - b.origin) / b.sz - (((x - b.origin) / b.sz).floor : Rat))
    (hhi : (2 * (1 / 2 ^ 53) + 1 / 2 ^ 53 * (1 / 2 ^ 53)) * |(x - b.origin) / b.sz| +
        pow2 (-1074) / 2 * ((1 + 1 / 2 ^ 53) / b.sz + 1) < (((x - b.origin) / b.sz).floor : Rat) + 1 - (x - b.origin) / b.sz) :
    b.bin fl64 x = b.bin id x ∧ b.lo id (b.bin fl64 x) ≤ x ∧ x < b.hi id (b.bin fl64 x) :=
  bin_transfer_band fl64 (1 / 2 ^ 53) (pow2 (-1074) / 2) (by positivity) fl64_rounding_error hb x hlo hhi

/-- 2-D: if the binary64 lookup agrees with the exact one on each axis (e.g. by `bin_transfer_band_fl64`: the point is outside the
    band on both axes), the binary64 `pt2idx` of a grid returns the exact tile, and the point lies in it -/
theorem pt2idx_band_fl64 {ny nx : Int} {rx ry ox oy : Rat} {fx fy : Bool} {g : GridSpec}
    (hg : GridSpec.new id ny nx rx ry ox oy fx fy = .ok g) (x y : Rat)
    (hx : g.xbin.bin fl64 x = g.xbin.bin id x) (hy : g.ybin.bin fl64 y = g.ybin.bin id y) :
    g.pt2idx fl64 x y = g.pt2idx id x y ∧ (g.footprint (g.pt2idx fl64 x y)).memHalfOpen (x, y) := by
  have e : g.pt2idx fl64 x y = g.pt2idx id x y := congrArg₂ Prod.mk hx hy
  exact ⟨e, by rw [e]; exact pt_in_its_tile hg x y⟩

/-- non-vacuity: the centre of a DEA tile (96 km tiles from -4416000) is far outside the band -/
example : Bin1D.new 96000 (-4416000) 1 = .ok ⟨96000, -4416000, 1⟩ ∧
    (2 * (1 / 2 ^ 53) + 1 / 2 ^ 53 * (1 / 2 ^ 53)) * |((-816000 : Rat) - (-4416000)) / 96000| +
        pow2 (-1074) / 2 * ((1 + 1 / 2 ^ 53) / 96000 + 1) ≤ ((-816000 : Rat) - (-4416000)) / 96000 - 37 := by
  decide +kernel

end OdcGeo.C14
