/-
C06 — glue around the modelled core (`Model/C06Ops.lean`): return values and keyword forms of `flush`, what a merge
task and the finaliser leave in their inputs (re-execution), `__dask_tokenize__`; and what the writer's upper limits
`max_part` / `max_write_sz` do and do not bound (`parts_count_and_largest_part`, `max_write_sz_not_enforced_cex`,
`max_part_unchecked_cex`).
-/
import OdcGeo.Model.C06Ops
import OdcGeo.Lemmas.C06


namespace OdcGeo.C06
variable {α : Type}

def bytesOf (ws : List (Part α)) : Nat := (ws.map (·.data.length)).sum

theorem flushDataRet_eq (W : Writer) (c : Chunk α) (d : List α) :
    flushDataRet W c d = match flushData W c d with
      | .error e => .error e
      | .ok (c', ws) => .ok (c', ws, bytesOf ws) := by
  unfold flushDataRet flushData
  split
  · rfl
  · simp [bytesOf]

theorem flushRhsRet_eq (w : Option Writer) (c : Chunk α) (extra : List α) :
    flushRhsRet w c extra = match flushRhs w c extra with
      | .error e => .error e
      | .ok (c', ws) => .ok (c', ws, bytesOf ws) := by
  unfold flushRhsRet flushRhs
  dsimp only
  rcases w with _ | W
  · cases c.started <;> rfl
  · simp only [flushDataRet_eq]
    cases c.started <;> cases canFlush W c (c.data ++ extra).length <;> rfl

theorem flushRhs_started_next (w : Option Writer) (c c' : Chunk α) (extra : List α) (ws : List (Part α))
    (hs : c.started = true) (h : flushRhs w c extra = .ok (c', ws)) :
    c'.next = c.next + 1 ∧ c'.parts ≠ [] ∧ c'.data = [] := by
  unfold flushRhs at h
  simp only [hs, if_true] at h
  split at h
  · cases h
  · split at h
    · unfold flushData at h
      split at h
      · cases h
      · cases h
        exact ⟨rfl, by simp, rfl⟩
    · cases h

theorem error_eq_iff {β γ : Type} (a e : ErrKind) :
    (Except.error a : Res β) = .error e ↔ (Except.error a : Res γ) = .error e := by simp

/-- **`flush` with every keyword form is the `flush` the main theorem is about**: same writer calls, same parts list,
whatever `finalise` is; it fails exactly when `flush` fails; and the first component of its return value is the number
of bytes it handed to the writer. -/
theorem flushFull_spec (W : Writer) (c : Chunk α) (lp : Option Nat) (fin : Bool) :
    (∀ e, flushFull W c lp fin = .error e ↔ flush W c lp = .error e) ∧
    (∀ r, flushFull W c lp fin = .ok r →
      flush W c lp = .ok (r.writes, r.parts) ∧ r.bytesWritten = bytesOf r.writes ∧ r.finalised = fin ∧
      r.after.parts = r.parts ∧ r.after.data = [] ∧ r.after.left = []) := by
  unfold flushFull flush
  cases hs : c.started
  · by_cases hl : c.left.length = 0
    · simp only [Bool.not_false, if_true, hl, ne_eq, not_true_eq_false, if_false]
      refine ⟨fun e => ⟨nofun, nofun⟩, fun r hr => ?_⟩
      cases hr
      exact ⟨rfl, by simp [bytesOf], rfl, rfl, rfl, List.length_eq_zero_iff.1 hl⟩
    · simp only [Bool.not_false, if_true, hl, ne_eq, not_false_eq_true]
      exact ⟨fun e => error_eq_iff _ e, nofun⟩
  · -- first stage of `flush` (its `flush_rhs` call): the return-value form is `flushRhs` with the bytes it wrote
    have hr1 : (if c.data.length ≠ 0 then flushRhsRet (some W) { c with isFinal := true } [] else .ok (c, [], 0)) =
        match (if c.data.length ≠ 0 then flushRhs (some W) { c with isFinal := true } [] else .ok (c, [])) with
        | .error e => .error e
        | .ok (c1, w1) => .ok (c1, w1, bytesOf w1) := by
      split
      · exact flushRhsRet_eq _ _ _
      · rfl
    have hd : ∀ c1 w1, (if c.data.length ≠ 0 then flushRhs (some W) { c with isFinal := true } [] else .ok (c, [])) =
        .ok (c1, w1) → c1.data = [] := by
      intro c1 w1 h
      split at h
      · exact (flushRhs_started_next _ { c with isFinal := true } _ _ _ hs h).2.2
      · cases h; exact List.length_eq_zero_iff.1 (not_not.1 ‹_›)
    simp only [Bool.not_true, Bool.false_eq_true, if_false, hr1]
    generalize (if c.data.length ≠ 0 then flushRhs (some W) { c with isFinal := true } [] else .ok (c, [])) = r1 at hd
    rcases r1 with e | ⟨c1, w1⟩
    · exact ⟨fun e' => error_eq_iff _ e', nofun⟩
    have hd1 := hd c1 w1 rfl
    dsimp only
    by_cases hl : c1.left.length = 0
    · simp only [hl, ne_eq, not_true_eq_false, if_false]
      refine ⟨fun e => ⟨nofun, nofun⟩, fun r hr => ?_⟩
      cases hr
      exact ⟨rfl, rfl, rfl, rfl, hd1, List.length_eq_zero_iff.1 hl⟩
    · simp only [hl, ne_eq, not_false_eq_true, if_true]
      by_cases hm : c1.left.length < W.minWrite
      · simp only [hm, if_true]
        exact ⟨fun e => error_eq_iff _ e, nofun⟩
      · simp only [hm, if_false]
        refine ⟨fun e => ⟨nofun, nofun⟩, fun r hr => ?_⟩
        cases hr
        exact ⟨rfl, by simp [bytesOf], rfl, rfl, hd1, rfl⟩

/-- **`flush(finalise=False)` followed by `write.finalise(chunk.parts)`** hands `finalise` exactly the list
`flush(finalise=True)` hands it, after exactly the same writer calls. -/
theorem flush_finalise_later_same (W : Writer) (c : Chunk α) (lp : Option Nat) (r : FlushRet α)
    (h : flushFull W c lp false = .ok r) :
    ∃ r', flushFull W c lp true = .ok r' ∧ r'.writes = r.writes ∧ r'.parts = r.parts ∧ r.after.parts = r'.parts ∧
      r.finalised = false ∧ r'.finalised = true := by
  obtain ⟨_, h1⟩ := flushFull_spec W c lp false
  obtain ⟨hE, h2⟩ := flushFull_spec W c lp true
  obtain ⟨hf, _, hfin, hpa, _⟩ := h1 r h
  cases hr : flushFull W c lp true with
  | error e => rw [(hE e).1 hr] at hf; cases hf
  | ok r' =>
    obtain ⟨hf', _, hfin', _⟩ := h2 r' hr
    rw [hf] at hf'
    simp only [Except.ok.injEq, Prod.mk.injEq] at hf'
    exact ⟨r', rfl, hf'.1.symm, hf'.2.symm, by rw [hpa, hf'.2], hfin, hfin'⟩

/-- the default `leftPartId=None` of `flush` writes the left / header data as part **1** whatever the writer's
`min_part` is (the finaliser therefore passes `write.min_part` explicitly, fix F9): a direct caller relying on the
default with a 5-based writer gets a part number outside the writer's range -/
theorem flush_default_left_id_cex :
    (match flushFull ⟨2, 5, 100⟩ ({ (mkChunk 7 1 false 2 : Chunk Nat) with
        left := [1, 2], parts := [⟨6, [3, 4]⟩], data := [5] }) none true with
     | .ok r => r.writes.any (fun p => decide (p.id < 5))
     | .error _ => false) = true := by decide

example : (match flushFull ⟨2, 1, 100⟩ ({ (mkChunk 3 1 false 2 : Chunk Nat) with
    left := [1, 2], parts := [⟨2, [3, 4]⟩], data := [5] }) (some 1) false with
    | .ok r => r.bytesWritten == 3 && r.finalised == false && r.parts.map (·.id) == [1, 2, 3]
    | .error _ => false) = true := by decide

/-- a merge task whose right side has not written grows the left input's parts list by exactly the parts it wrote -/
theorem mergePost_unstarted (w : Option Writer) (spill : Nat) (l r : Chunk α) (p : MergePost α)
    (h : mergeAndSpillPost w spill l r = .ok p) (hr : r.started = false) :
    p.lhsAfter = { l with parts := l.parts ++ p.writes } ∧ p.rhsAfter = r := by
  unfold mergeAndSpillPost at h
  split at h
  · cases h
  · simp only [hr, Bool.not_false, if_true, Except.ok.injEq] at h
    subst h
    exact ⟨rfl, rfl⟩

/-- a merge task whose right side has written leaves the left input as `flush_rhs` made it -/
theorem mergePost_started (w : Option Writer) (spill : Nat) (l r : Chunk α) (p : MergePost α)
    (h : mergeAndSpillPost w spill l r = .ok p) (hr : r.started = true) :
    p.rhsAfter = r ∧ ∃ ws, flushRhs w l r.left = .ok (p.lhsAfter, ws) := by
  unfold mergeAndSpillPost at h
  split at h
  · cases h
  · simp only [hr, Bool.not_true, Bool.false_eq_true, if_false] at h
    split at h
    · cases h
    · cases h
      exact ⟨rfl, _, ‹_›⟩

/-- **A merge whose right side has not written and that does not spill leaves both inputs as they were**, so a second
execution of the task on the same objects computes the same chunk and makes no writer call. -/
theorem merge_twice_same_when_nothing_written (w : Option Writer) (spill : Nat) (l r : Chunk α) (p : MergePost α)
    (h : mergeAndSpillPost w spill l r = .ok p) (hr : r.started = false) (hw : p.writes = []) :
    p.lhsAfter = l ∧ p.rhsAfter = r ∧ mergeTwice w spill l r = .ok (p, .ok p) := by
  obtain ⟨hl, hr'⟩ := mergePost_unstarted w spill l r p h hr
  rw [hw, List.append_nil] at hl
  exact ⟨hl, hr', by simp only [mergeTwice, h, hl, hr']⟩

def r_started (p : MergePost Nat) : Bool := p.rhsAfter.started

example : (match mergeAndSpillPost (some ⟨2, 1, 100⟩) 100
    ({ (mkChunk 2 1 false 2 : Chunk Nat) with data := [1], observed := [(1, 0)] })
    ({ (mkChunk 3 1 false 2 : Chunk Nat) with data := [2], observed := [(1, 1)] }) with
    | .ok p => p.writes == [] && !r_started p
    | .error _ => false) = true := by decide

/-- **… but a merge that spills, or whose right side has written, is not repeatable**: `lhs.flush_rhs` / the shared
`parts` list changed the left input.  Witness (min_write_sz 2, spill 2): the first execution writes part 2 = `[3,4]`;
executed again on the same objects the task writes part number 2 a SECOND time with different bytes (`[1,2,3,4]`) and
returns a chunk that lists part 2 twice. -/
theorem merge_twice_differs_cex :
    (match mergeTwice (some ⟨2, 1, 100⟩) 2
        ({ (mkChunk 2 2 false 2 : Chunk Nat) with data := [1, 2, 3, 4], observed := [(4, 0)] })
        ({ (mkChunk 4 1 false 2 : Chunk Nat) with data := [5, 6], observed := [(2, 1)] }) with
     | .ok (p1, .ok p2) =>
       p1.writes == [⟨2, [3, 4]⟩] && p2.writes == [⟨2, [1, 2, 3, 4]⟩] &&
       p2.result.parts.map (·.id) == [2, 2]
     | _ => false) = true := by decide

/-- … and when the right side has written, the second execution re-sends the right side's `left_data` under a fresh
part number or fails its assertion (here: no write credit left → `AssertionError`). -/
theorem merge_twice_started_cex :
    (match mergeTwice (some ⟨2, 1, 100⟩) 0
        ({ (mkChunk 2 1 false 2 : Chunk Nat) with data := [1, 2, 3, 4, 5], observed := [(5, 0)] })
        (⟨4, 0, [10, 11], [6, 7], [⟨3, [8, 9]⟩], [(6, 1)], false, 2⟩ : Chunk Nat) with
     | .ok (p1, .error .assertion) => p1.writes == [⟨2, [3, 4, 5, 6, 7]⟩]
     | _ => false) = true := by decide

/-- **Right side has not written and the task wrote something (a spill): the task is NOT repeatable** — whatever the
second execution on the same objects does, it cannot reproduce the first (the left input already carries the part). -/
theorem merge_not_repeatable_after_spill (w : Option Writer) (spill : Nat) (l r : Chunk α) (p1 : MergePost α)
    (h : mergeAndSpillPost w spill l r = .ok p1) (hr : r.started = false) (hw : p1.writes ≠ []) :
    mergeAndSpillPost w spill p1.lhsAfter p1.rhsAfter ≠ .ok p1 := by
  intro h2
  obtain ⟨_, hr1⟩ := mergePost_unstarted w spill l r p1 h hr
  obtain ⟨hp2, _⟩ := mergePost_unstarted w spill _ _ p1 h2 (hr1 ▸ hr)
  exact hw (List.append_right_eq_self.mp (congrArg Chunk.parts hp2).symm)

/-- **Right side has written and the merge flushed the left side (the left input is a started section afterwards): NOT
repeatable** — a second execution fails, or sends the right side's `left_data` again under the NEXT part number
(the left input's part counter moves on by one). -/
theorem merge_not_repeatable_after_flush (w : Option Writer) (spill : Nat) (l r : Chunk α) (p1 p2 : MergePost α)
    (h : mergeAndSpillPost w spill l r = .ok p1) (hr : r.started = true) (hl : p1.lhsAfter.started = true)
    (h2 : mergeAndSpillPost w spill p1.lhsAfter p1.rhsAfter = .ok p2) :
    p2.lhsAfter.next = p1.lhsAfter.next + 1 ∧ p2 ≠ p1 := by
  obtain ⟨hr1, _⟩ := mergePost_started w spill l r p1 h hr
  obtain ⟨_, ws, hf⟩ := mergePost_started w spill _ _ p2 h2 (hr1 ▸ hr)
  have hnext := (flushRhs_started_next w _ _ _ ws hl hf).1
  exact ⟨hnext, fun he => by rw [he] at hnext; omega⟩

/-- with `lhs_keep` in the tuple the token determines the chunk -/
theorem token_injective (c c' : Chunk α) (h : c.token = c'.token) : c = c' := by
  cases c; cases c'
  simp only [Chunk.token, Chunk.tokenAsFound, Prod.mk.injEq] at h
  obtain ⟨⟨rfl, rfl, rfl, rfl, rfl, rfl, rfl⟩, rfl⟩ := h
  rfl

/-- as found, two sections that differ (only) in `lhs_keep` share a token: the `from_sequence` layers `from_dask_bag`
builds for two writers with different `min_write_sz` get the same dask key -/
theorem token_as_found_cex :
    (mkChunk 2 1 false 4 : Chunk Nat).tokenAsFound = (mkChunk 2 1 false 20 : Chunk Nat).tokenAsFound ∧
    (mkChunk 2 1 false 4 : Chunk Nat).lhsKeep ≠ (mkChunk 2 1 false 20 : Chunk Nat).lhsKeep :=
  ⟨rfl, by decide⟩

/-- the token as found ignores nothing else -/
theorem token_as_found_only_ignores_lhs_keep (c c' : Chunk α) (h : c.tokenAsFound = c'.tokenAsFound)
    (hk : c.lhsKeep = c'.lhsKeep) : c = c' :=
  token_injective c c' (by simp [Chunk.token, h, hk])

theorem increasing_ids_count (ps : List (Part α)) (a b : Nat) (hinc : ps.Pairwise (fun x y => x.id < y.id))
    (hr : ∀ p ∈ ps, a ≤ p.id ∧ p.id ≤ b) : ps.length ≤ b + 1 - a := by
  induction ps generalizing a with
  | nil => simp
  | cons p ps ih =>
    have hp := hr p (by simp)
    rw [List.pairwise_cons] at hinc
    have := ih (p.id + 1) hinc.2 (fun q hq => ⟨hinc.1 q hq, (hr q (by simp [hq])).2⟩)
    simp only [List.length_cons]
    omega

/-- **What the code guarantees about the number and the size of parts**: under the capacity hypothesis of `main`
there are at most `max_part - min_part + 1` parts (they carry distinct numbers of the writer's range), hence at least one
part holds `1 / (max_part - min_part + 1)` of the object or more: no `max_write_sz` below that can be honoured by any
assembly. -/
theorem parts_count_and_largest_part (fp : List (Part α)) (W : Writer)
    (hinc : fp.Pairwise (fun a b => a.id < b.id)) (hr : ∀ p ∈ fp, W.minPart ≤ p.id ∧ p.id ≤ W.maxPart) :
    fp.length ≤ W.maxPart + 1 - W.minPart ∧
    (fp ≠ [] → ∃ p ∈ fp, (partsBytes fp).length ≤ p.data.length * (W.maxPart + 1 - W.minPart)) := by
  have hlen := increasing_ids_count fp W.minPart W.maxPart hinc hr
  refine ⟨hlen, ?_⟩
  intro hne
  -- a part of maximal size
  have hmax : ∀ (l : List (Part α)), l ≠ [] → ∃ p ∈ l, (partsBytes l).length ≤ p.data.length * l.length := by
    intro l
    induction l with
    | nil => intro h; exact absurd rfl h
    | cons q qs ih =>
      intro _
      by_cases hq : qs = []
      · subst hq; exact ⟨q, by simp, by simp⟩
      · obtain ⟨p, hp, hle⟩ := ih hq
        by_cases hc : p.data.length ≤ q.data.length
        · refine ⟨q, by simp, ?_⟩
          simp only [partsBytes_cons, List.length_append, List.length_cons]
          have : p.data.length * qs.length ≤ q.data.length * qs.length := Nat.mul_le_mul_right _ hc
          rw [Nat.mul_add]; omega
        · refine ⟨p, by simp [hp], ?_⟩
          simp only [partsBytes_cons, List.length_append, List.length_cons]
          rw [Nat.mul_add]; omega
  obtain ⟨p, hp, hle⟩ := hmax fp hne
  exact ⟨p, hp, le_trans hle (Nat.mul_le_mul_left _ hlen)⟩

/-- **`max_write_sz` is never read: a chunk is never split.**  `spill_sz = 8`, four write credits per partition, a
40-byte chunk: it goes out as ONE part of 32 bytes (`maybe_write` spills everything it may), although three more
part numbers of the partition stay unused — a writer with `max_write_sz = 16` gets a part twice its limit.  Replayed on
the real code. -/
theorem max_write_sz_not_enforced_cex :
    (match run (α := Nat) ⟨some ⟨4, 1, 100⟩, 8, 4, true⟩ (.node (.leaf [(List.replicate 40 7, 0)]) (.leaf [(List.replicate 8 7, 1)]))
        none none with
     | .ok (.written _ fp, _, _) => fp.map (fun p => (p.id, p.data.length)) == [(1, 4), (2, 32), (3, 12)]
     | _ => false) = true := by decide

/-- **`max_part` is only asserted by `flush_rhs`, not by `maybe_write`**: when the partitions need more part numbers
than the writer has (`min_part + 1 + #partitions * writes_per_chunk > max_part + 1`, excluded by `main`'s capacity
hypothesis) a run can SUCCEED with part numbers above `max_part`: writer range 1..3, two partitions × three credits:
parts 5 and 6 are written and finalised.  Replayed on the real code. -/
theorem max_part_unchecked_cex :
    (match run (α := Nat) ⟨some ⟨2, 1, 3⟩, 2, 3, true⟩ (.node (.leaf [(List.replicate 8 7, 0)]) (.leaf [(List.replicate 8 7, 1)]))
        none none with
     | .ok (.written _ fp, _, _) => fp.map (·.id) == [1, 2, 3, 5, 6]
     | _ => false) = true := by decide

/-- **with a footer the finaliser is not repeatable**: the footer was appended to the root itself; executed again the
callback sees the footer's `(size, None)` entry in the observed list and the footer goes into the stream a second time.
Witness: one section `[1,2,3]` + footer `[9]`: first object `[1,2,3,9]`, second `[1,2,3,9,9]`. -/
theorem finalizer_twice_footer_cex :
    (match finalizerTwice (some ⟨1, 1, 100⟩) ({ (mkChunk 2 1 false 1 : Chunk Nat) with data := [1, 2, 3], observed := [(3, 0)] })
        none (some fun _ => [9]) with
     | .ok (p1, .ok p2) =>
       (match p1.out, p2.out with
        | .written _ f1, .written _ f2 => partsBytes f1 == [1, 2, 3, 9] && partsBytes f2 == [1, 2, 3, 9, 9] &&
            p2.rootAfter.observed == [(3, 0), (1, -1), (1, -1)]
        | _, _ => false)
     | _ => false) = true := by decide

/-- **without header and footer the finaliser flushes the root in place**: executed again there is nothing left to write
and `finalise` gets the same list once more (the upload is completed twice) -/
theorem finalizer_twice_plain :
    (match finalizerTwice (some ⟨1, 1, 100⟩) ({ (mkChunk 2 1 true 1 : Chunk Nat) with data := [1, 2, 3], observed := [(3, 0)] })
        none none with
     | .ok (p1, .ok p2) =>
       (match p1.out, p2.out with
        | .written w1 f1, .written w2 f2 => w1.map (·.id) == [1] && w2.map (·.id) == [] && f1 == f2 && p2.rootAfter.data == []
        | _, _ => false)
     | _ => false) = true := by decide

end OdcGeo.C06
