/-
C14 — point lookup under a ROUNDED arithmetic with an explicit exclusion band instead of a representability hypothesis.

For ANY rounding function with `|fl q − q| ≤ u·|q| + η` the rounded `Bin1D.bin fl x` equals `Bin1D.bin id x` unless `x` lies within
`ε·|q| + η'` (in tile units, `q = (x − origin)/sz`, `ε = 2u + u²`, `η' = η·((1+u)/sz + 1)`) of an edge of its tile;
`bin_transfer_band_partial` is the purely relative case `η = 0`.  Binary64: `Props/C14Band2.lean`.
-/
import OdcGeo.Props.C14

namespace OdcGeo.C14

/-- two rounded operations `fl(fl(x − o) / sz)` under a mixed relative / absolute error model stay within
    `(2u + u²)·|q| + η·((1+u)/sz + 1)` of the exact quotient `q = (x − o)/sz` -/
theorem rounded_quotient_error_mixed (fl : Rnd) (u η : Rat) (hu : 0 ≤ u)
    (hfl : ∀ q, |fl q - q| ≤ u * |q| + η) (x o sz : Rat) (hs : 0 < sz) :
    |fl (fl (x - o) / sz) - (x - o) / sz| ≤ (2 * u + u * u) * |(x - o) / sz| + η * ((1 + u) / sz + 1) := by
  have e1 : |fl (x - o) / sz - (x - o) / sz| ≤ u * |(x - o) / sz| + η / sz := by
    rw [← sub_div, abs_div, abs_div, abs_of_pos hs, ← mul_div_assoc, ← add_div]
    exact div_le_div_of_nonneg_right (hfl (x - o)) hs.le
  have e2 := abs_sub_abs_le_abs_sub (fl (x - o) / sz) ((x - o) / sz)
  have e3 := abs_sub_le (fl (fl (x - o) / sz)) (fl (x - o) / sz) ((x - o) / sz)
  have e4 := mul_le_mul_of_nonneg_left (show |fl (x - o) / sz| ≤ (1 + u) * |(x - o) / sz| + η / sz by linarith) hu
  have h2 := hfl (fl (x - o) / sz)
  rw [show η * ((1 + u) / sz + 1) = η / sz + u * (η / sz) + η by ring]
  linarith

/-- exclusion band for any rounding with a mixed error model: outside it the rounded point lookup returns the exact tile
    index (distances to the edges in units of the tile size: `q − ⌊q⌋` and `⌊q⌋ + 1 − q`) -/
theorem bin_transfer_band (fl : Rnd) (u η : Rat) (hu : 0 ≤ u) (hfl : ∀ q, |fl q - q| ≤ u * |q| + η)
    {sz o : Rat} {d : Int} {b : Bin1D} (hb : Bin1D.new sz o d = .ok b) (x : Rat)
    (hlo : (2 * u + u * u) * |(x - b.origin) / b.sz| + η * ((1 + u) / b.sz + 1) ≤
      (x - b.origin) / b.sz - (((x - b.origin) / b.sz).floor : Rat))
    (hhi : (2 * u + u * u) * |(x - b.origin) / b.sz| + η * ((1 + u) / b.sz + 1) <
      (((x - b.origin) / b.sz).floor : Rat) + 1 - (x - b.origin) / b.sz) :
    b.bin fl x = b.bin id x ∧ b.lo id (b.bin fl x) ≤ x ∧ x < b.hi id (b.bin fl x) := by
  have herr := rounded_quotient_error_mixed fl u η hu hfl x b.origin b.sz (Bin1D.new_ok hb).2.sz_pos
  rw [bin_transfer fl b x (floor_eq_of_abs_sub_le herr hlo hhi)]
  exact ⟨rfl, (bin_mem hb x _).mp rfl⟩

/-- under the purely relative model of floating-point arithmetic (`|fl q − q| ≤ u·|q|`: no underflow) the rounded point lookup
    returns the exact tile index for every point that keeps a distance of more than `ε·|q|`, `ε = 2u + u²`, from both edges of its
    tile (distances in units of the tile size: `q − ⌊q⌋` and `⌊q⌋ + 1 − q` for `q = (x − origin)/sz`). -/
theorem bin_transfer_band_partial (fl : Rnd) (u : Rat) (hu : 0 ≤ u) (hfl : ∀ q, |fl q - q| ≤ u * |q|)
    {sz o : Rat} {d : Int} {b : Bin1D} (hb : Bin1D.new sz o d = .ok b) (x : Rat)
    (hlo : (2 * u + u * u) * |(x - b.origin) / b.sz| ≤ (x - b.origin) / b.sz - (((x - b.origin) / b.sz).floor : Rat))
    (hhi : (2 * u + u * u) * |(x - b.origin) / b.sz| < (((x - b.origin) / b.sz).floor : Rat) + 1 - (x - b.origin) / b.sz) :
    b.bin fl x = b.bin id x ∧ b.lo id (b.bin fl x) ≤ x ∧ x < b.hi id (b.bin fl x) :=
  bin_transfer_band fl u 0 hu (fun q => by rw [add_zero]; exact hfl q) hb x
    (by rw [zero_mul, add_zero]; exact hlo) (by rw [zero_mul, add_zero]; exact hhi)

/-- the hypotheses are satisfiable: exact arithmetic has `u = 0`, and then the band is empty -/
example : ∃ b, Bin1D.new (5 / 2) 1 (-1) = .ok b ∧ b.bin id 7 = -2 := ⟨⟨5 / 2, 1, -1⟩, by decide +kernel, by decide +kernel⟩

/-- binary64 satisfies the bound on sampled values (kernel evaluation): `u = 2^-53` -/
example : |fl64 (1 / 3) - 1 / 3| ≤ 1 / 2 ^ 53 * |(1 / 3 : Rat)| ∧ |fl64 (-4416000 / 7) - (-4416000 / 7)| ≤ 1 / 2 ^ 53 * |(-4416000 / 7 : Rat)| := by
  decide +kernel

end OdcGeo.C14
