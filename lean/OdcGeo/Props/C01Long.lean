/- C01 — explicit corollaries of `mismatch_raises` with the POSITION and the LENGTH of the operand list
quantified: a CRS mismatch at any index of a stream of any length (in particular beyond any
"fast-path" threshold such as 64) makes `bbox_union` / `bbox_intersection` and every n-ary table
operation raise, and what is raised is a `ValueError` (never a `TypeError`) — also for CRSs that carry
no EPSG code, where `CRS.__eq__` falls through to the string / pyproj comparison. -/
import OdcGeo.Props.C01

namespace OdcGeo.C01

variable {S R : Type}

/-- **bbox_union / bbox_intersection, any length, any position**: an odd box anywhere in the stream after the
first box (any number of boxes before and after it) raises `CRSMismatchError`; nothing is returned however long
the stream is.  By index: `bbox_stream_mismatch_index`. -/
theorem bbox_stream_mismatch_at (x0 x : Obj BBox) (pre post : List (Obj BBox))
    (hmis : tagNe x0.crs x.crs = true) :
    bboxUnion (x0 :: (pre ++ x :: post)) = .error .crsMismatch ∧
    bboxIntersection (x0 :: (pre ++ x :: post)) = .error .crsMismatch ∧
    Err.crsMismatch.isValueError = true :=
  have h := bbox_mismatch x0 _ ⟨x, by simp, hmis⟩
  ⟨h.1, h.2, rfl⟩

theorem bbox_stream_mismatch_index (x0 : Obj BBox) (rest : List (Obj BBox)) (i : Nat) (hi : i < rest.length)
    (hmis : tagNe x0.crs (rest[i]).crs = true) :
    bboxUnion (x0 :: rest) = .error .crsMismatch ∧ bboxIntersection (x0 :: rest) = .error .crsMismatch :=
  bbox_mismatch x0 rest ⟨rest[i], List.getElem_mem hi, hmis⟩

/-- **every n-ary operation of the table** (`common_crs`, `multigeom`, `unary_union`,
`unary_intersection`, `bbox_union`, `bbox_intersection`, `geobox_*_conservative`): a mismatch at any
position of an operand list of any length raises a `ValueError` — and not a `TypeError` -/
theorem nary_mismatch_at (op : OpSpec) (hop : op ∈ opTable) (hn : op.arity = .many) (D : Delegate S R)
    (hD : StepsTotal D op) (x0 x : Obj S) (pre post : List (Obj S)) (hmis : tagNe x0.crs x.crs = true) :
    ∃ e, run op D (x0 :: (pre ++ x :: post)) = .error e ∧ e.isValueError = true ∧ e ≠ .typeError := by
  obtain ⟨e, he, hv⟩ := table_mismatch_raises op hop D x0 (pre ++ x :: post)
    (by intro h; rw [hn] at h; cases h) hD ⟨x, by simp, hmis⟩
  exact ⟨e, he, hv, by intro h; rw [h] at hv; cases hv⟩

/-- **CRSs without an EPSG code are compared, not rejected**: two CRS records neither of which carries
an EPSG code (`_epsg` falsy) and that differ in object, text and pyproj class are unequal for
`CRS.__eq__`, so they are a *mismatch* like any other: the operation raises its CRS `ValueError`. -/
theorem no_epsg_mismatch_is_valueError (a b : CrsRec) (ha : a.epsg = 0) (hb : b.epsg = 0)
    (ho : a.objId ≠ b.objId) (hs : a.str ≠ b.str) (hc : a.cls ≠ b.cls) (ba bb : BBox)
    (pre post : List (Obj BBox)) :
    tagNe (some a) (some b) = true ∧
    bboxUnion (⟨some a, ba⟩ :: (pre ++ ⟨some b, bb⟩ :: post)) = .error .crsMismatch ∧
    Err.crsMismatch.isValueError = true ∧ Err.crsMismatch ≠ Err.typeError := by
  have hne : tagNe (some a) (some b) = true := congrArg (!·) (crsEq_of_distinct (.inl ha) ho hs hc)
  exact ⟨hne, (bbox_stream_mismatch_at ⟨some a, ba⟩ ⟨some b, bb⟩ pre post hne).1, rfl, by decide⟩

/-- … and when only ONE side has a code likewise, in either operand order (the EPSG short-cut needs both) -/
theorem one_sided_epsg_mismatch (a b : CrsRec) (hb : b.epsg = 0)
    (ho : a.objId ≠ b.objId) (hs : a.str ≠ b.str) (hc : a.cls ≠ b.cls) :
    tagNe (some a) (some b) = true ∧ tagNe (some b) (some a) = true :=
  ⟨congrArg (!·) (crsEq_of_distinct (.inr hb) ho hs hc),
    congrArg (!·) (crsEq_of_distinct (.inl hb) ho.symm hs.symm hc.symm)⟩

/-- non-vacuity: 100 boxes, the odd one (a CRS without EPSG code) at index 50 -/
example :
    let good : Obj BBox := ⟨some ⟨1, 0, 1, 1⟩, ⟨0, 0, 1, 1⟩⟩
    let odd : Obj BBox := ⟨some ⟨2, 0, 2, 2⟩, ⟨5, 5, 6, 6⟩⟩
    bboxUnion (good :: (List.replicate 50 good ++ odd :: List.replicate 48 good)) = .error .crsMismatch ∧
    (good :: (List.replicate 50 good ++ odd :: List.replicate 48 good)).length = 100 := by
  intro good odd
  exact ⟨(bbox_stream_mismatch_at good odd _ _ (by decide)).1,
    by simp only [List.length_cons, List.length_append, List.length_replicate]⟩

example : ∃ op ∈ opTable, op.name = "geom.bbox_union" ∧ op.arity = .many :=
  ⟨opTable[22], List.getElem_mem _, rfl, rfl⟩

end OdcGeo.C01
