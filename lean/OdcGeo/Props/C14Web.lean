/-
C14 — web tiles: zoom `z` → `z+1` refinement.  Each slippy-map tile `(i, j)` at zoom `z` splits into exactly its four
children `(2i+a, 2j+b)`, `a, b ∈ {0, 1}`, at zoom `z+1`: the children quarter the parent's footprint (explicit extents) and
the half-open children partition the half-open parent (the step `k = 1` of `Props/C14Web2.lean`).
-/
import OdcGeo.Props.C14Web2

namespace OdcGeo.C14

section
variable {P : Rat} {npix : Int} {g g' : GridSpec}

/-- extents of the four children inside the parent (x index left→right, y index top→bottom) -/
theorem web_tiles_children_extent (hP : 0 < P) (z : Nat) (hn : 0 < npix)
    (hg : GridSpec.webTiles id P (z : Int) npix = .ok g)
    (hg' : GridSpec.webTiles id P ((z + 1 : Nat) : Int) npix = .ok g') (i j a b : Int) :
    let T := 2 * P / 2 ^ z
    (g'.footprint (2 * i + a, 2 * j + b)).left = (g.footprint (i, j)).left + (a : Rat) * (T / 2) ∧
    (g'.footprint (2 * i + a, 2 * j + b)).right = (g.footprint (i, j)).left + ((a : Rat) + 1) * (T / 2) ∧
    (g'.footprint (2 * i + a, 2 * j + b)).top = (g.footprint (i, j)).top - (b : Rat) * (T / 2) ∧
    (g'.footprint (2 * i + a, 2 * j + b)).bottom = (g.footprint (i, j)).top - ((b : Rat) + 1) * (T / 2) ∧
    g'.rx = g.rx / 2 ∧ g'.ry = g.ry / 2 := by
  intro T
  obtain ⟨e1, _, _, r1, r2⟩ := web_tile_extent hP z hn hg i j
  obtain ⟨e2, _, _, s1, s2⟩ := web_tile_extent hP (z + 1) hn hg' (2 * i + a) (2 * j + b)
  have hT : 2 * P / 2 ^ (z + 1) = T / 2 := by
    show 2 * P / 2 ^ (z + 1) = 2 * P / 2 ^ z / 2
    rw [pow_succ]; field_simp
  rw [e1, e2, r1, r2, s1, s2, hT]
  push_cast
  refine ⟨by ring, by ring, by ring, by ring, by ring, by ring⟩

/-- the four half-open children partition the half-open parent: a point lies in the parent iff it lies in one of the children
    `(2i+a, 2j+b)`, `a, b ∈ {0,1}` (in exactly one, by `tiles_partition_plane` at zoom `z+1`); no child reaches outside the parent -/
theorem web_tiles_refinement (hP : 0 < P) (z : Nat) (hn : 0 < npix)
    (hg : GridSpec.webTiles id P (z : Int) npix = .ok g)
    (hg' : GridSpec.webTiles id P ((z + 1 : Nat) : Int) npix = .ok g') (i j : Int) (p : Rat × Rat) :
    (g.footprint (i, j)).memHalfOpen p ↔
      ∃ a b : Int, (a = 0 ∨ a = 1) ∧ (b = 0 ∨ b = 1) ∧ (g'.footprint (2 * i + a, 2 * j + b)).memHalfOpen p := by
  have two : ∀ a : Int, (0 ≤ a ∧ a < 2) ↔ (a = 0 ∨ a = 1) := fun a => by omega
  simpa only [pow_one, two] using web_tiles_refinement_iterated hP z 1 hn hg hg' i j p

end

example : ∃ g g', GridSpec.webTiles id 3 ((1 : Nat) : Int) 256 = .ok g ∧ GridSpec.webTiles id 3 ((1 + 1 : Nat) : Int) 256 = .ok g' := by
  have ok := fun z => GridSpec.webTiles_isOk (P := 3) (by norm_num) z (npix := 256) (by norm_num)
  exact ⟨_, _, (ok _).choose_spec, (ok _).choose_spec⟩

end OdcGeo.C14
