/-
C02: qr2sample over C20's quasi-random sequence, the structure of footprint / geographic_extent, units of
coordinates, non-index objects, links C02∘C04 (GeoboxTiles tile = public index form) and C02∘C14 (views of grid tiles),
and the composition laws flip ∘ crop, zoom_out ∘ pad.
-/
import OdcGeo.Model.C02Seq
import OdcGeo.Props.C02Glue
import OdcGeo.Props.C20Seq
import OdcGeo.Model.C14
import OdcGeo.Model.C04

namespace OdcGeo.C02
open OdcGeo.C17 (PIdx NSlice normSlice wrapNeg)

/-- **`qr2sample(n, padding, offset)` (C02 ∘ C20)**: exactly `n` points, every one inside the pixel rectangle shrunk by
`padding` on each side (`padding = None`: the whole rectangle) — in exact arithmetic, for every offset `≥ 0` into the
sequence and every shape that leaves room for the padding. -/
theorem qr2sample_inside (g : GeoBox) (n : Nat) (padding : Option Rat) (offset : Int) (ho : 0 ≤ offset)
    (hny : 0 ≤ g.ny) (hnx : 0 ≤ g.nx)
    (hp : ∀ pad, padding = some pad → 0 ≤ pad ∧ 2 * pad ≤ g.nx ∧ 2 * pad ≤ g.ny) :
    (qr2sample id id g n padding offset).length = n ∧
    ∀ p ∈ qr2sample id id g n padding offset,
      (padding.getD 0 ≤ p.1 ∧ p.1 ≤ g.nx - padding.getD 0) ∧ (padding.getD 0 ≤ p.2 ∧ p.2 ≤ g.ny - padding.getD 0) := by
  obtain ⟨hlen, hunit⟩ := C20.quasi_random_r2_unit_square id (fun x hx => hx) n offset ho
  refine ⟨(List.length_map _).trans hlen, fun p hp' => ?_⟩
  obtain ⟨q, hq, rfl⟩ := List.mem_map.mp hp'
  obtain ⟨a1, a2, b1, b2⟩ := hunit q hq
  -- `w` is the side less twice the padding `d`, so the upper bound is `side - d`
  have unit : ∀ t w d : Rat, 0 ≤ t → t < 1 → 0 ≤ w → d ≤ t * w + d ∧ t * w + d ≤ w + 2 * d - d :=
    fun t w d h0 h1 hw => ⟨le_add_of_nonneg_left (mul_nonneg h0 hw), by linarith [mul_le_of_le_one_left hw h1.le]⟩
  cases padding with
  | none =>
    have hx := unit q.1 g.nx 0 a1 a2 (Int.cast_nonneg hnx)
    have hy := unit q.2 g.ny 0 b1 b2 (Int.cast_nonneg hny)
    simp only [add_zero, mul_zero] at hx hy
    exact ⟨hx, hy⟩
  | some pad =>
    obtain ⟨-, h1, h2⟩ := hp pad rfl
    have hx := unit q.1 _ pad a1 a2 (sub_nonneg.mpr h1)
    have hy := unit q.2 _ pad b1 b2 (sub_nonneg.mpr h2)
    rw [sub_add_cancel] at hx hy
    exact ⟨hx, hy⟩

/-- **offset law**, for every rounding of the float operations: `qr2sample(n, offset=k)` is `qr2sample(n + k)` without
its first `k` points — the sample is a window of one fixed sequence. -/
theorem qr2sample_offset_law (fl fl32 : Rat → Rat) (g : GeoBox) (n k : Nat) (padding : Option Rat) :
    qr2sample fl fl32 g n padding (k : Int) = (qr2sample fl fl32 g (n + k) padding 0).drop k := by
  simp only [qr2sample, C20.quasiRandomR2, List.map_map, ← List.map_drop]
  have : (List.range (n + k)).drop k = (List.range n).map (fun i => i + k) := by
    rw [Nat.add_comm n k, List.range_add, List.drop_left' List.length_range]
    exact List.map_congr_left fun i _ => Nat.add_comm k i
  rw [this, List.map_map]
  apply List.map_congr_left
  intro i _
  simp only [Function.comp, zero_add]
  rw [Int.natCast_add, Int.add_comm]

example : (qr2sample id id ⟨10, 20, Aff.id, 0⟩ 3 (some 2) 1).length = 3 :=
  (qr2sample_inside ⟨10, 20, Aff.id, 0⟩ 3 (some 2) 1 (by decide) (by decide) (by decide)
    (fun pad h => by cases h; norm_num)).1

/-- **What `footprint(crs, buffer, npoints)` is made of**, for every shapely buffer `bufferF`, densification `densify`,
reprojection `reproj` and finiteness test: it needs a CRS; the footprint ring is buffered first — by `buffer` × pixel
size, and not at all for `buffer = 0`; the densification step is the longer side of the bounding box of the
**un-buffered** footprint divided by `npoints`; a target CRS equal to the geobox' CRS returns the (buffered) ring as it is,
any other CRS densifies with that step and then reprojects vertex by vertex; non-finite images are dropped; the result
carries the target CRS. -/
theorem footprint_structure (bufferF : Rat → List Pt → List Pt) (densify : Rat → List Pt → List Pt) (reproj : Pt → Pt)
    (finite : Pt → Bool) (g : GeoBox) (n m : Rat) (dst : Nat) (buffer : Rat) (npoints : Int) :
    (g.crs = 0 → footprint bufferF densify reproj finite g n m dst buffer npoints = .error .assertion) ∧
    (∀ out, footprint bufferF densify reproj finite g n m dst buffer npoints = .ok out →
      ∃ d step, footprintBufferDist g n m buffer = .ok d ∧ reprojectResolution g npoints = .ok step ∧
        out.1 = dst ∧ (buffer = 0 → d = none) ∧
        out.2 = ((if dst = g.crs then (match d with | none => extent g | some v => bufferF v (extent g))
                  else (densify step (match d with | none => extent g | some v => bufferF v (extent g))).map reproj).filter finite)) := by
  constructor
  · intro h; simp [footprint, footprintPlan, footprintBufferDist, h, bind, Except.bind]
  · intro out h
    simp only [footprint, footprintPlan, bind_ok_iff, pure_ok, Except.ok.injEq] at h
    obtain ⟨_, ⟨d, hd, step, hs, rfl⟩, rfl⟩ := h
    refine ⟨d, step, hd, hs, rfl, fun hb => ?_, ?_⟩
    · by_cases hc : g.crs = 0
      · simp [footprintBufferDist, hc] at hd
      · simp [footprintBufferDist, hc, hb] at hd; exact hd.symm
    · by_cases he : dst = g.crs <;> simp [he] <;> cases d <;> rfl

/-- `geographic_extent`: for a CRS-less or geographic geobox it is the footprint ring itself with the geobox' CRS; for a
projected one it is `footprint("epsg:4326")` with no buffer and the step `longer bbox side / 100`. -/
theorem geographic_extent_structure (densify : Rat → List Pt → List Pt) (reproj : Pt → Pt) (finite : Pt → Bool)
    (g : GeoBox) (k : CrsKind) (n m : Rat) (wgs84 : Nat) :
    (k ≠ .projected → geographicExtent densify reproj finite g k n m wgs84 = .ok (g.crs, extent g)) ∧
    (k = .projected → g.crs ≠ 0 → wgs84 ≠ g.crs → ∃ step, reprojectResolution g 100 = .ok step ∧
      geographicExtent densify reproj finite g k n m wgs84 = .ok (wgs84, ((densify step (extent g)).map reproj).filter finite)) := by
  constructor
  · intro h; cases k <;> simp_all [geographicExtent, geographicExtentIsExtent]
  · intro h hc hw
    subst h
    obtain ⟨step, hs, _⟩ := (reproject_resolution_spec g 100).2 (by decide)
    refine ⟨step, hs, ?_⟩
    have hw' : (wgs84 == g.crs) = false := by simpa using hw
    simp [geographicExtent, geographicExtentIsExtent, footprint, footprintPlan, footprintBufferDist, hc, hs, hw', bind,
      Except.bind, pure, Except.pure]

theorem coord_units_spec (axisUnits : String × String) :
    coordUnits .none axisUnits = ("1", "1") ∧ coordUnits .geographic axisUnits = ("degrees_north", "degrees_east") ∧
    coordUnits .projected axisUnits = axisUnits := ⟨rfl, rfl, rfl⟩

/-- An object that is not index-like is accepted by `gbox[...]` only if it is a sequence of exactly two slice-like
entries; `TypeError` exactly when it has no `len`; `AttributeError` exactly for a sequence of one or two entries that are
not slice-like.  (What is left — more than two entries, a non-sequence, fewer than two slice-like entries — is
`ValueError` in the model; `getitemOther` has no other error.) -/
theorem getitem_other_outcome (o : OtherObj) :
    (getitemOther o = .ok () ↔ (o.len = some 2 ∧ o.isSequence = true ∧ o.entriesSliceLike = true)) ∧
    (getitemOther o = .error .typeError ↔ o.len = none) ∧
    (getitemOther o = .error .attributeError ↔
      ((o.len = some 1 ∨ o.len = some 2) ∧ o.isSequence = true ∧ o.entriesSliceLike = false)) := by
  obtain ⟨_ | l, sq, sl⟩ := o
  · simp [getitemOther]
  · by_cases h : 2 < l
    · have h1 : l ≠ 1 := by omega
      have h2 : l ≠ 2 := by omega
      simp [getitemOther, h, h1, h2]
    · -- lengths 0, 1, 2 with the two flags: a finite table
      have hl : l = 0 ∨ l = 1 ∨ l = 2 := by omega
      rcases hl with rfl | rfl | rfl <;> revert sq sl <;> decide

/-- **C02 ∘ C04**: a tile of a `GeoboxTiles` is the parent geobox indexed with the public 2-tuple of plain slices
`[ry.start:ry.stop, rx.start:rx.stop]` (through `__getitem__`'s dispatch), for every tile that `tiles[iy, ix]` returns and
any CRS tag. -/
theorem gbt_tile_is_public_index (reproj : Nat → Nat → Pt → Pt) (g : C04.GeoboxTiles) (crs : Nat)
    (iy ix : PIdx) (tile : C04.GBox) (h : g.getItem iy ix = .ok tile) :
    ∃ ry rx : NSlice, C04.getItem2 g.tiles iy ix = .ok (ry, rx) ∧
      getitem reproj ⟨g.base.ny, g.base.nx, g.base.A, crs⟩
        (.seq [.slc (some ry.start) (some ry.stop) none, .slc (some rx.start) (some rx.stop) none])
        = .ok ⟨tile.ny, tile.nx, tile.A, crs⟩ := by
  simp only [C04.GeoboxTiles.getItem, bind_ok_iff, pure_ok, Except.ok.injEq, Prod.exists] at h
  obtain ⟨ry, rx, hA, rfl⟩ := h
  exact ⟨ry, rx, hA, rfl⟩

/-- **C02 ∘ C14**: any view `gs.tile_geobox(idx)[sy, sx]` of a grid tile maps pixel `(i, j)` to
`(rx·(i + x0) + tx, ry·(j + y0) + ty)` with `(tx, ty)` the tile's corner from C14's `tileTxy` — for every rounding. -/
theorem grid_tile_view_pixel (reproj : Nat → Nat → Pt → Pt) (fl : C14.Rnd) (gs : C14.GridSpec) (k : Int × Int) (crs : Nat)
    (l : List IdxS) (g' : GeoBox)
    (h : getitem reproj ⟨(gs.tileGeobox fl k).ny, (gs.tileGeobox fl k).nx, (gs.tileGeobox fl k).aff, crs⟩ (.seq l) = .ok g') :
    ∃ x0 y0 : Int, g'.crs = crs ∧ ∀ p : Pt,
      pix2wld g' p = (gs.rx * (p.1 + x0) + (gs.tileTxy fl k).1, gs.ry * (p.2 + y0) + (gs.tileTxy fl k).2) := by
  obtain ⟨sy, sx, _, _, _, hc, _, _, hp⟩ := (getitem_seq_pixel reproj _ l).2 g' h
  refine ⟨(normSlice sx.toPIdx (gs.tileGeobox fl k).nx).start, (normSlice sy.toPIdx (gs.tileGeobox fl k).ny).start, hc, fun p => ?_⟩
  rw [hp p]
  simp [pix2wld, Aff.apply, C14.GridSpec.tileGeobox]

/-- **flip ∘ crop**: flipping a column window is the mirrored column window of the flipped geobox:
`gbox[sy, x0:x1].flipx() = gbox.flipx()[sy, nx−x1 : nx−x0]` (and rows / `flipy` likewise). -/
theorem flip_of_crop (g : GeoBox) (a b : Int) :
    (0 ≤ a ∧ a ≤ b ∧ b ≤ g.nx → ∀ sy,
      flipx (crop g (.two sy (.slc (some a) (some b)))) = crop (flipx g) (.two sy (.slc (some (g.nx - b)) (some (g.nx - a))))) ∧
    (0 ≤ a ∧ a ≤ b ∧ b ≤ g.ny → ∀ sx,
      flipy (crop g (.two (.slc (some a) (some b)) sx)) = crop (flipy g) (.two (.slc (some (g.ny - b)) (some (g.ny - a))) sx)) := by
  have ex : ∀ n y : Rat, Aff.translation a y * (Aff.translation ((b : Rat) - a) 0 * Aff.scale (-1) 1)
      = Aff.translation n 0 * (Aff.scale (-1) 1 * Aff.translation (n - b) y) := by
    intro n y; apply Aff.ext_apply; intro p
    simp only [Aff.apply_mul, Aff.apply_translation, Aff.apply_scale]; ext <;> ring
  have ey : ∀ n x : Rat, Aff.translation x a * (Aff.translation 0 ((b : Rat) - a) * Aff.scale 1 (-1))
      = Aff.translation 0 n * (Aff.scale 1 (-1) * Aff.translation x (n - b)) := by
    intro n x; apply Aff.ext_apply; intro p
    simp only [Aff.apply_mul, Aff.apply_translation, Aff.apply_scale]; ext <;> ring
  constructor
  · intro h sy
    simp only [flipx, mulPix, crop, C17.normSlice_of_nonneg _ h.1 (h.1.trans h.2.1),
      C17.normSlice_of_nonneg g.nx (Int.sub_nonneg_of_le h.2.2) (Int.sub_nonneg_of_le (h.2.1.trans h.2.2)), Aff.mul_assoc', ex g.nx,
      Int.cast_sub, sub_sub_sub_cancel_left]
  · intro h sx
    simp only [flipy, mulPix, crop, C17.normSlice_of_nonneg _ h.1 (h.1.trans h.2.1),
      C17.normSlice_of_nonneg g.ny (Int.sub_nonneg_of_le h.2.2) (Int.sub_nonneg_of_le (h.2.1.trans h.2.2)), Aff.mul_assoc', ey g.ny,
      Int.cast_sub, sub_sub_sub_cancel_left]

example : flipx (crop gEx (.two (.idx 1) (.slc (some 3) (some 9)))) = crop (flipx gEx) (.two (.idx 1) (.slc (some 11) (some 17))) :=
  (flip_of_crop gEx 3 9).1 (by decide) _

/-- **zoom_out ∘ pad**: for an integer factor `k ≥ 1` on a non-empty geobox, zooming out a geobox padded by `k·p`
(`k·q`) pixels is padding the zoomed-out geobox by `p` (`q`) pixels. -/
theorem zoom_out_of_pad (g : GeoBox) (k p q : Int) (hk : 1 ≤ k) (hp : 0 ≤ p) (hq : 0 ≤ q) (hny : 1 ≤ g.ny) (hnx : 1 ≤ g.nx) :
    zoomOut (pad g (k * p) (some (k * q))) (k : Rat) = (zoomOut g (k : Rat)).map (fun z => pad z p (some q)) := by
  have hkp : (0 : Rat) < k := Int.cast_pos.mpr hk
  have hk0 := hkp.ne'
  have key : ∀ (N t : Int), 1 ≤ N → 0 ≤ t →
      ceil1 (((N + k * t * 2 : Int) : Rat) / k) = ceil1 ((N : Rat) / k) + t * 2 := by
    intro N t hN ht
    have e : ((N + k * t * 2 : Int) : Rat) / k = (N : Rat) / k + ((t * 2 : Int) : Rat) := by
      rw [Int.cast_add, add_div, Int.mul_assoc, Int.cast_mul, mul_div_cancel_left₀ _ hk0]
    have hpos : 0 < ((N : Rat) / k).ceil :=
      Rat.lt_ceil_iff.mpr (by rw [Int.cast_zero]; exact div_pos (Int.cast_pos.mpr hN) hkp)
    rw [e, ceil1, ceil1, Rat.ceil_add_intCast, max_eq_right (by omega), max_eq_right (by omega)]
  simp only [zoomOut, hk0, if_false, pad, Except.map, key g.ny q hny hq, key g.nx p hnx hp, Aff.mul_assoc',
    Aff.scale_mul_translation, Int.cast_mul, mul_neg]

example : zoomOut (pad gEx 6 (some 4)) 2 = (zoomOut gEx 2).map (fun z => pad z 3 (some 2)) := by
  have := zoom_out_of_pad gEx 2 3 2 (by decide) (by decide) (by decide) (by decide) (by decide)
  simpa using this

end OdcGeo.C02
