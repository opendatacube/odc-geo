/-
C20 — the public glue of `odc.geo.math` (`Model/C20Glue.lean`): `Poly2d` construction and call forms, `Bin1D.__eq__`,
`apply_affine`, `stack_xy` / `unstack_xy`, the `ndarray` variant of `decompose_rws`, `maybe_zero`, `clamp`; then
`affine_from_pts` with the model's executable solver `lstsqNormal` (`Lemmas/C20f.lean`, `Lemmas/C20g.lean`): it
returns a least-squares minimiser, returns whenever three sources are not collinear, and is exact on affine data.
-/
import OdcGeo.Model.C20Glue
import OdcGeo.Lemmas.C20f
import OdcGeo.Lemmas.C20g
import OdcGeo.Props.C20

namespace OdcGeo.C20

/-- **`Poly2d(cc, A)` accepts exactly the coefficient tables of shape `(3, 3, 2)` and `(2, 2, 2)`** and keeps the table
(reshaped `k×k`) and the input transform as given. -/
theorem poly_mk_spec (shape : List Nat) (cc : List (Rat × Rat)) (A : Aff) :
    (shape = [3, 3, 2] → Poly2d.mk? shape cc A = .ok ⟨Poly2d.reshape 3 cc, A⟩) ∧
    (shape = [2, 2, 2] → Poly2d.mk? shape cc A = .ok ⟨Poly2d.reshape 2 cc, A⟩) ∧
    (shape ≠ [3, 3, 2] → shape ≠ [2, 2, 2] → Poly2d.mk? shape cc A = .error .assertion) := by
  refine ⟨by rintro rfl; rfl, by rintro rfl; rfl, fun h3 h2 => ?_⟩
  unfold Poly2d.mk? Poly2d.shapeOk
  simp [h3, h2]

/-- **Two arrays of equal length (the model's flattened form of two arrays of one shape): element `i` of the result is
the polynomial at `(x[i], y[i])`**, on both normalisation branches (with or without rotation / shear in the input
transform). -/
theorem poly_call_nd_pointwise (P : Poly2d) (xs ys : List Rat) (h : xs.length = ys.length) :
    Poly2d.call2 P (.arr xs) (.arr ys) = .ok (Poly2d.callNd P xs ys) := by
  unfold Poly2d.call2
  simp only [Poly2d.Arg.len?, h, Poly2d.broadcast2, if_true]
  split <;> rfl

/-- Two scalars: the value at the point. -/
theorem poly_call_scalars (P : Poly2d) (x y : Rat) :
    Poly2d.call2 P (.scalar x) (.scalar y) = .ok ([(P.eval (x, y)).1], [(P.eval (x, y)).2]) := by
  unfold Poly2d.call2
  simp only [Poly2d.Arg.len?, Poly2d.broadcast2, if_true, List.map_cons, List.map_nil]
  split <;> rfl

/-- **The `N×2` call form is the two-array form on the columns, transposed**: `P(pts)[i] = P(pts[i].x, pts[i].y)`. -/
theorem poly_call_nx2 (P : Poly2d) (pts : List (Rat × Rat)) :
    Poly2d.call2 P (.arr (pts.map (·.1))) (.arr (pts.map (·.2))) =
      .ok ((Poly2d.callN P pts).map (·.1), (Poly2d.callN P pts).map (·.2)) := by
  rw [poly_call_nd_pointwise _ _ _ (by simp), Poly2d.callNd, List.zip_map', List.map_id' pts]
  simp only [Poly2d.callN, List.map_map, Function.comp_def]

/-- **What HEAD does with a scalar against an array depends on the input transform**: with the scale/translation
shortcut the call is rejected (`polyval2d` wants equal shapes), with a rotated / sheared input transform the scalar is
broadcast.  (Observation about the code as it is; both behaviours are replayed by the correspondence.) -/
theorem poly_call_scalar_array_branch_dependent (P : Poly2d) (x : Rat) (ys : List Rat) :
    (P.safeToGrid = true → Poly2d.call2 P (.scalar x) (.arr ys) = .error .valueError) ∧
    (P.safeToGrid = false → Poly2d.call2 P (.scalar x) (.arr ys) =
      .ok ((ys.map fun y => (P.eval (x, y)).1), (ys.map fun y => (P.eval (x, y)).2))) := by
  constructor
  · intro h
    unfold Poly2d.call2
    simp [h, Poly2d.Arg.len?]
  · intro h
    unfold Poly2d.call2
    simp [h, Poly2d.broadcast2, List.map_map, Function.comp_def]

/-- Arrays of different lengths (neither of length one) are rejected on both branches: `ValueError` from `polyval2d`
with the shortcut, `TypeError` from `Affine.__mul__` otherwise. -/
theorem poly_call_rejects_unequal (P : Poly2d) (xs ys : List Rat) (h : xs.length ≠ ys.length)
    (h1 : xs.length ≠ 1) (h2 : ys.length ≠ 1) :
    Poly2d.call2 P (.arr xs) (.arr ys) = .error (if P.safeToGrid then .valueError else .typeError) := by
  unfold Poly2d.call2
  by_cases hs : P.safeToGrid = true
  · simp [hs, Poly2d.Arg.len?, h]
  · simp [hs, Poly2d.broadcast2, h, h1, h2]

/-- **`with_input_transform` through the array call form**: evaluating the chained polynomial on points is evaluating
the original on the transformed points. -/
theorem poly_call_with_input_transform (P : Poly2d) (A : Aff) (pts : List (Rat × Rat)) :
    Poly2d.callN (P.withInputTransform A) pts = Poly2d.callN P (pts.map A.apply) := by
  unfold Poly2d.callN
  rw [List.map_map]
  apply List.map_congr_left
  intro p _
  exact poly_with_input_transform P A p

/-- For the documented `N×2` input the general (any-rank) call form is the pointwise one. -/
theorem poly_call_last2_rank1 (P : Poly2d) (pts : List (Rat × Rat)) :
    Poly2d.callLast2 P [pts.length] pts = Poly2d.callN P pts := by
  unfold Poly2d.callLast2 Poly2d.callN Poly2d.transposeFlat
  simp only [List.prod_cons, List.prod_nil, mul_one, List.reverse_cons, List.reverse_nil, List.nil_append,
    Poly2d.unravel, Poly2d.ravel, Nat.div_one, add_zero]
  apply List.ext_getElem
  · simp
  · intro i h1 h2
    simp only [List.length_map, List.length_range] at h1
    simp [List.getD_eq_getElem?_getD, h1]

/-- **As found: an `a×b×2` array comes back as `b×a×2`** — `__call__` transposes the whole `(2, a, b)` result, so
`P(X)[j, i] = P(X[i, j])`.  Outside the documented contract ("x is assumed to be Nx2"); pinned here on a `2×3×2` input
with the identity-like polynomial `P(x, y) = (x, y)` and replayed by the correspondence. -/
theorem poly_call_nd_axis_reversal_cex :
    Poly2d.callLast2 ⟨[[(0, 0), (0, 1)], [(1, 0), (0, 0)]], ⟨1, 0, 0, 0, 1, 0⟩⟩ [2, 3]
      [(0, 0), (0, 1), (0, 2), (1, 0), (1, 1), (1, 2)] =
      [(0, 0), (1, 0), (0, 1), (1, 1), (0, 2), (1, 2)] := by decide +kernel

theorem bin1d_eq_iff (a b : Bin1D) : Bin1D.beq a b = true ↔ a = b := by
  unfold Bin1D.beq
  cases a; cases b
  simp [and_assoc]

/-- **Two binnings are `==` exactly when they have the same intervals**: `a[idx] == b[idx]` for every index iff the
objects compare equal (for a non-zero bin size; the constructor demands `sz > 0`). -/
theorem bin1d_eq_iff_same_intervals (a b : Bin1D) (hsz : a.sz ≠ 0) :
    (∀ idx : Int, a.interval idx = b.interval idx) ↔ Bin1D.beq a b = true := by
  rw [bin1d_eq_iff]
  constructor
  · intro h
    have h0 := h 0
    have h1 := h 1
    simp only [Bin1D.interval, Prod.mk.injEq, Int.cast_zero, zero_mul, zero_add, Int.cast_one, one_mul] at h0 h1
    obtain ⟨ho, hs⟩ := h0
    have hsz' : a.sz = b.sz := add_left_cancel (ho ▸ hs)
    have hd : (a.direction : Rat) = b.direction := by
      have := h1.1
      rw [ho, hsz'] at this
      exact mul_left_cancel₀ (hsz' ▸ hsz) (add_right_cancel this)
    cases a; cases b
    simp only [Bin1D.mk.injEq] at *
    exact ⟨hsz', ho, by exact_mod_cast hd⟩
  · rintro rfl _; rfl

/-- **`apply_affine` is `A * (x_i, y_i)` element by element**; arrays of different sizes are rejected. -/
theorem apply_affine_pointwise (A : Aff) (xs ys : List Rat) :
    (xs.length = ys.length →
      applyAffine A xs ys = .ok (((xs.zip ys).map A.apply).map (·.1), ((xs.zip ys).map A.apply).map (·.2))) ∧
    (xs.length ≠ ys.length → applyAffine A xs ys = .error .valueError) := by
  unfold applyAffine
  constructor
  · intro h; simp [h, List.map_map, Function.comp_def]
  · intro h; simp [h]

theorem stack_unstack_roundtrip (pts : List (Rat × Rat)) : unstackXy (stackXy pts) = .ok pts := by
  unfold unstackXy stackXy
  induction pts with
  | nil => rfl
  | cons p ps ih =>
    simp only [List.map_cons, List.mapM_cons, bind, Except.bind] at ih ⊢
    rw [ih]; rfl

/-- **The `Affine` variant of `decompose_rws` is the `ndarray` variant on its linear part**, the translation riding on
`R`. -/
theorem decompose_rws_nd_spec (A : Aff) (n p : Rat) :
    ∃ r, decomposeRwsNd [[A.a, A.b], [A.d, A.e]] n p = .ok r ∧
      decomposeRws A n p = ⟨⟨r.R.a, r.R.b, A.c, r.R.d, r.R.e, A.f⟩, r.W, r.S⟩ := by
  exact ⟨decomposeRws2 (m2 A.a A.b A.d A.e) n p, rfl, rfl⟩

theorem decompose_rws_nd_rejects (rows : List (List Rat)) (n p : Rat)
    (h : ¬ ∃ a b d e, rows = [[a, b], [d, e]]) : decomposeRwsNd rows n p = .error .assertion := by
  unfold decomposeRwsNd
  split
  · rename_i a b d e
    exact absurd ⟨a, b, d, e, rfl⟩ h
  · rfl

/-- `maybe_zero`: values closer to zero than `tol` become `0`, all others are returned unchanged; idempotent. -/
theorem maybe_zero_spec (x tol : Rat) :
    (|x| < tol → maybeZero x tol = 0) ∧ (tol ≤ |x| → maybeZero x tol = x) ∧
      maybeZero (maybeZero x tol) tol = maybeZero x tol := by
  unfold maybeZero
  rw [rabs_eq_abs]
  refine ⟨fun h => if_pos h, fun h => if_neg (not_lt.mpr h), ?_⟩
  by_cases h : |x| < tol
  · rw [if_pos h, rabs_eq_abs, abs_zero]
    split <;> rfl
  · rw [if_neg h, rabs_eq_abs, if_neg h]

/-- `clamp(x, lo, up)`: for `lo ≤ up` the nearest point of `[lo, up]` (so `x` itself when inside); `lo > up` fails the
assertion. -/
theorem clamp_spec (x lo up : Rat) :
    (lo ≤ up → ∃ r, clamp x lo up = .ok r ∧ lo ≤ r ∧ r ≤ up ∧ (lo ≤ x → x ≤ up → r = x) ∧
      ∀ z, lo ≤ z → z ≤ up → |x - r| ≤ |x - z|) ∧
    (¬ lo ≤ up → clamp x lo up = .error .assertion) := by
  refine ⟨fun h => ?_, fun h => if_pos h⟩
  unfold clamp
  rw [if_neg (not_not.mpr h)]
  by_cases h1 : x < lo
  · refine ⟨lo, by rw [if_pos h1], le_refl _, h, fun hlo _ => absurd h1 (not_lt.mpr hlo), ?_⟩
    intro z hz _
    rw [abs_of_nonpos (sub_nonpos.mpr h1.le), abs_of_nonpos (sub_nonpos.mpr (h1.le.trans hz))]
    exact neg_le_neg (sub_le_sub_left hz x)
  · by_cases h2 : x > up
    · refine ⟨up, by rw [if_neg h1, if_pos h2], h, le_refl _, fun _ hup => absurd h2 (not_lt.mpr hup), ?_⟩
      intro z _ hz
      rw [abs_of_nonneg (sub_nonneg.mpr (le_of_lt h2)), abs_of_nonneg (sub_nonneg.mpr (hz.trans (le_of_lt h2)))]
      exact sub_le_sub_left hz x
    · refine ⟨x, by rw [if_neg h1, if_neg h2], not_lt.mp h1, not_lt.mp h2, fun _ _ => rfl, ?_⟩
      intro z _ _
      rw [sub_self, abs_zero]; exact abs_nonneg _

/-- **The executable solver of the model (`lstsqNormal`: normal equations by Cramer's rule) returns a least-squares
minimiser** — for any data, exact or noisy.  (The fit theorems of `Props/C20.lean` take "returns a minimiser" as a
hypothesis on the solver; this discharges it for the driver's instance.) -/
theorem lstsq_normal_is_minimiser (X Y : List (Rat × Rat)) (h : X.length = Y.length) {M : Aff}
    (hs : lstsqNormal X Y = some M) : ∀ M' : Aff, sqResidual M (X.zip Y) ≤ sqResidual M' (X.zip Y) :=
  lstsqNormal_minimiser X Y h hs

/-- **`affine_from_pts` as the driver runs it is a least-squares fit**: whenever it returns, what it returns minimises
the squared residual over all affine maps. -/
theorem affine_from_pts_normal_minimiser (X Y : List (Rat × Rat)) {M : Aff}
    (h : affineFromPts lstsqNormal X Y = .ok M) : ∀ M' : Aff, sqResidual M (X.zip Y) ≤ sqResidual M' (X.zip Y) := by
  obtain ⟨hl, _, hs⟩ := affineFromPts_ok_length h
  exact lstsqNormal_minimiser X Y hl hs

/-- **Solvability**: the Gram determinant of the design matrix `[x y 1]` is positive as soon as three of the source
points are not collinear, so the normal equations have a solution: `affine_from_pts` returns, and what it
returns is a least-squares minimiser — for any targets. -/
theorem affine_from_pts_normal_total (X Y : List (Rat × Rat)) (hl : X.length = Y.length) (h3 : 3 ≤ X.length)
    (p q r : Rat × Rat) (hp : p ∈ X) (hq : q ∈ X) (hr : r ∈ X)
    (hnc : (q.1 - p.1) * (r.2 - p.2) - (q.2 - p.2) * (r.1 - p.1) ≠ 0) :
    ∃ M, affineFromPts lstsqNormal X Y = .ok M ∧ ∀ M' : Aff, sqResidual M (X.zip Y) ≤ sqResidual M' (X.zip Y) := by
  obtain ⟨M, hM⟩ := lstsqNormal_isSome Y hp hq hr hnc
  have hok : affineFromPts lstsqNormal X Y = .ok M := by
    unfold affineFromPts
    rw [if_neg (not_not.mpr hl), if_neg (by omega), hM]
  exact ⟨M, hok, lstsqNormal_minimiser X Y hl hM⟩

/-- **`affine_from_pts` reproduces an exactly affine correspondence — no hypothesis left about the solver or about it
returning**: equally many sources and targets, at least three, `Y = A·X` exactly, three sources not collinear ⟹ the
result is `A`. -/
theorem affine_from_pts_normal_exact_total (X Y : List (Rat × Rat)) (A : Aff) (hl : X.length = Y.length)
    (h3 : 3 ≤ X.length) (hexact : ∀ q ∈ X.zip Y, A.apply q.1 = q.2)
    (p q r : (Rat × Rat) × (Rat × Rat)) (hp : p ∈ X.zip Y) (hq : q ∈ X.zip Y) (hr : r ∈ X.zip Y)
    (hnc : (q.1.1 - p.1.1) * (r.1.2 - p.1.2) - (q.1.2 - p.1.2) * (r.1.1 - p.1.1) ≠ 0) :
    affineFromPts lstsqNormal X Y = .ok A := by
  have mem1 : ∀ z : (Rat × Rat) × (Rat × Rat), z ∈ X.zip Y → z.1 ∈ X := fun z hz => (List.of_mem_zip hz).1
  obtain ⟨M, hok, hmin⟩ := affine_from_pts_normal_total X Y hl h3 p.1 q.1 r.1 (mem1 p hp) (mem1 q hq) (mem1 r hr) hnc
  rw [hok, affine_fit_exact A M _ hexact hmin p q r hp hq hr hnc]

example : affineFromPts lstsqNormal [(0, 0), (1, 0), (0, 1), (2, 3)] [(5, 7), (7, 7), (5, 4), (9, -2)] =
    .ok ⟨2, 0, 5, 0, -3, 7⟩ := by decide +kernel
example : affineFromPts lstsqNormal [(0, 0), (1, 0), (0, 1), (1, 1)] [(0, 0), (1, 0), (0, 1), (2, 2)] =
    .ok ⟨3 / 2, 1 / 2, -1 / 4, 1 / 2, 3 / 2, -1 / 4⟩ := by decide +kernel
example : Poly2d.call2 ⟨[[(1, 0), (0, 1)], [(2, 0), (0, 0)]], ⟨2, 0, 1, 0, 3, 1⟩⟩ (.arr [1, 2]) (.arr [3, 4]) =
    .ok ([7, 11], [10, 13]) := by decide +kernel
example : Bin1D.beq ⟨3, 1, 1⟩ ⟨3, 1, -1⟩ = false ∧ (⟨3, 1, 1⟩ : Bin1D).interval 1 ≠ (⟨3, 1, -1⟩ : Bin1D).interval 1 := by
  decide +kernel
example : decomposeRwsNd [[1, 0, 0], [0, 1, 0]] 1 1 = .error .assertion := by decide +kernel

end OdcGeo.C20
