/-
C08 — the argument glue of `GeoBox.from_bbox` / `GeoBox.from_geopolygon` (`Model/C08Args.lean`):
every public spelling of region / crs / shape / resolution / anchor reduces to the numeric core
`fromBbox` of `Model/C08.lean` (so the property theorems of `Props/C08.lean` hold for the public call),
which CRS the result reports, what is ignored, and exactly which malformed arguments are rejected how.
Ends with an end-to-end statement for the tuple + `resolution=` call (`from_bbox_public_res`: hypotheses on the
arguments only, guarantees on the result).
-/
import OdcGeo.Model.C08Args
import OdcGeo.Lemmas.Unpack
import OdcGeo.Props.C08

namespace OdcGeo.C08
open OdcGeo.C20 (snapGrid)

theorem fromBbox_val_norm (bb : BBox) (tight : Bool) (shape : ShapeArg) (res : ResArg) (a : AnchorArg)
    (tol : Rat) : fromBbox bb tight shape res (.val (normAnchor a)) tol = fromBbox bb tight shape res a tol := by
  unfold fromBbox
  rfl

theorem fromBbox_res_ignores_shape (bb : BBox) (tight : Bool) {s s' : ShapeArg} {res : ResArg} (a : AnchorArg)
    (tol : Rat) {rx ry : Rat} (hs : ∀ n, s ≠ .int n) (hs' : ∀ n, s' ≠ .int n) (hres : res.xy? = some (rx, ry)) :
    fromBbox bb tight s res a tol = fromBbox bb tight s' res a tol := by
  rw [fromBbox_res_eq hs hres, fromBbox_res_eq hs' hres]

theorem shapeDispatch_of_not_num (bb : BBox) {shape : ShapeForm} (res : ResForm) (h : ∀ q, shape ≠ .num q) :
    shapeDispatch bb shape res = .ok (shape, res) := by
  cases shape <;> first | rfl | exact absurd rfl (h _)

theorem fromBboxForms_arg (bb : BBox) (tight : Bool) (shape : ShapeForm) (res : ResForm) (a : AnchorArg)
    (tol : Rat) :
    fromBboxForms bb tight shape res (.arg a) tol =
      (shapeDispatch bb shape res >>= fun sr => fromBboxBranches bb tight sr.1 sr.2 (normAnchor a) tol) := rfl

/-- Any number as `shape`, also a non-integral one (`shape=2.5`): the square pixel is `longest side / 2.5`, then the
resolution branch; a region without height and `shape=0` divide by zero. -/
theorem from_bbox_forms_num_shape_any (bb : BBox) (tight : Bool) (q : Rat) (res : ResForm) (a : AnchorArg)
    (tol : Rat) :
    fromBboxForms bb tight (.num q) res (.arg a) tol =
      if bb.spanY = 0 ∨ q = 0 then .error (.std .zeroDiv)
      else liftRes (fromBbox bb tight .none
        (.scalar (if bb.spanX / bb.spanY > 1 then bb.spanX / q else bb.spanY / q)) a tol) := by
  rw [fromBboxForms_arg]
  by_cases hy : bb.spanY = 0
  · rw [if_pos (.inl hy)]
    simp only [shapeDispatch, numShapeToRes, if_pos hy]
    rfl
  · by_cases hq : q = 0
    · rw [if_pos (.inr hq)]
      simp only [shapeDispatch, numShapeToRes, if_neg hy, if_pos hq]
      rfl
    · rw [if_neg (not_or.2 ⟨hy, hq⟩)]
      by_cases hlong : bb.spanX / bb.spanY > 1 <;>
        simp only [shapeDispatch, numShapeToRes, if_neg hy, if_neg hq, hlong, if_true, if_false, bind, Except.bind,
          fromBboxBranches, resOfForm, fromBbox_val_norm]

/-- **A single number as `shape`** (an `int`, or a float with an integral value) is the `.int` branch of the
core, whatever `resolution=` was passed alongside — also a `resolution` of a type `res_` rejects: the derived
resolution **overrides** it before it is looked at. -/
theorem from_bbox_forms_num_shape (bb : BBox) (tight : Bool) (n : Int) (res : ResForm) (res' : ResArg)
    (a : AnchorArg) (tol : Rat) :
    fromBboxForms bb tight (.num (n : Rat)) res (.arg a) tol = liftRes (fromBbox bb tight (.int n) res' a tol) := by
  rw [from_bbox_forms_num_shape_any, from_bbox_int_shape_reduces, apply_ite liftRes]
  simp only [Int.cast_eq_zero]
  rfl

/-- The derived resolution of a number `shape` does not depend on `resolution=` at all. -/
theorem from_bbox_forms_num_shape_ignores_res (bb : BBox) (tight : Bool) (q : Rat) (res res' : ResForm)
    (a : AnchorForm) (tol : Rat) :
    fromBboxForms bb tight (.num q) res a tol = fromBboxForms bb tight (.num q) res' a tol := rfl

/-- **`resolution=` given** (a number or a `Resolution`) and `shape` not a number: the resolution branch of the
core; the `shape` argument is **not looked at** — not even validated (`shape=numpy.int64(4)`, which `shape_`
rejects, is accepted here). -/
theorem from_bbox_forms_res (bb : BBox) (tight : Bool) (shape : ShapeForm) (res : ResForm) (ra : ResArg)
    (a : AnchorArg) (tol : Rat) (hshape : ∀ q, shape ≠ .num q) (hres : resOfForm res = .ok ra) (hne : res ≠ .none) :
    fromBboxForms bb tight shape res (.arg a) tol = liftRes (fromBbox bb tight .none ra a tol) := by
  rw [fromBboxForms_arg, shapeDispatch_of_not_num bb res hshape]
  simp only [bind, Except.bind]
  cases res with
  | none => exact absurd rfl hne
  | other => cases hres
  | _ => cases hres; simp only [fromBboxBranches, resOfForm, fromBbox_val_norm]

/-- A `resolution` of a type `res_` does not understand (tuple, plain `XY`, `numpy.float32`, `numpy` integer) is
a `ValueError` — unless a number `shape` has overridden it (`from_bbox_forms_num_shape`). -/
theorem from_bbox_forms_res_other (bb : BBox) (tight : Bool) (shape : ShapeForm) (a : AnchorArg) (tol : Rat)
    (hshape : ∀ q, shape ≠ .num q) :
    fromBboxForms bb tight shape .other (.arg a) tol = .error (.std .valueError) := by
  rw [fromBboxForms_arg, shapeDispatch_of_not_num bb _ hshape]
  rfl

/-- **`shape=` given, no resolution**: `shape_()` then the shape branch of the core.  `Shape2d` as is, an `XY`
and a two-element sequence go through `int()` (truncation toward zero: `(2.7, 4.2)` is `(2, 4)`). -/
theorem from_bbox_forms_shape (bb : BBox) (tight : Bool) (a : AnchorArg) (tol : Rat) :
    (∀ ny nx, fromBboxForms bb tight (.shape2d ny nx) .none (.arg a) tol =
      liftRes (fromBbox bb tight (.yx ny nx) .none a tol)) ∧
    (∀ x y, fromBboxForms bb tight (.xy x y) .none (.arg a) tol =
      liftRes (fromBbox bb tight (.yx (C20.trunc y) (C20.trunc x)) .none a tol)) ∧
    (∀ u v, fromBboxForms bb tight (.seq [u, v]) .none (.arg a) tol =
      liftRes (fromBbox bb tight (.yx (C20.trunc u) (C20.trunc v)) .none a tol)) := by
  refine ⟨?_, ?_, ?_⟩ <;> intros <;> rw [fromBboxForms_arg] <;>
    simp only [shapeDispatch, bind, Except.bind, fromBboxBranches, shapeOfForm, fromBbox_val_norm]

/-- Neither shape nor resolution, a sequence that does not have exactly two elements, or a `shape` of a type
`shape_` does not understand: `ValueError` (after the anchor has been normalised). -/
theorem from_bbox_forms_shape_rejected (bb : BBox) (tight : Bool) (a : AnchorArg) (tol : Rat) (shape : ShapeForm)
    (h : shape = .none ∨ shape = .other ∨ ∃ l, shape = .seq l ∧ l.length ≠ 2) :
    fromBboxForms bb tight shape .none (.arg a) tol = .error (.std .valueError) := by
  rcases h with rfl | rfl | ⟨l, rfl, hl⟩
  · rfl
  · rfl
  · exact ne_pair_cases l hl rfl (fun _ => rfl) fun _ _ _ _ => rfl

/-- An anchor `_norm_anchor` does not know is rejected before anything else is looked at: `KeyError` for a
hashable value (misspelt name, `None`, a tuple, `numpy.float32`), `TypeError` for an unhashable one. -/
theorem from_bbox_forms_bad_anchor (bb : BBox) (tight : Bool) (shape : ShapeForm) (res : ResForm) (tol : Rat) :
    fromBboxForms bb tight shape res .badKey tol = .error .keyError ∧
    fromBboxForms bb tight shape res .unhashable tol = .error .typeError := ⟨rfl, rfl⟩

section crs
variable {κ : Type} (lonlat : κ) (proj : Rat × Rat → Rat × Rat) (utmCrs : κ)

theorem fromBboxCrs_eq (region : RegionForm κ) (crs : CrsForm κ) (tight : Bool) (shape : ShapeForm)
    (res : ResForm) (a : AnchorArg) (tol : Rat) :
    fromBboxCrs lonlat proj utmCrs region crs tight shape res (.arg a) tol =
      (normRegion lonlat proj utmCrs region crs >>= fun bc =>
        (fromBboxForms bc.1 tight shape res (.arg a) tol).map (fun g => ⟨g, bc.2⟩)) := by
  unfold fromBboxCrs
  simp only [normAnchorForm, bind, Except.bind]
  cases normRegion lonlat proj utmCrs region crs with
  | error e => rfl
  | ok bc =>
    simp only
    cases fromBboxForms bc.1 tight shape res (.arg a) tol <;> rfl

/-- **A `BoundingBox` that carries a CRS decides the CRS of the result; the `crs` argument is not looked at** —
not even `crs="utm"` (nothing is projected). -/
theorem from_bbox_crs_of_bbox (b : BBox) (c : κ) (crs : CrsForm κ) (tight : Bool) (shape : ShapeForm)
    (res : ResForm) (a : AnchorArg) (tol : Rat) :
    fromBboxCrs lonlat proj utmCrs (.bbox b (some c)) crs tight shape res (.arg a) tol =
      (fromBboxForms b tight shape res (.arg a) tol).map (fun g => ⟨g, c⟩) := by
  rw [fromBboxCrs_eq]; rfl

/-- A 4-tuple (or list) region: the CRS is the `crs` argument, `"epsg:4326"` when that is `None` or falsy; the
grid itself does not depend on it. -/
theorem from_bbox_crs_of_tuple (l b r t : Rat) (tight : Bool) (shape : ShapeForm) (res : ResForm)
    (a : AnchorArg) (tol : Rat) :
    (∀ c, fromBboxCrs lonlat proj utmCrs (.tuple [l, b, r, t]) (.given c) tight shape res (.arg a) tol =
      (fromBboxForms ⟨l, b, r, t⟩ tight shape res (.arg a) tol).map (fun g => ⟨g, c⟩)) ∧
    fromBboxCrs lonlat proj utmCrs (.tuple [l, b, r, t]) .none tight shape res (.arg a) tol =
      (fromBboxForms ⟨l, b, r, t⟩ tight shape res (.arg a) tol).map (fun g => ⟨g, lonlat⟩) ∧
    fromBboxCrs lonlat proj utmCrs (.tuple [l, b, r, t]) .falsy tight shape res (.arg a) tol =
      (fromBboxForms ⟨l, b, r, t⟩ tight shape res (.arg a) tol).map (fun g => ⟨g, lonlat⟩) := by
  refine ⟨fun c => ?_, ?_, ?_⟩ <;> rw [fromBboxCrs_eq] <;> rfl

/-- `crs="utm…"` with a tuple: the region is the envelope of the four projected corners (`normBboxUtm`, as in `fromBboxUtm`),
the CRS the one the string resolved to. -/
theorem from_bbox_crs_utm (l b r t : Rat) (tight : Bool) (shape : ShapeForm) (res : ResForm)
    (a : AnchorArg) (tol : Rat) :
    fromBboxCrs lonlat proj utmCrs (.tuple [l, b, r, t]) .utm tight shape res (.arg a) tol =
      (fromBboxForms (normBboxUtm proj ⟨l, b, r, t⟩) tight shape res (.arg a) tol).map (fun g => ⟨g, utmCrs⟩) := by
  rw [fromBboxCrs_eq]; rfl

/-- A `BoundingBox` without CRS is the tuple of its four numbers. -/
theorem from_bbox_crs_bbox_nocrs (bb : BBox) (crs : CrsForm κ) (tight : Bool) (shape : ShapeForm)
    (res : ResForm) (a : AnchorForm) (tol : Rat) :
    fromBboxCrs lonlat proj utmCrs (.bbox bb none) crs tight shape res a tol =
      fromBboxCrs lonlat proj utmCrs (.tuple [bb.left, bb.bottom, bb.right, bb.top]) crs tight shape res a tol := rfl

/-- A tuple that does not have exactly four numbers: `TypeError` (from `BoundingBox(*bbox, crs=…)`), after the
anchor has been accepted. -/
theorem from_bbox_crs_bad_tuple (vals : List Rat) (hv : vals.length ≠ 4) (crs : CrsForm κ) (tight : Bool)
    (shape : ShapeForm) (res : ResForm) (a : AnchorArg) (tol : Rat) :
    fromBboxCrs lonlat proj utmCrs (.tuple vals) crs tight shape res (.arg a) tol = .error .typeError := by
  have : normBboxVals lonlat proj utmCrs vals crs = .error .typeError := by
    unfold normBboxVals
    split
    · exact absurd rfl hv
    · rfl
  rw [fromBboxCrs_eq, normRegion, this]
  rfl

/-- `crs=None` / `Unset()`: the same-CRS construction (`fromGeopolygon`), reported in the polygon's CRS —
`"epsg:4326"` for a polygon **without** CRS (its CRS-less bounding box goes through `_norm_bbox(.., None)`). -/
theorem from_geopolygon_args_unset (polyCrs : Option κ) (p : Rat × Rat) (ps : List (Rat × Rat)) (res : ResArg)
    (align : Option (Rat × Rat)) (shape : ShapeArg) (tight : Bool) (anchor : AnchorArg) (tol : Rat) :
    fromGeopolygonArgs lonlat proj polyCrs p ps res .unset align shape tight anchor tol =
      (fromGeopolygon p ps res align shape tight anchor tol).map (fun g => ⟨g, polyCrs.getD lonlat⟩) := by
  unfold fromGeopolygonArgs fromGeopolygon
  cases alignToAnchor align res anchor with
  | error e => rfl
  | ok ra =>
    simp only [bind, Except.bind]
    cases fromBbox (bboxOfPts p ps) tight shape ra.1 ra.2 tol <;> rfl

/-- `crs=` given and a polygon with a CRS: the vertices are projected (`fromGeopolygonCrs`), the result reports
the requested CRS. -/
theorem from_geopolygon_args_given (c c0 : κ) (p : Rat × Rat) (ps : List (Rat × Rat)) (res : ResArg)
    (align : Option (Rat × Rat)) (shape : ShapeArg) (tight : Bool) (anchor : AnchorArg) (tol : Rat) :
    fromGeopolygonArgs lonlat proj (some c0) p ps res (.given c) align shape tight anchor tol =
      (fromGeopolygonCrs proj p ps res align shape tight anchor tol).map (fun g => ⟨g, c⟩) := by
  unfold fromGeopolygonArgs fromGeopolygonCrs fromGeopolygon
  cases alignToAnchor align res anchor with
  | error e => rfl
  | ok ra =>
    simp only [bind, Except.bind]
    cases fromBbox (bboxOfPts (proj p) (ps.map proj)) tight shape ra.1 ra.2 tol <;> rfl

/-- `crs=` given and a polygon **without** CRS: `ValueError` ("Cannot project geometries without CRS") whenever
the old-style `align` handling got through. -/
theorem from_geopolygon_args_no_crs (c : κ) (p : Rat × Rat) (ps : List (Rat × Rat)) (res : ResArg)
    (align : Option (Rat × Rat)) (shape : ShapeArg) (tight : Bool) (anchor : AnchorArg) (tol : Rat)
    {ra : ResArg × AnchorArg} (hal : alignToAnchor align res anchor = .ok ra) :
    fromGeopolygonArgs lonlat proj none p ps res (.given c) align shape tight anchor tol = .error .valueError := by
  unfold fromGeopolygonArgs
  rw [hal]; rfl

/-- **`GeoBox.from_bbox((l, b, r, t), crs, resolution=…, anchor=…, tol=…)` from its arguments to its result.**
Region a tuple with `l ≤ r`, `b ≤ t`; `crs` anything but `"utm…"`; `resolution` a non-zero number `q` (pixel
`(q, -q)`) or a `Resolution(rx, ry)` with non-zero components; any `shape` that is not a number (ignored); any anchor
`_norm_anchor` understands with fractions in `[0, 1)`; `0 ≤ tol < 1/2`.  Then the call succeeds, reports the CRS
argument (`"epsg:4326"` for `None`), has at least one pixel per axis, exactly the requested pixel size and
orientation, covers the region up to `tol` of a pixel per side and exceeds it by at most one pixel (+`tol`) per side. -/
theorem from_bbox_public_res (l b r t : Rat) (crs : CrsForm κ)
    (hnu : crs ≠ .utm) (tight : Bool) (shape : ShapeForm) (hshape : ∀ q, shape ≠ .num q) (res : ResForm)
    (rx ry : Rat) (hres : (res = .num rx ∧ ry = -rx) ∨ res = .res rx ry) (a : AnchorArg) (tol : Rat)
    (v : ValidRes ⟨l, b, r, t⟩ rx ry tol (snapOf tight (normAnchor a))) :
    ∃ g : GeoBox, fromBboxCrs lonlat proj utmCrs (.tuple [l, b, r, t]) crs tight shape res (.arg a) tol =
        .ok ⟨g, match crs with | .given c => c | _ => lonlat⟩ ∧
      1 ≤ g.nx ∧ 1 ≤ g.ny ∧ g.affine.a = rx ∧ g.affine.e = ry ∧ g.affine.b = 0 ∧ g.affine.d = 0 ∧
      g.xmin ≤ l + tol * |rx| ∧ r - tol * |rx| ≤ g.xmax ∧ g.ymin ≤ b + tol * |ry| ∧ t - tol * |ry| ≤ g.ymax ∧
      l - g.xmin ≤ |rx| * (1 + tol) ∧ g.xmax - r ≤ |rx| * (1 + tol) ∧
      b - g.ymin ≤ |ry| * (1 + tol) ∧ g.ymax - t ≤ |ry| * (1 + tol) := by
  obtain ⟨ra, hra, hxy, hne⟩ : ∃ ra, resOfForm res = .ok ra ∧ ra.xy? = some (rx, ry) ∧ res ≠ .none := by
    rcases hres with ⟨rfl, rfl⟩ | rfl
    exacts [⟨.scalar rx, rfl, rfl, nofun⟩, ⟨.xy rx ry, rfl, rfl, nofun⟩]
  obtain ⟨g, hg, hn1, hn2⟩ := from_bbox_res_total none_not_int hxy v
  obtain ⟨_, ha, he, hb, hd⟩ := from_bbox_res_pixel_size none_not_int hxy hg
  obtain ⟨c1, c2, c3, c4⟩ := from_bbox_res_covers none_not_int hxy v hg
  have hm := from_bbox_res_minimal_le none_not_int hxy v hg
  refine ⟨g, ?_, hn1, hn2, ha, he, hb, hd, c1, c2, c3, c4, hm⟩
  rw [fromBboxCrs_eq]
  have hforms : fromBboxForms ⟨l, b, r, t⟩ tight shape res (.arg a) tol = .ok g := by
    rw [from_bbox_forms_res _ _ _ _ ra _ _ hshape hra hne, hg]; rfl
  cases crs with
  | utm => exact absurd rfl hnu
  | _ => simp only [normRegion, normBboxVals, bind, Except.bind, hforms]; rfl

end crs

example : fromBboxCrs (κ := Nat) 0 id 7 (.tuple [0, 0, 10, 7]) .none false .none (.num 3)
    (.arg (.name .default)) (1 / 100) = .ok ⟨⟨3, 4, ⟨3, 0, 0, 0, -3, 9⟩⟩, 0⟩ := by decide +kernel
example : fromBboxCrs (κ := Nat) 0 id 7 (.bbox ⟨0, 0, 10, 7⟩ (some 5)) .utm false (.seq [27 / 10, 21 / 5]) .none
    (.arg (.val .floating)) (1 / 100) = .ok ⟨⟨2, 4, ⟨5 / 2, 0, 0, 0, -7 / 2, 7⟩⟩, 5⟩ := by decide +kernel
example : fromBboxForms ⟨0, 0, 4, 2⟩ false (.num (5 / 2)) .other (.arg (.name .default)) (1 / 100) =
    .ok ⟨2, 3, ⟨8 / 5, 0, 0, 0, -8 / 5, 16 / 5⟩⟩ := by decide +kernel
example : fromGeopolygonArgs (κ := Nat) 0 id none (0, 0) [(4, 0), (4, 2)] (.scalar 1) .unset none .none false
    (.name .default) (1 / 100) = .ok ⟨⟨2, 4, ⟨1, 0, 0, 0, -1, 2⟩⟩, 0⟩ := by decide +kernel

end OdcGeo.C08
