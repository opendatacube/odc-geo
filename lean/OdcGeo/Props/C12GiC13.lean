/-
C12 ∘ C13 on the general path: chunked reprojection equals whole-array reprojection for two rasters
of ONE CRS related by ANY invertible affine map (rotated, sheared, mirrored grids – the path on which
`_check_linear` answers `None`), with the dependency table that the model of the public
`grid_intersect` computes (`Model/C12Gi.gridIntersectSameCrs`).

`Props/C13P` proves chunked == whole for an arbitrary transformer under `deps_complete_P`, and
reduces that to the named hypothesis `FootprintsSuperset` about shapely / pyproj footprints.  Here
the transformer is the identity (same CRS) and `FootprintsSuperset` is *discharged*
(`footprints_superset_same_crs`): the footprints are the rings of `polygon_from_transform`, the predicate
is `Spec.Convex.disjoint`, and `same_crs_footprints` does the rest.  No hypothesis about dependencies is
left – neither completeness nor validity.
-/
import OdcGeo.Props.C12Gi
import OdcGeo.Props.C13P
import Mathlib.Tactic.Linarith
import Mathlib.Tactic.Ring
import Mathlib.Algebra.Order.Field.Rat
import Mathlib.Algebra.Order.AbsoluteValue.Basic
namespace OdcGeo.C12
open OdcGeo OdcGeo.C17 OdcGeo.C04 OdcGeo.C13

theorem exists_short_step (vx vy : Rat) : ∃ ε : Rat, 0 < ε ∧ ε < 1 ∧ |ε * vx| < 1 / 2 ∧ |ε * vy| < 1 / 2 := by
  have hx := abs_nonneg vx
  have hy := abs_nonneg vy
  have hden : (0 : Rat) < 2 * (|vx| + |vy|) + 2 := by linarith only [hx, hy]
  have hε := one_div_pos.2 hden
  refine ⟨1 / (2 * (|vx| + |vy|) + 2), hε, (div_lt_one hden).2 (by linarith only [hx, hy]), ?_, ?_⟩
  · rw [abs_mul, abs_of_pos hε, one_div_mul_eq_div, div_lt_iff₀ hden]; linarith only [hy]
  · rw [abs_mul, abs_of_pos hε, one_div_mul_eq_div, div_lt_iff₀ hden]; linarith only [hx]

theorem within_half {d : Rat} (h : |d| < 1 / 2) (u : Rat) : u - 1 / 2 < u + d ∧ u + d < u + 1 / 2 := by
  obtain ⟨h1, h2⟩ := abs_lt.1 h
  exact ⟨by rw [sub_eq_add_neg]; exact (add_lt_add_iff_left u).2 h1, (add_lt_add_iff_left u).2 h2⟩

theorem apply_step (B : Aff) (p w : Rat × Rat) (ε : Rat) :
    B.apply (p.1 + ε * w.1, p.2 + ε * w.2) =
      ((B.apply p).1 + ε * (B.a * w.1 + B.b * w.2), (B.apply p).2 + ε * (B.d * w.1 + B.e * w.2)) := by
  simp only [Aff.apply, Prod.mk.injEq]
  constructor <;> ring

/-- **a point strictly inside, in two dimensions.**  If the image `A·u` of a pixel centre `u` lies in
the half-open source pixel `[jx, jx+1) × [jy, jy+1)` (`A` invertible: any rotation / shear), then
some point strictly within half a pixel of `u` has its image strictly inside that source pixel.
(Move the image a fraction `ε` towards the centre of the source pixel; the pre-image moves by
`ε · A⁻¹w`, which is shorter than half a pixel for `ε = 1 / (2(|v₁| + |v₂|) + 2)`.) -/
theorem strict_point_2d (A : Aff) (hA : A.det ≠ 0) (ux uy : Rat) (jx jy : Int)
    (hx : (jx : Rat) ≤ (A.apply (ux, uy)).1 ∧ (A.apply (ux, uy)).1 < jx + 1)
    (hy : (jy : Rat) ≤ (A.apply (ux, uy)).2 ∧ (A.apply (ux, uy)).2 < jy + 1) :
    ∃ qx qy, (ux - 1 / 2 < qx ∧ qx < ux + 1 / 2) ∧ (uy - 1 / 2 < qy ∧ qy < uy + 1 / 2) ∧
      ((jx : Rat) < (A.apply (qx, qy)).1 ∧ (A.apply (qx, qy)).1 < jx + 1) ∧
      ((jy : Rat) < (A.apply (qx, qy)).2 ∧ (A.apply (qx, qy)).2 < jy + 1) := by
  have tx := fun ε => toward_centre _ _ ε hx.1 hx.2
  have ty := fun ε => toward_centre _ _ ε hy.1 hy.2
  generalize (jx : Rat) + 1 / 2 - (A.apply (ux, uy)).1 = wx at tx
  generalize (jy : Rat) + 1 / 2 - (A.apply (ux, uy)).2 = wy at ty
  obtain ⟨ε, hε0, hε1, sx, sy⟩ := exists_short_step (A.inv.a * wx + A.inv.b * wy) (A.inv.d * wx + A.inv.e * wy)
  have hq := apply_step A.inv (A.apply (ux, uy)) (wx, wy) ε
  simp only [Aff.inv_apply_apply A hA] at hq
  refine ⟨_, _, within_half sx ux, within_half sy uy, ?_⟩
  rw [← hq, Aff.apply_inv_apply A hA]
  exact ⟨tx ε hε0 hε1.le, ty ε hε0 hε1.le⟩

/-- the two models describe the same pair of rasters: tilings and image sizes (C13 `GridRel`) and the
pixel-to-world affines -/
structure GridRelW (c : Cfg) (dst src : TGB) : Prop where
  rel : GridRel c dst.g src.g
  D : dst.W = c.D
  S : src.W = c.S

/-- **`FootprintsSuperset` discharged for one CRS.**  For two rasters of the same CRS (transformer
= identity) related by any invertible affine, the candidates and verdicts that the model of
`grid_intersect`'s general path computes are supersets in C13's sense: whenever a pixel of destination tile
`(iy, ix)` samples a pixel of source tile `(i, j)`, both tiles are candidates that `disjoint` keeps.
(The pixel centre may map onto a source pixel edge; `strict_point_2d` supplies a point of the same
destination pixel whose image is strictly inside the sampled source pixel.) -/
theorem footprints_superset_same_crs (c : Cfg) (dst src : TGB) (hrel : GridRelW c dst src) (hd : dst.WF) (hs : src.WF) :
    FootprintsSuperset c id (quadCands dst src.extent) (quadDisjoint dst src.extent)
      (fun d => quadCands src (extOf dst d)) fun d => quadDisjoint src (extOf dst d) := by
  have hAdet : (src.W.inv * dst.W).det ≠ 0 := by
    rw [Aff.det_mul]
    exact mul_ne_zero (Aff.inv_det_ne_zero hs.det) hd.det
  rintro iy ix ⟨dy, dx⟩ ⟨ty, hty, t1, t2⟩ ⟨tx, htx, t3, t4⟩ s hs' i j ⟨sp, hsp, a1, a2⟩ ⟨sq, hsq, a3, a4⟩
  obtain ⟨_, _, fy, fx⟩ := samplePixM_some hs' rfl
  rw [pixMapP_id, ← hrel.S, ← hrel.D] at fx fy
  obtain ⟨qx, qy, ⟨q1, q2⟩, ⟨q3, q4⟩, hqx, hqy⟩ := strict_point_2d (src.W.inv * dst.W) hAdet ((dx : Rat) + 1 / 2)
    ((dy : Rat) + 1 / 2) s.2 s.1 fx fy
  rw [add_sub_cancel_right] at q1 q3
  rw [add_assoc, add_halves] at q2 q4
  have h1 : TileSees dst ((iy : Int), (ix : Int)) (dst.W.apply (qx, qy)) := by
    refine GBT.Sees.of_has hd.g ⟨hrel.rel.dy.idx_lt hty, hrel.rel.dx.idx_lt htx⟩ (hrel.rel.dy.get iy ty hty)
      (hrel.rel.dx.get ix tx htx) ⟨t1, t2⟩ ⟨t3, t4⟩ ?_ ?_ <;> rw [Aff.inv_apply_apply dst.W hd.det]
    exacts [⟨q1, q2⟩, ⟨q3, q4⟩]
  have h2 : TileSees src ((i : Int), (j : Int)) (dst.W.apply (qx, qy)) := by
    refine GBT.Sees.of_has hs.g ⟨hrel.rel.sy.idx_lt hsp, hrel.rel.sx.idx_lt hsq⟩ (hrel.rel.sy.get i sp hsp)
      (hrel.rel.sx.get j sq hsq) ⟨a1, a2⟩ ⟨a3, a4⟩ ?_ ?_ <;> rw [← Aff.apply_mul]
    exacts [hqx, hqy]
  obtain ⟨⟨m1, m2⟩, m3, m4⟩ := same_crs_footprints dst src hd hs h1 h2
  exact ⟨m1, m2, m3, m4⟩

theorem deps_complete_P_same_crs_general (c : Cfg) (dst src : TGB) (hrel : GridRelW c dst src)
    (hd : dst.WF) (hs : src.WF) (hsy : Chain 0 c.sy c.srcH) (hsx : Chain 0 c.sx c.srcW)
    (L : List ((Int × Int) × List (Int × Int))) (hL : gridIntersectSameCrs dst src = .ok L)
    (hdeps : c.deps = depsOfC12 L) : deps_complete_P c id := by
  cases hL.symm.trans (grid_intersect_same_crs_eq dst src hd hs)
  exact deps_complete_P_of_general c id _ _ _ _ hsy hsx
    (fun t ht => by have := (candidates_ok dst.g hd.g _).2.1 t ht; exact ⟨this.1.1, this.2.1⟩)
    (footprints_superset_same_crs c dst src hrel hd hs) hdeps

theorem deps_valid_same_crs_general (c : Cfg) (dst src : TGB) (hrel : GridRelW c dst src)
    (hd : dst.WF) (hs : src.WF)
    (L : List ((Int × Int) × List (Int × Int))) (hL : gridIntersectSameCrs dst src = .ok L)
    (hdeps : c.deps = depsOfC12 L) : DepsValid c := by
  cases hL.symm.trans (grid_intersect_same_crs_eq dst src hd hs)
  rw [DepsValid, hdeps]
  exact depsValid_depsOfC12 hrel.rel.sy hrel.rel.sx fun e he p hp =>
    (candidates_ok src.g hs.g _).2.1 p ((general_deps_listed he).2 p hp)

/-- **Chunked reprojection equals whole-array reprojection on rotated / sheared / mirrored grids of
one CRS, end to end** (nearest neighbour): for every source and destination chunking, every nodata
pair, every dtype kind and every content of the uninitialised buffer, each pixel of the dask
result – built from the dependency table that the model of the *public* `grid_intersect` computes
for the two tiled rasters – equals the pixel of the in-memory result.  No hypothesis about
dependencies, footprints or shapely is left (compare `C13.chunked_eq_whole_cross_general` and its
`FootprintsSuperset`). -/
theorem chunked_eq_whole_same_crs_general (c : Cfg) (G : Gdal) (srcImg buf : Img) (dst src : TGB)
    (hrel : GridRelW c dst src) (hd : dst.WF) (hs : src.WF)
    (L : List ((Int × Int) × List (Int × Int))) (hL : gridIntersectSameCrs dst src = .ok L)
    (hdeps : c.deps = depsOfC12 L)
    (hV : c.variant = Variant.repaired)
    (hbuf : WF buf c.dstH c.dstW)
    (hsy : Chain 0 c.sy c.srcH) (hsx : Chain 0 c.sx c.srcW)
    (hdy : Chain 0 c.dy c.dstH) (hdx : Chain 0 c.dx c.dstW)
    (hnd : c.dstNd = none → c.srcNd = none)
    (hnd1 : NodataOk c.kind c.dstNd) (hnd2 : NodataOk c.kind c.srcNd)
    (d : Int × Int) (hdd : 0 ≤ d.1 ∧ d.1 < c.dstH ∧ 0 ≤ d.2 ∧ d.2 < c.dstW) :
    daskResultP c id G srcImg d = wholeResult c G srcImg buf d := by
  rw [← wholeResultP_id]
  exact chunked_eq_whole_cross c id G srcImg buf hV hbuf hsy hsx hdy hdx (by rw [← hrel.S]; exact hs.det)
    (deps_valid_same_crs_general c dst src hrel hd hs L hL hdeps)
    (deps_complete_P_same_crs_general c dst src hrel hd hs hsy hsx L hL hdeps) hnd hnd1 hnd2 d hdd

/-! ## the hypotheses are satisfiable: a 2×2 raster and the same raster rotated by 90° -/

def srcT : TGB := ⟨some 1, true, Aff.id, ⟨2, 2, ⟨.var [2], .var [2]⟩⟩⟩
def dstT : TGB := ⟨some 1, true, ⟨0, -1, 2, 1, 0, 0⟩, ⟨2, 2, ⟨.var [2], .var [2]⟩⟩⟩
def rotCfg : Cfg :=
  { variant := Variant.repaired, kind := .float, srcH := 2, srcW := 2, S := Aff.id, dstH := 2, dstW := 2,
    D := ⟨0, -1, 2, 1, 0, 0⟩, sy := [(0, 2)], sx := [(0, 2)], dy := [(0, 2)], dx := [(0, 2)],
    deps := [((0, 0), [(0, 0)])], srcNd := none, dstNd := none }

theorem tilingRel_one : TilingRel (.var [2]) [(0, 2)] := by
  refine ⟨by decide, ?_⟩
  intro i s h
  cases i with
  | zero => simp at h; subst h; decide
  | succ k => simp at h

example : GridRelW rotCfg dstT srcT :=
  ⟨⟨tilingRel_one, tilingRel_one, tilingRel_one, tilingRel_one, rfl, rfl⟩, rfl, rfl⟩
example : srcT.WF := ⟨⟨⟨by decide, by decide⟩, ⟨by decide, by decide⟩, by decide, by decide, by decide, by decide⟩,
  by decide +kernel⟩
example : dstT.WF := ⟨⟨⟨by decide, by decide⟩, ⟨by decide, by decide⟩, by decide, by decide, by decide, by decide⟩,
  by decide +kernel⟩
example : ∃ L, gridIntersectSameCrs dstT srcT = .ok L ∧ rotCfg.deps = depsOfC12 L :=
  ⟨[((0, 0), [(0, 0)])], by decide +kernel, by decide⟩
example : ∃ qx qy : Rat, (1 / 2 - 1 / 2 < qx ∧ qx < 1 / 2 + 1 / 2) ∧ (1 / 2 - 1 / 2 < qy ∧ qy < 1 / 2 + 1 / 2) ∧
    (((1 : Int) : Rat) < (dstT.W.apply (qx, qy)).1 ∧ (dstT.W.apply (qx, qy)).1 < (1 : Int) + 1) ∧
    (((0 : Int) : Rat) < (dstT.W.apply (qx, qy)).2 ∧ (dstT.W.apply (qx, qy)).2 < (0 : Int) + 1) :=
  strict_point_2d dstT.W (by decide +kernel) (1 / 2) (1 / 2) 1 0 (by decide +kernel) (by decide +kernel)

end OdcGeo.C12
