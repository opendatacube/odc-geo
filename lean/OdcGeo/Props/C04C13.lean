/-
C04 ∘ C13 — the block assembly of `_do_chunked_reproject` in the two models.

`Model/C13.assemble` pastes dask blocks over `Span` lists into an `Img`; `Model/C04.extract` is
`BlockAssembler.extract` over chunk tuples.  For a 2-D layout (no extra axes) the two agree on the
full window: with the representation map `spans ↦ chunk sizes`, `blocks ↦ block table`, every pixel of
C13's assembled image is the cell C04's `extract` returns (`c13_assemble_eq_c04_extract`).
-/
import OdcGeo.Props.C04Asm
import Mathlib.Data.List.Nodup
import OdcGeo.Model.C13
namespace OdcGeo.C04
open OdcGeo OdcGeo.C17 OdcGeo.NpArray OdcGeo.C13

/-- chunk sizes of a span list -/
def spanLens (t : List Span) : List Int := t.map fun s => s.2 - s.1

theorem chain_spans : ∀ (t : List Span) (a b : Int), Chain a t b →
    (∀ c ∈ spanLens t, 0 ≤ c) ∧ b = a + total (spanLens t) ∧
    ∀ (i : Nat) (s : Span), t[i]? = some s → s.1 = a + pre (spanLens t) i ∧ s.2 = a + pre (spanLens t) (i + 1)
  | [], a, b, h => ⟨nofun, h ▸ (Int.add_zero a).symm, nofun⟩
  | s0 :: r, a, b, h => by
    obtain ⟨h1, h2, h3⟩ := h
    obtain ⟨n, tt, g⟩ := chain_spans r s0.2 b h3
    refine ⟨List.forall_mem_cons.2 ⟨Int.sub_nonneg.2 h2, n⟩, ?_, ?_⟩
    · show b = a + (s0.2 - s0.1 + total (spanLens r))
      omega
    · intro i s hs
      cases i with
      | zero =>
        cases hs
        show s0.1 = a + 0 ∧ s0.2 = a + (s0.2 - s0.1 + pre (spanLens r) 0)
        rw [pre_zero, ← h1, Int.add_zero, Int.add_zero, add_sub_cancel]
        exact ⟨rfl, rfl⟩
      | succ k =>
        obtain ⟨g1, g2⟩ := g k s hs
        show s.1 = a + (s0.2 - s0.1 + pre (spanLens r) k) ∧ s.2 = a + (s0.2 - s0.1 + pre (spanLens r) (k + 1))
        rw [g1, g2, ← h1, ← Int.add_assoc, ← Int.add_assoc, add_sub_cancel]
        exact ⟨rfl, rfl⟩

theorem tileReg_spans (t : List Span) (H : Int) (hc : Chain 0 t H) (i : Nat) (hi : i < t.length) :
    tileReg (spanLens t) (i : Int) = ⟨t[i].1, t[i].2⟩ := by
  obtain ⟨a1, a2⟩ := (chain_spans t 0 H hc).2.2 i _ (List.getElem?_eq_getElem hi)
  rw [a1, a2, Int.zero_add, Int.zero_add, tileReg, Int.toNat_natCast]

/-- a C13 block index as a C04 block key -/
def keyOf (e : TIdx × Img) : Int × Int := ((e.1.1 : Int), (e.1.2 : Int))

/-- the C04 `BlockAssembler` of a C13 block list: chunk sizes of the spans, the blocks as a table keyed
by tile position, cells are `Option Val` (what an `Img` holds) -/
def asmOf (cy cx : List Span) (bl : List (TIdx × Img)) : Assembler (Option C13.Val) :=
  { chy := spanLens cy, chx := spanLens cx, present := bl.map keyOf, lead := [], trail := [],
    blk := fun k _ y x _ =>
      match bl.find? (fun e => keyOf e == k) with
      | some e => e.2 (y, x)
      | none => none }

theorem find_of_nodup : ∀ (bl : List (TIdx × Img)), (bl.map keyOf).Nodup → ∀ e ∈ bl,
    bl.find? (fun e' => keyOf e' == keyOf e) = some e
  | a :: as, hnd, e, he => by
    obtain ⟨hna, hnd'⟩ := List.nodup_cons.1 hnd
    rcases List.mem_cons.1 he with rfl | h
    · exact List.find?_cons_of_pos (beq_self_eq_true _)
    · have hk : keyOf a ≠ keyOf e := fun hk => hna (hk ▸ List.mem_map_of_mem h)
      rw [List.find?_cons_of_neg (by simpa using hk)]
      exact find_of_nodup as hnd' e h

/-- the two paste loops stay in step: pasting a block changes the same pixels to the same cells in the
C13 image and in the C04 window -/
theorem paste_sync (cy cx : List Span) (H W : Int) (hcy : Chain 0 cy H) (hcx : Chain 0 cx W)
    (hoky : ChunksOK (spanLens cy)) (hokx : ChunksOK (spanLens cx)) (hH : 0 ≤ H) (hW : 0 ≤ W)
    (bl0 : List (TIdx × Img)) (hv : ∀ e ∈ bl0, e.1.1 < cy.length ∧ e.1.2 < cx.length)
    (hnd : (bl0.map keyOf).Nodup) (bl : List (TIdx × Img)) (hsub : ∀ e ∈ bl, e ∈ bl0) :
    ∀ (acc : Img) (xx : Arr (Option C13.Val)),
      (∀ y x, 0 ≤ y ∧ y < H → 0 ≤ x ∧ x < W → acc (y, x) = xx [] y x []) →
      ∃ img arr, assemble cy cx bl acc = some img ∧
        pasteAll (asmOf cy cx bl0) [] ⟨0, H⟩ ⟨0, W⟩ [] xx (bl.map keyOf) = .ok arr ∧
        ∀ y x, 0 ≤ y ∧ y < H → 0 ≤ x ∧ x < W → img (y, x) = arr [] y x [] := by
  induction bl with
  | nil => exact fun acc xx h => ⟨acc, xx, rfl, rfl, h⟩
  | cons e rest ih =>
    intro acc xx h
    have he := hsub e List.mem_cons_self
    obtain ⟨hy, hx⟩ := hv e he
    obtain ⟨xx', hp, hspec⟩ := pasteBlock_spec (asmOf cy cx bl0) hoky hokx [] ⟨0, H⟩ ⟨0, W⟩ []
      ⟨Int.le_refl 0, hH⟩ ⟨Int.le_refl 0, hW⟩ trivial trivial xx (keyOf e)
      ⟨⟨Int.natCast_nonneg _, Int.ofNat_lt.2 (hy.trans_eq (List.length_map _).symm)⟩,
        Int.natCast_nonneg _, Int.ofNat_lt.2 (hx.trans_eq (List.length_map _).symm)⟩
    obtain ⟨img, arr, h1, h2, h3⟩ := ih (fun e' h' => hsub e' (List.mem_cons_of_mem _ h'))
      (C13.pasteBlock acc cy[e.1.1] cx[e.1.2] e.2) xx' (fun y x hy' hx' => by
        rw [hspec [] y x [] trivial (by rwa [Int.sub_zero]) (by rwa [Int.sub_zero]) trivial]
        have ty : tileReg (asmOf cy cx bl0).chy (keyOf e).1 = _ := tileReg_spans cy H hcy _ hy
        have tx : tileReg (asmOf cy cx bl0).chx (keyOf e).2 = _ := tileReg_spans cx W hcx _ hx
        rw [ty, tx, Int.zero_add, Int.zero_add]
        simp only [asmOf, find_of_nodup bl0 hnd e he, C13.pasteBlock]
        by_cases c : (cy[e.1.1].1 ≤ y ∧ y < cy[e.1.1].2) ∧ (cx[e.1.2].1 ≤ x ∧ x < cx[e.1.2].2)
        · rw [if_pos c, if_pos ⟨c.1.1, c.1.2, c.2.1, c.2.2⟩]
        · rw [if_neg c, if_neg (fun c' => c ⟨⟨c'.1, c'.2.1⟩, c'.2.2⟩)]
          exact h y x hy' hx')
    refine ⟨img, arr, ?_, ?_, h3⟩
    · simp only [assemble, List.getElem?_eq_getElem hy, List.getElem?_eq_getElem hx, bind, Option.bind]
      exact h1
    · simp only [List.map_cons, pasteAll, hp, bind, Except.bind]
      exact h2

/-- **C13's `assemble` is C04's `BlockAssembler.extract` on the full window** (2-D layouts, regular or
variable chunk spans, `H, W < 2^31`, no two blocks at one tile position): with the spans turned into
chunk sizes and the blocks into a block table, every pixel of the image C13 assembles over
`np.full((H, W), v)` is the cell C04's `extract(v)` returns; both succeed. -/
theorem c13_assemble_eq_c04_extract (cy cx : List Span) (H W : Int) (hcy : Chain 0 cy H) (hcx : Chain 0 cx W)
    (hH : H < 2147483648) (hW : W < 2147483648) (bl : List (TIdx × Img))
    (hv : ∀ e ∈ bl, e.1.1 < cy.length ∧ e.1.2 < cx.length) (hnd : (bl.map keyOf).Nodup) (v : C13.Val) :
    ∃ img arr, assemble cy cx bl (full H W v) = some img ∧
      extract (asmOf cy cx bl) (some v) [] (.slc none none) (.slc none none) [] = .ok (([], H, W, []), arr) ∧
      ∀ y x, 0 ≤ y ∧ y < H → 0 ≤ x ∧ x < W → img (y, x) = arr [] y x [] := by
  obtain ⟨ny, tH, _⟩ := chain_spans cy 0 H hcy
  obtain ⟨nx, tW, _⟩ := chain_spans cx 0 W hcx
  rw [Int.zero_add] at tH tW
  have hH0 : 0 ≤ H := tH ▸ total_nonneg _ ny
  have hW0 : 0 ≤ W := tW ▸ total_nonneg _ nx
  obtain ⟨img, arr, h1, h2, h3⟩ := paste_sync cy cx H W hcy hcx ⟨ny, tH ▸ hH⟩ ⟨nx, tW ▸ hW⟩ hH0 hW0 bl hv hnd
    bl (fun _ h => h) (full H W v) (fun _ _ _ _ => some v)
    (fun y x hy hx => if_pos ⟨hy.1, hy.2, hx.1, hx.2⟩)
  refine ⟨img, arr, h1, ?_, h3⟩
  have ey : normSlice (.slc none none) (total (asmOf cy cx bl).chy) = ⟨0, H⟩ := tH ▸ normSlice_full _ (tH ▸ hH0)
  have ex : normSlice (.slc none none) (total (asmOf cy cx bl).chx) = ⟨0, W⟩ := tW ▸ normSlice_full _ (tW ▸ hW0)
  simp only [extract, ey, ex]
  rw [if_neg (fun h => h.elim (fun h => h rfl) (fun h => h rfl)),
    if_neg (by rintro (h | h | h | h) <;> [cases h; omega; omega; cases h])]
  show Except.map _ (pasteAll (asmOf cy cx bl) [] ⟨0, H⟩ ⟨0, W⟩ [] _ (bl.map keyOf)) = _
  rw [h2, Int.sub_zero, Int.sub_zero]
  rfl

/-! ## the hypotheses are satisfiable: a 2 × 3 image in two row blocks -/
example : Chain 0 [(0, 1), (1, 2)] 2 ∧ Chain 0 [(0, 3)] 3 := by
  refine ⟨⟨rfl, by decide, rfl, by decide, rfl⟩, ⟨rfl, by decide, rfl⟩⟩
example : ([(((0 : Nat), (0 : Nat)), (fun _ => none : Img)), ((1, 0), fun _ => none)].map keyOf).Nodup := by decide

end OdcGeo.C04
