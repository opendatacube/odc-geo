/-
C04 — blocks reassemble the mosaic: the paste loop of `BlockAssembler.extract` for any window and
any leading / trailing axes (`assemble_window`), `_norm_roi` (how a short window is padded, which
axes an int squeezes) with `extract` for the `assembler[y, x]` spelling, and `planes_yx`.
-/
import OdcGeo.Model.C04
import OdcGeo.Model.C04Roi
import OdcGeo.Lemmas.C04Asm
import OdcGeo.Lemmas.Splice
import OdcGeo.Lemmas.C04Nd
import Mathlib.Data.List.Nodup
namespace OdcGeo.C04
open OdcGeo OdcGeo.C17 OdcGeo.NpArray

section paste
variable {Val : Type}

/-- **blocks reassemble the mosaic**: for any set of present blocks keyed by tile position (`KeyOK`)
and any window that normalises to `0 ≤ start ≤ stop` on `Y`, `X` and inside the extra axes
(`WinOK`), `extract(fill, roi)` answers the window's shape and, cell by cell, the cell of the block
whose tile owns that mosaic pixel, read at the pixel's position inside the block, else `fill`. -/
theorem assemble_window (a : Assembler Val) (hy : ChunksOK a.chy) (hx : ChunksOK a.chx)
    (hkeys : ∀ k ∈ a.present, KeyOK a k) (fill : Val)
    (rl : List PIdx) (ry rx : PIdx) (rt : List PIdx)
    (hrl : rl.length = a.lead.length) (hrt : rt.length = a.trail.length)
    (hwl : WinOK ((rl.zip a.lead).map fun p => normSlice p.1 p.2) a.lead)
    (hwt : WinOK ((rt.zip a.trail).map fun p => normSlice p.1 p.2) a.trail)
    (hwy : 0 ≤ (normSlice ry (total a.chy)).start ∧
      (normSlice ry (total a.chy)).start ≤ (normSlice ry (total a.chy)).stop)
    (hwx : 0 ≤ (normSlice rx (total a.chx)).start ∧
      (normSlice rx (total a.chx)).start ≤ (normSlice rx (total a.chx)).stop) :
    let wl := (rl.zip a.lead).map fun p => normSlice p.1 p.2
    let wt := (rt.zip a.trail).map fun p => normSlice p.1 p.2
    let wy := normSlice ry (total a.chy)
    let wx := normSlice rx (total a.chx)
    ∃ arr, extract a fill rl ry rx rt =
        .ok ((lens wl, wy.stop - wy.start, wx.stop - wx.start, lens wt), arr) ∧
      ∀ l y x t, InBox l (lens wl) → (0 ≤ y ∧ y < wy.stop - wy.start) →
        (0 ≤ x ∧ x < wx.stop - wx.start) → InBox t (lens wt) →
        (∀ k ∈ a.present, Owns a k (wy.start + y) (wx.start + x) →
          arr l y x t = a.blk k (shift wl l) (wy.start + y - (tileReg a.chy k.1).start)
            (wx.start + x - (tileReg a.chx k.2).start) (shift wt t)) ∧
        ((∀ k ∈ a.present, ¬ Owns a k (wy.start + y) (wx.start + x)) → arr l y x t = fill) := by
  intro wl wt wy wx
  obtain ⟨out, ho, hout⟩ := pasteAll_spec a hy hx wl wy wx wt hwy hwx hwl hwt a.present
    (fun _ _ _ _ => fill) hkeys
  refine ⟨out, ?_, hout⟩
  have n1 := lens_any_neg wl a.lead hwl
  have n2 := lens_any_neg wt a.trail hwt
  simp only [lens] at n1 n2
  simp only [extract]
  rw [if_neg (by omega), n1, n2, if_neg (by rintro (h | h | h | h) <;> [cases h; omega; omega; cases h]), ho]
  rfl

end paste

def Roi.given (shape : List Int) : Roi → List PIdx
  | .none => shape.map fullIdx
  | .single i => [i]
  | .tuple is => is

theorem padRoi_def (shape : List Int) (axis : Nat) (roi : Roi) :
    padRoi shape axis roi =
      if (roi.given shape).length = 2 then
        .ok ((shape.take axis).map fullIdx ++ roi.given shape ++ (shape.drop (axis + 2)).map fullIdx)
      else if (roi.given shape).length < shape.length then
        .ok (roi.given shape ++ (shape.drop (roi.given shape).length).map fullIdx)
      else if (roi.given shape).length > shape.length then .error .indexError
      else .ok (roi.given shape) := by
  cases roi <;> rfl

/-- `_norm_roi` raises (`IndexError`) exactly for a window with more entries than the array has
axes – except that a 2-tuple is always read as the `Y, X` window. -/
theorem padRoi_error_iff (shape : List Int) (axis : Nat) (roi : Roi) :
    padRoi shape axis roi = .error .indexError ↔
      ((roi.given shape).length ≠ 2 ∧ shape.length < (roi.given shape).length) := by
  rw [padRoi_def]
  by_cases h2 : (roi.given shape).length = 2
  · rw [if_pos h2]
    exact ⟨nofun, fun h => absurd h2 h.1⟩
  · rw [if_neg h2]
    by_cases h3 : (roi.given shape).length < shape.length
    · rw [if_pos h3]
      exact ⟨nofun, fun h => absurd h.2 (Nat.lt_asymm h3)⟩
    · rw [if_neg h3]
      by_cases h4 : (roi.given shape).length > shape.length
      · rw [if_pos h4]
        exact ⟨fun _ => ⟨h2, h4⟩, fun _ => rfl⟩
      · rw [if_neg h4]
        exact ⟨nofun, fun h => absurd h.2 h4⟩

theorem padRoi_length (shape : List Int) (axis : Nat) (hax : axis + 2 ≤ shape.length) (roi : Roi)
    (r : List PIdx) (h : padRoi shape axis roi = .ok r) : r.length = shape.length := by
  rw [padRoi_def] at h
  by_cases h2 : (roi.given shape).length = 2
  · rw [if_pos h2] at h; cases h
    rw [List.length_append, List.length_append, List.length_map, List.length_map, List.length_take,
      List.length_drop, h2, Nat.min_eq_left (Nat.le_of_add_right_le hax), Nat.add_sub_cancel' hax]
  · rw [if_neg h2] at h
    by_cases h3 : (roi.given shape).length < shape.length
    · rw [if_pos h3] at h; cases h
      rw [List.length_append, List.length_map, List.length_drop, Nat.add_sub_cancel' (Nat.le_of_lt h3)]
    · rw [if_neg h3] at h
      by_cases h4 : (roi.given shape).length > shape.length
      · rw [if_pos h4] at h; cases h
      · rw [if_neg h4] at h; cases h
        exact Nat.le_antisymm (Nat.not_lt.1 h4) (Nat.not_lt.1 h3)

theorem squeezeFrom_append (axis k : Nat) (xs ys : List PIdx) :
    squeezeFrom axis k (xs ++ ys) = squeezeFrom axis k xs ++ squeezeFrom axis (k + xs.length) ys := by
  induction xs generalizing k with
  | nil => simp [squeezeFrom]
  | cons x xs ih =>
    simp only [List.cons_append, squeezeFrom, ih, List.length_cons, List.append_assoc]
    have : k + 1 + xs.length = k + (xs.length + 1) := by omega
    rw [this]

theorem squeezeFrom_full (axis k : Nat) (ns : List Int) : squeezeFrom axis k (ns.map fullIdx) = [] := by
  induction ns generalizing k with
  | nil => rfl
  | cons n ns ih => simp [squeezeFrom, fullIdx, isInt, ih]

theorem squeezeFrom_mem (axis k : Nat) (r : List PIdx) (j : Nat) :
    j ∈ squeezeFrom axis k r ↔
      ∃ i p, r[i]? = some p ∧ j = k + i ∧ isInt p = true ∧ j ≠ axis ∧ j ≠ axis + 1 := by
  induction r generalizing k with
  | nil => exact ⟨nofun, fun ⟨_, _, h, _⟩ => nomatch h⟩
  | cons q qs ih =>
    -- the head contributes `k` iff it is an int off the `Y, X` pair
    have hd : j ∈ (if (isInt q && k != axis && k != axis + 1) = true then [k] else []) ↔
        j = k ∧ isInt q = true ∧ k ≠ axis ∧ k ≠ axis + 1 := by
      simp only [Bool.and_eq_true, bne_iff_ne, and_assoc]
      split
      · next hc => rw [List.mem_singleton]; exact ⟨fun h => ⟨h, hc⟩, fun h => h.1⟩
      · next hc => exact ⟨nofun, fun h => absurd h.2 hc⟩
    rw [squeezeFrom, List.mem_append, hd, ih]
    constructor
    · rintro (⟨rfl, h1, h2, h3⟩ | ⟨i, p, hp, hj, hr⟩)
      · exact ⟨0, q, rfl, rfl, h1, h2, h3⟩
      · exact ⟨i + 1, p, hp, by omega, hr⟩
    · rintro ⟨i, p, hp, hj, h1, h2, h3⟩
      cases i with
      | zero => cases hp; subst hj; exact .inl ⟨rfl, h1, h2, h3⟩
      | succ i => exact .inr ⟨i, p, hp, by omega, h1, h2, h3⟩

/-- **which axes an int squeezes**: axis `j` is squeezed iff the padded window has a plain int at
position `j` and `j` is neither `Y` nor `X`. -/
theorem squeeze_spec (axis : Nat) (r : List PIdx) (j : Nat) :
    j ∈ squeezeAxes axis r ↔ ∃ p, r[j]? = some p ∧ isInt p = true ∧ j ≠ axis ∧ j ≠ axis + 1 := by
  unfold squeezeAxes
  rw [squeezeFrom_mem]
  constructor
  · rintro ⟨i, p, hp, hj, h⟩
    have : i = j := by omega
    subst this; exact ⟨p, hp, h⟩
  · rintro ⟨p, hp, h⟩
    exact ⟨j, p, hp, by omega, h⟩

/-- **a 2-tuple is the `Y, X` window and squeezes nothing** (whatever the rank of the blocks and
whether the row / column is given as int or slice): the leading and trailing axes are taken in
full and stay in the result. -/
theorem normRoi_two_tuple (shape : List Int) (axis : Nat) (hax : axis ≤ shape.length) (wy wx : PIdx) :
    padRoi shape axis (.tuple [wy, wx]) =
      .ok ((shape.take axis).map fullIdx ++ [wy, wx] ++ (shape.drop (axis + 2)).map fullIdx) ∧
    squeezeAxes axis ((shape.take axis).map fullIdx ++ [wy, wx] ++ (shape.drop (axis + 2)).map fullIdx) = [] := by
  refine ⟨rfl, ?_⟩
  unfold squeezeAxes
  rw [squeezeFrom_append, squeezeFrom_append, squeezeFrom_full, squeezeFrom_full]
  have hl : ((shape.take axis).map fullIdx).length = axis := by simp; omega
  simp only [List.nil_append, List.append_nil, Nat.zero_add, hl, squeezeFrom]
  simp

/-- an int on a leading / trailing axis of a full-rank window is squeezed, an int on `Y` or `X`
is not -/
example : normRoi [3, 7, 5, 2] 1 (.tuple [.idx (-1), .idx 2, .slc (some 1) (some 4), .idx 0]) =
    .ok ([⟨2, 3⟩, ⟨2, 3⟩, ⟨1, 4⟩, ⟨0, 1⟩], [0, 3]) := by decide

theorem dropFrom_nil (k : Nat) (shape : List Int) : dropFrom [] k shape = shape := by
  induction shape generalizing k with
  | nil => rfl
  | cons n ns ih => simp [dropFrom, ih]

theorem Assembler.shape_take {Val} (a : Assembler Val) : a.shape.take a.lead.length = a.lead :=
  splice_take rfl _ _ _

theorem Assembler.shape_drop {Val} (a : Assembler Val) : a.shape.drop (a.lead.length + 2) = a.trail :=
  splice_drop rfl _ _ _

/-- **`extract` with a 2-tuple window** is `extract` with the leading / trailing axes in full and
no axis removed: so (with `assemble_window`) for blocks of any rank, `assembler[y, x-range]` has
the shape `lead ++ [h, w] ++ trail` – a row or column given as an int stays as a length-1
axis – and every cell is the block cell of the tile owning that mosaic pixel, else the fill. -/
theorem extractND_two_tuple {Val} (a : Assembler Val) (fill : Val) (ry rx : PIdx) :
    extractND a fill (.tuple [ry, rx]) =
      (extract a fill (a.lead.map fullIdx) ry rx (a.trail.map fullIdx)).map fun r =>
        (r.1.1 ++ [r.1.2.1, r.1.2.2.1] ++ r.1.2.2.2, r.1, r.2) := by
  have hp := (normRoi_two_tuple a.shape a.lead.length (by simp [Assembler.shape]) ry rx)
  rw [Assembler.shape_take, Assembler.shape_drop] at hp
  have hl : (a.lead.map fullIdx).length = a.lead.length := List.length_map _
  simp only [extractND, hp.1, bind, Except.bind, pure, Except.pure, List.append_assoc,
    List.drop_left' hl, List.take_left' hl, List.cons_append, List.nil_append]
  cases extract a fill (a.lead.map fullIdx) ry rx (a.trail.map fullIdx) with
  | error e => rfl
  | ok r =>
    have hsq := hp.2
    simp only [List.append_assoc, List.cons_append, List.nil_append] at hsq
    simp only [Except.map, dropAxes, hsq, dropFrom_nil]

theorem full_windows (ns : List Int) (h : ∀ n ∈ ns, 0 ≤ n) :
    WinOK (((ns.map fullIdx).zip ns).map fun p => normSlice p.1 p.2) ns ∧
      lens (((ns.map fullIdx).zip ns).map fun p => normSlice p.1 p.2) = ns := by
  induction ns with
  | nil => exact ⟨trivial, rfl⟩
  | cons n ns ih =>
    obtain ⟨hn, hns⟩ := List.forall_mem_cons.1 h
    obtain ⟨w, l⟩ := ih hns
    simp only [List.map_cons, List.zip_cons_cons, fullIdx, normSlice_of_nonneg n (Int.le_refl 0) hn]
    refine ⟨⟨⟨Int.le_refl 0, hn, Int.le_refl n⟩, w⟩, ?_⟩
    show (n - 0) :: lens _ = n :: ns
    rw [l, Int.sub_zero]

/-- **assemble_window for the `assembler[y, x]` spelling, any block rank**:
with leading axes `lead` and trailing axes `trail`, a 2-tuple window – row and column each an
int, a negative int, a slice or an open slice, normalising to `0 ≤ start ≤ stop` – returns an array
of shape `lead ++ [h, w] ++ trail` (nothing is squeezed; an int row is a length-1 axis), whose cells
are the block cells of the tiles owning the mosaic pixels, else the fill value. -/
theorem assemble_window_two_tuple {Val} (a : Assembler Val) (hy : ChunksOK a.chy) (hx : ChunksOK a.chx)
    (hkeys : ∀ k ∈ a.present, KeyOK a k) (hlead : ∀ n ∈ a.lead, 0 ≤ n) (htrail : ∀ n ∈ a.trail, 0 ≤ n)
    (fill : Val) (ry rx : PIdx)
    (hwy : 0 ≤ (normSlice ry (total a.chy)).start ∧
      (normSlice ry (total a.chy)).start ≤ (normSlice ry (total a.chy)).stop)
    (hwx : 0 ≤ (normSlice rx (total a.chx)).start ∧
      (normSlice rx (total a.chx)).start ≤ (normSlice rx (total a.chx)).stop) :
    let wy := normSlice ry (total a.chy)
    let wx := normSlice rx (total a.chx)
    let wl := ((a.lead.map fullIdx).zip a.lead).map fun p => normSlice p.1 p.2
    let wt := ((a.trail.map fullIdx).zip a.trail).map fun p => normSlice p.1 p.2
    ∃ arr, extractND a fill (.tuple [ry, rx]) =
        .ok (a.lead ++ [wy.stop - wy.start, wx.stop - wx.start] ++ a.trail,
             (a.lead, wy.stop - wy.start, wx.stop - wx.start, a.trail), arr) ∧
      ∀ l y x t, InBox l a.lead → (0 ≤ y ∧ y < wy.stop - wy.start) →
        (0 ≤ x ∧ x < wx.stop - wx.start) → InBox t a.trail →
        (∀ k ∈ a.present, Owns a k (wy.start + y) (wx.start + x) →
          arr l y x t = a.blk k (shift wl l) (wy.start + y - (tileReg a.chy k.1).start)
            (wx.start + x - (tileReg a.chx k.2).start) (shift wt t)) ∧
        ((∀ k ∈ a.present, ¬ Owns a k (wy.start + y) (wx.start + x)) → arr l y x t = fill) := by
  intro wy wx wl wt
  obtain ⟨arr, he, hcells⟩ := assemble_window a hy hx hkeys fill (a.lead.map fullIdx) ry rx
    (a.trail.map fullIdx) (by simp) (by simp) (full_windows a.lead hlead).1 (full_windows a.trail htrail).1
    hwy hwx
  rw [(full_windows a.lead hlead).2, (full_windows a.trail htrail).2] at he hcells
  refine ⟨arr, ?_, hcells⟩
  rw [extractND_two_tuple, he]
  rfl

theorem ndindex_mem (shape idx : List Nat) : idx ∈ ndindex shape ↔ InShape idx shape := by
  induction shape generalizing idx with
  | nil =>
    cases idx with
    | nil => simp [ndindex, InShape]
    | cons i is => simp [ndindex, InShape]
  | cons n ns ih =>
    cases idx with
    | nil => simp [ndindex, InShape]
    | cons i is =>
      simp only [ndindex, List.mem_flatMap, List.mem_range, List.mem_map, InShape]
      constructor
      · rintro ⟨j, hj, rest, hrest, heq⟩
        have e := List.cons.inj heq
        rw [← e.1, ← e.2]
        exact ⟨hj, (ih rest).1 hrest⟩
      · rintro ⟨hi, his⟩
        exact ⟨i, hi, is, (ih is).2 his, rfl⟩

theorem splice_eq (L : Nat) (x p q : List Nat) (hx : L ≤ x.length) (hp : p.length = L)
    (h : (x.take L).map some ++ [none, none] ++ (x.drop L).map some =
      p.map some ++ [none, none] ++ q.map some) : x = p ++ q := by
  rw [List.append_assoc, List.append_assoc] at h
  obtain ⟨e1, e2⟩ := List.append_inj h
    (by rw [List.length_map, List.length_map, List.length_take, Nat.min_eq_left hx, hp])
  have inj : Function.Injective (some : Nat → Option Nat) := fun _ _ h => Option.some.inj h
  rw [← List.take_append_drop L x, List.map_injective_iff.2 inj e1,
    List.map_injective_iff.2 inj (List.append_cancel_left e2)]

/-- **planes_yx**: the planes are in one-to-one correspondence with the index vectors of the
other axes (`ndindex_mem`): no plane is produced twice, and the plane of index vector `p ++ q`
(`p` over the leading, `q` over the trailing axes) is `p ++ [Y, X] ++ q`. -/
theorem planesYX_nodup (lead trail : List Nat) : (planesYX lead trail).Nodup := by
  refine (List.nodup_map_iff_inj_on (ndindex_nodup _)).2 fun x hx y hy hxy => ?_
  have lx := ndindex_length _ _ hx
  have ly := ndindex_length _ _ hy
  rw [List.length_append] at lx ly
  rw [splice_eq lead.length x (y.take lead.length) (y.drop lead.length) (by omega)
    (by rw [List.length_take]; omega) hxy, List.take_append_drop]

theorem planesYX_mem (lead trail p q : List Nat) (hp : p.length = lead.length) :
    (p.map some ++ [none, none] ++ q.map some) ∈ planesYX lead trail ↔ (p ++ q) ∈ ndindex (lead ++ trail) := by
  constructor
  · intro h
    obtain ⟨idx, hidx, he⟩ := List.mem_map.1 h
    have hl := ndindex_length _ _ hidx
    rw [List.length_append] at hl
    rw [← splice_eq lead.length idx p q (by omega) hp he]
    exact hidx
  · intro h
    refine List.mem_map.2 ⟨p ++ q, h, ?_⟩
    rw [← hp, List.take_left' rfl, List.drop_left' rfl]

end OdcGeo.C04
