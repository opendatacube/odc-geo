/-
C05 ∘ C06 ∘ C18 — the S3 variant of `Props/C06Cog.lean::cog_file_end_to_end`:
`save_cog_with_dask(..., dst="s3://…")` = `MultiPartUpload.upload(tiles_write_order, mk_header=_patch_hdr, …)` from the tile
stream to the object the service assembles.  C18's upload model (`Model/C18Up.lean`, read-only) plays the service.
-/
import OdcGeo.Props.C06Cog


namespace OdcGeo.C06
open OdcGeo

/-- **A COG uploaded to S3 through `MultiPartUpload.upload`: every header entry addresses exactly its tile's bytes in the
OBJECT the service assembles.**  `spill_sz ≠ 0` (the upload has a writer: S3 limits 5 MiB / parts 1 … 10000), at most
9999 part numbers needed, any cutting of the `writeOrder` tile stream into bags and partitions: the run succeeds, `_patch_hdr`
succeeds, no `upload_part` / `complete` call fails against a service that demands 5 MiB of every part but the last,
ascending part order and known parts, exactly ONE multipart upload is initiated, and the completed object is
header ++ tiles with every patched `(off, size)` entry pointing at its tile. -/
theorem cog_s3_end_to_end (spill wpc : Nat) (bags : List (List (List (List Nat × Int))))
    (mkHdr : Option (List (Nat × Int) → List Nat)) (hs : spill ≠ 0)
    (hb : bags ≠ []) (hp : ∀ b ∈ bags, b ≠ []) (hc : ∀ b ∈ bags, ∀ p ∈ b, p ≠ [])
    (hcap : 1 + 1 + bags.flatten.length * wpc ≤ 10000 + 1)
    (hdrSz : Nat) (hH : (optBytes (mkHdr.map (fun f => f (bagsObs bags)))).length = hdrSz)
    (m0 : C05.Meta) (rest : List C05.Meta) (hpl : ∀ m ∈ rest, m.planes = m0.planes)
    (hcount : (bagsChunks bags).length = (C05.writeOrder (m0 :: rest)).length) :
    let ms := m0 :: rest
    let tiles := List.zipWith C05.obsOf (C05.writeOrder ms) ((bagsChunks bags).map List.length)
    ∃ wsF fp wsAll info,
      mpuWrite (C18.uploadWriter spill) spill wpc bags mkHdr none = some (.ok (.written wsF fp, wsAll, bagsObs bags)) ∧
      C05.patchHdr ms tiles hdrSz = .ok info ∧
      (C18.Up.runWrites {} (wsAll.map (fun p => (p.id, p.data)))).2 = none ∧
      (C18.Up.finalise (5 * 1024 * 1024) (C18.Up.runWrites {} (wsAll.map (fun p => (p.id, p.data)))).1 (fp.map (·.id))).2 = none ∧
      (C18.Up.finalise (5 * 1024 * 1024) (C18.Up.runWrites {} (wsAll.map (fun p => (p.id, p.data)))).1 (fp.map (·.id))).1.creates = 1 ∧
      (C18.Up.finalise (5 * 1024 * 1024) (C18.Up.runWrites {} (wsAll.map (fun p => (p.id, p.data)))).1 (fp.map (·.id))).1.object =
        some (optBytes (mkHdr.map (fun f => f (bagsObs bags))) ++ bagsBytes bags) ∧
      ∀ obj, (C18.Up.finalise (5 * 1024 * 1024) (C18.Up.runWrites {} (wsAll.map (fun p => (p.id, p.data)))).1
                (fp.map (·.id))).1.object = some obj →
        ∀ i (hi : i < tiles.length) (hci : i < (bagsChunks bags).length), tiles[i].sz ≠ 0 →
          ∃ l f off, C05.obsKey ms tiles[i] = .ok (l, f) ∧ C05.look info l f = some (off, tiles[i].sz) ∧
            (obj.drop off).take tiles[i].sz = (bagsChunks bags)[i] := by
  intro ms tiles
  have hW : C18.uploadWriter spill = some C18.s3Writer := by simp [C18.uploadWriter, hs]
  obtain ⟨t, wsF, fp, wsAll, info, ht, hne, hleaves, hobs, hbytes, hrun, hpatch, hx, haddr⟩ :=
    cog_header_addresses_assembled_parts C18.s3Writer spill wpc bags mkHdr hb hp hc
      hcap hdrSz hH m0 rest hpl hcount
  obtain ⟨wsF', fp', wsAll', hrun', _, hs1, hs2, hs3, hs4, _⟩ :=
    C18.mpu_upload_to_s3 spill wpc t mkHdr none hs hne (by rw [hleaves]; exact hcap)
  rw [hW] at hrun'
  have hsame := hrun.symm.trans hrun'
  simp only [Except.ok.injEq, Prod.mk.injEq, Out.written.injEq] at hsame
  obtain ⟨⟨-, rfl⟩, rfl, -⟩ := hsame
  have hobj : (C18.Up.finalise (5 * 1024 * 1024) (C18.Up.runWrites {} (wsAll.map (fun p => (p.id, p.data)))).1
      (fp.map (·.id))).1.object = some (optBytes (mkHdr.map (fun f => f (bagsObs bags))) ++ bagsBytes bags) := by
    rw [hs3, hobs, hbytes]
    exact congrArg some (List.append_nil _)
  refine ⟨wsF, fp, wsAll, info, ?_, hpatch, hs1, hs2, hs4, hobj, ?_⟩
  · rw [mpuWrite_eq_run hb ht, hW]; exact congrArg some hrun
  · intro obj hobj' i hi hci hnz
    obtain rfl : partsBytes fp = obj := hx.trans (Option.some.inj (hobj.symm.trans hobj'))
    exact haddr i hi hci hnz

/-- non-vacuity: `hcap` for 4 partitions × 2 writes; a non-zero `spill_sz` gives the S3 writer -/
example : (1 + 1 + 4 * 2 ≤ 10000 + 1) ∧ C18.uploadWriter 20 = some C18.s3Writer := by decide

end OdcGeo.C06
