/- C07 — theorems about the option paths of `Geometry.to_crs` and their public users
(`Model/C07Fix.lean`): `_multigeom`, `clip_lon180` with its `Multi*` branch (as found: `_cex`; repaired:
`clipLon180R_spec`), `Geometry.filter` / `dropna`, `maybe_fix`, the full `to_crs` (`toCrsAll`) on its plain
path and on collections under `wrapdateline`, `lonlat_bounds`' wrap rule, `Geometry.geojson`,
`projected_lon`, `chop_along_antimeridian`, `Geometry(dict)`. -/
import OdcGeo.Model.C07Fix
import OdcGeo.Lemmas.C07FixStruct
import OdcGeo.Props.C07

namespace OdcGeo.C07
set_option linter.unusedSectionVars false

variable {K : Type} [Field K] [LinearOrder K] [IsStrictOrderedRing K]

/-- `multigeom([])` / `_multigeom([])`: `set().pop()` -/
theorem multigeom_empty_keyError : multigeomRaw ([] : List (Geom K)) = .error .keyError := rfl

/-- **As found (repaired by fix2-C07)**: `clip_lon180` — the last step of `to_crs(…, wrapdateline=True)` into a
geographic CRS — fails with `KeyError` on every empty `Multi*` geometry, although the same geometry
converts without the option; the repaired dispatch hands the empty geometry back. -/
theorem clipLon180_asfound_empty_multi_cex (c180 tol : K) :
    clipLon180AsFound c180 tol (.multiPolygon []) = .error .keyError ∧
    clipLon180AsFound c180 tol (.multiLineString []) = .error .keyError ∧
    clipLon180AsFound c180 tol (.multiPoint []) = .error .keyError ∧
    clipLon180R c180 tol (.multiPolygon []) = .ok (.multiPolygon []) ∧
    clipLon180R c180 tol (.multiLineString []) = .ok (.multiLineString []) ∧
    clipLon180R c180 tol (.multiPoint []) = .ok (.multiPoint []) :=
  ⟨rfl, rfl, rfl, rfl, rfl, rfl⟩

/-- **Dispatch of `clip_lon180`**: only `Multi*` geometries are taken apart and re-assembled; a
point, line, ring, polygon and **every `GeometryCollection`** — homogeneous, single member, mixed,
nested, empty — goes through `geom.transform(transformer)`, which keeps the container. -/
theorem clipLon180R_of_not_multi (c180 tol : K) (g : Geom K) (h : isMultiName g = false) :
    clipLon180R c180 tol g = .ok (clipLon180 c180 tol g) :=
  if_neg (by rw [h]; exact Bool.false_ne_true)

/-- what shapely's constructors guarantee of a `Multi*` geometry: parts of the one kind, none of them empty
(one read from WKT can hold an empty part: `MULTIPOLYGON (EMPTY, ((0 0, 1 0, 1 1, 0 0)))`) -/
def WFMulti : Geom K → Prop
  | .multiLineString gs => ∀ g ∈ gs, ∃ cs, g = .lineString cs ∧ cs ≠ []
  | .multiPolygon gs => ∀ g ∈ gs, ∃ ext holes, g = .polygon ext holes ∧ ext ≠ []
  | _ => True

/-- **`clip_lon180`, repaired, on every geometry shapely's constructors build** (`WFMulti`): the result is the per-sequence
clip of `Model/C07.lean` (`clipLon180`: latitudes untouched, longitudes kept or moved to ±180 on one
side per sequence) — also through the `Multi*` branch, whose `multigeom` re-assembly gives back the
same container with the same parts; geometry type and ring / part structure are preserved. -/
theorem clipLon180R_spec (c180 tol : K) (g : Geom K) (hwf : WFMulti g) :
    clipLon180R c180 tol g = .ok (clipLon180 c180 tol g) ∧
    skel (clipLon180 c180 tol g) = skel g := by
  refine ⟨?_, by unfold clipLon180; exact skel_mapRings _ _⟩
  -- a `Multi*` with parts: `multigeom` of the clipped parts is the `Multi*` of the clipped parts
  have multi := multigeomRaw_map_mapRings _ (clipRing_length c180 (c180 - tol))
  cases g with
  | multiPoint ps =>
    cases ps with
    | nil => rfl
    | cons p ps =>
      have h := multi .point (.point p) (ps.map Geom.point) fun g hg => by
        obtain ⟨q, _, rfl⟩ := List.mem_map.mp (show g ∈ (p :: ps).map Geom.point from hg)
        exact ⟨rfl, trivial⟩
      rw [← List.map_cons, assemble, pointsOf_map_mapRings] at h
      unfold clipLon180R
      rw [if_pos (by rfl)]
      exact h
  | multiLineString gs =>
    cases gs with
    | nil => rfl
    | cons a rest =>
      have hp : ∀ g ∈ a :: rest, kind g = .lineString ∧ IsPart g := fun g hg => by
        obtain ⟨_, rfl, h⟩ := hwf g hg; exact ⟨rfl, h⟩
      obtain ⟨cs, rfl, hcs⟩ := hwf a (List.mem_cons_self ..)
      unfold clipLon180R
      rw [show isEmpty (Geom.multiLineString (.lineString cs :: rest)) = false from
        congrArg (· && allEmpty rest) (isEmpty_eq_false_of_length rfl hcs), if_pos (by rfl)]
      show _ = Except.ok (Geom.multiLineString (mapRingsList _ _))
      rw [mapRingsList_eq_map]
      exact multi .lineString _ rest hp
  | multiPolygon gs =>
    cases gs with
    | nil => rfl
    | cons a rest =>
      have hp : ∀ g ∈ a :: rest, kind g = .polygon ∧ IsPart g := fun g hg => by
        obtain ⟨_, _, rfl, h⟩ := hwf g hg; exact ⟨rfl, h⟩
      obtain ⟨ext, holes, rfl, hext⟩ := hwf a (List.mem_cons_self ..)
      unfold clipLon180R
      rw [show isEmpty (Geom.multiPolygon (.polygon ext holes :: rest)) = false from
        congrArg (· && allEmpty rest) (isEmpty_eq_false_of_length rfl hext), if_pos (by rfl)]
      show _ = Except.ok (Geom.multiPolygon (mapRingsList _ _))
      rw [mapRingsList_eq_map]
      exact multi .polygon _ rest hp
  | _ => exact clipLon180R_of_not_multi _ _ _ rfl

example : WFMulti (.multiPolygon [.polygon [⟨0, 0⟩, ⟨1, 0⟩, ⟨1, 1⟩, ⟨0, 0⟩] []] : Geom Rat) := by
  intro g hg; simp at hg; exact ⟨_, _, hg, by simp⟩

/-- `maybe_fix` does nothing unless `check_and_fix=True` **and** the projected geometry is invalid -/
theorem maybeFix_noop [DecidableEq K] (caf : Bool) (isValid : Geom K → Bool) (buffer0 : Geom K → Geom K)
    (finite : Pt K → Bool) (g : Geom K) (h : caf = false ∨ isValid g = true) :
    maybeFix caf isValid buffer0 finite g = .ok (.geom g) := by
  rcases h with h | h <;> simp [maybeFix, h]

/-- **Without `wrapdateline` (or into a projected CRS) and without `check_and_fix`, the full `to_crs`
is the `to_crs` of `Model/C07.lean`** (identity on equal CRS, error without CRS, `proj` vertex by vertex on
the optionally densified geometry) — whatever the geometry kind. -/
theorem toCrsAll_plain [DecidableEq K] (E : Env K) (proj : C01.CrsRec → C01.CrsRec → Pt K → Pt K) (autoRes : Geom K → K)
    (hit : Geom K → Bool) (split : Geom K → List (Geom K)) (isValid : Geom K → Bool)
    (buffer0 : Geom K → Geom K) (finite : Pt K → Bool) (c180 eps : K)
    (g : Tagged K) (target : C01.Tag) (geographic wd : Bool) (res : Resolution K)
    (h : wd = false ∨ geographic = false) :
    toCrsAll E proj autoRes hit split isValid buffer0 finite c180 eps g target geographic res wd false
      = match toCrs E proj autoRes g target res with
        | .error e => .error (.base e)
        | .ok t => .ok (t.crs, .geom t.geom) := by
  have hw : (wd && geographic) = false := by rcases h with h | h <;> simp [h]
  obtain ⟨crs, geom⟩ := g
  cases target with
  | none => rfl
  | some t =>
    by_cases he : C01.tagEq crs (some t) = true
    · rw [to_crs_same_is_identity E proj autoRes _ t res he]
      exact if_pos he
    · cases crs with
      | none => rfl
      | some s =>
        have hne : C01.tagEq (some s) (some t) = false := by simpa using he
        rw [toCrsAll, toCrsAllWith_plain _ E proj autoRes hit split isValid buffer0 finite s t geom geographic res
          wd hw hne, toCrs_of_ne E proj autoRes s t geom res hne]

/-- `check_and_fix=True` changes nothing when shapely finds the projected geometry valid -/
theorem toCrsAll_fix_noop_of_valid [DecidableEq K] (E : Env K) (proj : C01.CrsRec → C01.CrsRec → Pt K → Pt K)
    (autoRes : Geom K → K) (hit : Geom K → Bool) (split : Geom K → List (Geom K)) (isValid : Geom K → Bool)
    (buffer0 : Geom K → Geom K) (finite : Pt K → Bool) (c180 eps : K)
    (g : Tagged K) (target : C01.Tag) (geographic wd : Bool) (res : Resolution K)
    (hv : ∀ x, isValid x = true) :
    toCrsAll E proj autoRes hit split isValid buffer0 finite c180 eps g target geographic res wd true
      = toCrsAll E proj autoRes hit split isValid buffer0 finite c180 eps g target geographic res wd false := by
  unfold toCrsAll toCrsAllWith
  simp only [maybeFix_noop _ isValid buffer0 finite _ (.inr (hv _))]

/-- **`wrapdateline=True` into a geographic CRS keeps geometry type and part structure of every
`GeometryCollection`** (homogeneous, single member, mixed, nested …) that does not meet the
antimeridian: the result is `clip_lon180` of the vertex-wise projection, a collection with the same
members. -/
theorem toCrsAll_wrapdateline_collection [DecidableEq K] (E : Env K) (proj : C01.CrsRec → C01.CrsRec → Pt K → Pt K)
    (autoRes : Geom K → K) (hit : Geom K → Bool) (split : Geom K → List (Geom K)) (isValid : Geom K → Bool)
    (buffer0 : Geom K → Geom K) (finite : Pt K → Bool) (c180 eps : K) (s t : C01.CrsRec) (gs : List (Geom K))
    (hne : C01.tagEq (some s) (some t) = false) (hh : hit (.collection gs) = false) :
    toCrsAll E proj autoRes hit split isValid buffer0 finite c180 eps ⟨some s, .collection gs⟩ (some t) true .none true false
      = .ok (some t, .geom (clipLon180 c180 eps (mapPts (proj s t) (.collection gs)))) ∧
    skel (clipLon180 c180 eps (mapPts (proj s t) (.collection gs))) = skel (.collection gs) := by
  constructor
  · simp only [toCrsAll, toCrsAllWith, hne, Bool.false_eq_true, if_false, Bool.and_self, if_true, chopAlong, hh,
      maybeFix, Bool.not_false, Bool.true_or, clipFiltered, mapPts]
    rw [clipLon180R_of_not_multi c180 eps _ rfl]
  · unfold clipLon180; rw [skel_mapRings, skel_mapPts]

/-- **A `GeometryCollection` is rendered member by member with the same options** — the same
`resolution`, `wrapdateline` and `simplify` reach every member, at every nesting depth. -/
theorem geojson_collection_spec [DecidableEq K] (o : GJOpts K) (crs : C01.Tag) (gs : List (Geom K)) (j : GJ K)
    (h : geojson o crs (.collection gs) = .ok j) :
    ∃ fs, j = .fc fs ∧ List.Forall₂ (fun g f => geojson o crs g = .ok f) gs fs := by
  rw [geojson] at h
  cases hl : geojsonList o crs gs with
  | error e => rw [hl] at h; cases h
  | ok fs => rw [hl] at h; cases h; exact ⟨fs, rfl, geojsonList_ok o crs gs fs hl⟩

/-- everything that is not a `GeometryCollection` is one Feature: `to_crs("epsg:4326", resolution, wrapdateline)` -/
theorem geojson_of_noncollection [DecidableEq K] (o : GJOpts K) (crs : C01.Tag) (g : Geom K)
    (h : kind g ≠ .collection) : geojson o crs g = geojsonLeaf o crs g := by
  cases g <;> first | rfl | exact absurd rfl h

/-- **Densification requested through `geojson(resolution=r)` reaches the rendered geometry**: a
member with a CRS other than EPSG:4326 is rendered as the vertex-wise projection of
`member.segmented(r)` — every edge of every ring of the member is `≤ r` before projecting. -/
theorem geojson_leaf_densified [DecidableEq K] (o : GJOpts K) (s : C01.CrsRec) (g : Geom K) (r : K) (hr : 0 < r)
    (hres : o.res = .val r) (hwd : o.wrapdateline = false)
    (hne : C01.tagEq (some s) (some o.t4326) = false) (j : GJ K)
    (h : geojsonLeaf o (some s) g = .ok j) (hE : ∀ c ∈ rings g, CoordsOk o.E r c) :
    ∃ d, segmentize o.E r g = .ok d ∧ j = .feature (.geom (o.simp (mapPts (o.proj s o.t4326) d))) ∧
      (∀ c ∈ rings d, GapsLe r c) ∧ skel d = skel g := by
  unfold geojsonLeaf at h
  dsimp only at h
  rw [toCrsAllWith_plain _ _ _ _ _ _ _ _ _ s o.t4326 g true o.res o.wrapdateline (by rw [hwd]; rfl) hne, hres,
    densified_val_pos o.E o.autoRes r hr] at h
  cases h
  have hseg := segmentize_of_pos o.E (not_le.mpr hr) g
  exact ⟨_, hseg, rfl, segmented_gap_le o.E r g _ hseg hE, skel_mapRings _ g⟩

/-- over the reals (shapely's length = the Euclidean length) no hypothesis on shapely is left:
**every member rendered by `geojson(resolution=r)` is the projection of a geometry none of whose
edges is longer than `r`** -/
theorem geojson_leaf_densified_real (o : GJOpts ℝ) (hEnv : o.E = envReal) (s : C01.CrsRec) (g : Geom ℝ) (r : ℝ)
    (hr : 0 < r) (hres : o.res = .val r) (hwd : o.wrapdateline = false)
    (hne : C01.tagEq (some s) (some o.t4326) = false) (j : GJ ℝ) (h : geojsonLeaf o (some s) g = .ok j) :
    ∃ d, segmentize envReal r g = .ok d ∧ j = .feature (.geom (o.simp (mapPts (o.proj s o.t4326) d))) ∧
      (∀ c ∈ rings d, GapsLe r c) ∧ skel d = skel g := by
  have := geojson_leaf_densified o s g r hr hres hwd hne j h (by rw [hEnv]; exact fun c _ => envReal_coordsOk r hr c)
  rw [hEnv] at this
  exact this

example : C01.tagEq (some ⟨1, 3857, 1, 1⟩) (some ⟨2, 4326, 2, 2⟩) = false := by decide

/-- the longitude range `lonlat_bounds` returns is a proper range (`BoundingBox.from_xy` sorts it) -/
theorem lonlatWrap_sorted (safe : Bool) (c180 c360 x0 x1 : K) :
    (lonlatWrap safe c180 c360 x0 x1).1 ≤ (lonlatWrap safe c180 c360 x0 x1).2 :=
  minK_le_maxK _ _

/-- `mode="quick"`: the range of the converted bounding box as it is -/
theorem lonlatWrap_quick (c180 c360 x0 x1 : K) (h : x0 ≤ x1) :
    lonlatWrap false c180 c360 x0 x1 = (x0, x1) := by
  unfold lonlatWrap
  simp only [Bool.false_and, Bool.false_eq_true, if_false]
  rw [(minK_maxK_sorted x0 x1 h).1, (minK_maxK_sorted x0 x1 h).2]

/-- `mode="safe"` leaves a range of at most 180° alone -/
theorem lonlatWrap_narrow (c180 c360 x0 x1 : K) (h : x0 ≤ x1) (hs : x1 - x0 ≤ c180) :
    lonlatWrap true c180 c360 x0 x1 = (x0, x1) := by
  unfold lonlatWrap
  simp only [Bool.true_and, decide_eq_true_eq, not_lt.mpr hs, if_false]
  rw [(minK_maxK_sorted x0 x1 h).1, (minK_maxK_sorted x0 x1 h).2]

/-- **`mode="safe"` never widens the range, and both ends are longitudes of the converted box up to
one full turn**: the re-reading (negative longitudes + 360°) is kept only when it is strictly
narrower. -/
theorem lonlatWrap_safe_spec (c180 c360 x0 x1 : K) (h : x0 ≤ x1) (r : K × K)
    (hr : lonlatWrap true c180 c360 x0 x1 = r) :
    r.2 - r.1 ≤ x1 - x0 ∧
    (r.1 = x0 ∨ r.1 = x1 ∨ r.1 = x0 + c360 ∨ r.1 = x1 + c360) ∧
    (r.2 = x0 ∨ r.2 = x1 ∨ r.2 = x0 + c360 ∨ r.2 = x1 + c360) := by
  subst hr
  rcases lonlatWrap_safe_cases c180 c360 x0 x1 h with e | ⟨a, b, ha, hb, hn, e⟩
  · rw [e]; exact ⟨le_refl _, .inl rfl, .inr (.inl rfl)⟩
  · rw [e]
    have Pa : a = x0 ∨ a = x1 ∨ a = x0 + c360 ∨ a = x1 + c360 :=
      ha.elim (fun e => .inr (.inr (.inl e))) .inl
    have Pb : b = x0 ∨ b = x1 ∨ b = x0 + c360 ∨ b = x1 + c360 :=
      hb.elim (fun e => .inr (.inr (.inr e))) (fun e => .inr (.inl e))
    -- the smaller and the larger of `a`, `b` are each one of them
    refine ⟨hn.le, ?_, ?_⟩
    · unfold minK; split <;> assumption
    · unfold maxK; split <;> assumption

example : lonlatWrap true (180 : Rat) 360 (-179) 179 = (179, 181) := by decide +kernel
example : lonlatWrap false (180 : Rat) 360 (-179) 179 = (-179, 179) := by decide +kernel
example : lonlatWrap true (180 : Rat) 360 (-100) 100 = (100, 260) := by decide +kernel

/-- `lonlat_bounds` refuses a geometry without CRS and hands back the plain bounding box of a
geometry that already is in a geographic CRS (no densification, no conversion, no wrap logic) -/
theorem lonlatBounds_entry [DecidableEq K] (E : Env K) (proj : C01.CrsRec → C01.CrsRec → Pt K → Pt K) (autoRes : Geom K → K)
    (isValid : Geom K → Bool) (buffer0 : Geom K → Geom K) (finite : Pt K → Bool) (c180 c360 : K)
    (t4326 : C01.CrsRec) (geom : Geom K) (geographic safe : Bool) (res : Resolution K) :
    lonlatBounds E proj autoRes isValid buffer0 finite c180 c360 t4326 ⟨none, geom⟩ geographic safe res
      = .error (.base .valueError) ∧
    ∀ s, lonlatBounds E proj autoRes isValid buffer0 finite c180 c360 t4326 ⟨some s, geom⟩ true safe res
      = .ok (some s, boundsOf (shellVertices geom)) :=
  ⟨rfl, fun _ => rfl⟩

theorem closeRing_error_iff [DecidableEq K] (cs : List (Pt K)) :
    (∃ e, closeRing cs = .error e) ↔ (cs.length = 1 ∨ cs.length = 2) := by
  cases cs with
  | nil => simp [closeRing]
  | cons p rest =>
    rw [closeRing, List.length_cons]
    by_cases h1 : rest.length + 1 < 3
    · rw [if_pos h1]
      exact ⟨fun _ => by omega, fun _ => ⟨_, rfl⟩⟩
    · rw [if_neg h1]
      refine ⟨fun ⟨e, he⟩ => ?_, fun h => by omega⟩
      by_cases h2 : rest.length + 1 = 3
      · rw [if_pos h2] at he; cases he
      · rw [if_neg h2] at he; split at he <;> cases he

/-- a ring as shapely holds it (closed, at least 4 coordinates) is constructed unchanged -/
theorem closeRing_closed_id [DecidableEq K] (p : Pt K) (rest : List (Pt K)) (hl : 3 ≤ rest.length)
    (hc : (p :: rest).getLast? = some p) : closeRing (p :: rest) = .ok (p :: rest) := by
  rw [closeRing, if_neg (by omega), if_neg (by omega), if_pos hc]

example : closeRing ([⟨0, 0⟩, ⟨1, 1⟩, ⟨0, 0⟩] : List (Pt Int)) = .ok [⟨0, 0⟩, ⟨1, 1⟩, ⟨0, 0⟩, ⟨0, 0⟩] := by decide
example : ∃ e, closeRing ([⟨0, 0⟩, ⟨1, 1⟩] : List (Pt Int)) = .error e := ⟨_, rfl⟩

/-- **`Geometry.filter` keeps the geometry type** (an empty geometry of that type when nothing is left); its vertices:
the second half of `filterGeom_ok` -/
theorem filter_kind [DecidableEq K] (pred : Pt K → Bool) (g g' : Geom K) (h : filterGeom pred g = .ok (.geom g')) :
    kind g' = kind g :=
  (filterGeom_ok pred g g' h).1

theorem filterList_vertices [DecidableEq K] (pred : Pt K → Bool) :
    ∀ (gs gs' : List (Geom K)), filterList pred gs = .ok gs' →
      ∀ v ∈ verticesList gs', pred v = true ∧ v ∈ verticesList gs :=
  filterList_ok_vertices pred

/-- as found (not repaired; outside the valid areas the property quantifies over): a polygon or ring
of which only one or two vertices survive is a `ValueError` from shapely's ring constructor, and a
polygon whose shell is gone while a hole survives is a `GEOSException` -/
theorem filter_few_left_raises :
    filterGeom (fun p => decide (p.x < 5)) (.polygon [⟨0, 0⟩, ⟨9, 0⟩, ⟨9, 9⟩, ⟨7, 9⟩, ⟨0, 0⟩] [] : Geom Int)
      = .error (.base .valueError) ∧
    filterGeom (fun p => decide (p.x < 5)) (.polygon [⟨6, 0⟩, ⟨9, 0⟩, ⟨9, 9⟩, ⟨6, 0⟩] [[⟨1, 1⟩, ⟨2, 1⟩, ⟨2, 2⟩, ⟨1, 1⟩]] : Geom Int)
      = .error .geos := ⟨rfl, rfl⟩

/-- **`projected_lon`**: the line handed to `intersects` / `split` is either empty or has at least two
vertices, every vertex projected cleanly, and the vertices are images of sampled points of the meridian
in sampling order (nothing invented, nothing reordered) -/
theorem projectedLon_spec (tr : Pt K → Pt K) (finite : Pt K → Bool) (lon : K) (ys : List K) :
    (projectedLon tr finite lon ys = [] ∨ 2 ≤ (projectedLon tr finite lon ys).length) ∧
    (∀ p ∈ projectedLon tr finite lon ys, finite p = true) ∧
    List.Sublist (projectedLon tr finite lon ys) (ys.map (fun y => tr ⟨lon, y⟩)) := by
  unfold projectedLon
  dsimp only
  by_cases h : ((ys.map (fun y => tr ⟨lon, y⟩)).filter finite).length < 2
  · simp [h]
  · simp only [h, if_false]
    refine ⟨Or.inr (by omega), ?_, List.filter_sublist⟩
    intro p hp
    exact (List.mem_filter.mp hp).2

/-- **`chop_along_antimeridian`**: refuses a geometry without CRS; a geometry that does not meet the
projected antimeridian is handed back untouched; one that does is `multigeom` of the pieces of the
split — so a chopped polygon / line comes back as the `Multi*` of its pieces -/
theorem chopFull_spec (l180 : List (Pt K)) (hit : List (Pt K) → Geom K → Bool)
    (split : List (Pt K) → Geom K → List (Geom K)) (g : Geom K) :
    chopFull none l180 hit split g = .error (.base .valueError) ∧
    (∀ c, hit l180 g = false → chopFull (some c) l180 hit split g = .ok g) ∧
    (∀ c, hit l180 g = true → chopFull (some c) l180 hit split g = multigeomRaw (split l180 g)) :=
  ⟨rfl, fun _ h => if_neg (by rw [h]; exact Bool.false_ne_true), fun _ h => if_pos h⟩

/-- the re-assembly of polygon pieces is the MultiPolygon of exactly those pieces, in order -/
theorem multigeom_polygon_pieces (gs : List (Geom K)) (hne : gs ≠ [])
    (hall : ∀ g ∈ gs, ∃ ext holes, g = .polygon ext holes ∧ ext ≠ []) :
    multigeomRaw gs = .ok (.multiPolygon gs) := by
  cases gs with
  | nil => exact absurd rfl hne
  | cons a rest =>
    refine multigeomRaw_uniform .polygon a rest fun g hg => ?_
    obtain ⟨ext, holes, rfl, hext⟩ := hall g hg
    exact ⟨rfl, isEmpty_eq_false_of_length rfl hext⟩

/-- **`Geometry(dict)`**: a Feature is its geometry; a FeatureCollection with exactly one feature is
that feature's geometry (not a one-member multi-geometry); any other number of features goes through
`_multigeom` — none at all is a `KeyError`; a dict without `"type"` is refused -/
theorem geojsonToShape_spec (g : Geom K) (fs : List (Geom K)) :
    geojsonToShape (.feature g) = .ok g ∧ geojsonToShape (.geometry g) = .ok g ∧
    geojsonToShape (.featureCollection [g]) = .ok g ∧
    geojsonToShape (.featureCollection ([] : List (Geom K))) = .error .keyError ∧
    geojsonToShape (GJIn.noType : GJIn K) = .error (.base .valueError) ∧
    (fs.length ≠ 1 → geojsonToShape (.featureCollection fs) = multigeomRaw fs) := by
  refine ⟨rfl, rfl, rfl, rfl, rfl, ?_⟩
  intro h
  cases fs with
  | nil => rfl
  | cons a rest =>
    cases rest with
    | nil => exact absurd rfl h
    | cons b rest => rfl

end OdcGeo.C07
