/-
C03 — coverage on the cross-CRS branch for STRICTLY monotone separable pixel transforms with ANY padding ≥ 0
(padding 0 included), its instance for transforms that are affine in each axis (lon/lat ↔ plate carrée /
equirectangular scalings between axis-aligned grids), and the non-partial coverage theorem from the public inputs of
`compute_reproject_roi` for separable monotone transformers.  No envelope hypothesis anywhere.
-/
import OdcGeo.Props.C03Sep
import OdcGeo.Props.C03Top
namespace OdcGeo.C03
open OdcGeo.C17

def StrictMonoOrAnti (f : Rat → Rat) : Prop := (∀ a b, a < b → f a < f b) ∨ (∀ a b, a < b → f b < f a)

theorem StrictMonoOrAnti.mono {f : Rat → Rat} (h : StrictMonoOrAnti f) : MonoOrAnti f :=
  h.imp (fun h _ _ hab => hab.eq_or_lt.elim (fun he => he ▸ le_rfl) fun hl => (h _ _ hl).le)
    (fun h _ _ hab => hab.eq_or_lt.elim (fun he => he ▸ le_rfl) fun hl => (h _ _ hl).le)

theorem strict_between {f : Rat → Rat} (h : StrictMonoOrAnti f) {a b u : Rat} (h1 : a < u) (h2 : u < b) :
    f u < f a ∨ f u < f b :=
  h.elim (fun h => Or.inr (h _ _ h2)) (fun h => Or.inl (h _ _ h1))

theorem sep_inEnvStrict0 (f g : Rat → Rat) (hf : StrictMonoOrAnti f) (hg : StrictMonoOrAnti g) {pps : Nat} (hpps : 2 ≤ pps)
    (rect : ROI) (p : Rat × Rat) (pad : Int) (hpad : 0 ≤ pad)
    (hx : (rect.2.start : Rat) < p.1 ∧ p.1 < rect.2.stop) (hy : (rect.1.start : Rat) < p.2 ∧ p.2 < rect.1.stop) :
    InEnvStrict (finitePts ((roiBoundary rect pps).map (sepTr f g))) (f p.1, g p.2) pad := by
  have hc := sep_inEnvClosed f g hf.mono hg.mono hpps rect p ⟨hx.1.le, hx.2.le⟩ ⟨hy.1.le, hy.2.le⟩
  rw [finitePts_sepTr] at hc ⊢
  obtain ⟨c00, c10, -, c01⟩ := roi_boundary_corners rect pps hpps
  have hp : (0 : Rat) ≤ pad := by exact_mod_cast hpad
  have lo : ∀ {x y : Rat}, x ≤ y → x - pad ≤ y := fun h => sub_le_iff_le_add.mpr (le_add_of_le_of_nonneg h hp)
  have up : ∀ {x y : Rat}, x < y → x < y + pad := fun h => lt_add_of_lt_of_nonneg h hp
  exact ⟨hc.xlo.imp fun _ h => ⟨h.1, lo h.2⟩,
    (strict_between hf hx.1 hx.2).elim (⟨_, List.mem_map_of_mem c00, up ·⟩) (⟨_, List.mem_map_of_mem c10, up ·⟩),
    hc.ylo.imp fun _ h => ⟨h.1, lo h.2⟩,
    (strict_between hg hy.1 hy.2).elim (⟨_, List.mem_map_of_mem c00, up ·⟩) (⟨_, List.mem_map_of_mem c01, up ·⟩)⟩

theorem strict_affine (a c : Rat) (ha : a ≠ 0) : StrictMonoOrAnti (fun x => a * x + c) :=
  (lt_or_gt_of_ne ha).symm.imp (fun h _ _ hxy => add_lt_add_left (mul_lt_mul_of_pos_left hxy h) c)
    (fun h _ _ hxy => add_lt_add_left (mul_lt_mul_of_neg_left hxy h) c)

/-- **Axis-wise affine pixel transforms** — lon/lat ↔ plate carrée / equirectangular scalings between axis-aligned
grids, mirrored axes included: `back = (a x + c, e y + k)` with `a, e ≠ 0`, `fwd` its inverse.  Coverage holds for every
padding ≥ 0 and every alignment: no envelope hypothesis, no padding assumption. -/
theorem affine_axes_covers (src dst : Shape) (a c e k : Rat) (ha : a ≠ 0) (he : e ≠ 0)
    (pad : Int) (hpad : 0 ≤ pad) (al : Option Int) (hal : ∀ v, al = some v → 0 < v)
    (dy dx : Int) (hdy : 0 ≤ dy ∧ dy < dst.1) (hdx : 0 ≤ dx ∧ dx < dst.2)
    (hqx : 0 ≤ a * ((dx : Rat) + 1 / 2) + c ∧ a * ((dx : Rat) + 1 / 2) + c < src.2)
    (hqy : 0 ≤ e * ((dy : Rat) + 1 / 2) + k ∧ e * ((dy : Rat) + 1 / 2) + k < src.1) :
    let r := relativeRois src dst (sepTr (fun x => a * x + c) (fun y => e * y + k))
      (sepTr (fun x => (1 / a) * x + -(c / a)) (fun y => (1 / e) * y + -(k / e))) 5 pad al
    (r.2.1.start ≤ dy ∧ dy < r.2.1.stop) ∧ (r.2.2.start ≤ dx ∧ dx < r.2.2.stop) ∧
    (r.1.2.start ≤ (a * ((dx : Rat) + 1 / 2) + c).floor ∧ (a * ((dx : Rat) + 1 / 2) + c).floor < r.1.2.stop) ∧
    (r.1.1.start ≤ (e * ((dy : Rat) + 1 / 2) + k).floor ∧ (e * ((dy : Rat) + 1 / 2) + k).floor < r.1.1.stop) := by
  obtain ⟨hx, hy⟩ := centre_in_rect hdy hdx
  have hinv : ∀ {a c : Rat} (x : Rat), a ≠ 0 → 1 / a * (a * x + c) + -(c / a) = x := fun x ha => by
    field_simp
    ring
  exact separable_covers src dst _ _ _ _ (monoOrAnti_affine (1 / a) _) (monoOrAnti_affine (1 / e) _)
    (by decide) pad al hal dy dx hdy hdx (hinv _ ha) (hinv _ he) ⟨hqx, hqy⟩
    (sep_inEnvStrict0 _ _ (strict_affine a c ha) (strict_affine e k he) (by decide) _ (_, _) pad hpad hx hy)

/-- `top_gbx_covers` with the column maps and the row maps asked to undo each other at the pixel centre only: a grid whose
lon/lat clamp is active somewhere (there no map undoes it) qualifies at every pixel where it is not. -/
theorem top_gbx_covers_at {src dst : Side} {crsEq : Bool} {uF vF uB vB : Rat → Rat} {n : Rat}
    {scaleAt : Rat × Rat → Rat × Rat} {ttol stol : Rat} {padding align : Option Int} {p : Plan}
    (hc : ¬ (src.isGeoBox = true ∧ dst.isGeoBox = true ∧ crsEq = true)) (hD : dst.aff.det ≠ 0)
    (hsa : src.aff.b = 0 ∧ src.aff.d = 0) (hda : dst.aff.b = 0 ∧ dst.aff.d = 0)
    (huF : MonoOrAnti uF) (hvF : MonoOrAnti vF) (huB : MonoOrAnti uB) (hvB : MonoOrAnti vB)
    (h : computeReprojectRoi src dst crsEq (sepProj uF vF) (sepProj uB vB) n scaleAt ttol stol padding align = .ok p)
    (hpad : ∀ k, padding = some k → 1 ≤ k) (hal : ∀ a, align = some a → 0 ≤ a)
    {dy dx : Int} (hdy : 0 ≤ dy ∧ dy < dst.shape.1) (hdx : 0 ≤ dx ∧ dx < dst.shape.2)
    (hinvx : gbxAxisX src.aff dst.aff.inv src.geographic uF
      (gbxAxisX dst.aff src.aff.inv dst.geographic uB ((dx : Rat) + 1 / 2)) = (dx : Rat) + 1 / 2)
    (hinvy : gbxAxisY src.aff dst.aff.inv src.geographic vF
      (gbxAxisY dst.aff src.aff.inv dst.geographic vB ((dy : Rat) + 1 / 2)) = (dy : Rat) + 1 / 2)
    (hq : InImage (gbxAxisX dst.aff src.aff.inv dst.geographic uB ((dx : Rat) + 1 / 2),
      gbxAxisY dst.aff src.aff.inv dst.geographic vB ((dy : Rat) + 1 / 2)) src.shape) :
    Covers (p.roiSrc, p.roiDst) dy dx (gbxAxisX dst.aff src.aff.inv dst.geographic uB ((dx : Rat) + 1 / 2),
      gbxAxisY dst.aff src.aff.inv dst.geographic vB ((dy : Rat) + 1 / 2)) := by
  have hr := top_gbx_rois hc hD h
  rw [gbx_axes dst.aff src.aff.inv dst.geographic uB vB hda (Aff.inv_of_st hsa.1 hsa.2),
      gbx_axes src.aff dst.aff.inv src.geographic uF vF hsa (Aff.inv_of_st hda.1 hda.2)] at hr
  obtain ⟨hx, hy⟩ := centre_in_rect hdy hdx
  -- the arguments of the `…_mono` lemmas are written out: left as `_` the unifier unfolds the axis maps, which is slow
  have c := separable_covers src.shape dst.shape _ _ _ _
    (gbxAxisX_mono src.aff dst.aff.inv src.geographic uF huF) (gbxAxisY_mono src.aff dst.aff.inv src.geographic vF hvF)
    (pps := 5) (by decide) (padOr1 padding) (normAlign align) (normAlign_pos hal) dy dx hdy hdx hinvx hinvy hq
    ((sep_inEnvClosed _ _ (gbxAxisX_mono dst.aff src.aff.inv dst.geographic uB huB)
      (gbxAxisY_mono dst.aff src.aff.inv dst.geographic vB hvB) (by decide) (⟨0, dst.shape.1⟩, ⟨0, dst.shape.2⟩)
      ((dx : Rat) + 1 / 2, (dy : Rat) + 1 / 2) ⟨hx.1.le, hx.2.le⟩ ⟨hy.1.le, hy.2.le⟩).strict (le_padOr1 le_rfl hpad))
  rw [← hr] at c
  exact c

/-- **Coverage on the generic (cross-CRS) branch from the public inputs — NOT partial.**  Two axis-aligned grids, a
separable monotone pair of CRS transformers (`(lon, lat) ↦ (u lon, v lat)`: lon/lat ↔ Mercator, cylindrical equal
area, plate carrée), the two column maps and the two row maps undoing each other EVERYWHERE (which a map with a lon/lat
clamp does not: for geographic sides use `top_gbx_covers_at`); default padding (or any `padding ≥ 1`), any alignment.
Every destination pixel whose centre maps inside the source lies in `roi_dst`, the source pixel it maps to lies in
`roi_src`.  No envelope hypothesis. -/
theorem top_gbx_covers (src dst : Side) (crsEq : Bool) (uF vF uB vB : Rat → Rat) (n : Rat)
    (scaleAt : Rat × Rat → Rat × Rat) (ttol stol : Rat) (padding align : Option Int) (p : Plan)
    (hc : ¬ (src.isGeoBox = true ∧ dst.isGeoBox = true ∧ crsEq = true)) (hD : dst.aff.det ≠ 0)
    (hsa : src.aff.b = 0 ∧ src.aff.d = 0) (hda : dst.aff.b = 0 ∧ dst.aff.d = 0)
    (huF : MonoOrAnti uF) (hvF : MonoOrAnti vF) (huB : MonoOrAnti uB) (hvB : MonoOrAnti vB)
    (h : computeReprojectRoi src dst crsEq (sepProj uF vF) (sepProj uB vB) n scaleAt ttol stol padding align = .ok p)
    (hpad : ∀ k, padding = some k → 1 ≤ k) (hal : ∀ a, align = some a → 0 ≤ a)
    (hinvx : ∀ x, gbxAxisX src.aff dst.aff.inv src.geographic uF (gbxAxisX dst.aff src.aff.inv dst.geographic uB x) = x)
    (hinvy : ∀ y, gbxAxisY src.aff dst.aff.inv src.geographic vF (gbxAxisY dst.aff src.aff.inv dst.geographic vB y) = y)
    (dy dx : Int) (hdy : 0 ≤ dy ∧ dy < dst.shape.1) (hdx : 0 ≤ dx ∧ dx < dst.shape.2)
    (hqx : 0 ≤ gbxAxisX dst.aff src.aff.inv dst.geographic uB ((dx : Rat) + 1 / 2) ∧
           gbxAxisX dst.aff src.aff.inv dst.geographic uB ((dx : Rat) + 1 / 2) < src.shape.2)
    (hqy : 0 ≤ gbxAxisY dst.aff src.aff.inv dst.geographic vB ((dy : Rat) + 1 / 2) ∧
           gbxAxisY dst.aff src.aff.inv dst.geographic vB ((dy : Rat) + 1 / 2) < src.shape.1) :
    (p.roiDst.1.start ≤ dy ∧ dy < p.roiDst.1.stop) ∧ (p.roiDst.2.start ≤ dx ∧ dx < p.roiDst.2.stop) ∧
    (p.roiSrc.2.start ≤ (gbxAxisX dst.aff src.aff.inv dst.geographic uB ((dx : Rat) + 1 / 2)).floor ∧
      (gbxAxisX dst.aff src.aff.inv dst.geographic uB ((dx : Rat) + 1 / 2)).floor < p.roiSrc.2.stop) ∧
    (p.roiSrc.1.start ≤ (gbxAxisY dst.aff src.aff.inv dst.geographic vB ((dy : Rat) + 1 / 2)).floor ∧
      (gbxAxisY dst.aff src.aff.inv dst.geographic vB ((dy : Rat) + 1 / 2)).floor < p.roiSrc.1.stop) :=
  top_gbx_covers_at hc hD hsa hda huF hvF huB hvB h hpad hal hdy hdx (hinvx _) (hinvy _) ⟨hqx, hqy⟩

-- strictly monotone pair with padding 0: x ↦ 2x + 3 and y ↦ 40 - y/2
example : StrictMonoOrAnti (fun x : Rat => 2 * x + 3) ∧ StrictMonoOrAnti (fun y : Rat => -(1 / 2) * y + 40) :=
  ⟨strict_affine _ _ (by norm_num), strict_affine _ _ (by norm_num)⟩
example : relativeRois (60, 50) (20, 10) (sepTr (fun x => 2 * x + 3) (fun y => -(1 / 2) * y + 40))
    (sepTr (fun x => (1 / 2) * x + -(3 / 2)) (fun y => (1 / (-(1 / 2))) * y + -(40 / (-(1 / 2))))) 5 0 none =
    ((⟨30, 40⟩, ⟨3, 23⟩), (⟨0, 20⟩, ⟨0, 10⟩)) := by decide +kernel
-- the setting of `top_gbx_covers_at`: a lon/lat source (geographic, clamp present but inactive) against a plate-carrée grid of twice the unit
example : (computeReprojectRoi ⟨true, (40, 60), ⟨1, 0, 10, 0, -1, 50⟩, true⟩ ⟨true, (20, 30), ⟨4, 0, 40, 0, -4, 90⟩, false⟩ false
    (sepProj (fun x => 2 * x) (fun y => 2 * y)) (sepProj (fun x => x / 2) (fun y => y / 2)) 1 (fun _ => (2, 2))
    (1 / 20) tol1em3 none none).toOption.map (fun p => (p.roiSrc, p.roiDst, p.pasteOk, p.readShrink)) =
    some ((⟨4, 40⟩, ⟨9, 60⟩), (⟨0, 18⟩, ⟨0, 25⟩), false, 2) := by decide +kernel

end OdcGeo.C03
