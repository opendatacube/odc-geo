/-
C18 ∘ C06 — the multi-part assembly of `_mpu.py` (C06) driving the file sink of `_mpu_fs.py` and the in-process S3
writer of `_s3.py` (C18).

`C06.main` (used below in the form `C06.main_written`) is stated about an abstract writer: it lists the calls
`write(part, data)` made anywhere in the dask graph (`wsAll`) and the list handed to `write.finalise` (`fp`), and proves
that the part numbers lie in `[min_part, max_part]`, are distinct, and that `fp` concatenates to
header ++ stream ++ footer.  Those are exactly the hypotheses of the C18 sink contract (`Sink.writes_finalise`: parts
written once each, exactly those listed, in whatever order) and, with the ascending order and the part sizes that
`C06.Written` also records, of the S3 writer's (`s3_writer_contract`), so they compose: the FILE the sink leaves (its
temporary parts gone), and the OBJECT the service assembles for `MultiPartUpload.upload`, is
header ++ stream ++ footer — for every merge tree (= every dask fold / collate shape and execution order), every spill
size, with or without header / footer callbacks.
-/
import OdcGeo.Props.C06
import OdcGeo.Props.C18
import OdcGeo.Lemmas.C18C06
import OdcGeo.Props.C18Up


namespace OdcGeo.C18
open OdcGeo

/-- **mpu_write_to_file_sink**: for every merge tree `t` over the chunk stream (any dask fold /
collate shape and execution order), any spill size, any header / footer callbacks, a writer `W`
with enough part numbers: the run succeeds, every writer call uses a part number within
`[min_part, max_part]`, and when exactly those calls are performed on the C18 file sink (in the
order they were made) and the sink is finalised with the list C06 hands to `finalise`, the
finalisation succeeds, the destination file is header ++ stream ++ footer, and the parts
directory with all part files is gone. -/
theorem mpu_write_to_file_sink (W : C06.Writer) (spill wpc : Nat) (t : C06.Tree Nat)
    (mkHdr mkFtr : Option (List (Nat × Int) → List Nat))
    (hne : t.NonEmpty) (hcap : W.minPart + 1 + t.leaves * wpc ≤ W.maxPart + 1) :
    ∃ wsF fp wsAll,
      C06.run ⟨some W, spill, wpc, mkFtr.isNone⟩ t mkHdr mkFtr = .ok (.written wsF fp, wsAll, t.obs) ∧
      (∀ p ∈ wsAll, W.minPart ≤ p.id ∧ p.id ≤ W.maxPart) ∧
      (Sink.finalise true (sinkAfter wsAll) (fp.map (·.id)) false).2 = none ∧
      (Sink.finalise true (sinkAfter wsAll) (fp.map (·.id)) false).1.dst =
        some (C06.optBytes (mkHdr.map (fun f => f t.obs)) ++ t.bytes ++
              C06.optBytes (mkFtr.map (fun f => f t.obs))) ∧
      (Sink.finalise true (sinkAfter wsAll) (fp.map (·.id)) false).1.dirExists = false ∧
      (Sink.finalise true (sinkAfter wsAll) (fp.map (·.id)) false).1.parts = [] := by
  obtain ⟨wsF, fp, wsAll, hrun, hW⟩ := C06.main_written W spill wpc t mkHdr mkFtr hne hcap
  obtain ⟨f, hne', hasc, hnd, hmem, hall, hB, _⟩ := written_table hW
  refine ⟨wsF, fp, wsAll, hrun, fun p hp => hW.range p (hW.perm.mem_iff.1 hp), ?_⟩
  rw [sinkAfter_eq, Sink.writes_finalise {} rfl _ hnd _ f hne' (hasc.imp fun h => Nat.ne_of_lt h) hmem hall, hB]
  exact ⟨rfl, rfl, rfl, rfl⟩

/-- The same for an `MPUFileSink(dst, **kw)` with its configured limits as the writer C06 reads:
the header part number is the sink's `min_part`, all part numbers stay within the sink's
`[min_part, max_part]` (e.g. the defaults 1 … 10000). -/
theorem mpu_write_to_configured_file_sink (kw : LimitKw) (spill wpc : Nat) (t : C06.Tree Nat)
    (mkHdr mkFtr : Option (List (Nat × Int) → List Nat)) (hne : t.NonEmpty)
    (hcap : (sinkWriter kw).minPart + 1 + t.leaves * wpc ≤ (sinkWriter kw).maxPart + 1) :
    ∃ wsF fp wsAll,
      C06.run ⟨some (sinkWriter kw), spill, wpc, mkFtr.isNone⟩ t mkHdr mkFtr =
        .ok (.written wsF fp, wsAll, t.obs) ∧
      (∀ p ∈ wsAll, (sinkLimit true kw .minPart).toNat ≤ p.id ∧ p.id ≤ (sinkLimit true kw .maxPart).toNat) ∧
      (Sink.finalise true (sinkAfter wsAll) (fp.map (·.id)) false).2 = none ∧
      (Sink.finalise true (sinkAfter wsAll) (fp.map (·.id)) false).1.dst =
        some (C06.optBytes (mkHdr.map (fun f => f t.obs)) ++ t.bytes ++
              C06.optBytes (mkFtr.map (fun f => f t.obs))) :=
  let ⟨wsF, fp, wsAll, h1, h2, h3, h4, _, _⟩ :=
    mpu_write_to_file_sink (sinkWriter kw) spill wpc t mkHdr mkFtr hne hcap
  ⟨wsF, fp, wsAll, h1, h2, h3, h4⟩

/-- non-vacuity: with the default limits (parts 1 … 10000) three partitions of two writes each fit -/
example : (sinkWriter {}).minPart + 1 + 3 * 2 ≤ (sinkWriter {}).maxPart + 1 := by decide +kernel

/-- **mpu_upload_to_s3**: `MultiPartUpload.upload(chunks, mk_header, mk_footer, writes_per_chunk, spill_sz ≠ 0)`
run in-process, for every merge tree over the chunk stream (= every dask fold / collate shape and execution
order), any header / footer callbacks, with at most 10000 - 1 part numbers needed: the run succeeds; when the
writer calls it makes (in the order made) and the final `finalise` are performed by the in-process S3 writer
against a service that demands 5 MiB of every part but the last, ascending part order and known parts, then no
call fails, exactly ONE multipart upload is initiated, every `upload_part` / `complete` call carries its id,
part numbers lie in 1 … 10000, and the object the service assembles is header ++ stream ++ footer. -/
theorem mpu_upload_to_s3 (spill wpc : Nat) (t : C06.Tree Nat)
    (mkHdr mkFtr : Option (List (Nat × Int) → List Nat))
    (hs : spill ≠ 0) (hne : t.NonEmpty) (hcap : 1 + 1 + t.leaves * wpc ≤ 10000 + 1) :
    ∃ wsF fp wsAll,
      C06.run ⟨uploadWriter spill, spill, wpc, mkFtr.isNone⟩ t mkHdr mkFtr = .ok (.written wsF fp, wsAll, t.obs) ∧
      (∀ p ∈ wsAll, 1 ≤ p.id ∧ p.id ≤ 10000) ∧
      (Up.runWrites {} (wsAll.map (fun p => (p.id, p.data)))).2 = none ∧
      (Up.finalise (5 * 1024 * 1024) (Up.runWrites {} (wsAll.map (fun p => (p.id, p.data)))).1 (fp.map (·.id))).2 = none ∧
      (Up.finalise (5 * 1024 * 1024) (Up.runWrites {} (wsAll.map (fun p => (p.id, p.data)))).1 (fp.map (·.id))).1.object =
        some (C06.optBytes (mkHdr.map (fun f => f t.obs)) ++ t.bytes ++
              C06.optBytes (mkFtr.map (fun f => f t.obs))) ∧
      (Up.finalise (5 * 1024 * 1024) (Up.runWrites {} (wsAll.map (fun p => (p.id, p.data)))).1 (fp.map (·.id))).1.creates = 1 ∧
      (∀ c ∈ (Up.finalise (5 * 1024 * 1024) (Up.runWrites {} (wsAll.map (fun p => (p.id, p.data)))).1
          (fp.map (·.id))).1.calls, c.id = 1) := by
  have hW' : uploadWriter spill = some ⟨5 * 1024 * 1024, 1, 10000⟩ := (upload_writer_spec spill).2 hs
  obtain ⟨wsF, fp, wsAll, hrun, hW⟩ := C06.main_written ⟨5 * 1024 * 1024, 1, 10000⟩ spill wpc t mkHdr mkFtr hne hcap
  obtain ⟨f, hne', hasc, hnd, hmem, _, hB, hsz⟩ := written_table hW
  have hw : ∀ i ∈ fp.map (·.id), ((wsAll.map (fun p => (p.id, p.data))).foldl Up.put []).lookup i = some (f i) :=
    fun i hi => Up.lookup_foldl_put _ hnd (i, f i) (hmem i hi)
  obtain ⟨h1, h2, h3, h4, h5, _⟩ :=
    s3_writer_contract (5 * 1024 * 1024) (wsAll.map (fun p => (p.id, p.data))) (fp.map (·.id)) f hne' hasc hw hsz
  exact ⟨wsF, fp, wsAll, by rw [hW']; exact hrun, fun p hp => hW.range p (hW.perm.mem_iff.1 hp), h1, h2,
    by rw [h3, hB], h4, h5⟩

/-- **mpu_upload_without_spill**: `upload(..., spill_sz=0)` hands `mpu_write` no writer: no storage call is made
at all - no upload is initiated - and the finaliser returns the root chunk holding header ++ stream ++ footer. -/
theorem mpu_upload_without_spill (wpc : Nat) (t : C06.Tree Nat)
    (mkHdr mkFtr : Option (List (Nat × Int) → List Nat)) (hne : t.NonEmpty) :
    ∃ c, C06.run ⟨uploadWriter 0, 0, wpc, mkFtr.isNone⟩ t mkHdr mkFtr = .ok (.chunk c, [], t.obs) ∧
      c.parts = [] ∧
      c.data = C06.optBytes (mkHdr.map (fun f => f t.obs)) ++ t.bytes ++
               C06.optBytes (mkFtr.map (fun f => f t.obs)) := by
  obtain ⟨c, h1, h2, _, h4⟩ := C06.main_no_writer 0 wpc t mkHdr mkFtr hne
  exact ⟨c, by rw [(upload_writer_spec 0).1 rfl]; exact h1, h2, h4⟩

/-- non-vacuity: 100 partitions of 4 writes each fit into the S3 part numbers -/
example : 1 + 1 + 100 * 4 ≤ 10000 + 1 := by decide +kernel

end OdcGeo.C18
