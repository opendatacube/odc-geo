/-
C17 — `roi_boundary` (listed among the observables of C17; the model is the one of `Model/C03.lean`, which
C03's planning uses and whose driver op `c03 bnd` ties it to the code on every run).

The sample points lie on the perimeter of the region, the four corners are among them, and there are
`4·(pts_per_side − 1)` of them, for every region and every `pts_per_side ≥ 2`.  All three go through
`roiBoundary_eq_map`: the boundary is the ring `edge_index` mapped through `linspaceAt`, the closed form of
`np.linspace`'s entries.
-/
import OdcGeo.Model.C03
import OdcGeo.Lemmas.C17Edge
import Mathlib.Tactic.Positivity
import Mathlib.Algebra.Order.Field.Rat

namespace OdcGeo.C17
open OdcGeo.C03

/-- value `i` of `np.linspace(a, b, n)` -/
def linspaceAt (a b : Int) (n i : Nat) : Rat :=
  (a : Rat) + ((i : Int) : Rat) * (((b - a : Int) : Rat) / (((n - 1 : Nat) : Int) : Rat))

theorem linspace_getElem? (a b : Int) (n i : Nat) (hi : i < n) :
    (linspace a b n)[i]? = some (linspaceAt a b n i) := by
  simp [linspace, linspaceAt, hi]

theorem linspaceAt_first (a b : Int) (n : Nat) : linspaceAt a b n 0 = a := by simp [linspaceAt]

theorem linspaceAt_last (a b : Int) (n : Nat) (hn : 2 ≤ n) : linspaceAt a b n (n - 1) = b := by
  have h1 : (((n - 1 : Nat) : Int) : Rat) ≠ 0 := by exact_mod_cast (show n - 1 ≠ 0 by omega)
  rw [linspaceAt, mul_div_cancel₀ _ h1, Int.cast_sub, add_sub_cancel]

theorem linspaceAt_mono (a b : Int) (n i j : Nat) (hab : a ≤ b) (hij : i ≤ j) :
    linspaceAt a b n i ≤ linspaceAt a b n j := by
  have hq : (0 : Rat) ≤ ((b - a : Int) : Rat) / (((n - 1 : Nat) : Int) : Rat) :=
    div_nonneg (by exact_mod_cast (by omega : (0 : Int) ≤ b - a)) (by exact_mod_cast Int.natCast_nonneg (n - 1))
  unfold linspaceAt
  gcongr

theorem linspaceAt_between (a b : Int) (n i : Nat) (hn : 2 ≤ n) (hi : i < n) (hab : a ≤ b) :
    (a : Rat) ≤ linspaceAt a b n i ∧ linspaceAt a b n i ≤ b := by
  have h0 := linspaceAt_mono a b n 0 i hab (Nat.zero_le i)
  have h1 := linspaceAt_mono a b n i (n - 1) hab (by omega)
  rw [linspaceAt_first] at h0
  rw [linspaceAt_last a b n hn] at h1
  exact ⟨h0, h1⟩

def boundaryPt (roi : ROI) (pps : Nat) (q : Nat × Nat) : Rat × Rat :=
  (linspaceAt roi.2.start roi.2.stop pps q.2, linspaceAt roi.1.start roi.1.stop pps q.1)

/-- No ring index falls outside the two `linspace`s, so the `filterMap` of `roi_boundary` drops nothing. -/
theorem roiBoundary_eq_map (roi : ROI) (pps : Nat) (hn : 1 ≤ pps) :
    roiBoundary roi pps = (edgeIndex pps pps).map (boundaryPt roi pps) := by
  unfold roiBoundary
  rw [← List.filterMap_eq_map']
  refine List.filterMap_congr fun q hq => ?_
  obtain ⟨⟨hy, hx⟩, -⟩ := mem_edgeIndex pps pps hn hn q hq
  simp only [linspace_getElem? _ _ _ _ hx, linspace_getElem? _ _ _ _ hy, boundaryPt]

/-- **Perimeter.**  Every point `roi_boundary` returns lies inside the closed rectangle of the region and on
one of its four sides. -/
theorem roi_boundary_on_perimeter (roi : ROI) (pps : Nat) (hn : 2 ≤ pps)
    (hx : roi.2.start ≤ roi.2.stop) (hy : roi.1.start ≤ roi.1.stop) (p : Rat × Rat)
    (h : p ∈ roiBoundary roi pps) :
    ((roi.2.start : Rat) ≤ p.1 ∧ p.1 ≤ roi.2.stop ∧ (roi.1.start : Rat) ≤ p.2 ∧ p.2 ≤ roi.1.stop) ∧
    (p.2 = roi.1.start ∨ p.1 = roi.2.stop ∨ p.2 = roi.1.stop ∨ p.1 = roi.2.start) := by
  rw [roiBoundary_eq_map roi pps (by omega)] at h
  obtain ⟨⟨iy, ix⟩, hmem, rfl⟩ := List.mem_map.1 h
  obtain ⟨⟨hiy, hix⟩, hside⟩ := mem_edgeIndex pps pps (by omega) (by omega) _ hmem
  have bx := linspaceAt_between roi.2.start roi.2.stop pps ix hn hix hx
  have by' := linspaceAt_between roi.1.start roi.1.stop pps iy hn hiy hy
  refine ⟨⟨bx.1, bx.2, by'.1, by'.2⟩, ?_⟩
  rcases hside with h0 | h0 | h0 | h0 <;> simp only at h0 <;> subst h0
  · exact Or.inl (linspaceAt_first _ _ _)
  · exact Or.inr (Or.inr (Or.inl (linspaceAt_last _ _ _ hn)))
  · exact Or.inr (Or.inr (Or.inr (linspaceAt_first _ _ _)))
  · exact Or.inr (Or.inl (linspaceAt_last _ _ _ hn))

/-- **Corners.**  The four corners of the region are among the sample points (so an affine image of the
region is bracketed by the images of the samples: `Lemmas/C03.lean::lin_corner`). -/
theorem roi_boundary_corners (roi : ROI) (pps : Nat) (hn : 2 ≤ pps) :
    ((roi.2.start : Rat), (roi.1.start : Rat)) ∈ roiBoundary roi pps ∧
    ((roi.2.stop : Rat), (roi.1.start : Rat)) ∈ roiBoundary roi pps ∧
    ((roi.2.stop : Rat), (roi.1.stop : Rat)) ∈ roiBoundary roi pps ∧
    ((roi.2.start : Rat), (roi.1.stop : Rat)) ∈ roiBoundary roi pps := by
  obtain ⟨c1, c2, c3, c4⟩ := edgeIndex_corners pps pps hn hn
  have m1 := List.mem_map_of_mem (f := boundaryPt roi pps) c1
  have m2 := List.mem_map_of_mem (f := boundaryPt roi pps) c2
  have m3 := List.mem_map_of_mem (f := boundaryPt roi pps) c3
  have m4 := List.mem_map_of_mem (f := boundaryPt roi pps) c4
  simp only [boundaryPt, linspaceAt_first, linspaceAt_last _ _ _ hn] at m1 m2 m3 m4
  rw [roiBoundary_eq_map roi pps (by omega)]
  exact ⟨m1, m2, m3, m4⟩

/-- **Count.**  `4·(pts_per_side − 1)` points: the open ring visits every perimeter sample once. -/
theorem roi_boundary_length (roi : ROI) (pps : Nat) (hn : 2 ≤ pps) :
    (roiBoundary roi pps).length = 4 * (pps - 1) := by
  rw [roiBoundary_eq_map roi pps (by omega), List.length_map, edgeIndex_length]
  omega

/-- non-trivial instance: 3 points per side on a 4 × 6 region -/
example : roiBoundary (⟨0, 4⟩, ⟨10, 16⟩) 3
    = [(10, 0), (13, 0), (16, 0), (16, 2), (16, 4), (13, 4), (10, 4), (10, 2)] := by decide +kernel

end OdcGeo.C17
