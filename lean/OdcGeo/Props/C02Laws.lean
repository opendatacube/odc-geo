/-
C02: composition laws of the GeoBox views (`Model/C02.lean`, `Model/C02Glue.lean`).
-/
import OdcGeo.Props.C02Glue

namespace OdcGeo.C02
open OdcGeo.C17 (PIdx NSlice normSlice wrapNeg)

/-- **crop ∘ crop**: a window of a window is the window at the summed offsets:
`gbox[y0:y1, x0:x1][a:b, c:d] = gbox[y0+a : y0+b, x0+c : x0+d]` (non-negative bounds; the code does not clamp). -/
theorem crop_crop (g : GeoBox) (y0 y1 x0 x1 a b c d : Int)
    (h : 0 ≤ y0 ∧ 0 ≤ y1 ∧ 0 ≤ x0 ∧ 0 ≤ x1 ∧ 0 ≤ a ∧ 0 ≤ b ∧ 0 ≤ c ∧ 0 ≤ d) :
    crop (crop g (.two (.slc (some y0) (some y1)) (.slc (some x0) (some x1)))) (.two (.slc (some a) (some b)) (.slc (some c) (some d)))
      = crop g (.two (.slc (some (y0 + a)) (some (y0 + b))) (.slc (some (x0 + c)) (some (x0 + d)))) := by
  obtain ⟨h1, h2, h3, h4, h5, h6, h7, h8⟩ := h
  rw [crop_window g h1 h2 h3 h4, crop_window _ h5 h6 h7 h8, crop_window g (Int.add_nonneg h1 h5) (Int.add_nonneg h1 h6) (Int.add_nonneg h3 h7)
    (Int.add_nonneg h3 h8)]
  simp only [Aff.mul_assoc', Aff.translation_mul_translation, Int.cast_add, add_sub_add_left_eq_sub]

example : crop (crop gEx (.two (.slc (some 2) (some 9)) (.slc (some 3) (some 17)))) (.two (.slc (some 1) (some 4)) (.slc (some 2) (some 5)))
    = crop gEx (.two (.slc (some 3) (some 6)) (.slc (some 5) (some 8))) :=
  crop_crop gEx 2 9 3 17 1 4 2 5 (by decide)

/-- **pad ∘ pad** adds the margins (any signs), also through the `pady = None` default. -/
theorem pad_pad (g : GeoBox) (p q p' q' : Int) :
    pad (pad g p (some q)) p' (some q') = pad g (p + p') (some (q + q')) ∧
    pad (pad g p none) p' none = pad g (p + p') none := by
  have key : ∀ a b : Int, pad (pad g p (some a)) p' (some b) = pad g (p + p') (some (a + b)) := by
    intro a b
    simp only [pad, Aff.mul_assoc', Aff.translation_mul_translation, Int.cast_add, neg_add, Int.add_mul,
      Int.add_assoc]
  exact ⟨key q q', key p p'⟩

example : pad (pad gEx 2 (some (-1))) 3 (some 4) = pad gEx 5 (some 3) := (pad_pad gEx 2 (-1) 3 4).1

/-- **a window is a pixel translation followed by a resize**: `gbox[y0:y1, x0:x1] =
gbox.translate_pix(x0, y0).crop((y1−y0, x1−x0))`. -/
theorem crop_is_translate_resize (g : GeoBox) (y0 y1 x0 x1 : Int) (h : 0 ≤ y0 ∧ 0 ≤ y1 ∧ 0 ≤ x0 ∧ 0 ≤ x1) :
    crop g (.two (.slc (some y0) (some y1)) (.slc (some x0) (some x1)))
      = resize (translatePix g (x0 : Rat) (y0 : Rat)) (y1 - y0) (x1 - x0) :=
  crop_window g h.1 h.2.1 h.2.2.1 h.2.2.2

example : crop gEx (.two (.slc (some 2) (some 9)) (.slc (some 3) (some 17))) = resize (translatePix gEx 3 2) 7 14 := by
  have := crop_is_translate_resize gEx 2 9 3 17 (by decide)
  simpa using this

/-- **flipx ∘ flipy is the half turn about the centre** (as geoboxes: shape, affine, CRS), and the two flips commute. -/
theorem flipx_flipy_is_half_turn (g : GeoBox) :
    flipx (flipy g) = rotateQuarter g 2 ∧ flipy (flipx g) = flipx (flipy g) := by
  refine ⟨GeoBox.ext_pix2wld rfl rfl rfl fun p => ?_, GeoBox.ext_pix2wld rfl rfl rfl fun p => ?_⟩
  · -- both send pixel `(i, j)` to the image of `(nx − i, ny − j)`: an affine map preserves midpoints
    rw [(flipx_pixel _ p).1, (flipy_pixel g _).1, (rotate_quarter_spec g 2 p).2.2.2.2 rfl]
    show pix2wld g ((g.nx : Rat) - p.1, (g.ny : Rat) - p.2) = _
    simp only [pix2wld, Aff.apply]
    ext <;> ring
  · rw [(flipy_pixel _ p).1, (flipx_pixel g _).1, (flipx_pixel _ p).1, (flipy_pixel g _).1]
    rfl

example : flipx (flipy gEx) = ⟨10, 20, ⟨-2, 0, 140, 0, 2, 30⟩, 1⟩ ∧ rotateQuarter gEx 2 = ⟨10, 20, ⟨-2, 0, 140, 0, 2, 30⟩, 1⟩ := by
  decide +kernel

/-- **zoom_out ∘ zoom_out**: for integer factors dividing the shape, `gbox.zoom_out(k1).zoom_out(k2) = gbox.zoom_out(k1·k2)`. -/
theorem zoom_out_zoom_out (g : GeoBox) (k1 k2 my mx : Int) (hk1 : 1 ≤ k1) (hk2 : 1 ≤ k2) (hmy : 1 ≤ my) (hmx : 1 ≤ mx)
    (hy : g.ny = k1 * k2 * my) (hx : g.nx = k1 * k2 * mx) :
    (zoomOut g (k1 : Rat)).bind (fun z => zoomOut z (k2 : Rat)) = zoomOut g ((k1 : Rat) * (k2 : Rat)) := by
  have n1 : k1 ≠ 0 := (show 0 < k1 from hk1).ne'
  have n2 : k2 ≠ 0 := (show 0 < k2 from hk2).ne'
  have h1 : (k1 : Rat) ≠ 0 := Int.cast_ne_zero.mpr n1
  have h2 : (k2 : Rat) ≠ 0 := Int.cast_ne_zero.mpr n2
  have c : ∀ m : Int, 1 ≤ m → ceil1 (((k1 * k2 * m : Int) : Rat) / k1) = k2 * m ∧ ceil1 (((k2 * m : Int) : Rat) / k2) = m ∧
      ceil1 (((k1 * k2 * m : Int) : Rat) / ((k1 : Rat) * (k2 : Rat))) = m := fun m hm =>
    ⟨by rw [Int.mul_assoc]; exact ceil1_mul_div k1 _ n1 (Int.mul_pos hk2 hm), ceil1_mul_div k2 m n2 hm,
      by rw [← Int.cast_mul k1 k2]; exact ceil1_mul_div _ m (Int.mul_ne_zero n1 n2) hm⟩
  simp only [zoomOut, h1, h2, mul_ne_zero h1 h2, if_false, Except.bind, hy, hx, c my hmy, c mx hmx,
    Aff.mul_assoc', Aff.scale_mul_scale]

example : (zoomOut ⟨12, 24, Aff.id, 1⟩ 2).bind (fun z => zoomOut z 3) = zoomOut ⟨12, 24, Aff.id, 1⟩ 6 := by
  have := zoom_out_zoom_out ⟨12, 24, Aff.id, 1⟩ 2 3 2 4 (by decide) (by decide) (by decide) (by decide) (by decide) (by decide)
  have e : ((2 : Int) : Rat) * ((3 : Int) : Rat) = 6 := by norm_num
  rw [e] at this
  simpa using this

/-- **neighbours**: horizontal and vertical steps commute, and two steps to the right are one pixel translation by
twice the width (`left / right / top / bottom` are inverse in pairs: `view_algebra`). -/
theorem neighbours_commute (g : GeoBox) :
    top (left g) = left (top g) ∧ bottom (right g) = right (bottom g) ∧ top (right g) = right (top g) ∧
    right (right g) = translatePix g (2 * (g.nx : Rat)) 0 ∧ bottom (bottom g) = translatePix g 0 (2 * (g.ny : Rat)) := by
  simp only [top, left, bottom, right, translatePix_translatePix, add_zero, zero_add, two_mul]
  exact ⟨rfl, rfl, rfl, rfl, rfl⟩  -- what is left: `(translatePix g _ _).nx` is `g.nx` by definition

example : right (right gEx) = ⟨10, 20, ⟨2, 0, 180, 0, -2, 50⟩, 1⟩ := by decide +kernel

end OdcGeo.C02
