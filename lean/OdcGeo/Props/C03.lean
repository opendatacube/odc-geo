/-
C03 — reprojection planning never drops a needed pixel.

Conventions: an axis transform is `x_src = s · x_dst + t`; pixel `d` of the destination has centre
`d + ½`; the source pixel a coordinate `x` falls in is `⌊x⌋`; "inside the source image" is `0 ≤ x < Ns`.
-/
import OdcGeo.Model.C03
import OdcGeo.Lemmas.C03
import OdcGeo.Lemmas.C03Scalar
import OdcGeo.Props.C17
import Mathlib.Tactic.Linarith
import Mathlib.Tactic.Ring
import Mathlib.Algebra.Order.Field.Rat
namespace OdcGeo.C03
open OdcGeo.C17

/-- The only failure is the `assert s > 0` for a zero scale. -/
theorem axis_error_iff (Ns Nd : Int) (s t : Rat) :
    (∃ e, axisOverlap Ns Nd s t = .error e) ↔ s = 0 := by
  unfold axisOverlap
  constructor
  · rintro ⟨e, h⟩
    by_cases h1 : s < 0
    · simp [h1] at h
    · by_cases h2 : s > 0
      · simp [h1, h2] at h
      · exact le_antisymm (not_lt.mp h2) (not_lt.mp h1)
  · rintro rfl
    exact ⟨.assertion, by simp⟩

/-- Both regions lie within their images and are well formed, for every scale of either sign. -/
theorem axis_within (Ns Nd : Int) (s t : Rat) (hNs : 0 ≤ Ns) (hNd : 0 ≤ Nd) (r : NSlice × NSlice)
    (h : axisOverlap Ns Nd s t = .ok r) :
    (0 ≤ r.1.start ∧ r.1.start ≤ r.1.stop ∧ r.1.stop ≤ Ns) ∧
    (0 ≤ r.2.start ∧ r.2.start ≤ r.2.stop ∧ r.2.stop ≤ Nd) := by
  rcases axisOverlap_ok h with ⟨hs, rfl⟩ | ⟨hs, m, rfl, rfl⟩
  · exact axisPos_within Ns Nd s t hNs hNd hs
  · have := axisPos_within Ns Nd (-s) ((Ns : Rat) - t) hNs hNd (neg_pos.mpr hs)
    simp only at this ⊢
    omega

/-- Coverage in real coordinates, either sign of the scale.  The upper bound is strict for interior `u` and `y < Ns`
(on a mirrored axis that is the strict lower bound of `axisPos_covers`). -/
theorem axis_covers (Ns Nd : Int) (s t : Rat) (r : NSlice × NSlice) (h : axisOverlap Ns Nd s t = .ok r) (u : Rat)
    (hu0 : 0 ≤ u) (huN : u ≤ Nd) (hy0 : 0 ≤ s * u + t) (hyN : s * u + t ≤ Ns) :
    ((r.2.start : Rat) ≤ u ∧ u ≤ r.2.stop) ∧ (r.1.start : Rat) ≤ s * u + t ∧
    (0 < u → u < Nd → s * u + t < Ns → s * u + t < r.1.stop) := by
  rcases axisOverlap_ok h with ⟨hs, rfl⟩ | ⟨hs, m, rfl, rfl⟩
  · obtain ⟨c1, c2, _, c4⟩ := axisPos_covers Ns Nd s t u hs hu0 huN hy0 hyN
    exact ⟨c1, c2.1, fun _ => c4⟩
  · have hy : -s * u + ((Ns : Rat) - t) = (Ns : Rat) - (s * u + t) := by ring
    obtain ⟨c1, c2, c3, _⟩ := axisPos_covers Ns Nd (-s) ((Ns : Rat) - t) u (neg_pos.mpr hs) hu0 huN
      (by rw [hy]; exact sub_nonneg.mpr hyN) (by rw [hy]; exact sub_le_self _ hy0)
    rw [hy] at c2 c3
    refine ⟨c1, ?_, fun h0 _ hN => ?_⟩
    · push_cast; exact sub_le_comm.mp c2.2
    · push_cast; exact lt_sub_comm.mp (c3 h0 (sub_pos.mpr hN))

/-- **Destination coverage.**  Every destination pixel whose centre maps inside the source
image lies in the destination region (mirrored axes included). -/
theorem axis_dst_covers (Ns Nd : Int) (s t : Rat) (r : NSlice × NSlice)
    (h : axisOverlap Ns Nd s t = .ok r) (d : Int) (hd0 : 0 ≤ d) (hdN : d < Nd)
    (hx0 : 0 ≤ s * ((d : Rat) + 1 / 2) + t) (hxN : s * ((d : Rat) + 1 / 2) + t < Ns) :
    r.2.start ≤ d ∧ d < r.2.stop := by
  obtain ⟨hu0, huN⟩ := centre_interior hd0 hdN
  obtain ⟨c, _⟩ := axis_covers Ns Nd s t r h ((d : Rat) + 1 / 2) hu0.le huN.le hx0 hxN.le
  exact centre_mem c.1 c.2

/-- **Source coverage.**  The source pixel `⌊s(d+½)+t⌋` that such a destination pixel reads
lies in the source region (mirrored axes included: the region is mapped back from the
flipped image). -/
theorem axis_src_covers (Ns Nd : Int) (s t : Rat) (r : NSlice × NSlice)
    (h : axisOverlap Ns Nd s t = .ok r) (d : Int) (hd0 : 0 ≤ d) (hdN : d < Nd)
    (hx0 : 0 ≤ s * ((d : Rat) + 1 / 2) + t) (hxN : s * ((d : Rat) + 1 / 2) + t < Ns) :
    r.1.start ≤ (s * ((d : Rat) + 1 / 2) + t).floor ∧ (s * ((d : Rat) + 1 / 2) + t).floor < r.1.stop := by
  obtain ⟨hu0, huN⟩ := centre_interior hd0 hdN
  obtain ⟨_, c2, c3⟩ := axis_covers Ns Nd s t r h ((d : Rat) + 1 / 2) hu0.le huN.le hx0 hxN.le
  exact floor_mem c2 (c3 hu0 huN hxN)

/-- **Disjoint ⇒ empty.**  When the image `[min(t, Nd·s+t), max(t, Nd·s+t)]` of the destination
axis does not overlap `[0, Ns]` (touching allowed), both regions are empty. -/
theorem axis_disjoint_empty (Ns Nd : Int) (s t : Rat) (hNs : 0 ≤ Ns) (hNd : 0 ≤ Nd) (r : NSlice × NSlice)
    (h : axisOverlap Ns Nd s t = .ok r)
    (hsep : max t ((Nd : Rat) * s + t) ≤ 0 ∨ (Ns : Rat) ≤ min t ((Nd : Rat) * s + t)) :
    r.1.stop - r.1.start = 0 ∧ r.2.stop - r.2.start = 0 := by
  rcases axisOverlap_ok h with ⟨hs, rfl⟩ | ⟨hs, m, rfl, rfl⟩
  · have c := axisPos_disjoint Ns Nd s t hNs hNd hs
      (hsep.imp (le_trans (le_max_right _ _)) (fun h' => le_trans h' (min_le_left _ _)))
    simp only at c ⊢
    omega
  · have c := axisPos_disjoint Ns Nd (-s) ((Ns : Rat) - t) hNs hNd (neg_pos.mpr hs) (by
      rcases hsep with h' | h'
      · right; linarith [le_trans (le_max_left _ _) h']
      · left; linarith [le_trans h' (min_le_right _ _)])
    simp only at c ⊢
    omega

/-- `box_overlap` fails only for a zero scale on some axis. -/
theorem box_error_iff (src dst : Shape) (ST : Aff) :
    (∃ e, boxOverlap src dst ST = .error e) ↔ (ST.a = 0 ∨ ST.e = 0) := by
  rw [← axis_error_iff src.2 dst.2 ST.a ST.c, ← axis_error_iff src.1 dst.1 ST.e ST.f]
  unfold boxOverlap
  cases hy : axisOverlap src.1 dst.1 ST.e ST.f <;> cases hx : axisOverlap src.2 dst.2 ST.a ST.c <;> simp

theorem box_within (src dst : Shape) (ST : Aff) (hs : 0 ≤ src.1 ∧ 0 ≤ src.2) (hd : 0 ≤ dst.1 ∧ 0 ≤ dst.2)
    (r : ROI × ROI) (h : boxOverlap src dst ST = .ok r) :
    ((0 ≤ r.1.1.start ∧ r.1.1.start ≤ r.1.1.stop ∧ r.1.1.stop ≤ src.1) ∧
     (0 ≤ r.1.2.start ∧ r.1.2.start ≤ r.1.2.stop ∧ r.1.2.stop ≤ src.2)) ∧
    ((0 ≤ r.2.1.start ∧ r.2.1.start ≤ r.2.1.stop ∧ r.2.1.stop ≤ dst.1) ∧
     (0 ≤ r.2.2.start ∧ r.2.2.start ≤ r.2.2.stop ∧ r.2.2.stop ≤ dst.2)) := by
  obtain ⟨yy, xx, hy, hx, rfl⟩ := boxOverlap_ok h
  have wy := axis_within _ _ _ _ hs.1 hd.1 yy hy
  have wx := axis_within _ _ _ _ hs.2 hd.2 xx hx
  exact ⟨⟨wy.1, wx.1⟩, ⟨wy.2, wx.2⟩⟩

/-- **2-D coverage for scale+translation transforms**: a destination pixel `(dy, dx)` whose centre
maps (through `ST`, which has no rotation/shear terms) inside the source image lies in the
destination region and the source pixel it maps to lies in the source region. -/
theorem box_covers (src dst : Shape) (ST : Aff) (hb : ST.b = 0) (hd' : ST.d = 0)
    (r : ROI × ROI) (h : boxOverlap src dst ST = .ok r) (dy dx : Int)
    (hdy : 0 ≤ dy ∧ dy < dst.1) (hdx : 0 ≤ dx ∧ dx < dst.2)
    (hqx : 0 ≤ (ST.apply ((dx : Rat) + 1 / 2, (dy : Rat) + 1 / 2)).1 ∧
           (ST.apply ((dx : Rat) + 1 / 2, (dy : Rat) + 1 / 2)).1 < src.2)
    (hqy : 0 ≤ (ST.apply ((dx : Rat) + 1 / 2, (dy : Rat) + 1 / 2)).2 ∧
           (ST.apply ((dx : Rat) + 1 / 2, (dy : Rat) + 1 / 2)).2 < src.1) :
    (r.2.1.start ≤ dy ∧ dy < r.2.1.stop) ∧ (r.2.2.start ≤ dx ∧ dx < r.2.2.stop) ∧
    (r.1.2.start ≤ (ST.apply ((dx : Rat) + 1 / 2, (dy : Rat) + 1 / 2)).1.floor ∧
      (ST.apply ((dx : Rat) + 1 / 2, (dy : Rat) + 1 / 2)).1.floor < r.1.2.stop) ∧
    (r.1.1.start ≤ (ST.apply ((dx : Rat) + 1 / 2, (dy : Rat) + 1 / 2)).2.floor ∧
      (ST.apply ((dx : Rat) + 1 / 2, (dy : Rat) + 1 / 2)).2.floor < r.1.1.stop) := by
  obtain ⟨yy, xx, hy, hx, rfl⟩ := boxOverlap_ok h
  simp only [Aff.apply, hb, hd', zero_mul, add_zero, zero_add] at hqx hqy ⊢
  exact ⟨axis_dst_covers _ _ _ _ yy hy dy hdy.1 hdy.2 hqy.1 hqy.2,
         axis_dst_covers _ _ _ _ xx hx dx hdx.1 hdx.2 hqx.1 hqx.2,
         axis_src_covers _ _ _ _ xx hx dx hdx.1 hdx.2 hqx.1 hqx.2,
         axis_src_covers _ _ _ _ yy hy dy hdy.1 hdy.2 hqy.1 hqy.2⟩

/-- Both regions of `_relative_rois` lie within their images, whatever the point transform
(non-finite images, arbitrary padding / alignment included). -/
theorem relative_within (src dst : Shape) (back fwd : PtTr) (pps : Nat) (pad : Int) (al : Option Int)
    (hs : 0 ≤ src.1 ∧ 0 ≤ src.2) (hd : 0 ≤ dst.1 ∧ 0 ≤ dst.2) :
    let r := relativeRois src dst back fwd pps pad al
    ((0 ≤ r.1.1.start ∧ r.1.1.stop ≤ src.1) ∧ (0 ≤ r.1.2.start ∧ r.1.2.stop ≤ src.2)) ∧
    ((0 ≤ r.2.1.start ∧ r.2.1.stop ≤ dst.1) ∧ (0 ≤ r.2.2.start ∧ r.2.2.stop ≤ dst.2)) := by
  simp only
  rcases relativeRois_cases src dst back fwd pps pad al with ⟨_, _, e1, e2⟩ | ⟨_, e1, e2⟩ | ⟨_, e1, e2⟩
  · rw [e1, e2]
    exact ⟨fromPoints_within _ pad al hs.1 hs.2, fromPoints_within _ 0 none hd.1 hd.2⟩
  · rw [e1, e2]
    exact ⟨fromPoints_within _ pad al hs.1 hs.2, emptyROI_within hd.1 hd.2⟩
  · rw [e1, e2]
    exact ⟨emptyROI_within hs.1 hs.2, emptyROI_within hd.1 hd.2⟩

/-- **Coverage for an abstract (possibly non-linear) point transform — partial.**
Full statement wanted: for the real cross-CRS transform every destination pixel whose centre maps inside the source lies
in `roi_dst` and its source location in `roi_src`.

What is missing, exactly: *control of the transform BETWEEN the 16 boundary samples* (5 per side).  The plan is the
envelope of the images of those samples (`relative_samples_covered` proves that every sampled point that falls in the
image is inside `roi_src`, with its padding neighbourhood).  A pixel centre is covered as soon as its image lies in that
envelope grown by `padding` (`henvS`), resp. the centre lies in the unpadded envelope of the forward images of the
samples of `roi_src`'s boundary (`henvD`).  For an affine map both hold for every interior point, because an affine
function on a rectangle is extremal at a corner and the corners are samples (`linear_covers`: the FULL statement).  For a
real projection an edge maps to a curve whose extreme may lie between two samples; the excess over the sampled extreme
(the sagitta of the arc between neighbouring samples) is not bounded by anything the code computes — it exceeds the
1-pixel padding for long thin destinations and large extents (known finding `xcrs-curved-edge-sliver-dropped`), and
`roi_dst` has no padding at all.  No hypothesis on the abstract transform short of `henvS ∧ henvD` themselves (or a
quantitative curvature bound per projection, which pyproj does not provide) closes the gap, so the theorem is stated
under exactly these two hypotheses; the harness samples them with an independent pyproj oracle. -/
theorem nonlinear_covers_partial (src dst : Shape) (back fwd : PtTr) (pps : Nat) (pad : Int) (al : Option Int)
    (hal : ∀ a, al = some a → 0 < a) (dy dx : Int) (hdy : 0 ≤ dy ∧ dy < dst.1) (hdx : 0 ≤ dx ∧ dx < dst.2)
    (q : Rat × Rat) (hqx : 0 ≤ q.1 ∧ q.1 < src.2) (hqy : 0 ≤ q.2 ∧ q.2 < src.1)
    (henvS : InEnvStrict (finitePts (srcSamples dst back pps)) q pad)
    (henvD : InEnvClosed (finitePts (dstSamples (relativeRois src dst back fwd pps pad al).1 fwd pps))
      ((dx : Rat) + 1 / 2, (dy : Rat) + 1 / 2)) :
    let r := relativeRois src dst back fwd pps pad al
    (r.2.1.start ≤ dy ∧ dy < r.2.1.stop) ∧ (r.2.2.start ≤ dx ∧ dx < r.2.2.stop) ∧
    (r.1.2.start ≤ q.1.floor ∧ q.1.floor < r.1.2.stop) ∧ (r.1.1.start ≤ q.2.floor ∧ q.2.floor < r.1.1.stop) := by
  obtain ⟨e2, m1, m2⟩ := relativeRois_src fwd henvS hqx hqy hal
  obtain ⟨hx0, hxN⟩ := centre_interior hdx.1 hdx.2
  obtain ⟨hy0, hyN⟩ := centre_interior hdy.1 hdy.2
  have c := fromPoints_mem_closed henvD ⟨hx0.le, hxN.le⟩ ⟨hy0.le, hyN.le⟩
  simp only at c ⊢
  rw [← e2] at c
  exact ⟨centre_mem c.2.1 c.2.2, centre_mem c.1.1 c.1.2, m1, m2⟩

/-- `nonlinear_covers_partial` with the destination-side hypothesis asked of EVERY rectangle that contains `q` (it is
used for `roi_src`, which contains the pixel of `q`), so that it can be discharged from the transform alone. -/
theorem covers_of_envelopes {src dst : Shape} {back fwd : PtTr} {pps : Nat} {pad : Int} {al : Option Int}
    (hal : ∀ a, al = some a → 0 < a) {dy dx : Int} (hdy : 0 ≤ dy ∧ dy < dst.1) (hdx : 0 ≤ dx ∧ dx < dst.2)
    {q : Rat × Rat} (hq : InImage q src) (henvS : InEnvStrict (finitePts (srcSamples dst back pps)) q pad)
    (henvD : ∀ rect : ROI, ((rect.2.start : Rat) ≤ q.1 ∧ q.1 ≤ rect.2.stop) → ((rect.1.start : Rat) ≤ q.2 ∧ q.2 ≤ rect.1.stop) →
      InEnvClosed (finitePts (dstSamples rect fwd pps)) ((dx : Rat) + 1 / 2, (dy : Rat) + 1 / 2)) :
    Covers (relativeRois src dst back fwd pps pad al) dy dx q := by
  obtain ⟨_, m1, m2⟩ := relativeRois_src fwd henvS hq.1 hq.2 hal
  exact nonlinear_covers_partial src dst back fwd pps pad al hal dy dx hdy hdx q hq.1 hq.2 henvS
    (henvD _ (of_floor_mem m1.1 m1.2) (of_floor_mem m2.1 m2.2))

/-- **Coverage on the sampled-corner path for every invertible affine map** (rotation, shear,
mirroring, any scale), any `padding ≥ 0`, any alignment: a destination pixel whose centre maps
inside the source image lies in the destination region, and the source pixel it maps to lies
in the source region.  `fwd` is the inverse of `A` (what `tr` / `tr.back` are in the code); only that it takes the image
of the pixel centre back is used. -/
theorem linear_covers (src : Shape) {dst : Shape} {A fwd : Aff} (hdet : A.det ≠ 0) {pps : Nat} (hpps : 2 ≤ pps)
    {pad : Int} (hpad : 0 ≤ pad) {al : Option Int} (hal : ∀ a, al = some a → 0 < a)
    {dy dx : Int} (hdy : 0 ≤ dy ∧ dy < dst.1) (hdx : 0 ≤ dx ∧ dx < dst.2)
    (hinv : fwd.apply (A.apply ((dx : Rat) + 1 / 2, (dy : Rat) + 1 / 2)) = ((dx : Rat) + 1 / 2, (dy : Rat) + 1 / 2))
    (hq : InImage (A.apply ((dx : Rat) + 1 / 2, (dy : Rat) + 1 / 2)) src) :
    Covers (relativeRois src dst (linTr A) (linTr fwd) pps pad al) dy dx (A.apply ((dx : Rat) + 1 / 2, (dy : Rat) + 1 / 2)) := by
  obtain ⟨hx, hy⟩ := centre_in_rect hdy hdx
  refine covers_of_envelopes hal hdy hdx hq
    (inEnvStrict_of_interior A hdet hpps (⟨0, dst.1⟩, ⟨0, dst.2⟩) _ pad hpad hx hy) ?_
  · intro rect hx hy
    have := inEnvClosed_of_mem fwd hpps rect _ hx hy
    rwa [hinv] at this

/-- **Separated ⇒ zero area (any point transform, any alignment).**  When every finite sampled
boundary image lies beyond the source image grown by `padding` on one side, the source region
has zero area and the destination region is `0:0, 0:0`.  (With alignment this relies on the
guard in `_relative_rois`, overlap.py:411-414: alignment must not turn an empty padded overlap
into a non-empty one.) -/
theorem separated_empty (src dst : Shape) (back fwd : PtTr) (pps : Nat) (pad : Int) (al : Option Int)
    (hs : 0 ≤ src.1 ∧ 0 ≤ src.2)
    (h : (∀ p ∈ finitePts (srcSamples dst back pps), p.1 + pad ≤ 0) ∨
         (∀ p ∈ finitePts (srcSamples dst back pps), (src.2 : Rat) ≤ p.1 - pad) ∨
         (∀ p ∈ finitePts (srcSamples dst back pps), p.2 + pad ≤ 0) ∨
         (∀ p ∈ finitePts (srcSamples dst back pps), (src.1 : Rat) ≤ p.2 - pad)) :
    let r := relativeRois src dst back fwd pps pad al
    ROI.isEmpty r.1 = true ∧ r.2 = emptyROI := by
  have e0 := fromPoints_separated hs.1 hs.2 h
  simp only
  rcases relativeRois_cases src dst back fwd pps pad al with ⟨_, h0, _⟩ | ⟨hS, e1, e2⟩ | ⟨_, e1, e2⟩
  · exact absurd (e0.symm.trans h0) (by decide)
  · rw [e1]
    exact ⟨hS, e2⟩
  · rw [e1]
    exact ⟨rfl, e2⟩

/-- with `A.d = 0` the first column has length `|a|` and the determinant is `a·e`, whatever `A.b` is -/
theorem scale2_of_d_zero (A : Aff) (n : Rat) (hd : A.d = 0) (hn : 0 < n) (hroot : n * n = A.a * A.a + A.d * A.d) :
    scale2 A n = (rabs A.a, rabs A.e) := by
  have hna : n = rabs A.a := by
    rw [rabs_eq_abs, ← abs_of_pos hn]
    exact abs_eq_abs.mpr (mul_self_eq_mul_self_iff.mp (by rw [hroot, hd, mul_zero, add_zero]))
  simp only [scale2, Aff.det, hd, mul_zero, sub_zero]
  rw [rabs_eq_abs (A.a * A.e), abs_mul, ← rabs_eq_abs, ← rabs_eq_abs, ← hna, mul_div_cancel_left₀ _ hn.ne']

/-- For a scale+translation map the reported per-axis scales are the destination-to-source
pixel-size ratios `|sx|, |sy|` (so `scale` is the smaller of them). -/
theorem scale_is_min_ratio (A : Aff) (n : Rat) (hb : A.b = 0) (hd : A.d = 0) (hn : 0 < n)
    (hroot : n * n = A.a * A.a + A.d * A.d) :
    scale2 A n = (rabs A.a, rabs A.e) ∧
    min (scale2 A n).1 (scale2 A n).2 = min (rabs A.a) (rabs A.e) := by
  rw [scale2_of_d_zero A n hd hn hroot]
  exact ⟨rfl, rfl⟩

/-- The read-shrink factor is a positive integer. -/
theorem read_shrink_pos_int (scale tol : Rat) (rs : Int) (h : pickReadScale scale tol = .ok rs) : 1 ≤ rs :=
  pickReadScale_pos h

/-- The read-shrink factor is `1` for scales below 1, otherwise `⌊scale⌋`, or the next integer
when the scale is less than `tol` below it: it exceeds the scale by less than the tolerance
(if at all) and is more than `scale - 1`. -/
theorem read_shrink_bound (scale tol : Rat) (rs : Int) (h : pickReadScale scale tol = .ok rs) :
    ((rs : Rat) ≤ max 1 scale ∨ (rs : Rat) - scale < tol) ∧ scale - 1 < rs := by
  obtain ⟨f1, f2⟩ := floor_bounds scale
  rcases pickReadScale_cases h with ⟨hs, rfl⟩ | ⟨hs, rfl | ⟨rfl, k⟩⟩
  · exact ⟨Or.inl (by simp), by push_cast; linarith⟩
  · exact ⟨Or.inl (le_trans f1 (le_max_right _ _)), by linarith⟩
  · exact ⟨Or.inr (by push_cast; exact k), by push_cast; linarith⟩

/-- `_pick_read_scale` fails (assert) exactly for non-positive scales. -/
theorem read_shrink_error_iff (scale tol : Rat) : (∃ e, pickReadScale scale tol = .error e) ↔ scale ≤ 0 := by
  unfold pickReadScale
  constructor
  · rintro ⟨e, h⟩
    by_contra hc
    have : scale > 0 := not_le.mp hc
    simp only [this, not_true_eq_false, if_false] at h
    split_ifs at h
  · intro h
    exact ⟨.assertion, by simp [not_lt.mpr h]⟩

/-- **Coverage on the paste path.**  The snapped axis transform has `s = ±1` and an integer
offset `t`.  If the *true* source coordinate `y` of the centre of destination pixel `d` is
within half a pixel of the snapped one and inside the source image, then `d` is in the
destination region and `⌊y⌋` in the source region.  (For a true transform
`y = ±(1+δ)(d+½) + t + ε` the hypothesis holds whenever `|δ|·Nd + |ε| < ½`; without such a
bound it fails, see `paste_drift_cex`.) -/
theorem axis_covers_near (Ns Nd : Int) (s : Rat) (t : Int) (hs : s = 1 ∨ s = -1) (r : NSlice × NSlice)
    (h : axisOverlap Ns Nd s t = .ok r) (d : Int) (hd0 : 0 ≤ d) (hdN : d < Nd) (y : Rat)
    (hnear : rabs (y - (s * ((d : Rat) + 1 / 2) + t)) < 1 / 2) (hy0 : 0 ≤ y) (hyN : y < Ns) :
    (r.2.start ≤ d ∧ d < r.2.stop) ∧ (r.1.start ≤ y.floor ∧ y.floor < r.1.stop) ∧
    y.floor = (s * ((d : Rat) + 1 / 2) + t).floor := by
  -- the snapped centre is `m + ½` for an integer `m`, and `y` lies in the same pixel `m`
  obtain ⟨m, hm⟩ : ∃ m : Int, s * ((d : Rat) + 1 / 2) + t = (m : Rat) + 1 / 2 := by
    rcases hs with rfl | rfl
    · exact ⟨d + t, by push_cast; ring⟩
    · exact ⟨-d - 1 + t, by push_cast; ring⟩
  have c1 := axis_dst_covers Ns Nd s t r h d hd0 hdN
  have c2 := axis_src_covers Ns Nd s t r h d hd0 hdN
  rw [hm, rabs_eq_abs] at hnear
  rw [hm, floor_add_half] at c2
  rw [hm] at c1
  rw [hm, floor_add_half, floor_of_near_centre hnear]
  have hy := floor_mem (a := 0) (by exact_mod_cast hy0) hyN
  rw [floor_of_near_centre hnear] at hy
  obtain ⟨hm0, hmN⟩ := centre_interior hy.1 hy.2
  exact ⟨c1 hm0.le hmN, c2 hm0.le hmN, rfl⟩

/-- Counterexample to coverage on the paste path *without* the half-pixel bound: the true
x-scale `2047/2048` (within `stol = 1e-3` of 1, so it is snapped to 1), 4096-pixel source,
4100-pixel destination.  The snapped plan ends the destination region at 4096, yet the centre
of destination pixel 4097 maps to `≈ 4095.499` inside the source image.  (Replayed on the real
code by the harness: known finding `paste-scale-drift-dst-pixel-dropped`.) -/
theorem paste_drift_cex :
    (axisOverlap 4096 4100 1 0 = .ok (⟨0, 4096⟩, ⟨0, 4096⟩)) ∧
    (0 ≤ (2047 / 2048 : Rat) * ((4097 : Rat) + 1 / 2) + 0 ∧ (2047 / 2048 : Rat) * ((4097 : Rat) + 1 / 2) + 0 < 4096) ∧
    ¬ ((4097 : Int) < 4096) := by
  refine ⟨by decide +kernel, by norm_num, by decide⟩

theorem plan_scale (src dst : Shape) (fwd A : Aff) (n ttol stol : Rat) (padding align : Option Int) (p : Plan)
    (h : reprojectLinear src dst fwd A n ttol stol padding align = .ok p) :
    p.scale2 = scale2 A n ∧ p.scale = min p.scale2.1 p.scale2.2 ∧ 1 ≤ p.readShrink ∧
    (((p.readShrink : Rat) ≤ max 1 p.scale ∨ (p.readShrink : Rat) - p.scale < tol1em3) ∧ p.scale - 1 < p.readShrink) := by
  obtain ⟨h1, h2, h3, _⟩ := reprojectLinear_cases h
  rw [h3, h2]
  exact ⟨rfl, rfl, read_shrink_pos_int _ _ _ h1, read_shrink_bound _ _ _ h1⟩

/-- **Within.**  The destination region lies in the destination image; the source region lies in
the source image, except on the overview path (`paste_ok`, read-shrink `k > 1`), where it is `k`
times a region of the `k`-fold overview and so may extend to the next multiple of `k`:
its stop is at most `⌈N/k⌉·k < N + k`. -/
theorem plan_within (src dst : Shape) (fwd A : Aff) (n ttol stol : Rat) (padding align : Option Int) (p : Plan)
    (hs : 1 ≤ src.1 ∧ 1 ≤ src.2) (hd : 0 ≤ dst.1 ∧ 0 ≤ dst.2)
    (h : reprojectLinear src dst fwd A n ttol stol padding align = .ok p) :
    ((0 ≤ p.roiDst.1.start ∧ p.roiDst.1.stop ≤ dst.1) ∧ (0 ≤ p.roiDst.2.start ∧ p.roiDst.2.stop ≤ dst.2)) ∧
    (0 ≤ p.roiSrc.1.start ∧ 0 ≤ p.roiSrc.2.start) ∧
    ((p.pasteOk = false ∨ p.readShrink = 1) → p.roiSrc.1.stop ≤ src.1 ∧ p.roiSrc.2.stop ≤ src.2) ∧
    (p.roiSrc.1.stop ≤ zoomOutDim src.1 p.readShrink * p.readShrink ∧ zoomOutDim src.1 p.readShrink * p.readShrink < src.1 + p.readShrink) ∧
    (p.roiSrc.2.stop ≤ zoomOutDim src.2 p.readShrink * p.readShrink ∧ zoomOutDim src.2 p.readShrink * p.readShrink < src.2 + p.readShrink) := by
  obtain ⟨h1, _, _, hc⟩ := reprojectLinear_cases h
  have hrs := read_shrink_pos_int _ _ _ h1
  have z1 := zoomOutDim_spec src.1 p.readShrink hs.1 hrs
  have z2 := zoomOutDim_spec src.2 p.readShrink hs.2 hrs
  have hs0 : 0 ≤ src.1 ∧ 0 ≤ src.2 := ⟨le_trans zero_le_one hs.1, le_trans zero_le_one hs.2⟩
  rcases hc with ⟨hp, hr⟩ | ⟨hp, _, _, _, ⟨hr1, hb⟩ | ⟨hr1, r', hb, hsrc⟩⟩
  · have w := relative_within src dst (linTr A) (linTr fwd) 2 (padOr1 padding) (normAlign align) hs0 hd
    rw [← hr] at w
    exact ⟨w.2, ⟨w.1.1.1, w.1.2.1⟩, fun _ => ⟨w.1.1.2, w.1.2.2⟩, ⟨le_trans w.1.1.2 z1.1, z1.2⟩, ⟨le_trans w.1.2.2 z2.1, z2.2⟩⟩
  · have w := box_within src dst _ hs0 hd _ hb
    exact ⟨⟨⟨w.2.1.1, w.2.1.2.2⟩, ⟨w.2.2.1, w.2.2.2.2⟩⟩, ⟨w.1.1.1, w.1.2.1⟩, fun _ => ⟨w.1.1.2.2, w.1.2.2.2⟩,
      ⟨le_trans w.1.1.2.2 z1.1, z1.2⟩, ⟨le_trans w.1.2.2.2 z2.1, z2.2⟩⟩
  · -- overview path: `roi_src` is `k` times a region of the `⌈N/k⌉`-sized overview
    have hz : ∀ n : Int, 0 ≤ zoomOutDim n p.readShrink := fun n => le_trans zero_le_one (le_max_left 1 _)
    have w := box_within (zoomOutDim src.1 p.readShrink, zoomOutDim src.2 p.readShrink) dst _ ⟨hz _, hz _⟩ hd _ hb
    have hk : 0 ≤ p.readShrink := le_trans zero_le_one hrs
    rw [hsrc]
    exact ⟨⟨⟨w.2.1.1, w.2.1.2.2⟩, ⟨w.2.2.1, w.2.2.2.2⟩⟩, ⟨Int.mul_nonneg w.1.1.1 hk, Int.mul_nonneg w.1.2.1 hk⟩,
      fun hf => hf.elim (fun hf => by rw [hp] at hf; cases hf) (fun h1' => absurd h1' hr1),
      ⟨Int.mul_le_mul_of_nonneg_right w.1.1.2.2 hk, z1.2⟩, ⟨Int.mul_le_mul_of_nonneg_right w.1.2.2.2 hk, z2.2⟩⟩

/-- Separated footprints on the padded path of the plan ⇒ both regions have zero area. -/
theorem plan_separated_empty (src dst : Shape) (fwd A : Aff) (n ttol stol : Rat) (padding align : Option Int)
    (p : Plan) (h : reprojectLinear src dst fwd A n ttol stol padding align = .ok p) (hnp : p.pasteOk = false)
    (hs : 0 ≤ src.1 ∧ 0 ≤ src.2)
    (hsep : (∀ c ∈ roiBoundary (⟨0, dst.1⟩, ⟨0, dst.2⟩) 2, (A.apply c).1 + padOr1 padding ≤ 0) ∨
         (∀ c ∈ roiBoundary (⟨0, dst.1⟩, ⟨0, dst.2⟩) 2, (src.2 : Rat) ≤ (A.apply c).1 - padOr1 padding) ∨
         (∀ c ∈ roiBoundary (⟨0, dst.1⟩, ⟨0, dst.2⟩) 2, (A.apply c).2 + padOr1 padding ≤ 0) ∨
         (∀ c ∈ roiBoundary (⟨0, dst.1⟩, ⟨0, dst.2⟩) 2, (src.1 : Rat) ≤ (A.apply c).2 - padOr1 padding)) :
    ROI.isEmpty p.roiSrc = true ∧ p.roiDst = emptyROI := by
  obtain ⟨_, _, _, hc⟩ := reprojectLinear_cases h
  rcases hc with ⟨_, hr⟩ | ⟨hp, _⟩
  · have c := separated_empty src dst (linTr A) (linTr fwd) 2 (padOr1 padding) (normAlign align) hs (by
      simp only [srcSamples, finitePts_linTr, List.forall_mem_map]
      exact hsep)
    rw [← hr] at c
    exact c
  · rw [hp] at hnp; cases hnp

/-- On the paste path the regions are exactly `box_overlap` of the snapped transform (of the
`k`-fold overview, scaled back up by `k`, when read-shrink is `k > 1`), so `box_covers`,
`box_within` and `axis_disjoint_empty` apply to them. -/
theorem plan_paste_is_box (src dst : Shape) (fwd A : Aff) (n ttol stol : Rat) (padding align : Option Int)
    (p : Plan) (h : reprojectLinear src dst fwd A n ttol stol padding align = .ok p) (hp : p.pasteOk = true) :
    canPaste A n stol ttol = .ok true ∧ (align = none ∨ align = some 0) ∧ (padding = none ∨ padding = some 0) ∧
    ((p.readShrink = 1 ∧ boxOverlap src dst (snapAffine A ttol stol) = .ok (p.roiSrc, p.roiDst)) ∨
     (p.readShrink ≠ 1 ∧ ∃ r' : ROI,
        boxOverlap (zoomOutDim src.1 p.readShrink, zoomOutDim src.2 p.readShrink) dst
          (snapAffine (Aff.scale (1 / (p.readShrink : Rat)) (1 / (p.readShrink : Rat)) * A) ttol stol)
          = .ok (r', p.roiDst) ∧ p.roiSrc = scaledUpROI r' p.readShrink)) := by
  obtain ⟨_, _, _, hc⟩ := reprojectLinear_cases h
  rcases hc with ⟨hf, _⟩ | ⟨_, h1, h2, h3, h4⟩
  · rw [hp] at hf; exact absurd hf (by simp)
  · refine ⟨h1, ?_, h3, h4⟩
    unfold normAlign at h2
    split_ifs at h2 with c
    · right; exact c
    · left; exact h2

/-- The cross-CRS plan never pastes, its regions are `_relative_rois` with 5 points per side and
default padding 1 (so `relative_within`, `separated_empty`, `nonlinear_covers_partial` apply),
and its read-shrink is a positive integer. -/
theorem nonlinear_plan {src dst : Shape} {back fwd : PtTr} {scaleAt : Rat × Rat → Rat × Rat}
    {padding align : Option Int} {p : Plan}
    (h : reprojectNonlinear src dst back fwd scaleAt padding align = .ok p) :
    p.pasteOk = false ∧ 1 ≤ p.readShrink ∧
    (p.roiSrc, p.roiDst) = relativeRois src dst back fwd 5 (padOr1 padding) (normAlign align) := by
  obtain ⟨hr, hp, hc⟩ := reprojectNonlinear_ok h
  refine ⟨hp, ?_, hr⟩
  rcases hc with ⟨_, _, _, h1⟩ | ⟨_, _, _, hrs⟩
  · rw [h1]
  · exact read_shrink_pos_int _ _ _ hrs

/-- **Every sampled boundary point is covered.**  When the padded envelope of the samples is not empty, the source region
of `_relative_rois` is the aligned padded envelope, and every finite sample that falls in the source image lies in it
together with its `padding` neighbourhood (clamped to the image) — whatever the transform does between the samples. -/
theorem relative_samples_covered (src dst : Shape) (back fwd : PtTr) (pps : Nat) (pad : Int) (al : Option Int)
    (hp : 0 ≤ pad) (hal : ∀ a, al = some a → 0 < a)
    (hne : ROI.isEmpty (fromPoints (srcSamples dst back pps) src.1 src.2 pad none) = false)
    (x y : Rat) (hmem : (Coord.fin x, Coord.fin y) ∈ srcSamples dst back pps)
    (hx : 0 ≤ x ∧ x ≤ src.2) (hy : 0 ≤ y ∧ y ≤ src.1) :
    let r := relativeRois src dst back fwd pps pad al
    r.1 = fromPoints (srcSamples dst back pps) src.1 src.2 pad al ∧
    ((r.1.2.start : Rat) ≤ max 0 (x - pad) ∧ min (src.2 : Rat) (x + pad) ≤ r.1.2.stop) ∧
    ((r.1.1.start : Rat) ≤ max 0 (y - pad) ∧ min (src.1 : Rat) (y + pad) ≤ r.1.1.stop) := by
  have c := from_points_contains (srcSamples dst back pps) src.1 src.2 pad al x y hmem hx hy hp hal
  simp only
  rcases relativeRois_cases src dst back fwd pps pad al with ⟨_, _, e, _⟩ | ⟨_, e, _⟩ | ⟨h0, _⟩
  · rw [e]
    exact ⟨rfl, c⟩
  · rw [e]
    exact ⟨rfl, c⟩
  · exact absurd (hne.symm.trans h0) (by decide)

/-- **The scale is estimated at `roi_center(roi_dst)`.**  In the cross-CRS branch with a non-empty destination region the
point handed to `get_scale_at_point` is `(roi_center x-slice, roi_center y-slice)` of `roi_dst` as computed by C17's
`slice_center` (no sign flip, no swap of axes), `scale` is the smaller component and read-shrink is `_pick_read_scale` of
it. -/
theorem nonlinear_scale_point_is_roi_center (src dst : Shape) (back fwd : PtTr) (scaleAt : Rat × Rat → Rat × Rat)
    (padding align : Option Int) (p : Plan) (hs : 0 ≤ src.1 ∧ 0 ≤ src.2) (hd : 0 ≤ dst.1 ∧ 0 ≤ dst.2)
    (h : reprojectNonlinear src dst back fwd scaleAt padding align = .ok p)
    (hne : ROI.isEmpty p.roiDst = false) :
    ∃ cx cy : Rat, sliceCenter (.slc (some p.roiDst.2.start) (some p.roiDst.2.stop)) = .ok cx ∧
      sliceCenter (.slc (some p.roiDst.1.start) (some p.roiDst.1.stop)) = .ok cy ∧
      p.scale2 = scaleAt (cx, cy) ∧ p.scale = min p.scale2.1 p.scale2.2 ∧
      pickReadScale p.scale = .ok p.readShrink := by
  obtain ⟨hr, _, hc⟩ := reprojectNonlinear_ok h
  rcases hc with ⟨he, _⟩ | ⟨_, h2, h3, h4⟩
  · rw [hne] at he; cases he
  · have w := relative_within src dst back fwd 5 (padOr1 padding) (normAlign align) hs hd
    rw [← hr] at w
    simp only [ROI.isEmpty, Bool.or_eq_false_iff, decide_eq_false_iff_not] at hne w
    exact ⟨_, _, center_eq _ _ ⟨w.2.2.1, by omega⟩, center_eq _ _ ⟨w.2.1.1, by omega⟩, h2, h3, h4⟩

/-- With an empty destination region the cross-CRS plan reports `scale = 0`, `scale2 = (0, 0)` and read-shrink 1. -/
theorem nonlinear_empty_scale (src dst : Shape) (back fwd : PtTr) (scaleAt : Rat × Rat → Rat × Rat)
    (padding align : Option Int) (p : Plan)
    (h : reprojectNonlinear src dst back fwd scaleAt padding align = .ok p) (he : ROI.isEmpty p.roiDst = true) :
    p.scale = 0 ∧ p.scale2 = (0, 0) ∧ p.readShrink = 1 := by
  obtain ⟨_, _, hc⟩ := reprojectNonlinear_ok h
  rcases hc with ⟨_, h1, h2, h3⟩ | ⟨hne, _⟩
  · exact ⟨h1, h2, h3⟩
  · rw [he] at hne; cases hne

/-- **`affine_from_pts` on the stencil recovers an affine map exactly**: all six coefficients, for every stencil centre
and radius `r ≠ 0` (however far from the origin: there is no conditioning in exact arithmetic). -/
theorem stencil_exact_for_affine (A : Aff) (pt : Rat × Rat) (r : Rat) (hr : r ≠ 0) :
    stencilAffine A.apply pt r = A := by
  obtain ⟨a, b, c, d, e, f⟩ := A
  obtain ⟨ea, eb⟩ := central_diff_affine a b c pt.1 pt.2 r hr
  obtain ⟨ed, ee⟩ := central_diff_affine d e f pt.1 pt.2 r hr
  simp only [stencilAffine, Aff.apply, ea, eb, ed, ee]
  congr 1 <;> ring

/-- so `get_scale_at_point` of an affine transform is `get_scale_from_linear_transform` of it, at every point -/
theorem scale_at_point_affine (A : Aff) (pt : Rat × Rat) (r n : Rat) (hr : r ≠ 0) :
    scaleAtPoint A.apply pt r n = scale2 A n := by
  simp only [scaleAtPoint, stencil_exact_for_affine A pt r hr]

/-- **The closed form solves the normal equations of the least-squares fit**: for ANY transform the residuals of the fitted
map on the five stencil points satisfy the normal equations of `lstsq([x y 1], Y)` — they sum to zero and are orthogonal
to the `x` and to the `y` column — in both output coordinates.  (That a solution of the normal equations minimises the
squared error is not proved here.) -/
theorem stencil_normal_equations (tr : Rat × Rat → Rat × Rat) (pt : Rat × Rat) (r : Rat) (hr : r ≠ 0) :
    let F := stencilAffine tr pt r
    let res := (stencilPts pt r).map fun q => ((tr q).1 - (F.apply q).1, (tr q).2 - (F.apply q).2)
    let xs := (stencilPts pt r).map (·.1)
    let ys := (stencilPts pt r).map (·.2)
    (res.map (·.1)).sum = 0 ∧ (res.map (·.2)).sum = 0 ∧
    ((List.zipWith (· * ·) xs (res.map (·.1))).sum = 0 ∧ (List.zipWith (· * ·) ys (res.map (·.1))).sum = 0) ∧
    ((List.zipWith (· * ·) xs (res.map (·.2))).sum = 0 ∧ (List.zipWith (· * ·) ys (res.map (·.2))).sum = 0) := by
  have h2 : (2 : Rat) * r ≠ 0 := mul_ne_zero two_ne_zero hr
  have L1 := stencil_fit_normal (fun q => (tr q).1) pt r _ _ (stencilAffine tr pt r).c
    (div_mul_cancel₀ _ h2) (div_mul_cancel₀ _ h2) (by simp only [stencilAffine]; ring)
  have L2 := stencil_fit_normal (fun q => (tr q).2) pt r _ _ (stencilAffine tr pt r).f
    (div_mul_cancel₀ _ h2) (div_mul_cancel₀ _ h2) (by simp only [stencilAffine]; ring)
  exact ⟨L1.1, L2.1, L1.2, L2.2⟩

/-- **Read-shrink is 1 for every scale below `2 − tol`** (`tol ≥ 0`): nothing is read from an overview unless the
destination pixels are (within `tol` of) at least twice the source pixels. -/
theorem read_shrink_one_below_two (scale tol : Rat) (rs : Int) (h : pickReadScale scale tol = .ok rs)
    (htol : 0 ≤ tol) (hlt : scale < 2 - tol) : rs = 1 := by
  rcases pickReadScale_cases h with ⟨_, rfl⟩ | ⟨hs, k⟩
  · rfl
  · have hfl : 1 ≤ scale.floor := Rat.le_floor_iff.mpr (by exact_mod_cast hs)
    have hfq : (1 : Rat) ≤ (scale.floor : Rat) := by exact_mod_cast hfl
    rcases k with rfl | ⟨_, k⟩
    · have : scale.floor < 2 := Rat.floor_lt_iff.mpr (by push_cast; linarith)
      omega
    · -- snapping up needs `scale > ⌊scale⌋ + 1 - tol ≥ 2 - tol`
      linarith

/-- **Truncation, not rounding.**  For `scale ≥ 1` whose fractional part is at most `1 − tol` (not within `tol` below the
next integer) read-shrink is exactly `⌊scale⌋`: `2.6 ↦ 2`, `2.9 ↦ 2`, never `3`. -/
theorem read_shrink_truncates (scale tol : Rat) (rs : Int) (h : pickReadScale scale tol = .ok rs)
    (hs : 1 ≤ scale) (hfrac : scale - scale.floor ≤ 1 - tol) : rs = scale.floor := by
  rcases pickReadScale_cases h with ⟨hlt, _⟩ | ⟨_, rfl | ⟨_, k⟩⟩
  · linarith
  · rfl
  · linarith

example : axisOverlap 10 10 2 (-3 / 2) = .ok (⟨0, 10⟩, ⟨0, 6⟩) := by decide +kernel
example : axisOverlap 10 10 (-1) 7 = .ok (⟨0, 7⟩, ⟨0, 7⟩) := by decide +kernel
example : relativeRois (100, 100) (50, 50) (linTr ⟨1, 0, 103, 0, 1, 10⟩) (linTr ⟨1, 0, -103, 0, 1, -10⟩) 2 1 (some 16)
    = (emptyROI, emptyROI) := by decide +kernel
example : pickReadScale (1 / 2) (1 / 8) = .ok 1 := by decide +kernel
-- a quadratic map: the fit at (10, 20) is its tangent map there (a = 2·10/8, b = 0, d = 0, e = 1)
example : stencilAffine (fun q => (q.1 * q.1 / 8, q.2)) (10, 20) 1 = ⟨5 / 2, 0, -249 / 20, 0, 1, 0⟩ := by decide +kernel
example : (reprojectNonlinear (50, 60) (20, 30) (linTr ⟨2, 0, 3, 0, 2, 5⟩) (linTr ⟨1 / 2, 0, -3 / 2, 0, 1 / 2, -5 / 2⟩)
    (fun c => scaleAtPoint (Aff.apply ⟨2, 0, 3, 0, 2, 5⟩) c 1 2) none none).toOption.map
      (fun p => (p.roiSrc, p.roiDst, p.readShrink)) = some ((⟨4, 46⟩, ⟨2, 60⟩), (⟨0, 20⟩, ⟨0, 29⟩), 2) := by decide +kernel

end OdcGeo.C03
