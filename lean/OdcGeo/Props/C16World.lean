/-
C16 — the public entry points, from their arguments to their results: `GeoBox.enclosing(region)` with its
dispatch on the region type and `GeoBox.project` (pyproj is the parameter `reproj`); the same facts in world
coordinates through `GeoBox.boundingbox` (axis-aligned grids in Part O, any invertible grid in Part T); `BoundingBox`
as a value / sequence, `to_crs`, `boundary`, `map_bounds`; `GCPGeoBox.project`; the pixel-domain box under a shift of
the reference by whole pixels; `functools.reduce` of `|`, `&` against the n-ary functions.
-/
import OdcGeo.Props.C16
import OdcGeo.Model.C16Ext
import OdcGeo.Lemmas.Except
import Mathlib.Tactic.Linarith
import Mathlib.Tactic.Ring
import Mathlib.Algebra.Order.Field.Rat

namespace OdcGeo.C16
open OdcGeo

/-! ## Part L — `enclosing(region)` and `project` -/

/-- the coordinates `enclosing` works on, in the CRS of the GeoBox (pyproj = `reproj`) -/
def Region.worldHead (r : Region) (reproj : Reproj) (dst : Option Nat) : Pt :=
  if r.crs = dst then r.head else reproj r.crs dst r.head
def Region.worldTail (r : Region) (reproj : Reproj) (dst : Option Nat) : List Pt :=
  if r.crs = dst then r.tail else r.tail.map (reproj r.crs dst)

/-- **The public entry point is the modelled core** applied to the coordinates of the region
(`region.polygon` for a `BoundingBox`), re-projected exactly when the CRSs differ — for every
region type, every CRS combination, every `reproj`, error branches included. -/
theorem enclosingRegion_eq (g : GeoBox) (reproj : Reproj) (r : Region) :
    g.enclosingRegion reproj r =
      g.enclosing r.crs (r.worldHead reproj g.crs) (r.worldTail reproj g.crs) := by
  unfold GeoBox.enclosingRegion GeoBox.enclosing GeoBox.project Region.worldHead Region.worldTail
  by_cases h1 : r.crs = none
  · simp [h1]
  by_cases h2 : g.crs = none
  · simp [h1, h2]
  by_cases h3 : r.crs = g.crs
  · cases h4 : g.aff.inv? <;> simp [h2, h3]
  · cases h4 : g.aff.inv? <;> simp [h1, h2, h3, List.map_map, Function.comp_def]

/-- error behaviour of the entry point: no CRS on the region → `ValueError` (whatever the GeoBox);
a GeoBox without CRS → `AssertionError`; a degenerate grid → `ValueError` -/
theorem enclosing_region_errors (g : GeoBox) (reproj : Reproj) (r : Region) :
    (r.crs = none → g.enclosingRegion reproj r = .error .valueError) ∧
    (r.crs ≠ none → g.crs = none → g.enclosingRegion reproj r = .error .assertion) ∧
    (r.crs ≠ none → g.crs ≠ none → g.aff.det = 0 → g.enclosingRegion reproj r = .error .valueError) := by
  rw [enclosingRegion_eq, enclosing_eq]
  exact ⟨fun h => if_pos h, fun h1 h2 => by rw [if_neg h1, if_pos h2],
    fun h1 h2 h3 => by rw [if_neg h1, if_neg h2, if_pos h3]⟩

/-- **`enclosing(region)`, any region type, same or different CRS**: on the grid, at least one
pixel, covers every (re-projected) coordinate of the region, exceeds them by less than one pixel per
side (the zero-extent-on-a-grid-line case gives exactly one pixel). -/
theorem enclosing_region_spec (g : GeoBox) (hdet : g.aff.det ≠ 0) (hg : g.crs ≠ none) (reproj : Reproj)
    (r : Region) (hr : r.crs ≠ none) :
    ∃ (res : GeoBox) (tx ty : Int), g.enclosingRegion reproj r = .ok res ∧
      Encloses g res tx ty (r.worldHead reproj g.crs :: r.worldTail reproj g.crs) := by
  rw [enclosingRegion_eq]
  exact enclosing_spec g hdet r.crs hr hg _ _

theorem covers_inv {g : GeoBox} (hdet : g.aff.det ≠ 0) {w : Pt} :
    g.Covers w ↔ 0 ≤ (g.aff.inv.apply w).1 ∧ (g.aff.inv.apply w).1 ≤ g.nx ∧
      0 ≤ (g.aff.inv.apply w).2 ∧ (g.aff.inv.apply w).2 ≤ g.ny := by
  constructor
  · rintro ⟨x, y, h1, h2, h3, h4, rfl⟩
    rw [Aff.inv_apply_apply g.aff hdet]
    exact ⟨h1, h2, h3, h4⟩
  · rintro ⟨h1, h2, h3, h4⟩
    exact ⟨_, _, h1, h2, h3, h4, Aff.apply_inv_apply g.aff hdet w⟩

/-- a footprint that covers the corners of a box covers the box: pixel coordinates are affine forms on it -/
theorem covers_box (g : GeoBox) (hdet : g.aff.det ≠ 0) (bb : BBox Rat)
    (c1 : g.Covers (bb.left, bb.bottom)) (c2 : g.Covers (bb.left, bb.top))
    (c3 : g.Covers (bb.right, bb.top)) (c4 : g.Covers (bb.right, bb.bottom))
    (q : Pt) (hq : bb.Contains q) : g.Covers q := by
  rw [covers_inv hdet] at c1 c2 c3 c4 ⊢
  exact g.aff.inv.apply_mem_box ⟨hq.1, hq.2.1⟩ hq.2.2 c1 c4 c3 c2

/-- `enclosing_region_spec` for a `BoundingBox` region in the CRS of the GeoBox: its vertices are the ring
of the box -/
theorem enclosing_bbox_spec (g : GeoBox) (hdet : g.aff.det ≠ 0) (hg : g.crs ≠ none) (reproj : Reproj)
    (bb : BBox Rat) (hc : bb.crs = g.crs) :
    ∃ (res : GeoBox) (tx ty : Int), g.enclosingRegion reproj (.bbox bb) = .ok res ∧
      Encloses g res tx ty [(bb.left, bb.bottom), (bb.left, bb.top), (bb.right, bb.top), (bb.right, bb.bottom),
        (bb.left, bb.bottom)] := by
  have := enclosing_region_spec g hdet hg reproj (.bbox bb) (show bb.crs ≠ none from hc ▸ hg)
  simp only [Region.worldHead, Region.worldTail, Region.crs, hc, if_true] at this
  exact this

/-- **A `BoundingBox` region in the CRS of the GeoBox is covered point by point** (not only at
its corners): every point of the box lies in the footprint of `g.enclosing(bbox)`. -/
theorem enclosing_bbox_covers_box (g : GeoBox) (hdet : g.aff.det ≠ 0) (hg : g.crs ≠ none) (reproj : Reproj)
    (bb : BBox Rat) (hc : bb.crs = g.crs) :
    ∃ res : GeoBox, g.enclosingRegion reproj (.bbox bb) = .ok res ∧ res.crs = g.crs ∧
      ∀ q, bb.Contains q → res.Covers q := by
  obtain ⟨res, tx, ty, h, e⟩ := enclosing_bbox_spec g hdet hg reproj bb hc
  have hres : res.aff.det ≠ 0 := by rwa [e.aff_eq, Aff.det_mul_translation]
  exact ⟨res, h, by rw [e.onGrid]; rfl, covers_box res hres bb (e.covers hdet (by simp)) (e.covers hdet (by simp))
    (e.covers hdet (by simp)) (e.covers hdet (by simp))⟩

/-- non-vacuity of the hypotheses above: a rotated grid with a CRS and a box in the same CRS -/
example : ∃ (g : GeoBox) (bb : BBox Rat) (q : Pt), g.aff.det ≠ 0 ∧ g.crs ≠ none ∧ bb.crs = g.crs ∧ bb.Contains q :=
  ⟨⟨4, 5, ⟨3, -4, 100, 4, 3, 200⟩, some 1⟩, ⟨0, 0, 2, 2, some 1⟩, (1, 1), by simp [Aff.det]; norm_num,
    by simp, rfl, by simp [BBox.Contains]⟩

/-- to the world and back through point maps with `w2p ∘ p2w = id`; `g.project` is `gcpProject g` with identity maps -/
theorem gcpProject_roundtrip (g : GeoBox) (hdet : g.aff.det ≠ 0) (hg : g.crs ≠ none) (P Q : Pt → Pt)
    (hPQ : ∀ q, Q (P q) = q) (reproj : Reproj) (p : Pt) (ps : List Pt) :
    ∃ w ws, gcpProject g P Q reproj none p ps = .ok (g.crs, w, ws) ∧
      gcpProject g P Q reproj g.crs w ws = .ok (none, p, ps) :=
  ⟨_, _, if_pos rfl, by
    simp only [gcpProject, if_neg hg, Aff.inv?_of_det_ne hdet, if_true, List.map_map, Function.comp_def, hPQ,
      Aff.inv_apply_apply g.aff hdet, List.map_id']⟩

/-- `project` to the world and back (a region without CRS is read as pixel coordinates; its image
carries the CRS of the GeoBox and is mapped back without re-projection): the identity -/
theorem project_roundtrip (g : GeoBox) (hdet : g.aff.det ≠ 0) (hg : g.crs ≠ none) (reproj : Reproj)
    (p : Pt) (ps : List Pt) :
    ∃ w ws, g.project reproj none p ps = .ok (g.crs, w, ws) ∧
      g.project reproj g.crs w ws = .ok (none, p, ps) :=
  gcpProject_roundtrip g hdet hg (fun q => q) (fun q => q) (fun _ => rfl) reproj p ps

theorem project_roundtrip_world (g : GeoBox) (hdet : g.aff.det ≠ 0) (hg : g.crs ≠ none) (reproj : Reproj)
    (p : Pt) (ps : List Pt) :
    ∃ w ws, g.project reproj g.crs p ps = .ok (none, w, ws) ∧
      g.project reproj none w ws = .ok (g.crs, p, ps) := by
  refine ⟨g.aff.inv.apply p, ps.map g.aff.inv.apply, by simp [GeoBox.project, hg, Aff.inv?, hdet], ?_⟩
  simp only [GeoBox.project, if_true, List.map_map, Function.comp_def, Aff.apply_inv_apply g.aff hdet]
  simp

/-- `project` never consults pyproj for a region in the CRS of the GeoBox or without CRS -/
theorem project_same_crs_ignores_reproj (g : GeoBox) (r1 r2 : Reproj) (crs : Option Nat)
    (h : crs = none ∨ crs = g.crs) (p : Pt) (ps : List Pt) :
    g.project r1 crs p ps = g.project r2 crs p ps := by
  rcases h with h | h
  · simp [GeoBox.project, h]
  · by_cases hg : g.crs = none
    · simp [GeoBox.project, h, hg]
    · simp [GeoBox.project, h, hg]

/-- **`g.enclosing(h.extent) = h`** for every non-empty member `h` of the grid of `g` (in
particular `g.enclosing(g.extent) = g`): the footprint polygon of a GeoBox on the grid is enclosed
by exactly that GeoBox — same shape, same affine, nothing gained by the outward rounding. -/
theorem enclosing_of_member (g0 : GeoBox) (hdet : g0.aff.det ≠ 0) (hg : g0.crs ≠ none) (reproj : Reproj)
    (r : Rect) (hr : r.NonEmpty) :
    g0.enclosingRegion reproj (.geom g0.crs (onGrid g0 r).extentHead (onGrid g0 r).extentTail) =
      .ok (onGrid g0 r) := by
  obtain ⟨hx, hy⟩ := hr
  have hxq : (r.x0 : Rat) ≤ r.x1 := Int.cast_le.mpr hx.le
  have hyq : (r.y0 : Rat) ≤ r.y1 := Int.cast_le.mpr hy.le
  rw [enclosingRegion_eq]
  simp only [Region.worldHead, Region.worldTail, Region.crs, Region.head, Region.tail, if_true,
    GeoBox.extentHead, GeoBox.extentTail, onGrid, GeoBox.enclosing, if_neg hg, Aff.inv?_of_det_ne hdet,
    List.map, Aff.apply_mul_translation, Aff.inv_apply_apply g0.aff hdet, bboxOfPoints, BBox.round, minL, maxL, zero_add,
    Int.cast_sub, sub_add_cancel, GeoBox.translatePix, min_self, max_self, min_eq_left hxq, min_eq_left hyq,
    max_eq_right hxq, max_eq_right hyq, max_eq_left hxq, max_eq_left hyq, Rat.floor_intCast, Rat.ceil_intCast]
  have h1 : max 1 (r.x1 - r.x0) = r.x1 - r.x0 := by omega
  have h2 : max 1 (r.y1 - r.y0) = r.y1 - r.y0 := by omega
  rw [h1, h2]

/-- **The enclosing GeoBox can always be combined with its source grid**: for every region type, in
the same or another CRS, `g | r`, `r | g`, `g & r`, `r & g` and `g.overlap_roi(r)` with
`r = g.enclosing(region)` all succeed (what the window of `g.overlap_roi(r)` selects is `overlap_roi_exact`). -/
theorem enclosing_then_ops_succeed (g : GeoBox) (hdet : g.aff.det ≠ 0) (hg : g.crs ≠ none) (reproj : Reproj)
    (r : Region) (hr : r.crs ≠ none) (hny : 0 ≤ g.ny) (hnx : 0 ≤ g.nx) :
    ∃ (res : GeoBox) (t : Rect), g.enclosingRegion reproj r = .ok res ∧ res = onGrid g t ∧ t.NonEmpty ∧
      g.or res = .ok (onGrid g ((⟨0, 0, g.nx, g.ny⟩ : Rect).union t)) ∧
      res.or g = .ok (onGrid g ((⟨0, 0, g.nx, g.ny⟩ : Rect).union t)) ∧
      g.and res = .ok (onGrid g ((⟨0, 0, g.nx, g.ny⟩ : Rect).inter t)) ∧
      res.and g = .ok (onGrid g ((⟨0, 0, g.nx, g.ny⟩ : Rect).inter t)) ∧
      ∃ roi, g.overlapRoi res tolPix = .ok roi := by
  obtain ⟨res, tx, ty, h, e⟩ := enclosing_region_spec g hdet hg reproj r hr
  have hor := or_onGrid g hdet ⟨0, 0, g.nx, g.ny⟩ ⟨tx, ty, tx + res.nx, ty + res.ny⟩
  have hand := and_onGrid g hdet ⟨0, 0, g.nx, g.ny⟩ ⟨tx, ty, tx + res.nx, ty + res.ny⟩
  have hroi := overlapRoi_onGrid g hdet ⟨0, 0, g.nx, g.ny⟩ ⟨tx, ty, tx + res.nx, ty + res.ny⟩ tolPix tolPix_pos
  rw [← self_onGrid g, ← e.onGrid] at hor hand hroi
  obtain ⟨c1, c2⟩ := union_inter_comm_of_shift g res hdet tx ty e.aff_eq (by rw [e.onGrid]; rfl)
  exact ⟨res, _, h, e.onGrid, ⟨lt_add_of_pos_right _ (zero_lt_one.trans_le e.x.pos),
    lt_add_of_pos_right _ (zero_lt_one.trans_le e.y.pos)⟩, hor, c1 ▸ hor, hand, c2 ▸ hand, _, hroi⟩

example : ∃ g : GeoBox, g.aff.det ≠ 0 ∧ g.crs ≠ none ∧ 0 ≤ g.ny ∧ 0 ≤ g.nx :=
  ⟨⟨4, 5, ⟨3, -4, 100, 4, 3, 200⟩, some 1⟩, by simp [Aff.det]; norm_num, by simp, by decide, by decide⟩

/-! ## Part M — world coordinates: `GeoBox.boundingbox` -/

theorem covers_boundingbox (g : GeoBox) (w : Pt) (h : g.Covers w) : g.boundingbox.Contains w := by
  obtain ⟨x, y, h1, h2, h3, h4, rfl⟩ := h
  exact bbox_from_transform_covers g.ny g.nx g.aff g.crs (x, y) ⟨h1, h2, h3, h4⟩

/-- **End to end in world coordinates**: for a `BoundingBox` region in the CRS of the GeoBox,
`g.enclosing(bbox).boundingbox` contains every point of the region — hence the region, edge-wise. -/
theorem enclosing_bbox_world (g : GeoBox) (hdet : g.aff.det ≠ 0) (hg : g.crs ≠ none) (reproj : Reproj)
    (bb : BBox Rat) (hc : bb.crs = g.crs) :
    ∃ res : GeoBox, g.enclosingRegion reproj (.bbox bb) = .ok res ∧ res.crs = g.crs ∧
      (∀ q, bb.Contains q → res.boundingbox.Contains q) ∧
      (bb.left ≤ bb.right → bb.bottom ≤ bb.top → bb.Within res.boundingbox) := by
  obtain ⟨res, h, hcrs, hcov⟩ := enclosing_bbox_covers_box g hdet hg reproj bb hc
  refine ⟨res, h, hcrs, fun q hq => covers_boundingbox res q (hcov q hq), fun hlr hbt => ?_⟩
  have c1 := covers_boundingbox res _ (hcov (bb.left, bb.bottom) ⟨le_refl _, hlr, le_refl _, hbt⟩)
  have c2 := covers_boundingbox res _ (hcov (bb.right, bb.top) ⟨hlr, le_refl _, hbt, le_refl _⟩)
  exact ⟨c1.1, c1.2.2.1, c2.2.1, c2.2.2.2⟩

theorem bbox_transform_mono (a c : BBox Rat) (A : Aff)
    (h1 : c.Contains (a.left, a.bottom)) (h2 : c.Contains (a.right, a.top)) :
    (a.transform A).Within (c.transform A) := by
  refine transform_within a A _ fun q hq => bbox_transform_covers c A q ?_
  obtain ⟨p1, p2, p3, p4⟩ := h1
  obtain ⟨q1, q2, q3, q4⟩ := h2
  simp only [BBox.points, List.mem_cons, List.mem_nil_iff, or_false] at hq
  rcases hq with rfl | rfl | rfl | rfl
  exacts [⟨p1, p2, p3, p4⟩, ⟨p1, p2, q3, q4⟩, ⟨q1, q2, p3, p4⟩, ⟨q1, q2, q3, q4⟩]

theorem boundingbox_onGrid (g0 : GeoBox) (r : Rect) :
    (onGrid g0 r).boundingbox =
      (⟨(r.x0 : Rat), (r.y0 : Rat), (r.x1 : Rat), (r.y1 : Rat), g0.crs⟩ : BBox Rat).transform g0.aff := by
  simp only [GeoBox.boundingbox, onGrid, bbox_from_transform_eq_transform, BBox.transform,
    Aff.apply_mul_translation, zero_add, Int.cast_sub, sub_add_cancel]

theorem boundingbox_mono_onGrid (g0 : GeoBox) (r s : Rect) (hr : r.Valid) (h : r.Within s) :
    (onGrid g0 r).boundingbox.Within (onGrid g0 s).boundingbox := by
  obtain ⟨h1, h2, h3, h4⟩ := h
  obtain ⟨v1, v2⟩ := hr
  rw [boundingbox_onGrid, boundingbox_onGrid]
  apply bbox_transform_mono
  · simp only [BBox.Contains]
    exact ⟨Int.cast_le.mpr h1, Int.cast_le.mpr (v1.trans h3), Int.cast_le.mpr h2, Int.cast_le.mpr (v2.trans h4)⟩
  · simp only [BBox.Contains]
    exact ⟨Int.cast_le.mpr (h1.trans v1), Int.cast_le.mpr h3, Int.cast_le.mpr (h2.trans v2), Int.cast_le.mpr h4⟩

theorem boundingbox_crs (g : GeoBox) : g.boundingbox.crs = g.crs := rfl

/-- **Union in world coordinates** (any invertible grid: rotated, sheared, mirrored): the bounding
box of `a | b` contains `a.boundingbox | b.boundingbox`. -/
theorem union_boundingbox (g0 : GeoBox) (hdet : g0.aff.det ≠ 0) (r s : Rect) (hr : r.Valid) (hs : s.Valid) :
    ∃ u w, (onGrid g0 r).or (onGrid g0 s) = .ok u ∧
      (onGrid g0 r).boundingbox.or (onGrid g0 s).boundingbox = .ok w ∧ w.Within u.boundingbox := by
  obtain ⟨w, hw⟩ : ∃ w, (onGrid g0 r).boundingbox.or (onGrid g0 s).boundingbox = .ok w := by
    rw [bbox_or_eq]
    simp [boundingbox_crs, onGrid]
  refine ⟨_, w, or_onGrid g0 hdet r s, hw, ?_⟩
  apply bbox_union_least _ _ _ _ hw
  · exact boundingbox_mono_onGrid g0 r (r.union s) hr (Rect.within_union_left r s)
  · exact boundingbox_mono_onGrid g0 s (r.union s) hs (Rect.within_union_right r s)

/-- **Intersection in world coordinates**: when a pixel is shared, the bounding box of `a & b` lies
within `a.boundingbox & b.boundingbox`. -/
theorem inter_boundingbox (g0 : GeoBox) (hdet : g0.aff.det ≠ 0) (r s : Rect) (hne : (r.inter s).NonEmpty) :
    ∃ i w, (onGrid g0 r).and (onGrid g0 s) = .ok i ∧
      (onGrid g0 r).boundingbox.and (onGrid g0 s).boundingbox = .ok w ∧ i.boundingbox.Within w := by
  obtain ⟨w, hw⟩ : ∃ w, (onGrid g0 r).boundingbox.and (onGrid g0 s).boundingbox = .ok w := by
    rw [bbox_and_eq]
    simp [boundingbox_crs, onGrid]
  refine ⟨_, w, and_onGrid g0 hdet r s, hw, ?_⟩
  have e := Rect.inter_eq_rawInter hne
  rw [e] at hne ⊢
  exact (bbox_inter_contained _ _ _ hw).2.2.2 _
    (boundingbox_mono_onGrid g0 _ r hne.valid (Rect.rawInter_within_left r s))
    (boundingbox_mono_onGrid g0 _ s hne.valid (Rect.rawInter_within_right r s))

example : (Rect.inter ⟨0, 0, 4, 4⟩ ⟨2, 1, 6, 3⟩).NonEmpty := ⟨by decide, by decide⟩

theorem min4_xyxy (x y : Rat) : min x (min y (min x y)) = min x y := by
  rw [min_left_comm y, min_self, ← min_assoc, min_self]
theorem max4_xyxy (x y : Rat) : max x (max y (max x y)) = max x y := by
  rw [max_left_comm y, max_self, ← max_assoc, max_self]

theorem transform_axis (bb : BBox Rat) (A : Aff) (hb : A.b = 0) (hd : A.d = 0) :
    bb.transform A =
      ⟨min (A.a * bb.left + A.c) (A.a * bb.right + A.c), min (A.e * bb.bottom + A.f) (A.e * bb.top + A.f),
       max (A.a * bb.left + A.c) (A.a * bb.right + A.c), max (A.e * bb.bottom + A.f) (A.e * bb.top + A.f),
       bb.crs⟩ := by
  simp only [BBox.transform, bboxOfPoints, List.map, minL, maxL, Aff.apply, hb, hd, zero_mul, add_zero,
    zero_add, min_self, max_self, min_assoc, max_assoc, min4_xyxy, max4_xyxy]

/-- one axis of the union: the image of the hull `[min x0 y0, max x1 y1]` under a monotone or antitone map is the
hull of the two images -/
theorem axis_union {f : Rat → Rat} (hf : Monotone f ∨ Antitone f) {x0 x1 y0 y1 : Rat} (hx : x0 ≤ x1) (hy : y0 ≤ y1) :
    min (f (min x0 y0)) (f (max x1 y1)) = min (min (f y0) (f y1)) (min (f x0) (f x1)) ∧
    max (f (min x0 y0)) (f (max x1 y1)) = max (max (f y0) (f y1)) (max (f x0) (f x1)) := by
  have h : min x0 y0 ≤ max x1 y1 := (min_le_left _ _).trans (hx.trans (le_max_left _ _))
  rcases hf with m | m
  · rw [min_eq_left (m h), max_eq_right (m h), min_eq_left (m hx), max_eq_right (m hx), min_eq_left (m hy),
      max_eq_right (m hy)]
    exact ⟨m.map_min.trans (min_comm _ _), m.map_max.trans (max_comm _ _)⟩
  · rw [min_eq_right (m h), max_eq_left (m h), min_eq_right (m hx), max_eq_left (m hx), min_eq_right (m hy),
      max_eq_left (m hy)]
    exact ⟨m.map_max.trans (min_comm _ _), m.map_min.trans (max_comm _ _)⟩

/-- **On an axis-aligned grid the world bounding box of the union is exactly the union of the world
bounding boxes**: `(a | b).boundingbox == a.boundingbox | b.boundingbox` (north-up, south-up,
mirrored, anisotropic pixels; any shapes including empty ones; any whole-pixel shift). -/
theorem union_boundingbox_axis (g0 : GeoBox) (hdet : g0.aff.det ≠ 0) (hb : g0.aff.b = 0) (hd : g0.aff.d = 0)
    (r s : Rect) (hr : r.Valid) (hs : s.Valid) :
    ∃ u, (onGrid g0 r).or (onGrid g0 s) = .ok u ∧
      (onGrid g0 r).boundingbox.or (onGrid g0 s).boundingbox = .ok u.boundingbox := by
  refine ⟨_, or_onGrid g0 hdet r s, ?_⟩
  rw [bbox_or_eq]
  simp only [boundingbox_onGrid, transform_axis _ _ hb hd, Rect.union, ne_eq, not_true_eq_false, if_false,
    Int.cast_min, Int.cast_max, axis_union (affine_mono_or_anti _ _) (Int.cast_le.mpr hr.1) (Int.cast_le.mpr hs.1),
    axis_union (affine_mono_or_anti _ _) (Int.cast_le.mpr hr.2) (Int.cast_le.mpr hs.2)]

example : ∃ g0 : GeoBox, g0.aff.det ≠ 0 ∧ g0.aff.b = 0 ∧ g0.aff.d = 0 :=
  ⟨⟨3, 3, ⟨-2, 0, 64, 0, -2, 32⟩, some 1⟩, by simp [Aff.det], rfl, rfl⟩

/-- one axis of the intersection (shared interval `[max x0 y0, min x1 y1]` not inverted) -/
theorem axis_inter {f : Rat → Rat} (hf : Monotone f ∨ Antitone f) {x0 x1 y0 y1 : Rat} (hx : x0 ≤ x1) (hy : y0 ≤ y1)
    (hne : max x0 y0 ≤ min x1 y1) :
    min (f (max x0 y0)) (f (min x1 y1)) = max (min (f y0) (f y1)) (min (f x0) (f x1)) ∧
    max (f (max x0 y0)) (f (min x1 y1)) = min (max (f y0) (f y1)) (max (f x0) (f x1)) := by
  rcases hf with m | m
  · rw [min_eq_left (m hne), max_eq_right (m hne), min_eq_left (m hx), max_eq_right (m hx), min_eq_left (m hy),
      max_eq_right (m hy)]
    exact ⟨m.map_max.trans (max_comm _ _), m.map_min.trans (min_comm _ _)⟩
  · rw [min_eq_right (m hne), max_eq_left (m hne), min_eq_right (m hx), max_eq_left (m hx), min_eq_right (m hy),
      max_eq_left (m hy)]
    exact ⟨m.map_min.trans (max_comm _ _), m.map_max.trans (min_comm _ _)⟩

/-- **On an axis-aligned grid, when a pixel is shared, the world bounding box of the intersection is
exactly the intersection of the world bounding boxes**:
`(a & b).boundingbox == a.boundingbox & b.boundingbox`. -/
theorem inter_boundingbox_axis (g0 : GeoBox) (hdet : g0.aff.det ≠ 0) (hb : g0.aff.b = 0) (hd : g0.aff.d = 0)
    (r s : Rect) (hne : (r.inter s).NonEmpty) :
    ∃ i, (onGrid g0 r).and (onGrid g0 s) = .ok i ∧
      (onGrid g0 r).boundingbox.and (onGrid g0 s).boundingbox = .ok i.boundingbox := by
  refine ⟨_, and_onGrid g0 hdet r s, ?_⟩
  have e := Rect.inter_eq_rawInter hne
  rw [e] at hne ⊢
  have vr := (hne.of_within (Rect.rawInter_within_left r s)).valid
  have vs := (hne.of_within (Rect.rawInter_within_right r s)).valid
  rw [bbox_and_eq]
  simp only [boundingbox_onGrid, transform_axis _ _ hb hd, Rect.rawInter, ne_eq, not_true_eq_false, if_false,
    Int.cast_min, Int.cast_max,
    axis_inter (affine_mono_or_anti _ _) (Int.cast_le.mpr vr.1) (Int.cast_le.mpr vs.1) (by exact_mod_cast hne.1.le),
    axis_inter (affine_mono_or_anti _ _) (Int.cast_le.mpr vr.2) (Int.cast_le.mpr vs.2) (by exact_mod_cast hne.2.le)]

/-! ## Part N — `BoundingBox` as a value / sequence, `split_translation`, non-finite doubles, argument forms,
`boundingbox` / `extent` against C02 -/

/-- `==` between two `BoundingBox`es is structural equality (CRS and the four edges) -/
theorem bbox_eq_iff {α : Type} [DecidableEq α] (a b : BBox α) : a.eqBB b = true ↔ a = b := by
  cases a; cases b
  simp [BBox.eqBB]
  tauto

/-- `==` with a plain tuple compares the four edges only (length 4, in order; the CRS is ignored) -/
theorem bbox_eqTuple_iff {α : Type} [DecidableEq α] (a : BBox α) (t : List α) :
    a.eqTuple t = true ↔ t = a.toList := by
  simp [BBox.eqTuple, BBox.toList]

/-- consequently two boxes that differ only in their CRS both equal the same tuple although they are
different from one another: `==` with tuples is not transitive through `BoundingBox` (in odc-geo too) -/
theorem bbox_eq_tuple_not_transitive_cex :
    (⟨0, 0, 1, 1, some 1⟩ : BBox Int).eqTuple [0, 0, 1, 1] = true ∧
    (⟨0, 0, 1, 1, none⟩ : BBox Int).eqTuple [0, 0, 1, 1] = true ∧
    (⟨0, 0, 1, 1, some 1⟩ : BBox Int).eqBB ⟨0, 0, 1, 1, none⟩ = false := by decide

/-- indexing: `bb[0..3]` are left, bottom, right, top; negative indices wrap once; everything else is
an `IndexError`; `len(bb) = 4` and iteration gives the same four values -/
theorem bbox_getItem_spec {α : Type} (a : BBox α) :
    a.getItem 0 = .ok a.left ∧ a.getItem 1 = .ok a.bottom ∧ a.getItem 2 = .ok a.right ∧ a.getItem 3 = .ok a.top ∧
    (∀ i : Int, -4 ≤ i → i < 0 → a.getItem i = a.getItem (i + 4)) ∧
    (∀ i : Int, i < -4 ∨ 4 ≤ i → a.getItem i = .error .indexError) ∧ a.len = a.toList.length := by
  refine ⟨rfl, rfl, rfl, rfl, ?_, ?_, rfl⟩
  · intro i h1 h2
    have h3 : ¬ (i + 4 < 0) := by omega
    simp only [BBox.getItem, if_pos h2, if_neg h3]
  · intro i h
    rcases h with h | h
    · have h0 : i < 0 := by omega
      simp only [BBox.getItem, if_pos h0]
      rw [if_neg (by omega), if_neg (by omega), if_neg (by omega), if_neg (by omega)]
    · have h0 : ¬ i < 0 := by omega
      simp only [BBox.getItem, if_neg h0]
      rw [if_neg (by omega), if_neg (by omega), if_neg (by omega), if_neg (by omega)]

/-- `aspect`: the quotient of the spans, `ZeroDivisionError` exactly for a zero `span_y` -/
theorem bbox_aspect_spec (a : BBox Rat) :
    (a.spanY = 0 → a.aspect = .error .zeroDiv) ∧
    (∀ v, a.aspect = .ok v → a.spanY ≠ 0 ∧ v * a.spanY = a.spanX) := by
  constructor
  · intro h; simp [BBox.aspect, h]
  · intro v h
    unfold BBox.aspect at h
    split at h
    · cases h
    · rename_i h0
      cases h
      exact ⟨h0, div_mul_cancel₀ _ h0⟩

/-- `split_translation`: whole parts are integers, sub-pixel parts at most half a pixel, and they add
up to the translation — per axis -/
theorem splitTranslation_spec (t : Rat × Rat) :
    ∃ wx wy : Int, (splitTranslation t).1 = ((wx : Rat), (wy : Rat)) ∧
      (wx : Rat) + (splitTranslation t).2.1 = t.1 ∧ (wy : Rat) + (splitTranslation t).2.2 = t.2 ∧
      |(splitTranslation t).2.1| ≤ 1 / 2 ∧ |(splitTranslation t).2.2| ≤ 1 / 2 := by
  obtain ⟨wx, a1, a2, a3⟩ := splitFloat_spec t.1
  obtain ⟨wy, b1, b2, b3⟩ := splitFloat_spec t.2
  exact ⟨wx, wy, by simp [splitTranslation, a1, b1], a2, b2, a3, b3⟩

/-- `snap_to` moves by the sub-pixel part of `split_translation`, small parts zeroed -/
theorem snapTo_subpix_eq (t : Rat × Rat) :
    subpix t.1 = maybeZero (splitTranslation t).2.1 tolPix ∧ subpix t.2 = maybeZero (splitTranslation t).2.2 tolPix :=
  ⟨rfl, rfl⟩

/-- non-finite doubles: never "almost an integer" (so a GeoBox at a non-finite offset is rejected by
every operation), `split_float` hands them back with a zero fraction, `maybe_zero` leaves them alone;
on finite doubles the three functions are the rational ones -/
theorem nonfinite_helpers (tol : Rat) :
    (∀ x, isAlmostIntF x tol = true → ∃ q, x = .fin q ∧ isAlmostInt q tol = true) ∧
    splitFloatF .pinf = (.pinf, .fin 0) ∧ splitFloatF .ninf = (.ninf, .fin 0) ∧ splitFloatF .nan = (.nan, .fin 0) ∧
    maybeZeroF .pinf tol = .pinf ∧ maybeZeroF .ninf tol = .ninf ∧ maybeZeroF .nan tol = .nan ∧
    (∀ q, isAlmostIntF (.fin q) tol = isAlmostInt q tol ∧ splitFloatF (.fin q) = (.fin (splitFloat q).1, .fin (splitFloat q).2)
      ∧ maybeZeroF (.fin q) tol = .fin (maybeZero q tol)) := by
  refine ⟨?_, rfl, rfl, rfl, rfl, rfl, rfl, fun q => ⟨rfl, rfl, rfl⟩⟩
  intro x h
  cases x with
  | fin q => exact ⟨q, rfl, h⟩
  | pinf => simp [isAlmostIntF] at h
  | ninf => simp [isAlmostIntF] at h
  | nan => simp [isAlmostIntF] at h

/-- argument forms of the n-ary operations: a list and a tuple are the same call -/
theorem nary_forms (gs : List GeoBox) (f : SeqForm) :
    geoboxUnionForm f gs = geoboxUnionConservative gs ∧
    geoboxIntersectionForm f gs = geoboxIntersectionConservative gs :=
  ⟨rfl, rfl⟩

/-- `GeoBox.boundingbox` here is C02's `boundingbox` (same four corners, same min / max) -/
theorem boundingbox_eq_C02 (g : GeoBox) :
    g.boundingbox = ⟨(C02.boundingbox (toC02 g)).left, (C02.boundingbox (toC02 g)).bottom,
                     (C02.boundingbox (toC02 g)).right, (C02.boundingbox (toC02 g)).top, g.crs⟩ := by
  simp only [GeoBox.boundingbox, BBox.fromTransform, bboxOfPoints, List.map, minL, maxL, C02.boundingbox, toC02,
    C02.min4, C02.max4, min_assoc, max_assoc]

/-- `GeoBox.extent` here is C02's `extent` (`polygon_from_transform`) -/
theorem extent_eq_C02 (g : GeoBox) : g.extentHead :: g.extentTail = C02.extent (toC02 g) := by
  simp [GeoBox.extentHead, GeoBox.extentTail, C02.extent, C02.corners, toC02]

/-! ## Part O — world-coordinate tightness of `enclosing` -/

theorem apply_inv_axis (A : Aff) (hb : A.b = 0) (hd : A.d = 0) (hdet : A.det ≠ 0) (q : Pt) :
    A.a * (A.inv.apply q).1 + A.c = q.1 ∧ A.e * (A.inv.apply q).2 + A.f = q.2 := by
  have h := Aff.apply_inv_apply A hdet q
  rw [Aff.apply_of_st hb hd] at h
  exact ⟨congrArg Prod.fst h, congrArg Prod.snd h⟩

/-- one axis of `enclosing` on an axis-aligned grid, in world units: `φ w` is the pixel coordinate of the vertex
`w` on that axis and `a * φ w + c` its world coordinate, `[l, r]` the world extent of the vertices,
`[tx, tx + n]` the pixel interval of the result -/
theorem axis_tight {ι : Type} {vs : List ι} {φ : ι → Rat} {a c l r : Rat} (ha : a ≠ 0) {tx n : Int}
    (e : EnclosesAxis vs φ tx n) (hl : ∃ w ∈ vs, a * φ w + c = l) (hr : ∃ w ∈ vs, a * φ w + c = r)
    (hlr : ∀ w ∈ vs, l ≤ a * φ w + c ∧ a * φ w + c ≤ r) :
    (l - min (a * tx + c) (a * (tx + n) + c) < |a| ∧ max (a * tx + c) (a * (tx + n) + c) - r < |a|) ∨
    (n = 1 ∧ l = r ∧ max (a * tx + c) (a * (tx + n) + c) - min (a * tx + c) (a * (tx + n) + c) = |a|) := by
  obtain ⟨wl, ml, rfl⟩ := hl
  obtain ⟨wr, mr, rfl⟩ := hr
  have hn : (tx : Rat) ≤ tx + n := (e.bounds wl ml).1.trans (e.bounds wl ml).2
  obtain ⟨w0, m0, h0⟩ := e.lo
  rcases e.hi with ⟨w1, m1, h1⟩ | ⟨h1, hall⟩
  · left
    -- for `a < 0` the world-low edge is the pixel-high edge
    rcases lt_or_gt_of_ne ha with hneg | hpos
    · rw [min_eq_right (affine_anti hneg.le c hn), max_eq_left (affine_anti hneg.le c hn), abs_of_neg hneg]
      have e0 := mul_lt_mul_of_neg_left h0 hneg
      have e1 := mul_lt_mul_of_neg_left h1 hneg
      exact ⟨by linarith [(hlr w1 m1).1], by linarith [(hlr w0 m0).2]⟩
    · rw [min_eq_left (affine_mono hpos.le c hn), max_eq_right (affine_mono hpos.le c hn), abs_of_pos hpos]
      have e0 := mul_lt_mul_of_pos_left h0 hpos
      have e1 := mul_lt_mul_of_pos_left h1 hpos
      exact ⟨by linarith [(hlr w0 m0).1], by linarith [(hlr w1 m1).2]⟩
  · refine Or.inr ⟨h1, by rw [hall wl ml, hall wr mr], ?_⟩
    rw [max_sub_min_eq_abs', h1, ← abs_neg]
    congr 1
    push_cast
    ring

/-- **`enclosing(bbox)` in world units on an axis-aligned grid** (north-up, south-up, mirrored, any
pixel size): the world bounding box of the result exceeds the region by less than one pixel size on
every side — except when the region has zero extent on an axis and sits on a grid line, where a
one-pixel GeoBox is returned (then the result is exactly one pixel wide on that axis). -/
theorem enclosing_bbox_world_tight (g : GeoBox) (hdet : g.aff.det ≠ 0) (hg : g.crs ≠ none)
    (hb : g.aff.b = 0) (hd : g.aff.d = 0) (reproj : Reproj) (bb : BBox Rat) (hc : bb.crs = g.crs)
    (hlr : bb.left ≤ bb.right) (hbt : bb.bottom ≤ bb.top) :
    ∃ res : GeoBox, g.enclosingRegion reproj (.bbox bb) = .ok res ∧
      ((bb.left - res.boundingbox.left < |g.aff.a| ∧ res.boundingbox.right - bb.right < |g.aff.a|) ∨
        (res.nx = 1 ∧ bb.left = bb.right ∧ res.boundingbox.right - res.boundingbox.left = |g.aff.a|)) ∧
      ((bb.bottom - res.boundingbox.bottom < |g.aff.e| ∧ res.boundingbox.top - bb.top < |g.aff.e|) ∨
        (res.ny = 1 ∧ bb.bottom = bb.top ∧ res.boundingbox.top - res.boundingbox.bottom = |g.aff.e|)) := by
  have hae : g.aff.a * g.aff.e ≠ 0 := by simpa [Aff.det, hb, hd] using hdet
  obtain ⟨res, tx, ty, h, e⟩ := enclosing_bbox_spec g hdet hg reproj bb hc
  have ax := apply_inv_axis g.aff hb hd hdet
  have hin : ∀ w ∈ [(bb.left, bb.bottom), (bb.left, bb.top), (bb.right, bb.top), (bb.right, bb.bottom),
      (bb.left, bb.bottom)], bb.Contains w := by
    intro w hw
    simp only [List.mem_cons, List.mem_nil_iff, or_false] at hw
    rcases hw with rfl | rfl | rfl | rfl | rfl <;> simp [BBox.Contains, hlr, hbt]
  have hW := congrArg GeoBox.boundingbox e.onGrid
  rw [boundingbox_onGrid, transform_axis _ _ hb hd] at hW
  refine ⟨res, h, ?_⟩
  rw [hW]
  push_cast
  exact ⟨axis_tight (left_ne_zero_of_mul hae) e.x
      ⟨(bb.left, bb.bottom), by simp, (ax _).1⟩ ⟨(bb.right, bb.top), by simp, (ax _).1⟩
      fun w hw => by rw [(ax w).1]; exact ⟨(hin w hw).1, (hin w hw).2.1⟩,
    axis_tight (right_ne_zero_of_mul hae) e.y
      ⟨(bb.left, bb.bottom), by simp, (ax _).2⟩ ⟨(bb.right, bb.top), by simp, (ax _).2⟩
      fun w hw => by rw [(ax w).2]; exact (hin w hw).2.2⟩

/-- non-vacuity of `enclosing_bbox_world_tight`: a mirrored, anisotropic axis-aligned grid and a proper box -/
example : ∃ (g : GeoBox) (bb : BBox Rat), g.aff.det ≠ 0 ∧ g.crs ≠ none ∧ g.aff.b = 0 ∧ g.aff.d = 0 ∧ bb.crs = g.crs ∧
    bb.left ≤ bb.right ∧ bb.bottom ≤ bb.top :=
  ⟨⟨3, 3, ⟨-2, 0, 64, 0, -4, 32⟩, some 1⟩, ⟨0, 0, 2, 2, some 1⟩, by simp [Aff.det], by simp, rfl, rfl, rfl,
    by norm_num, by norm_num⟩

/-! ## Part P — empty geometries, `BoundingBox.to_crs`, non-linear operands -/

/-- **An empty geometry is never enclosed**: whatever the GeoBox (also a degenerate one), the CRSs and
pyproj, `enclosing` of an empty region is an error — never a GeoBox placed somewhere by default. -/
theorem enclosing_empty_rejected (g : GeoBox) (reproj : Reproj) (crs : Option Nat) :
    ∃ e, g.enclosingGeomL reproj crs [] = .error e := by
  unfold GeoBox.enclosingGeomL
  split_ifs <;> exact ⟨_, rfl⟩

/-- `project` of an empty geometry is the empty geometry (with the CRS bookkeeping of the non-empty
case); the only error left is a geo-registered region on a GeoBox without CRS; a degenerate grid is not
noticed.  Non-empty sequences are the modelled `project` / `enclosing`. -/
theorem projectL_spec (g : GeoBox) (reproj : Reproj) (crs : Option Nat) :
    (crs = none → g.projectL reproj crs [] = .ok (g.crs, [])) ∧
    (crs ≠ none → g.crs = none → g.projectL reproj crs [] = .error .assertion) ∧
    (crs ≠ none → g.crs ≠ none → g.projectL reproj crs [] = .ok (none, [])) ∧
    (∀ p ps, g.enclosingGeomL reproj crs (p :: ps) = g.enclosingRegion reproj (.geom crs p ps)) ∧
    (∀ p ps c q qs, g.project reproj crs p ps = .ok (c, q, qs) → g.projectL reproj crs (p :: ps) = .ok (c, q :: qs)) := by
  refine ⟨fun h => by simp [GeoBox.projectL, h], fun h1 h2 => by simp [GeoBox.projectL, h1, h2],
    fun h1 h2 => by simp [GeoBox.projectL, h1, h2], fun _ _ => rfl, ?_⟩
  intro p ps c q qs h
  simp [GeoBox.projectL, h]

/-- `BoundingBox.to_crs`: a box without CRS is refused; otherwise the result carries the destination
CRS, contains the image of every vertex of the box's ring and is the smallest such box (for an equal
CRS the images are the vertices themselves). -/
theorem bbox_toCrs_spec (bb : BBox Rat) (reproj : Reproj) (dst : Nat) :
    (bb.crs = none → bb.toCrs reproj dst = .error .valueError) ∧
    (bb.crs ≠ none → ∃ out, bb.toCrs reproj dst = .ok out ∧ out.crs = some dst ∧
      let f : Pt → Pt := if bb.crs = some dst then fun q => q else reproj bb.crs (some dst)
      (∀ q ∈ bb.ringHead :: bb.ringTail, out.Contains (f q)) ∧
      (∀ c : BBox Rat, (∀ q ∈ bb.ringHead :: bb.ringTail, c.Contains (f q)) → out.Within c)) := by
  constructor
  · intro h
    rw [BBox.toCrs, h, if_neg (by simp), if_pos rfl]
  · intro h
    by_cases hs : bb.crs = some dst
    · simp only [BBox.toCrs, if_pos hs]
      exact ⟨_, rfl, rfl, fun q hq => bboxOfPoints_contains _ _ _ hq, bboxOfPoints_within _ _ _⟩
    · simp only [BBox.toCrs, if_neg hs, if_neg h]
      exact ⟨_, rfl, rfl, fun q hq => bboxOfPoints_map_contains _ _ _ _ hq, bboxOfPoints_map_within _ _ _ _⟩

/-- **A non-linear (GCP) operand never produces a result**: `|`, `&`, `overlap_roi`, `snap_to` with a
GCPGeoBox on either side are refused — nothing is silently approximated through `GCPGeoBox.approx`. -/
theorem nonlinear_never_result (x : Operand) (tol : Rat) :
    x.or .nonlinear = .refused ∧ Operand.nonlinear.or x = .refused ∧
    x.and .nonlinear = .refused ∧ Operand.nonlinear.and x = .refused ∧
    x.overlapRoi .nonlinear tol = .refused ∧ Operand.nonlinear.overlapRoi x tol = .refused ∧
    x.snapTo .nonlinear = .refused ∧ Operand.nonlinear.snapTo x = .refused := by
  cases x <;> exact ⟨rfl, rfl, rfl, rfl, rfl, rfl, rfl, rfl⟩

theorem linear_operands (a b : GeoBox) (tol : Rat) :
    (Operand.linear a).or (.linear b) = .res (a.or b) ∧ (Operand.linear a).and (.linear b) = .res (a.and b) ∧
    (Operand.linear a).overlapRoi (.linear b) tol = .res (a.overlapRoi b tol) ∧
    (Operand.linear a).snapTo (.linear b) = .res (a.snapTo b) := ⟨rfl, rfl, rfl, rfl⟩

/-! ## Part R — `BoundingBox.boundary(n)` for every `n ≥ 2` -/

def linPt (a b : Rat) (n i : Nat) : Rat := a + (i : Rat) * ((b - a) / ((n : Rat) - 1))

theorem linspaceQ_get (a b : Rat) (n i : Nat) (hn : 2 ≤ n) (hi : i < n) :
    (linspaceQ a b n)[i]? = some (linPt a b n i) := by
  have h1 : n ≠ 1 := by omega
  simp only [linspaceQ, if_neg h1, List.getElem?_map, List.getElem?_range hi, Option.map_some, linPt]

theorem linPt_zero (a b : Rat) (n : Nat) : linPt a b n 0 = a := by simp [linPt]

theorem cast_pred_pos {n : Nat} (hn : 2 ≤ n) : (0 : Rat) < (n : Rat) - 1 :=
  sub_pos.mpr (by exact_mod_cast hn)

theorem linPt_last (a b : Rat) (n : Nat) (hn : 2 ≤ n) : linPt a b n (n - 1) = b := by
  rw [linPt, Nat.cast_pred (by omega), mul_div_cancel₀ _ (cast_pred_pos hn).ne', add_sub_cancel]

theorem linPt_between (a b : Rat) (n i : Nat) (hn : 2 ≤ n) (hi : i < n) :
    ∃ t : Rat, 0 ≤ t ∧ t ≤ 1 ∧ linPt a b n i = a + t * (b - a) :=
  ⟨i / (n - 1), div_nonneg (Nat.cast_nonneg i) (cast_pred_pos hn).le,
    div_le_one_of_le₀ (le_sub_iff_add_le.mpr (by exact_mod_cast hi)) (cast_pred_pos hn).le, by simp only [linPt]; ring⟩

theorem mem_edgeIndexClosed (n : Nat) (hn : 2 ≤ n) (ij : Nat × Nat) (h : ij ∈ edgeIndexClosed n) :
    ij.1 < n ∧ ij.2 < n ∧ (ij.1 = 0 ∨ ij.1 = n - 1 ∨ ij.2 = 0 ∨ ij.2 = n - 1) := by
  simp only [edgeIndexClosed, List.mem_append, List.mem_map, List.mem_range, List.mem_reverse, List.mem_cons,
    List.mem_nil_iff, or_false] at h
  rcases h with (((⟨i, hi, rfl⟩ | ⟨j, hj, rfl⟩) | ⟨i, hi, rfl⟩) | ⟨j, hj, rfl⟩) | rfl
  · exact ⟨hi, by omega, Or.inr (Or.inr (Or.inl rfl))⟩
  · exact ⟨by omega, by simp only; omega, Or.inr (Or.inl rfl)⟩
  · exact ⟨by simp only; omega, by simp only; omega, Or.inr (Or.inr (Or.inr rfl))⟩
  · exact ⟨by omega, by simp only; omega, Or.inl rfl⟩
  · exact ⟨by simp only; omega, by simp only; omega, Or.inl rfl⟩

theorem length_edgeIndexClosed (n : Nat) (hn : 2 ≤ n) : (edgeIndexClosed n).length = 4 * (n - 1) + 1 := by
  simp only [edgeIndexClosed, List.length_append, List.length_map, List.length_range, List.length_reverse,
    List.length_cons, List.length_nil]
  omega

/-- for `n ≥ 2` every index of the edge walk is in range: `boundary(n)` is the walk through the samples -/
theorem boundary_eq_map (bb : BBox Rat) (n : Nat) (hn : 2 ≤ n) :
    bb.boundary n = .ok ((edgeIndexClosed n).map fun ij =>
      (linPt bb.left bb.right n ij.1, linPt bb.bottom bb.top n ij.2)) := by
  unfold BBox.boundary
  apply mapM_ok_of_forall
  intro ij hij
  obtain ⟨h1, h2, -⟩ := mem_edgeIndexClosed n hn ij hij
  simp only [linspaceQ_get _ _ n _ hn h1, linspaceQ_get _ _ n _ hn h2]

/-- **`boundary(n)` for every `n ≥ 2`** (any box, inverted ones included): the call succeeds; it returns
`4(n-1) + 1` points; the walk is closed and starts at `(left, bottom)`; the four corners are on it; every
point lies on the perimeter — on the left or right edge at a height between bottom and top, or on the
bottom or top edge at an abscissa between left and right. -/
theorem bbox_boundary_spec (bb : BBox Rat) (n : Nat) (hn : 2 ≤ n) :
    ∃ pts, bb.boundary n = .ok pts ∧ pts.length = 4 * (n - 1) + 1 ∧
      pts.head? = some (bb.left, bb.bottom) ∧ pts.getLast? = some (bb.left, bb.bottom) ∧
      (bb.left, bb.bottom) ∈ pts ∧ (bb.right, bb.bottom) ∈ pts ∧ (bb.right, bb.top) ∈ pts ∧ (bb.left, bb.top) ∈ pts ∧
      ∀ p ∈ pts,
        ((p.1 = bb.left ∨ p.1 = bb.right) ∧ ∃ t : Rat, 0 ≤ t ∧ t ≤ 1 ∧ p.2 = bb.bottom + t * (bb.top - bb.bottom)) ∨
        ((p.2 = bb.bottom ∨ p.2 = bb.top) ∧ ∃ t : Rat, 0 ≤ t ∧ t ≤ 1 ∧ p.1 = bb.left + t * (bb.right - bb.left)) := by
  have m00 : (0, 0) ∈ edgeIndexClosed n := List.mem_append_right _ (List.mem_singleton_self _)
  -- the other corners: end of the first run, end of the second, start of the third (reversed) run
  obtain ⟨m10, m11, m01⟩ : (n - 1, 0) ∈ edgeIndexClosed n ∧ (n - 1, n - 1) ∈ edgeIndexClosed n ∧
      (0, n - 1) ∈ edgeIndexClosed n := by
    simp only [edgeIndexClosed, List.mem_append, List.mem_map, List.mem_range, List.mem_reverse]
    exact ⟨Or.inl (Or.inl (Or.inl (Or.inl ⟨n - 1, by omega, rfl⟩))),
      Or.inl (Or.inl (Or.inl (Or.inr ⟨n - 2, by omega, by congr 1; omega⟩))),
      Or.inl (Or.inl (Or.inr ⟨0, by omega, rfl⟩))⟩
  refine ⟨_, boundary_eq_map bb n hn, by rw [List.length_map, length_edgeIndexClosed n hn], ?_, ?_, ?_, ?_, ?_, ?_, ?_⟩
  · have : (edgeIndexClosed n).head? = some (0, 0) := by
      obtain ⟨k, rfl⟩ : ∃ k, n = k + 2 := ⟨n - 2, by omega⟩
      rw [edgeIndexClosed, List.range_succ_eq_map]
      rfl
    rw [List.head?_map, this, Option.map_some, linPt_zero, linPt_zero]
  · have : (edgeIndexClosed n).getLast? = some (0, 0) := List.getLast?_concat ..
    rw [List.getLast?_map, this, Option.map_some, linPt_zero, linPt_zero]
  · exact List.mem_map.mpr ⟨_, m00, by rw [linPt_zero, linPt_zero]⟩
  · exact List.mem_map.mpr ⟨_, m10, by rw [linPt_zero, linPt_last _ _ n hn]⟩
  · exact List.mem_map.mpr ⟨_, m11, by rw [linPt_last _ _ n hn, linPt_last _ _ n hn]⟩
  · exact List.mem_map.mpr ⟨_, m01, by rw [linPt_zero, linPt_last _ _ n hn]⟩
  · intro p hp
    obtain ⟨ij, hij, rfl⟩ := List.mem_map.mp hp
    obtain ⟨h1, h2, hedge⟩ := mem_edgeIndexClosed n hn ij hij
    rcases hedge with h | h | h | h
    · left; exact ⟨Or.inl (by simp only [h, linPt_zero]), linPt_between _ _ n _ hn h2⟩
    · left; exact ⟨Or.inr (by simp only [h, linPt_last _ _ n hn]), linPt_between _ _ n _ hn h2⟩
    · right; exact ⟨Or.inl (by simp only [h, linPt_zero]), linPt_between _ _ n _ hn h1⟩
    · right; exact ⟨Or.inr (by simp only [h, linPt_last _ _ n hn]), linPt_between _ _ n _ hn h1⟩

example : (2 : Nat) ≤ 16 := by decide

/-- `boundary`: no points per side is an `IndexError`; one gives the first corner twice; two give the
closed ring through the four corners (left-bottom first, counter-clockwise in the box's own frame) -/
theorem bbox_boundary_small (bb : BBox Rat) :
    bb.boundary 0 = .error .indexError ∧
    bb.boundary 1 = .ok [(bb.left, bb.bottom), (bb.left, bb.bottom)] ∧
    bb.boundary 2 = .ok [(bb.left, bb.bottom), (bb.right, bb.bottom), (bb.right, bb.top), (bb.left, bb.top),
                         (bb.left, bb.bottom)] := by
  refine ⟨rfl, rfl, ?_⟩
  rw [boundary_eq_map bb 2 le_rfl, show edgeIndexClosed 2 = [(0, 0), (1, 0), (1, 1), (0, 1), (0, 0)] from rfl]
  simp only [List.map, linPt_zero, linPt_last _ _ 2 le_rfl]

/-! ## Part S — `BoundingBox.map_bounds` / `aoi` dispatch, `GCPGeoBox.project` -/

/-- `map_bounds`: `((south, west), (north, east))` read off the box itself without CRS or in lon/lat
(pyproj is not consulted), otherwise off the lon/lat images of the corners `(left, bottom)` and
`(right, top)` — latitude first in both cases -/
theorem bbox_mapBounds_spec (bb : BBox Rat) (r1 r2 : Reproj) (ll : Nat) :
    (bb.crs = none ∨ bb.crs = some ll →
      bb.mapBounds r1 ll = ((bb.bottom, bb.left), (bb.top, bb.right)) ∧ bb.mapBounds r1 ll = bb.mapBounds r2 ll) ∧
    (bb.crs ≠ none → bb.crs ≠ some ll →
      bb.mapBounds r1 ll = (((r1 bb.crs (some ll) (bb.left, bb.bottom)).2, (r1 bb.crs (some ll) (bb.left, bb.bottom)).1),
                            ((r1 bb.crs (some ll) (bb.right, bb.top)).2, (r1 bb.crs (some ll) (bb.right, bb.top)).1))) := by
  constructor
  · intro h
    have h' : bb.crs = some ll ∨ bb.crs = none := h.symm
    simp [BBox.mapBounds, h']
  · intro h1 h2
    simp [BBox.mapBounds, h1, h2]

/-- `aoi` never fails; it is the box itself without CRS or in lon/lat and `to_crs("epsg:4326")` otherwise,
hence a lon/lat box around the images of the ring of the box -/
theorem bbox_aoi_spec (bb : BBox Rat) (reproj : Reproj) (ll : Nat) :
    (bb.crs = none ∨ bb.crs = some ll → bb.aoi reproj ll = .ok (bb.left, bb.bottom, bb.right, bb.top)) ∧
    (bb.crs ≠ none → bb.crs ≠ some ll → ∃ o, bb.toCrs reproj ll = .ok o ∧
      bb.aoi reproj ll = .ok (o.left, o.bottom, o.right, o.top) ∧
      ∀ q ∈ bb.ringHead :: bb.ringTail, o.Contains (reproj bb.crs (some ll) q)) := by
  constructor
  · intro h; simp [BBox.aoi, h]
  · intro h1 h2
    obtain ⟨o, ho, -, hc, -⟩ := (bbox_toCrs_spec bb reproj ll).2 h1
    refine ⟨o, ho, by simp [BBox.aoi, h1, h2, ho], ?_⟩
    intro q hq
    have := hc q hq
    simpa [h2] using this

/-- `GCPGeoBox.project` with the identity mapping is the linear `project`; with any mapping whose
`w2p` undoes `p2w`, projecting to the world and back is the identity -/
theorem gcpProject_spec (g : GeoBox) (reproj : Reproj) (crs : Option Nat) (p : Pt) (ps : List Pt) :
    gcpProject g (fun q => q) (fun q => q) reproj crs p ps = g.project reproj crs p ps ∧
    (∀ (P Q : Pt → Pt), (∀ q, Q (P q) = q) → g.aff.det ≠ 0 → g.crs ≠ none →
      ∃ w ws, gcpProject g P Q reproj none p ps = .ok (g.crs, w, ws) ∧
        gcpProject g P Q reproj g.crs w ws = .ok (none, p, ps)) :=
  ⟨rfl, fun P Q hPQ hdet hg => gcpProject_roundtrip g hdet hg P Q hPQ reproj p ps⟩

/-- non-vacuity of `gcpProject_spec`: a mapping whose `w2p` undoes `p2w` (here a shear and its inverse) -/
example : ∃ P Q : Pt → Pt, ∀ q, Q (P q) = q :=
  ⟨fun q => (q.1 + q.2, q.2), fun q => (q.1 - q.2, q.2), fun q => by simp⟩

/-! ## Part T — `enclosing` in world units on ANY invertible grid (rotated, sheared) -/

theorem lin_near (a b X X' Y Y' : Rat) (hx : |X - X'| ≤ 1) (hy : |Y - Y'| ≤ 1) :
    |a * X + b * Y - (a * X' + b * Y')| ≤ |a| + |b| := by
  rw [show a * X + b * Y - (a * X' + b * Y') = a * (X - X') + b * (Y - Y') by ring]
  refine (abs_add_le _ _).trans (add_le_add ?_ ?_) <;> rw [abs_mul]
  exacts [mul_le_of_le_one_right (abs_nonneg a) hx, mul_le_of_le_one_right (abs_nonneg b) hy]

/-- a point within one unit per coordinate of a point whose image lies in `c` has its image in `c` grown by
the bounding box of the image of a unit square: `|a| + |b|` across, `|d| + |e|` up -/
theorem apply_near (A : Aff) (c : BBox Rat) {x x' y y' : Rat} (hx : |x - x'| ≤ 1) (hy : |y - y'| ≤ 1)
    (hc : c.Contains (A.apply (x', y'))) :
    (c.buffered (|A.a| + |A.b|) (some (|A.d| + |A.e|))).Contains (A.apply (x, y)) := by
  obtain ⟨k1, k2, k3, k4⟩ := hc
  obtain ⟨a1, a2⟩ := abs_le.mp (lin_near A.a A.b x x' y y' hx hy)
  obtain ⟨b1, b2⟩ := abs_le.mp (lin_near A.d A.e x x' y y' hx hy)
  simp only [Aff.apply] at k1 k2 k3 k4
  simp only [BBox.Contains, BBox.buffered, Aff.apply]
  exact ⟨by linarith, by linarith, by linarith, by linarith⟩

theorem bbox_transform_near (R P : BBox Rat) (A : Aff) (h1 : |R.left - P.left| ≤ 1) (h2 : |R.bottom - P.bottom| ≤ 1)
    (h3 : |R.right - P.right| ≤ 1) (h4 : |R.top - P.top| ≤ 1) :
    (R.transform A).Within ((P.transform A).buffered (|A.a| + |A.b|) (some (|A.d| + |A.e|))) := by
  refine transform_within R A _ fun q hq => ?_
  simp only [BBox.points, List.mem_cons, List.mem_nil_iff, or_false] at hq
  rcases hq with rfl | rfl | rfl | rfl
  exacts [apply_near A _ h1 h2 (transform_contains_corner P A (by simp [BBox.points])),
    apply_near A _ h1 h4 (transform_contains_corner P A (by simp [BBox.points])),
    apply_near A _ h3 h2 (transform_contains_corner P A (by simp [BBox.points])),
    apply_near A _ h3 h4 (transform_contains_corner P A (by simp [BBox.points]))]

/-- the tight pixel box of a region: bounds of the pixel coordinates of its (re-projected) coordinates -/
def Region.pixBox (r : Region) (reproj : Reproj) (g : GeoBox) : BBox Rat :=
  bboxOfPoints (g.aff.inv.apply (r.worldHead reproj g.crs)) ((r.worldTail reproj g.crs).map g.aff.inv.apply) none

/-- **`enclosing` in world units on any invertible grid** (rotated, sheared, mirrored; any region type,
same or other CRS): with `T` the world bounding box of the region's tight pixel box, the world bounding
box of the result contains `T` and exceeds it by at most the world bounding box of ONE pixel per side —
`|a| + |b|` across and `|d| + |e|` up. -/
theorem enclosing_world_excess (g : GeoBox) (hdet : g.aff.det ≠ 0) (hg : g.crs ≠ none) (reproj : Reproj)
    (r : Region) (hr : r.crs ≠ none) :
    ∃ res : GeoBox, g.enclosingRegion reproj r = .ok res ∧
      ((r.pixBox reproj g).transform g.aff).Within res.boundingbox ∧
      ((r.pixBox reproj g).transform g.aff).left - (|g.aff.a| + |g.aff.b|) ≤ res.boundingbox.left ∧
      ((r.pixBox reproj g).transform g.aff).bottom - (|g.aff.d| + |g.aff.e|) ≤ res.boundingbox.bottom ∧
      res.boundingbox.right ≤ ((r.pixBox reproj g).transform g.aff).right + (|g.aff.a| + |g.aff.b|) ∧
      res.boundingbox.top ≤ ((r.pixBox reproj g).transform g.aff).top + (|g.aff.d| + |g.aff.e|) := by
  have hx : (r.pixBox reproj g).left ≤ (r.pixBox reproj g).right :=
    (minL_le_of_mem List.mem_cons_self).trans (le_maxL_of_mem List.mem_cons_self)
  have hy : (r.pixBox reproj g).bottom ≤ (r.pixBox reproj g).top :=
    (minL_le_of_mem List.mem_cons_self).trans (le_maxL_of_mem List.mem_cons_self)
  obtain ⟨⟨x1, x2⟩, -⟩ := round_axis _ _ hx
  obtain ⟨⟨y1, y2⟩, -⟩ := round_axis _ _ hy
  obtain ⟨x3, x4⟩ := round_axis_abs _ _ hx
  obtain ⟨y3, y4⟩ := round_axis_abs _ _ hy
  refine ⟨_, (enclosingRegion_eq g reproj r).trans (enclosing_eq_onGrid g hdet _ hr hg _ _), ?_, ?_⟩ <;>
    rw [boundingbox_onGrid] <;> simp only [enclosingRect, Int.cast_add]
  · exact bbox_transform_mono (r.pixBox reproj g) _ g.aff ⟨x1, hx.trans x2, y1, hy.trans y2⟩
      ⟨x1.trans hx, x2, y1.trans hy, y2⟩
  · exact bbox_transform_near _ (r.pixBox reproj g) g.aff x3 y3 x4 y4

/-- non-vacuity: a rotated grid with a CRS and a region with a CRS -/
example : ∃ (g : GeoBox) (r : Region), g.aff.det ≠ 0 ∧ g.crs ≠ none ∧ r.crs ≠ none :=
  ⟨⟨4, 5, ⟨3, -4, 100, 4, 3, 200⟩, some 1⟩, .geom (some 2) (1, 2) [(3, 4)], by simp [Aff.det]; norm_num, by simp,
    by simp [Region.crs]⟩

/-! ## Part U — shifting the reference by whole pixels shifts the pixel-domain box -/

theorem isAlmostInt_sub_int (x tol : Rat) (m : Int) : isAlmostInt (x - m) tol = isAlmostInt x tol := by
  rw [Bool.eq_iff_iff, isAlmostInt_iff, isAlmostInt_iff]
  exact ⟨fun ⟨k, h⟩ => ⟨k + m, by push_cast; rwa [← sub_sub, sub_right_comm]⟩,
    fun ⟨k, h⟩ => ⟨k - m, by push_cast; rwa [sub_sub_sub_cancel_right]⟩⟩

/-- on accepted offsets (`tol ≤ 1/2`) `round` commutes with whole-number shifts (away from the ties) -/
theorem pyRound_sub_int (x tol : Rat) (m : Int) (htol : tol ≤ 1 / 2) (h : isAlmostInt x tol = true) :
    pyRound (x - m) = pyRound x - m := by
  obtain ⟨k, hk⟩ := (isAlmostInt_iff _ _).mp h
  have hk' : |x - k| < 1 / 2 := lt_of_lt_of_le hk htol
  rw [pyRound_near x k hk', pyRound_near (x - m) (k - m) (by push_cast; rwa [sub_sub_sub_cancel_right])]

/-- **Shifting the reference by whole pixels shifts the pixel-domain box** (any operand — on the grid,
off it within the tolerances, incompatible, other CRS — and any `0 < tol ≤ 1/2`): the same operands are
accepted, and the box moves by exactly `(-m, -n)`. -/
theorem bbpd_ref_shift (g ref ref' : GeoBox) (hdet : ref.aff.det ≠ 0) (m n : Int)
    (ha : ref'.aff = ref.aff * Aff.translation m n) (hc : ref'.crs = ref.crs) (tol : Rat) (htol : tol ≤ 1 / 2) :
    bboxInPixelDomain g ref' tol =
      (bboxInPixelDomain g ref tol).map (fun bb => ⟨bb.left - m, bb.bottom - n, bb.right - m, bb.top - n, none⟩) := by
  simp only [bbpd_eq, ha, hc, Aff.det_mul_translation, Aff.inv_mul_translation _ hdet, Aff.mul_assoc']
  simp only [Aff.translation_mul, ← sub_eq_add_neg, isAlmostInt_sub_int]
  split_ifs with hacc
  · obtain ⟨-, -, -, -, -, -, h1, h2⟩ := hacc
    simp only [Except.map, pyRound_sub_int _ _ _ htol h1, pyRound_sub_int _ _ _ htol h2]
    congr 2 <;> ring
  · rfl

/-- the default `tol` of `bounding_box_in_pixel_domain` meets the bound `bbpd_ref_shift` asks for -/
example : tolPix ≤ 1 / 2 := tolPix_le_half

/-! ## Part V — `functools.reduce` of the binary operators = the n-ary functions, for ARBITRARY operand lists

The fold measures every operand against the growing result, the n-ary form measures all of them against the
first operand.  Both see the same boxes because shifting the reference by whole pixels shifts the
pixel-domain box by the same amount and accepts the same operands (`bbpd_ref_shift`); and normalising an
empty intermediate `&` at every step instead of once at the end changes nothing after the final
normalisation (`normEmpty_inter_normEmpty`). -/

theorem geoboxOfPixBBox_det (a : GeoBox) (hdet : a.aff.det ≠ 0) (U : BBox Int) :
    (geoboxOfPixBBox a U).aff.det ≠ 0 := by
  rwa [geoboxOfPixBBox, Aff.det_mul_translation]

theorem geoboxOfPixBBox_shift (a : GeoBox) (U V : BBox Int) :
    geoboxOfPixBBox (geoboxOfPixBBox a U)
      ⟨V.left - U.left, V.bottom - U.bottom, V.right - U.left, V.top - U.bottom, none⟩ = geoboxOfPixBBox a V :=
  geoboxOfPixBBox_relBB a ⟨U.left, U.bottom, U.right, U.top⟩ ⟨V.left, V.bottom, V.right, V.top⟩

/-- one step of the fold: `(a placed on U) | g` is `a` placed on `U ∪ (g in the pixels of a)` — for every
operand `g`, accepted or not -/
theorem or_step (a : GeoBox) (hdet : a.aff.det ≠ 0) (U : BBox Int) (g : GeoBox) :
    (geoboxOfPixBBox a U).or g =
      match bboxInPixelDomain g a tolPix with
      | .error e => .error e
      | .ok bb => .ok (geoboxOfPixBBox a ⟨min bb.left U.left, min bb.bottom U.bottom, max bb.right U.right,
                                          max bb.top U.top, none⟩) := by
  rw [or_eq_bbpd _ _ (geoboxOfPixBBox_det a hdet U),
    bbpd_ref_shift g a (geoboxOfPixBBox a U) hdet U.left U.bottom rfl rfl tolPix tolPix_le_half]
  cases bboxInPixelDomain g a tolPix with
  | error e => rfl
  | ok bb =>
    refine congrArg Except.ok ((congrArg (geoboxOfPixBBox _) ?_).trans (geoboxOfPixBBox_shift a U _))
    simp only [geoboxOfPixBBox, ← min_sub_sub_right, ← max_sub_sub_right, sub_self]

/-- the fold from any accumulated box: the remaining operands are measured against `a` (as the n-ary form
does), although the fold measures them against the growing union -/
theorem foldl_or_eq (a : GeoBox) (hdet : a.aff.det ≠ 0) (gs : List GeoBox) :
    ∀ U : BBox Int, U.crs = none →
      List.foldlM (fun acc g => acc.or g) (geoboxOfPixBBox a U) gs =
        (match allBBoxes a tolPix gs with
         | .error e => .error e
         | .ok bbs => match foldRes unionStep U bbs with
           | .error e => .error e
           | .ok V => .ok (geoboxOfPixBBox a V)) := by
  induction gs with
  | nil => intro U _; rfl
  | cons g gs ih =>
    intro U hU
    simp only [List.foldlM_cons, or_step a hdet U g, allBBoxes]
    cases hb : bboxInPixelDomain g a tolPix with
    | error e => rfl
    | ok bb =>
      have hc := bbpd_crs_none g a tolPix bb hb
      simp only [bind, Except.bind]
      rw [ih _ rfl]
      cases allBBoxes a tolPix gs with
      | error e => rfl
      | ok bbs =>
        simp only [foldRes, unionStep, hU, hc, ne_eq, not_true_eq_false, if_false]

/-- **`functools.reduce(operator.or_, [a, g1, …, gn])` = `geobox_union_conservative([a, g1, …, gn])` for
ARBITRARY operands** (on the grid of `a`, off it by less than the tolerances, incompatible, in another CRS,
in any order): the same calls succeed, the same fail, and the results are the same GeoBox. -/
theorem reduce_or_eq_union_any (a : GeoBox) (hdet : a.aff.det ≠ 0) (gs : List GeoBox) :
    List.foldlM (fun acc g => acc.or g) a gs = geoboxUnionConservative (a :: gs) := by
  conv_lhs => rw [← geoboxOfPixBBox_self a]
  rw [foldl_or_eq a hdet gs _ rfl]
  simp only [geoboxUnionConservative, allBBoxes, bbpd_self a hdet tolPix tolPix_pos, bboxUnion]
  cases allBBoxes a tolPix gs with
  | error e => rfl
  | ok bbs => rfl

theorem and_step (a : GeoBox) (hdet : a.aff.det ≠ 0) (U : BBox Int) (g : GeoBox) :
    (geoboxOfPixBBox a U).and g =
      match bboxInPixelDomain g a tolPix with
      | .error e => .error e
      | .ok bb => .ok (geoboxOfPixBBox a (normEmpty ⟨max bb.left U.left, max bb.bottom U.bottom, min bb.right U.right,
                                                    min bb.top U.top, none⟩)) := by
  rw [and_eq_bbpd _ _ (geoboxOfPixBBox_det a hdet U),
    bbpd_ref_shift g a (geoboxOfPixBBox a U) hdet U.left U.bottom rfl rfl tolPix tolPix_le_half]
  cases bboxInPixelDomain g a tolPix with
  | error e => rfl
  | ok bb =>
    refine congrArg Except.ok ((congrArg (geoboxOfPixBBox _) ?_).trans (geoboxOfPixBBox_shift a U _))
    simp only [normEmpty_eq, geoboxOfPixBBox, ← min_sub_sub_right, ← max_sub_sub_right, sub_self]

theorem normEmpty_inter_normEmpty (X b : BBox Int) :
    normEmpty ⟨max b.left (normEmpty X).left, max b.bottom (normEmpty X).bottom, min b.right (normEmpty X).right,
               min b.top (normEmpty X).top, none⟩ =
    normEmpty ⟨max b.left X.left, max b.bottom X.bottom, min b.right X.right, min b.top X.top, none⟩ := by
  simp only [normEmpty_eq, BBox.mk.injEq, and_true, true_and, min_comm b.right, min_comm b.top]
  exact ⟨max_min_max_of_le (le_max_right _ _) _ _, max_min_max_of_le (le_max_right _ _) _ _⟩

theorem foldl_and_eq (a : GeoBox) (hdet : a.aff.det ≠ 0) (gs : List GeoBox) :
    ∀ X : BBox Int, X.crs = none →
      List.foldlM (fun acc g => acc.and g) (geoboxOfPixBBox a (normEmpty X)) gs =
        (match allBBoxes a tolPix gs with
         | .error e => .error e
         | .ok bbs => match foldRes interStep X bbs with
           | .error e => .error e
           | .ok V => .ok (geoboxOfPixBBox a (normEmpty V))) := by
  induction gs with
  | nil => intro X _; rfl
  | cons g gs ih =>
    intro X hX
    simp only [List.foldlM_cons, and_step a hdet _ g, allBBoxes]
    cases hb : bboxInPixelDomain g a tolPix with
    | error e => rfl
    | ok bb =>
      have hc := bbpd_crs_none g a tolPix bb hb
      simp only [bind, Except.bind, normEmpty_inter_normEmpty]
      rw [ih ⟨max bb.left X.left, max bb.bottom X.bottom, min bb.right X.right, min bb.top X.top, none⟩ rfl]
      cases allBBoxes a tolPix gs with
      | error e => rfl
      | ok bbs =>
        simp only [foldRes, interStep, hX, hc, ne_eq, not_true_eq_false, if_false]

/-- **`reduce(&)` = n-ary for arbitrary operands, no shape assumption**, as soon as there is a second
operand: the first `&` already normalises. (For a single operand of negative width the n-ary form
returns a zero-width GeoBox while `reduce` returns the operand itself — `reduce_and_eq_inter_any` needs
its hypothesis only there.) -/
theorem reduce_and_eq_inter_any' (a : GeoBox) (hdet : a.aff.det ≠ 0) (g : GeoBox) (gs : List GeoBox) :
    List.foldlM (fun acc g => acc.and g) a (g :: gs) = geoboxIntersectionConservative (a :: g :: gs) := by
  simp only [List.foldlM_cons, and_eq_bbpd a g hdet, geoboxIntersectionConservative, allBBoxes,
    bbpd_self a hdet tolPix tolPix_pos, bboxIntersection]
  cases hb : bboxInPixelDomain g a tolPix with
  | error e => rfl
  | ok bb =>
    have hc := bbpd_crs_none g a tolPix bb hb
    simp only [Except.map, bind, Except.bind]
    rw [foldl_and_eq a hdet gs ⟨max bb.left 0, max bb.bottom 0, min bb.right a.nx, min bb.top a.ny, none⟩ rfl]
    cases allBBoxes a tolPix gs with
    | error e => rfl
    | ok bbs =>
      simp only [foldRes, interStep, hc, ne_eq, not_true_eq_false, if_false]
      rfl

/-- **`functools.reduce(operator.and_, [a, g1, …, gn])` = `geobox_intersection_conservative([a, g1, …, gn])`
for ARBITRARY operands** (shapes of `a` not negative): the fold normalises an empty intermediate result at
every step, the n-ary form only at the end; the same calls succeed and the results are the same GeoBox. -/
theorem reduce_and_eq_inter_any (a : GeoBox) (hdet : a.aff.det ≠ 0) (hnx : 0 ≤ a.nx) (hny : 0 ≤ a.ny)
    (gs : List GeoBox) :
    List.foldlM (fun acc g => acc.and g) a gs = geoboxIntersectionConservative (a :: gs) := by
  cases gs with
  | cons g gs => exact reduce_and_eq_inter_any' a hdet g gs
  | nil =>
    simp only [geoboxIntersectionConservative, allBBoxes, bbpd_self a hdet tolPix tolPix_pos, bboxIntersection, foldRes,
      normEmpty_eq, max_eq_right hnx, max_eq_right hny, geoboxOfPixBBox_self]
    rfl

/-- non-vacuity: an invertible grid with a non-negative shape; the operand list may hold anything -/
example : ∃ a : GeoBox, a.aff.det ≠ 0 ∧ 0 ≤ a.nx ∧ 0 ≤ a.ny :=
  ⟨⟨4, 5, ⟨3, -4, 100, 4, 3, 200⟩, some 1⟩, by simp [Aff.det]; norm_num, by decide, by decide⟩

/-- **`reduce(operator.or_, geoboxes)` is `geobox_union_conservative(geoboxes)`** for every list of
GeoBoxes on a common grid (any length, any order, empty members included): same shape and same world
affine, although the reference changes at every step of the fold. -/
theorem reduce_or_eq_union (g0 : GeoBox) (hdet : g0.aff.det ≠ 0) (r : Rect) (ss : List Rect) :
    List.foldlM (fun acc g => acc.or g) (onGrid g0 r) (ss.map (onGrid g0)) =
      geoboxUnionConservative ((r :: ss).map (onGrid g0)) :=
  reduce_or_eq_union_any _ ((det_onGrid g0 r).trans_ne hdet) _

/-- **`reduce(operator.and_, geoboxes)` is `geobox_intersection_conservative(geoboxes)`** on a common
grid, although the fold normalises an empty intermediate result at every step and the n-ary form only
at the end (shapes are never negative: `r.Valid`). -/
theorem reduce_and_eq_inter (g0 : GeoBox) (hdet : g0.aff.det ≠ 0) (r : Rect) (hr : r.Valid) (ss : List Rect) :
    List.foldlM (fun acc g => acc.and g) (onGrid g0 r) (ss.map (onGrid g0)) =
      geoboxIntersectionConservative ((r :: ss).map (onGrid g0)) :=
  reduce_and_eq_inter_any _ ((det_onGrid g0 r).trans_ne hdet) (sub_nonneg.mpr hr.1) (sub_nonneg.mpr hr.2) _

example : (⟨0, 0, 0, 3⟩ : Rect).Valid := ⟨by decide, by decide⟩

end OdcGeo.C16
