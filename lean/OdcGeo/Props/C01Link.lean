/- C01 — links with the neighbouring models: the single-operand GeoBox operations of
C02's model keep the CRS, and the UTM branch of `norm_crs` / `_pick_best_crs` as modelled in C11 (zone arithmetic, ranking) meets
C01's guard. -/
import OdcGeo.Model.C01Glue
import OdcGeo.Lemmas.Except
import OdcGeo.Model.C02
import OdcGeo.Model.C11
import OdcGeo.Props.C01

namespace OdcGeo.C01

variable {S R : Type}

/-- **The GeoBox views of C02's model that cannot fail keep the CRS**: pixel- and world-side affine composition,
pad, resize, translate, left / right / top / bottom, flips, rotate, crop by ROI, centre pixel — whatever the
parameters -/
theorem geobox_views_keep_crs (g : C02.GeoBox) (T : Aff) (px : Int) (py : Option Int) (ny nx : Int) (tx ty c s : Rat)
    (roi : C02.Roi) :
    (C02.mulPix g T).crs = g.crs ∧ (C02.mulWld T g).crs = g.crs ∧ (C02.pad g px py).crs = g.crs ∧
    (C02.resize g ny nx).crs = g.crs ∧ (C02.translatePix g tx ty).crs = g.crs ∧ (C02.left g).crs = g.crs ∧
    (C02.right g).crs = g.crs ∧ (C02.top g).crs = g.crs ∧ (C02.bottom g).crs = g.crs ∧ (C02.flipx g).crs = g.crs ∧
    (C02.flipy g).crs = g.crs ∧ (C02.rotate g c s).crs = g.crs ∧ (C02.crop g roi).crs = g.crs ∧
    (C02.centerPixel g).crs = g.crs := by
  refine ⟨rfl, rfl, ?_, rfl, rfl, rfl, rfl, rfl, rfl, rfl, rfl, ?_, ?_, ?_⟩
  · unfold C02.pad; rfl
  · unfold C02.rotate; rfl
  · unfold C02.crop; rfl
  · unfold C02.centerPixel C02.crop; rfl

/-- zoom_out, zoom_to (by shape) and scaled_down of C02's model keep the CRS whenever they return (pad_wh, buffered,
the other forms of zoom_to: `C02.crs_preserved` in Props/C02) -/
theorem geobox_zoom_keeps_crs (g g' : C02.GeoBox) (f : Rat) (ny nx : Int) (k : Int) :
    (C02.zoomOut g f = .ok g' → g'.crs = g.crs) ∧ (C02.zoomToShape g ny nx = .ok g' → g'.crs = g.crs) ∧
    (C02.scaledDown g k = .ok g' → g'.crs = g.crs) :=
  ⟨fun h => by cases ((ite_error_eq_ok_iff _ _ _).1 h).2; rfl, fun h => by cases ((ite_error_eq_ok_iff _ _ _).1 h).2; rfl,
    fun h => by cases ((ite_error_eq_ok_iff _ _ _).1 h).2; rfl⟩

/-- the GeoBox entries of the single-operand table are all CRS-keeping except `to_crs` -/
theorem unaryTableGeoBox_keep :
    ∀ e ∈ unaryTableGeoBox, e.2 = .keep ∨ e.1 = "GeoBox.to_crs" := by decide +kernel

/-- **C01's hemisphere arithmetic is C11's**: `utmPick` (Model/C01Glue) and `C11.normUtm` compute the same
EPSG code for every request, hemisphere and code ≥ 100 -/
theorem utmPick_eq_normUtm (south : Bool) (epsg : Nat) (h : 100 ≤ epsg) :
    (utmPick .plain south epsg : Int) = C11.normUtm .utm epsg south ∧
    (utmPick .otherSuffix south epsg : Int) = C11.normUtm .utm epsg south ∧
    (utmPick .north south epsg : Int) = C11.normUtm .utmN epsg south ∧
    (utmPick .south south epsg : Int) = C11.normUtm .utmS epsg south := by
  cases south <;> simp [utmPick, C11.normUtm] <;> omega

/-- **The ranking of `_pick_best_crs` is behind the C01 guard**: each candidate is scored by
`crs_region & poly` (`Geometry.__and__`, a table operation, region in EPSG:4326).  If the context
polygon is in another CRS (or has none) the score cannot be computed — the guard raises its
`ValueError` (finding F68: `CRS.utm` of a BoundingBox in a projected CRS ran into exactly this) — and with a
polygon in EPSG:4326 the score is exactly the raw shapely intersection. -/
theorem pick_best_score_guarded (D : Delegate S R) (region poly : Obj S) :
    ∃ op ∈ opTable, op.name = "Geometry.__and__" ∧
      (tagNe region.crs poly.crs = true → ∃ e, run op D [region, poly] = .error e ∧ e.isValueError = true) ∧
      (tagNe region.crs poly.crs = false →
        run op D [region, poly] = (D.call op.name [region.raw, poly.raw]).map (fun r => Out.val (some region.crs) r)) := by
  have hop : geomSet "__and__" ∈ opTable :=
    List.mem_append_left _ (List.mem_append_right _ (List.mem_map_of_mem (by simp)))
  refine ⟨_, hop, by simp [geomSet], fun h => ?_, fun h => ?_⟩
  · exact ⟨_, mismatch_raises_two _ D region poly nofun h, rfl⟩
  · rw [equal_delegates _ D region [poly] (List.forall_mem_singleton.mpr ((tagNe_false_iff _ _).mp h))]
    show Except.map _ (Except.map some (D.call _ [region.raw, poly.raw])) = _
    cases D.call _ [region.raw, poly.raw] <;> rfl

/-- C11's `pickBest` on one candidate returns it and on none raises `ValueError` (several candidates:
`C11.pick_best_is_max_overlap`).  The public entry `norm_crs("utm", ctx)` runs `utmText` → `CRS.utm` (query: observed) →
scores (`pick_best_score_guarded`) → `C11.pickBest` → `utmPick`. -/
theorem pick_best_single_or_ranked (c : Nat × Rat) :
    C11.pickBest [c] true = .ok c.1 ∧ C11.pickBest [] true = .error .valueError := ⟨rfl, rfl⟩

end OdcGeo.C01
