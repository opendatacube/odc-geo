/- C07 — corollaries of the densify theorems for coordinate lists of ANY length: whenever some edge — at
any position, the last / closing one included — is longer than the resolution, `densify` cannot hand the
list back unchanged: that edge gets at least one added vertex strictly inside it, the output is strictly
longer than the input, and no output edge exceeds the resolution.  (So no `densify` may return a long
list unchanged after looking at only some of its edges; the model has no such shortcut.) -/
import OdcGeo.Props.C07

namespace OdcGeo.C07
set_option linter.unusedSectionVars false

variable {K : Type} [Field K] [LinearOrder K] [IsStrictOrderedRing K]

/-- **The long edge itself gets a vertex**: an edge longer than the resolution (shapely's length
contract `EdgeOk` for this edge) receives at least one added vertex, and every added vertex lies
strictly inside the edge -/
theorem long_edge_gets_vertex (E : Env K) (r : K) (hr : 0 < r) (p1 p2 : Pt K)
    (hlong : r * r < dist2 p1 p2) (hE : EdgeOk E r p1 p2) :
    (∃ q, q ∈ (edge shortEnough E r p1 p2).dropLast) ∧
    ∀ q ∈ (edge shortEnough E r p1 p2).dropLast,
      ∃ τ : K, 0 < τ ∧ τ < 1 ∧ q.x = p1.x + τ * (p2.x - p1.x) ∧ q.y = p1.y + τ * (p2.y - p1.y) := by
  have hs : shortEnough r p1 p2 = false := decide_eq_false (not_lt.mpr hlong.le)
  have hlen : r < E.len p1 p2 :=
    lt_of_mul_self_lt_mul_self₀ hE.len_nonneg (by rw [hE.len_sq]; exact hlong)
  have hdrop : (edge shortEnough E r p1 p2).dropLast = loopPts p1 p2 (E.len p1 p2) r (E.fuel r p1 p2) r := by
    unfold edge
    rw [hs, if_neg Bool.false_ne_true, List.dropLast_concat]
  rw [hdrop]
  refine ⟨?_, fun q hq => densify_on_edge E r hr p1 p2 q _ hq⟩
  cases hf : E.fuel r p1 p2 with
  | zero =>
    have h0 := hE.fuel_ok
    rw [hf, Nat.cast_zero, zero_add, one_mul] at h0
    exact absurd hlen (not_lt.mpr h0.le)
  | succ f => exact ⟨_, by unfold loopPts; rw [if_pos hlen]; exact List.mem_cons_self ..⟩

/-- **Any length, any position**: if the coordinate list `pre ++ [p1, p2] ++ post` has an edge `p1 → p2`
longer than the resolution — first, middle, last (`post = []`) or the closing edge of a ring — then a
successful `densify` returns a list in which no edge exceeds the resolution, which keeps all input
vertices in order, which is **strictly longer than the input** and hence **not the input**. -/
theorem densify_long_edge_anywhere (E : Env K) (r : K) (pre post : List (Pt K)) (p1 p2 : Pt K) (out : List (Pt K))
    (hlong : r * r < dist2 p1 p2) (hE : CoordsOk E r (pre ++ p1 :: p2 :: post))
    (h : densify E r (pre ++ p1 :: p2 :: post) = .ok out) :
    GapsLe r out ∧ List.Sublist (pre ++ p1 :: p2 :: post) out ∧
    (pre ++ p1 :: p2 :: post).length < out.length ∧ out ≠ pre ++ p1 :: p2 :: post := by
  have hg := densify_gap_le E r _ out hE h
  have hne : out ≠ pre ++ p1 :: p2 :: post := by
    intro heq
    rw [heq] at hg
    exact absurd hlong (not_lt.mpr ((gapsLe_append r p1 (p2 :: post) pre).mp hg).2.1)
  have hsub := (densPts_retains shortEnough E r (pre ++ p1 :: p2 :: post)).1
  rw [← (densify_ok h).2] at hsub
  refine ⟨hg, hsub, ?_, hne⟩
  rcases lt_or_eq_of_le hsub.length_le with hlt | heq
  · exact hlt
  · exact absurd (hsub.eq_of_length heq).symm hne

/-- the same over the reals with the true Euclidean length: no hypothesis on shapely is left -/
theorem densify_long_edge_anywhere_real (r : ℝ) (pre post : List (Pt ℝ)) (p1 p2 : Pt ℝ) (out : List (Pt ℝ))
    (hlong : r * r < dist2 p1 p2) (h : densify envReal r (pre ++ p1 :: p2 :: post) = .ok out) :
    GapsLe r out ∧ (pre ++ p1 :: p2 :: post).length < out.length ∧ out ≠ pre ++ p1 :: p2 :: post := by
  have := densify_long_edge_anywhere envReal r pre post p1 p2 out hlong
    (envReal_coordsOk r (densify_pos h) _) h
  exact ⟨this.1, this.2.2.1, this.2.2.2⟩

/-- `hlong` over `Rat` behind a prefix of 70 vertices: a last edge of length 8 at resolution 1 -/
example : ∃ pre : List (Pt Rat), pre.length = 70 ∧
    (1 : Rat) * 1 < dist2 (⟨70, 0⟩ : Pt Rat) ⟨70, 8⟩ := ⟨List.replicate 70 ⟨0, 0⟩, by simp, by norm_num [dist2]⟩

example : EdgeOk (⟨fun _ _ => 5, fuelRat⟩ : Env Rat) 1 ⟨0, 0⟩ ⟨3, 4⟩ ∧ (1 : Rat) * 1 < dist2 (⟨0, 0⟩ : Pt Rat) ⟨3, 4⟩ :=
  ⟨edgeOk_3_4_5, by norm_num [dist2]⟩

end OdcGeo.C07
