/-
C04 — tilings are exact partitions (the other half of the property, blocks reassemble the mosaic,
is `Props/C04Asm.lean`).

One axis is treated; the 2-D statements lift it through `zip2` exactly as the library zips
`(y, x)`.

* regular tiles (`Tiles`): every `N`, every tile size `n > 0` (tile larger than the image,
  non-dividing sizes and 1-pixel tiles are not special cases);
* variable tiles (`VariableSizedTiles`): every chunk tuple with non-negative entries
  (zero-length chunks included) whose sum fits `int32` (`ChunksOK`; the wrap-around of larger
  sums is in the model and compared with the code; the one theorem about it is the witness `vbase_wraps_cex`);
* `NSlice.Has s y` : pixel `y` lies in the region `[s.start, s.stop)`.
-/
import OdcGeo.Model.C04
import OdcGeo.Lemmas.C04Tiling
import Mathlib.Tactic.Ring
import OdcGeo.Lemmas.Affine
namespace OdcGeo.C04
open OdcGeo OdcGeo.C17 OdcGeo.NpArray

theorem tiles_partition (N n : Int) (hn : 0 < n) (y : Int) (hy : 0 ≤ y ∧ y < N) :
    ∃! i : Int, (0 ≤ i ∧ i < count N n) ∧
      ∃ s, getItem N n (.idx i) = .ok s ∧ s.Has y :=
  Tiling.partition (.reg N n) hn y hy

theorem regions_disjoint (N n : Int) (hn : 0 < n) (i j : Int)
    (hi : 0 ≤ i ∧ i < count N n) (hj : 0 ≤ j ∧ j < count N n) (hij : i ≠ j) (si sj : NSlice)
    (hsi : getItem N n (.idx i) = .ok si) (hsj : getItem N n (.idx j) = .ok sj) (y : Int) :
    ¬ (si.Has y ∧ sj.Has y) := by
  rw [getItem_idx N n hn i hi] at hsi
  rw [getItem_idx N n hn j hj] at hsj
  cases hsi; cases hsj
  exact fun h => hij (Tiling.region_unique (.reg N n) hn hi.1 hj.1 h.1 h.2)

theorem locate_inverse (N n : Int) (hn : 0 < n) (y : Int) (hy : 0 ≤ y ∧ y < N) :
    ∃ i s, locate N n y = .ok i ∧ (0 ≤ i ∧ i < count N n) ∧
      getItem N n (.idx i) = .ok s ∧ s.Has y := by
  obtain ⟨i, hl, hi, hs⟩ := Tiling.locate_spec (.reg N n) hn y hy
  exact ⟨i, _, hl, hi, getItem_idx N n hn i hi, hs⟩

theorem getItem_negative_index (N n : Int) (i : Int) (hi : i < 0) :
    getItem N n (.idx i) = getItem N n (.idx (count N n + i)) ∨ count N n + i < 0 := by
  refine (Int.lt_or_le (count N n + i) 0).symm.imp (fun h => ?_) id
  simp only [getItem, normSlice_idx, wrapIdx_of_neg hi, wrapIdx_of_nonneg h]

theorem region_within (N n : Int) (idx : PIdx) (s : NSlice)
    (h : getItem N n idx = .ok s) : 0 ≤ s.start ∧ s.start < N ∧ s.stop ≤ N := by
  simp only [getItem] at h
  split at h
  · next hc => cases h; exact ⟨hc.1, hc.2.1, Int.min_le_right _ _⟩
  · cases h

theorem tile_region_nonempty (N n : Int) (hn : 0 < n) (i : Int) (s : NSlice)
    (h : getItem N n (.idx i) = .ok s) : s.start < s.stop := by
  obtain ⟨⟨_, h1⟩, rfl⟩ := getItem_idx_ok N n i s h
  refine Int.lt_min.2 ⟨?_, h1⟩
  rw [Int.add_mul, Int.one_mul]
  exact Int.lt_add_of_pos_right _ hn

theorem tileShape_error_iff (N n : Int) (i : Int) :
    tileShape N n i = .error .indexError ↔ (i < -count N n ∨ count N n ≤ i) :=
  error_iff_wrapped (fun hj => ⟨_, tileShape_wrapped N n i hj⟩) fun hj => by
    rw [tileShape_of, if_neg (fun hc => hj ⟨hc.1, Int.lt_trans hc.2 (Int.sub_one_lt_of_le (Int.le_refl _))⟩),
      if_neg (fun hc => hj ⟨hc.1, by rw [hc.2]; exact Int.sub_one_lt_of_le (Int.le_refl _)⟩)]

theorem tile_shape_eq_region_len (N n : Int) (hn : 0 < n) (i : Int) (s : NSlice)
    (h : getItem N n (.idx i) = .ok s) : tileShape N n i = .ok (s.stop - s.start) := by
  obtain ⟨hs, rfl⟩ := getItem_idx_ok N n i s h
  have hj := idx_valid_of_start N n _ hn hs
  rw [tileShape_wrapped N n i hj]
  exact congrArg _ (tile_len N n hn _ hj.2).symm

theorem chunks_spec (N n : Int) (hn : 0 < n) (hN : 0 < N) :
    ∃ cs, chunks N n = .ok cs ∧ (cs.length : Int) = count N n ∧ cs.sum = N ∧
      ∀ i : Nat, (i : Int) < count N n → ∃ c, cs[i]? = some c ∧ tileShape N n i = .ok c := by
  have hT := count_pos N n hn hN
  obtain ⟨k, hk⟩ : ∃ k : Nat, count N n - 1 = k := ⟨(count N n - 1).toNat, by omega⟩
  have h0 := tileShape_idx N n 0 ⟨Int.le_refl 0, hT⟩
  have hl := tileShape_idx N n (count N n - 1) ⟨Int.sub_nonneg.2 hT, Int.sub_one_lt_of_le (Int.le_refl _)⟩
  rw [if_neg (Int.lt_irrefl _)] at hl
  rw [hk] at h0 hl
  refine ⟨_, by simp only [chunks, h0, hl, hk, Int.toNat_natCast, bind, Except.bind, pure, Except.pure]; rfl,
    ?_, ?_, ?_⟩
  · rw [List.length_append, List.length_replicate, List.length_singleton]; omega
  · rw [List.sum_append, sum_replicate, List.sum_singleton]
    cases k with
    | zero => rw [Int.natCast_zero, Int.zero_mul, Int.zero_mul, Int.zero_add, Int.sub_zero]
    | succ k => rw [if_pos (Int.natCast_pos.2 k.succ_pos), add_sub_cancel]
  · intro i hi
    rw [tileShape_idx N n i ⟨Int.natCast_nonneg i, hi⟩, hk]
    by_cases h1 : i < k
    · refine ⟨_, ?_, rfl⟩
      rw [List.getElem?_append_left (by rw [List.length_replicate]; exact h1), List.getElem?_replicate,
        if_pos h1, if_pos (Int.ofNat_lt.2 h1), if_pos (Int.natCast_pos.2 (Nat.zero_lt_of_lt h1))]
    · obtain rfl : i = k := by omega
      refine ⟨_, ?_, rfl⟩
      rw [List.getElem?_append_right (by rw [List.length_replicate]), List.length_replicate,
        Nat.sub_self, if_neg (Int.lt_irrefl _)]
      rfl

theorem chunks_error_of_empty (N n : Int) (hn : 0 < n) (hN : N ≤ 0) :
    chunks N n = .error .indexError := by
  have : tileShape N n 0 = .error .indexError :=
    (tileShape_error_iff N n 0).2 (Or.inr (count_le_zero N n hn hN))
  rw [chunks, this]; rfl

theorem locate_error_iff (N n : Int) (hn : 0 < n) (y : Int) :
    locate N n y = .error .indexError ↔ (y < 0 ∨ N ≤ y) := by
  refine ⟨fun h => by_contra fun hc => ?_, fun h => if_pos h⟩
  rw [locate_eq_ediv N n hn y ⟨Int.not_lt.1 fun h => hc (.inl h), Int.not_le.1 fun h => hc (.inr h)⟩] at h
  cases h

theorem crop_is_tiling_of_crop (N n : Int) (hn : 0 < n) (idx : PIdx) (a b : Int)
    (hr : normSlice idx (count N n) = ⟨a, b⟩) (hab : 0 ≤ a ∧ a < b ∧ b ≤ count N n) :
    ∃ N', crop N n idx = .ok N' ∧ N' = min (b * n) N - a * n ∧ count N' n = b - a ∧
      ∀ k : Int, 0 ≤ k ∧ k < b - a →
        ∃ s s', getItem N n (.idx (a + k)) = .ok s ∧ getItem N' n (.idx k) = .ok s' ∧
          s.start = s'.start + a * n ∧ s.stop = s'.stop + a * n := by
  have hg := getItem_block N n hn idx a b hr hab
  have h2 := (mul_lt_iff_lt_count N n (b - 1) hn).2 (Int.sub_one_lt_of_le hab.2.2)
  rw [Int.sub_mul, Int.one_mul] at h2
  have hcnt : count (min (b * n) N - a * n) n = b - a :=
    count_eq_of_bounds _ n _ hn
      (by rw [Int.sub_mul, Int.sub_mul, Int.one_mul, sub_right_comm]
          exact Int.sub_lt_sub_right (Int.lt_min.2 ⟨Int.sub_lt_self _ hn, h2⟩) _)
      (by rw [Int.sub_mul]; exact Int.sub_le_sub_right (Int.min_le_left _ _) _)
  refine ⟨min (b * n) N - a * n, by rw [crop, hg]; rfl,
    rfl, hcnt, ?_⟩
  intro k hk
  have hak : a + k < b := Int.add_lt_of_lt_sub_left hk.2
  rw [getItem_idx N n hn (a + k) ⟨Int.add_nonneg hab.1 hk.1, Int.lt_of_lt_of_le hak hab.2.2⟩,
      getItem_idx _ n hn k ⟨hk.1, by rw [hcnt]; exact hk.2⟩]
  refine ⟨_, _, rfl, rfl, Int.add_mul k a n ▸ Int.add_comm a k ▸ rfl, ?_⟩
  have e5 : (a + k + 1) * n ≤ b * n := Int.mul_le_mul_of_nonneg_right (Int.add_one_le_of_lt hak) (Int.le_of_lt hn)
  have e4 : (a + k + 1) * n = (k + 1) * n + a * n := by ring
  show min ((a + k + 1) * n) N = min ((k + 1) * n) (min (b * n) N - a * n) + a * n
  rw [← min_add_add_right, sub_add_cancel, ← e4, ← min_assoc, min_eq_left e5]

theorem clip_rebases (N n : Int) (hn : 0 < n) (sel : List Int) (hne : sel ≠ [])
    (hsel : ∀ s ∈ sel, 0 ≤ s ∧ s < count N n) :
    ∃ N' y1 y2, clipTiles N n sel = .ok (N', ⟨y1, y2 + 1⟩, sel.map (· - y1)) ∧
      count N' n = y2 + 1 - y1 ∧
      ∀ s ∈ sel, ∃ r r', getItem N n (.idx s) = .ok r ∧ getItem N' n (.idx (s - y1)) = .ok r' ∧
        r.start = r'.start + y1 * n ∧ r.stop = r'.stop + y1 * n := by
  obtain ⟨y1, y2, hc, m1, m2, hb⟩ := clipSel_spec sel hne
  have b1 := hsel y1 m1
  have b2 := hsel y2 m2
  have b12 := (hb y2 m2).1
  obtain ⟨N', hcrop, _, hcnt, htiles⟩ :=
    crop_is_tiling_of_crop N n hn _ y1 (y2 + 1) (normSlice_of_nonneg _ b1.1 (Int.le_add_one b2.1))
      ⟨b1.1, Int.lt_add_one_of_le b12, Int.add_one_le_of_lt b2.2⟩
  refine ⟨N', y1, y2, by simp only [clipTiles, hc, hcrop, bind, Except.bind, pure, Except.pure],
    hcnt, ?_⟩
  intro s hs
  have hbs := hb s hs
  have := htiles (s - y1) ⟨Int.sub_nonneg.2 hbs.1, Int.sub_lt_sub_right (Int.lt_add_one_of_le hbs.2) _⟩
  rwa [add_sub_cancel] at this

theorem clipSel_empty : clipSel [] = .error .valueError := rfl

theorem minL_eq_of_mem_iff (a b : Int) (xs ys : List Int) (h : ∀ v, v ∈ a :: xs ↔ v ∈ b :: ys) :
    minL a xs = minL b ys :=
  Int.le_antisymm ((minL_spec a xs).2 _ ((h _).2 (minL_spec b ys).1))
    ((minL_spec b ys).2 _ ((h _).1 (minL_spec a xs).1))

theorem maxL_eq_of_mem_iff (a b : Int) (xs ys : List Int) (h : ∀ v, v ∈ a :: xs ↔ v ∈ b :: ys) :
    maxL a xs = maxL b ys :=
  Int.le_antisymm ((maxL_spec b ys).2 _ ((h _).1 (maxL_spec a xs).1))
    ((maxL_spec a xs).2 _ ((h _).2 (maxL_spec b ys).1))

/-- **clip_tiles, any order, any multiplicity**: two selections with the same *set* of tile
indices (permuted, with duplicates, …) are clipped to the same block `[y1, y2]`, and each
re-based index is the original index minus the block origin, in the order given. -/
theorem clipSel_set_invariant (s t : List Int) (hs : s ≠ []) (h : ∀ v, v ∈ s ↔ v ∈ t) :
    ∃ y1 y2, clipSel s = .ok (y1, y2, s.map (· - y1)) ∧ clipSel t = .ok (y1, y2, t.map (· - y1)) := by
  cases s with
  | nil => exact absurd rfl hs
  | cons a xs =>
    cases t with
    | nil => exact nomatch (h a).1 List.mem_cons_self
    | cons b ys =>
      refine ⟨minL a xs, maxL a xs, rfl, ?_⟩
      simp only [clipSel]
      rw [minL_eq_of_mem_iff a b xs ys h, maxL_eq_of_mem_iff a b xs ys h]

/-- … hence the clipped regular tiling is the same for both spellings of the selection. -/
theorem clipTiles_set_invariant (N n : Int) (s t : List Int) (hs : s ≠ []) (h : ∀ v, v ∈ s ↔ v ∈ t) :
    (clipTiles N n s).map (fun r => (r.1, r.2.1)) = (clipTiles N n t).map (fun r => (r.1, r.2.1)) := by
  obtain ⟨y1, y2, h1, h2⟩ := clipSel_set_invariant s t hs h
  simp only [clipTiles, h1, h2, bind, Except.bind, pure, Except.pure]
  cases crop N n (.slc (some y1) (some (y2 + 1))) <;> rfl

theorem searchsorted_eq_linear_scan (xs : List Int) (key : Int) (hs : Sorted xs) :
    searchsortedRight xs key = linearScanRight xs key := by
  obtain ⟨r2, r3, r4⟩ := searchsorted_split xs key hs
  obtain ⟨t1, t2⟩ := takeWhile_length_spec (fun v => decide (v ≤ key)) xs
  have t3 := (List.takeWhile_sublist (l := xs) fun v => decide (v ≤ key)).length_le
  unfold linearScanRight
  generalize searchsortedRight xs key = r at *
  generalize (List.takeWhile (fun v => decide (v ≤ key)) xs).length = r' at *
  -- an index between the two answers would be both `≤ key` and `> key`
  rcases Nat.lt_trichotomy r r' with h | h | h
  · have e := List.getElem?_eq_getElem (Nat.lt_of_lt_of_le h t3)
    exact absurd (of_decide_eq_true (t1 r _ h e)) (Int.not_le.2 (r4 r _ (Nat.le_refl _) e))
  · exact h
  · have e := List.getElem?_eq_getElem (Nat.lt_of_lt_of_le h r2)
    exact absurd (r3 r' _ h e) (of_decide_eq_false (t2 _ e))

/-- **ranges of variable tiles, empty ones included**: for `a, b ≤ T` the block of tiles
`a:b` is the region `[Σ ch[:a], Σ ch[:b])`; `a:a` is the empty region at that offset. -/
theorem vgetItem_range (ch : List Int) (hok : ChunksOK ch) (idx : PIdx) (a b : Nat)
    (hr : normSlice idx (vcount ch) = ⟨a, b⟩) (hab : a ≤ ch.length ∧ b ≤ ch.length) :
    vgetItem ch idx = .ok ⟨pre ch a, pre ch b⟩ :=
  vgetItem_block ch hok idx a b hr hab

theorem vindex_error_iff (ch : List Int) (i : Int) :
    vgetItem ch (.idx i) = .error .indexError ↔ (i < -(ch.length : Int) ∨ (ch.length : Int) ≤ i) :=
  error_iff_wrapped (fun hj => let ⟨_, _, h, _⟩ := vidx_inrange ch i hj; ⟨_, h⟩)
    fun hj => (vidx_outofrange ch i hj).1

theorem vtileShape_error_iff (ch : List Int) (i : Int) :
    vtileShape ch i = .error .indexError ↔ (i < -(ch.length : Int) ∨ (ch.length : Int) ≤ i) :=
  error_iff_wrapped (fun hj => let ⟨_, _, _, h⟩ := vidx_inrange ch i hj; ⟨_, h⟩)
    fun hj => (vidx_outofrange ch i hj).2

theorem vtile_shape_eq_region_len (ch : List Int) (i : Int) (s : NSlice)
    (h : vgetItem ch (.idx i) = .ok s) : vtileShape ch i = .ok (s.stop - s.start) := by
  by_cases hj : 0 ≤ wrapIdx ch.length i ∧ wrapIdx ch.length i < ch.length
  · obtain ⟨x, y, hg, ht⟩ := vidx_inrange ch i hj
    rw [hg] at h
    cases h
    exact ht
  · rw [(vidx_outofrange ch i hj).1] at h
    cases h

theorem vgetItem_negative_index (ch : List Int) (i : Int) (hi : -(ch.length : Int) ≤ i ∧ i < 0) :
    vgetItem ch (.idx i) = vgetItem ch (.idx (ch.length + i)) := by
  have h : (0 : Int) ≤ ch.length + i := by omega
  simp only [vgetItem, normSlice_idx, vcount_eq, wrapIdx_of_neg hi.2, wrapIdx_of_nonneg h]

theorem vregion_within (ch : List Int) (hok : ChunksOK ch) (i : Nat) (hi : i < ch.length) (s : NSlice)
    (h : vgetItem ch (.idx i) = .ok s) : 0 ≤ s.start ∧ s.start ≤ s.stop ∧ s.stop ≤ vbase ch := by
  rw [vgetItem_idx ch hok i hi] at h
  cases h
  exact Tiling.region_within (.var ch) hok
    ⟨Int.natCast_nonneg i, (Int.ofNat_lt.2 hi).trans_eq (vcount_eq ch).symm⟩

theorem vlocate_inverse (ch : List Int) (hok : ChunksOK ch) (y : Int) (hy : 0 ≤ y ∧ y < vbase ch) :
    ∃ (i : Nat) (s : NSlice), vlocate ch y = .ok (i : Int) ∧ i < ch.length ∧
      vgetItem ch (.idx i) = .ok s ∧ s.Has y := by
  obtain ⟨i, hi, h12⟩ := exists_tile ch hok y hy
  exact ⟨i, _, vlocate_of_has ch hok i hi y h12, hi, vgetItem_idx ch hok i hi, h12⟩

theorem vregions_disjoint (ch : List Int) (hok : ChunksOK ch) (i j : Nat) (hi : i < ch.length)
    (hj : j < ch.length) (hij : i ≠ j) (si sj : NSlice)
    (hsi : vgetItem ch (.idx i) = .ok si) (hsj : vgetItem ch (.idx j) = .ok sj) (y : Int) :
    ¬ (si.Has y ∧ sj.Has y) := by
  rw [vgetItem_idx ch hok i hi] at hsi
  rw [vgetItem_idx ch hok j hj] at hsj
  cases hsi; cases hsj
  exact fun h => hij (Int.ofNat.inj (Tiling.region_unique (.var ch) hok (Int.natCast_nonneg i)
    (Int.natCast_nonneg j) h.1 h.2))

theorem vlocate_error_iff (ch : List Int) (y : Int) :
    vlocate ch y = .error .indexError ↔ (y < 0 ∨ vbase ch ≤ y) := by
  unfold vlocate
  split_ifs with h
  · exact ⟨fun _ => h, fun _ => rfl⟩
  · exact ⟨nofun, fun h' => absurd h' h⟩

theorem vchunks_spec (ch : List Int) (hok : ChunksOK ch) :
    vchunks ch = ch ∧ (vchunks ch).sum = vbase ch ∧ ((vchunks ch).length : Int) = vcount ch ∧
      ∀ (i : Nat) (c : Int), ch[i]? = some c → vtileShape ch i = .ok c := by
  have h1 : vchunks ch = ch := diff32_cumsum32 0 ch hok.noWrap
  refine ⟨h1, by rw [h1, vbase_eq_total ch hok, total_eq_sum], by rw [h1, vcount_eq], ?_⟩
  intro i c hc
  have hi := (List.getElem?_eq_some_iff.1 hc).1
  rw [vtile_shape_eq_region_len ch i _ (vgetItem_idx ch hok i hi)]
  show Except.ok (pre ch (i + 1) - pre ch i) = _
  rw [pre_step ch i c hc, add_sub_cancel_left]

/-- a zero-length chunk is a legitimate tile: addressable, with an empty region and shape 0 -/
theorem vzero_chunk_tile (ch : List Int) (hok : ChunksOK ch) (i : Nat) (hc : ch[i]? = some 0) :
    ∃ s, vgetItem ch (.idx i) = .ok s ∧ s.start = s.stop ∧ vtileShape ch i = .ok 0 := by
  have hi := (List.getElem?_eq_some_iff.1 hc).1
  refine ⟨_, vgetItem_idx ch hok i hi, ?_, ((vchunks_spec ch hok).2.2.2 i 0 hc)⟩
  exact ((pre_step ch i 0 hc).trans (Int.add_zero _)).symm

theorem vcrop_is_tiling_of_crop (ch : List Int) (hok : ChunksOK ch) (idx : PIdx) (a b : Nat)
    (hr : normSlice idx (vcount ch) = ⟨a, b⟩) (hab : a ≤ b ∧ b ≤ ch.length) :
    vcrop ch idx = (ch.drop a).take (b - a) ∧ ChunksOK (vcrop ch idx) ∧
      (vcrop ch idx).length = b - a ∧ vbase (vcrop ch idx) = pre ch b - pre ch a ∧
      ∀ k : Nat, k < b - a →
        ∃ s s', vgetItem ch (.idx ((a + k : Nat) : Int)) = .ok s ∧
          vgetItem (vcrop ch idx) (.idx (k : Int)) = .ok s' ∧
          s.start = s'.start + pre ch a ∧ s.stop = s'.stop + pre ch a := by
  have hc : vcrop ch idx = (ch.drop a).take (b - a) := by
    simp only [vcrop, hr, (vchunks_spec ch hok).1]
    exact pySlice_inrange ch a b hab
  have hpre : ∀ k, k ≤ b - a → pre ((ch.drop a).take (b - a)) k = pre ch (a + k) - pre ch a :=
    fun k hk => by rw [pre_take _ _ _ hk, pre_drop]
  have htot : total ((ch.drop a).take (b - a)) = pre ch b - pre ch a := by
    rw [total_take, pre_drop, Nat.add_sub_cancel' hab.1]
  have hok' : ChunksOK ((ch.drop a).take (b - a)) := by
    refine ⟨fun c hc' => hok.1 c (List.mem_of_mem_drop (List.mem_of_mem_take hc')), ?_⟩
    rw [htot]
    exact Int.lt_of_le_of_lt (Int.sub_le_self _ (pre_nonneg ch hok.1 a))
      (Int.lt_of_le_of_lt (pre_le_total ch hok.1 b) hok.2)
  have hlen : ((ch.drop a).take (b - a)).length = b - a := by
    rw [List.length_take, List.length_drop, Nat.min_eq_left (Nat.sub_le_sub_right hab.2 a)]
  rw [hc]
  refine ⟨rfl, hok', hlen, by rw [vbase_eq_total _ hok', htot], fun k hk => ?_⟩
  refine ⟨_, _, vgetItem_idx ch hok (a + k) (Nat.lt_of_lt_of_le (Nat.add_lt_of_lt_sub' hk) hab.2),
    vgetItem_idx _ hok' k (by rw [hlen]; exact hk), ?_, ?_⟩
  · show pre ch (a + k) = pre _ k + pre ch a
    rw [hpre k (Nat.le_of_lt hk), sub_add_cancel]
  · show pre ch (a + k + 1) = pre _ (k + 1) + pre ch a
    rw [hpre (k + 1) hk, sub_add_cancel, Nat.add_assoc]

theorem vclip_rebases (ch : List Int) (hok : ChunksOK ch) (sel : List Int) (hne : sel ≠ [])
    (hsel : ∀ s ∈ sel, 0 ≤ s ∧ s < (ch.length : Int)) :
    ∃ ch' y1 y2, vclipTiles ch sel = .ok (ch', ⟨y1, y2 + 1⟩, sel.map (· - y1)) ∧
      ChunksOK ch' ∧ (ch'.length : Int) = y2 + 1 - y1 ∧
      ∀ s ∈ sel, ∃ r r', vgetItem ch (.idx s) = .ok r ∧ vgetItem ch' (.idx (s - y1)) = .ok r' ∧
        r.start = r'.start + pre ch y1.toNat ∧ r.stop = r'.stop + pre ch y1.toNat := by
  obtain ⟨y1, y2, hc, m1, m2, hb⟩ := clipSel_spec sel hne
  obtain ⟨a, rfl⟩ := Int.eq_ofNat_of_zero_le (hsel y1 m1).1
  obtain ⟨c, rfl⟩ := Int.eq_ofNat_of_zero_le (hsel y2 m2).1
  have hac : a ≤ c := Int.ofNat_le.1 (hb c m2).1
  have hcT : c < ch.length := Int.ofNat_lt.1 (hsel c m2).2
  obtain ⟨_, hok', hlen, _, htiles⟩ :=
    vcrop_is_tiling_of_crop ch hok (.slc (some (a : Int)) (some ((c : Int) + 1))) a (c + 1)
      (normSlice_of_nonneg _ (Int.natCast_nonneg a) (Int.natCast_nonneg (c + 1))) ⟨Nat.le_succ_of_le hac, hcT⟩
  refine ⟨_, a, c, by rw [vclipTiles, hc]; rfl,
    hok', by rw [hlen]; omega, ?_⟩
  intro s hs
  obtain ⟨t, rfl⟩ := Int.eq_ofNat_of_zero_le (hsel s hs).1
  obtain ⟨k, rfl⟩ := Nat.exists_eq_add_of_le (Int.ofNat_le.1 (hb t hs).1)
  have := htiles k (by have := Int.ofNat_le.1 (hb _ hs).2; omega)
  rwa [Int.toNat_natCast, show ((a + k : Nat) : Int) - a = k by omega]

theorem tiles2_partition (t : Tiling2) (hy : t.y.WF) (hx : t.x.WF) (py px : Int)
    (hpy : 0 ≤ py ∧ py < t.y.base) (hpx : 0 ≤ px ∧ px < t.x.base) :
    ∃! rc : Int × Int, ((0 ≤ rc.1 ∧ rc.1 < t.y.count) ∧ (0 ≤ rc.2 ∧ rc.2 < t.x.count)) ∧
      ∃ sy sx, getItem2 t (.idx rc.1) (.idx rc.2) = .ok (sy, sx) ∧ sy.Has py ∧ sx.Has px := by
  obtain ⟨r, ⟨hr, sy, hsy, hyy⟩, ur⟩ := t.y.partition hy py hpy
  obtain ⟨c, ⟨hc, sx, hsx, hxx⟩, uc⟩ := t.x.partition hx px hpx
  refine ⟨(r, c), ⟨⟨hr, hc⟩, sy, sx, ?_, hyy, hxx⟩, ?_⟩
  · exact zip2_ok_iff.2 ⟨hsy, hsx⟩
  · rintro ⟨r', c'⟩ ⟨⟨hr', hc'⟩, sy', sx', h2, hyy', hxx'⟩
    obtain ⟨hA, hB⟩ := zip2_ok_iff.1 h2
    rw [ur r' ⟨hr', _, hA, hyy'⟩, uc c' ⟨hc', _, hB, hxx'⟩]

theorem locate2_inverse (t : Tiling2) (hy : t.y.WF) (hx : t.x.WF) (py px : Int)
    (hpy : 0 ≤ py ∧ py < t.y.base) (hpx : 0 ≤ px ∧ px < t.x.base) :
    ∃ r c sy sx, locate2 t py px = .ok (r, c) ∧
      getItem2 t (.idx r) (.idx c) = .ok (sy, sx) ∧ sy.Has py ∧ sx.Has px := by
  obtain ⟨r, l1, hr, y1⟩ := t.y.locate_spec hy py hpy
  obtain ⟨c, l2, hc, x1⟩ := t.x.locate_spec hx px hpx
  exact ⟨r, c, _, _, zip2_ok_iff.2 ⟨l1, l2⟩,
    zip2_ok_iff.2 ⟨t.y.getItem_idx hy hr, t.x.getItem_idx hx hc⟩, y1, x1⟩

theorem GBox.crop_region (g : GBox) (ry rx : NSlice) (hy : 0 ≤ ry.start ∧ 0 ≤ ry.stop)
    (hx : 0 ≤ rx.start ∧ 0 ≤ rx.stop) :
    g.crop ry.toPIdx rx.toPIdx =
      ⟨ry.stop - ry.start, rx.stop - rx.start, g.A * Aff.translation rx.start ry.start⟩ := by
  simp only [GBox.crop, NSlice.toPIdx, normSlice_of_nonneg _ hy.1 hy.2, normSlice_of_nonneg _ hx.1 hx.2]

theorem gbt_tile_is_crop (g : GeoboxTiles) (hy : g.tiles.y.WF) (hx : g.tiles.x.WF)
    (iy ix : PIdx) (tile : GBox) (h : g.getItem iy ix = .ok tile) :
    ∃ ry rx, getItem2 g.tiles iy ix = .ok (ry, rx) ∧
      tile.ny = ry.stop - ry.start ∧ tile.nx = rx.stop - rx.start ∧
      ∀ p : Rat × Rat, tile.A.apply p = g.base.A.apply (p.1 + rx.start, p.2 + ry.start) := by
  revert h
  unfold GeoboxTiles.getItem
  cases h2 : getItem2 g.tiles iy ix with
  | error e => exact nofun
  | ok r =>
    obtain ⟨ry, rx⟩ := r
    obtain ⟨hA, hB⟩ := zip2_ok_iff.1 h2
    rintro ⟨⟩
    rw [GBox.crop_region g.base ry rx (Tiling.getItem_nonneg _ hy iy ry hA)
      (Tiling.getItem_nonneg _ hx ix rx hB)]
    exact ⟨ry, rx, rfl, rfl, rfl, Aff.apply_mul_translation _ _ _⟩

/-- **`GeoboxTiles[idx]` ≡ `.crop[idx].base`** for every index expression (ints, ranges, empty
ranges): whenever `crop` answers, `__getitem__` answers with the same GeoBox … -/
theorem gbt_getitem_eq_crop_base (g : GeoboxTiles) (iy ix : PIdx) (g' : GeoboxTiles)
    (h : g.crop iy ix = .ok g') : g.getItem iy ix = .ok g'.base := by
  revert h
  unfold GeoboxTiles.crop GeoboxTiles.getItem
  cases getItem2 g.tiles iy ix with
  | error e => exact nofun
  | ok r =>
    cases crop2 g.tiles iy ix with
    | error e => exact nofun
    | ok t => rintro ⟨⟩; rfl

/-- … and it is the parent cropped to `roi[idx]` (`base[self.roi[idx]]`) by definition. -/
theorem gbt_getitem_eq_base_roi (g : GeoboxTiles) (iy ix : PIdx) (ry rx : NSlice)
    (h : getItem2 g.tiles iy ix = .ok (ry, rx)) :
    g.getItem iy ix = .ok (g.base.crop ry.toPIdx rx.toPIdx) := by
  rw [GeoboxTiles.getItem, h]; rfl

/-- On variable tiles `crop` answers whenever `__getitem__` does, so the three spellings agree. -/
theorem gbt_crop_of_getitem_var (base : GBox) (chy chx : List Int) (iy ix : PIdx) (tile : GBox)
    (h : (GeoboxTiles.mk base ⟨.var chy, .var chx⟩).getItem iy ix = .ok tile) :
    ∃ g', (GeoboxTiles.mk base ⟨.var chy, .var chx⟩).crop iy ix = .ok g' ∧ g'.base = tile := by
  revert h
  unfold GeoboxTiles.crop GeoboxTiles.getItem
  cases getItem2 ⟨.var chy, .var chx⟩ iy ix with
  | error e => exact nofun
  | ok r => rintro ⟨⟩; exact ⟨_, rfl, rfl⟩

example : ChunksOK [2, 0, 3] := ⟨by decide, by decide⟩
example : Tiling.WF (.reg 5 14) := by show (0:Int) < 14; decide
example : getItem 5 14 (.idx 0) = .ok ⟨0, 5⟩ := by decide
example : vgetItem [2, 0, 3] (.idx 1) = .ok ⟨2, 2⟩ := by decide
example : vlocate [2, 0, 3] 2 = .ok 2 := by decide

/-- the `int32` hypothesis of the variable-tile theorems is needed: with `Σ chunks = 2^31` the
cumulative sum wraps and `.base` is negative (the real code returns the same). -/
theorem vbase_wraps_cex : vbase [1073741824, 1073741824] = -2147483648 := by decide

end OdcGeo.C04
