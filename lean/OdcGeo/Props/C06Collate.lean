/-
C06 — `collate_substreams` / `_mpu_collate_op` for ANY number of sub-streams, and the writer's `max_write_sz`.

`_mpu_collate_op(substreams)` is one left fold over all the sub-stream roots (`Model/C06Dask.lean::foldl1`; no grouping, no
fan-in limit): no sub-stream can be dropped, whatever their number.
-/
import OdcGeo.Props.C06Dask


namespace OdcGeo.C06
variable {α : Type}

/-- the merge tree of `collate_substreams([s₀, s₁, …])` over already built sub-stream trees -/
def collateTree (subs : List (Tree α)) : Option (Tree α) :=
  match subs with
  | [] => none                       -- `assert len(substreams) > 0`
  | t :: rest => some (foldl1 t rest)

/-- **the collate step keeps every sub-stream, in order, whatever their number**: partitions, bytes and observed entries of
the collated tree are those of the sub-streams, concatenated -/
theorem collate_keeps_every_substream (subs : List (Tree α)) (hne : subs ≠ []) :
    ∃ t, collateTree subs = some t ∧
      t.leaves = (subs.map Tree.leaves).sum ∧
      t.bytes = (subs.map Tree.bytes).flatten ∧
      t.obs = (subs.map Tree.obs).flatten ∧
      ((∀ s ∈ subs, s.NonEmpty) → t.NonEmpty) := by
  cases subs with
  | nil => exact absurd rfl hne
  | cons t0 rest =>
    exact ⟨foldl1 t0 rest, rfl, Tree.of_leafListL (by rw [foldl1_leafList, leafListL_cons])⟩

/-- **C06 stated on the collate step, for any number of sub-streams** (1, 5, 9, 1000 …): whatever merge tree each
sub-stream was folded with, the run over the collated tree does not fail, the callbacks see the observed entries of ALL
sub-streams, and the parts concatenate to header ++ the bytes of ALL sub-streams in order ++ footer. -/
theorem main_any_number_of_substreams (W : Writer) (spill wpc : Nat) (subs : List (Tree α))
    (mkHdr mkFtr : Option (List (Nat × Int) → List α))
    (hne : subs ≠ []) (hs : ∀ s ∈ subs, s.NonEmpty)
    (hcap : W.minPart + 1 + (subs.map Tree.leaves).sum * wpc ≤ W.maxPart + 1) :
    ∃ t wsF fp wsAll,
      collateTree subs = some t ∧
      run ⟨some W, spill, wpc, mkFtr.isNone⟩ t mkHdr mkFtr
        = .ok (.written wsF fp, wsAll, (subs.map Tree.obs).flatten) ∧
      Written W (optBytes (mkHdr.map (fun f => f (subs.map Tree.obs).flatten)) ++ (subs.map Tree.bytes).flatten ++
        optBytes (mkFtr.map (fun f => f (subs.map Tree.obs).flatten))) fp wsAll := by
  obtain ⟨t, ht, hl, hb, ho, hn⟩ := collate_keeps_every_substream subs hne
  obtain ⟨wsF, fp, wsAll, hrun, hw⟩ := main_written W spill wpc t mkHdr mkFtr (hn hs) (by rw [hl]; exact hcap)
  rw [ho, hb] at hw
  exact ⟨t, wsF, fp, wsAll, ht, ho ▸ hrun, hw⟩

/-- **no sub-stream is dropped**: the bytes of the `i`-th sub-stream sit in the finished object, as one block, right after
the header and the sub-streams before it — for every `i`, in particular for the tail beyond any group of four -/
theorem no_substream_dropped (W : Writer) (spill wpc : Nat) (subs : List (Tree α))
    (mkHdr mkFtr : Option (List (Nat × Int) → List α))
    (hne : subs ≠ []) (hs : ∀ s ∈ subs, s.NonEmpty)
    (hcap : W.minPart + 1 + (subs.map Tree.leaves).sum * wpc ≤ W.maxPart + 1)
    (i : Nat) (hi : i < subs.length) :
    ∃ t wsF fp wsAll,
      collateTree subs = some t ∧
      run ⟨some W, spill, wpc, mkFtr.isNone⟩ t mkHdr mkFtr
        = .ok (.written wsF fp, wsAll, (subs.map Tree.obs).flatten) ∧
      ((partsBytes fp).drop ((optBytes (mkHdr.map (fun f => f (subs.map Tree.obs).flatten))).length +
          ((subs.take i).map Tree.bytes).flatten.length)).take (subs[i].bytes.length) = subs[i].bytes := by
  obtain ⟨t, wsF, fp, wsAll, ht, hrun, hw⟩ :=
    main_any_number_of_substreams W spill wpc subs mkHdr mkFtr hne hs hcap
  refine ⟨t, wsF, fp, wsAll, ht, hrun, ?_⟩
  rw [hw.bytes]
  have hsl := slice_flatten (optBytes (mkHdr.map (fun f => f (subs.map Tree.obs).flatten)))
    (optBytes (mkFtr.map (fun f => f (subs.map Tree.obs).flatten))) (subs.map Tree.bytes) i (by simpa using hi)
  simpa only [List.getElem_map, List.map_take] using hsl

/-- all four limits a `PartsWriter` announces -/
structure WriterLimits where
  minWrite : Nat
  maxWrite : Nat
  minPart : Nat
  maxPart : Nat
  deriving Repr, DecidableEq

/-- what `_mpu.py` reads of them: `min_write_sz`, `min_part`, `max_part` — `max_write_sz` appears nowhere in the module -/
def WriterLimits.read (L : WriterLimits) : Writer := ⟨L.minWrite, L.minPart, L.maxPart⟩

/-- `mpu_write(...).compute()` for a writer with the full set of limits -/
def runL (L : WriterLimits) (spill wpc : Nat) (markFinal : Bool) (t : Tree α)
    (mkHdr mkFtr : Option (List (Nat × Int) → List α)) :=
  run ⟨some L.read, spill, wpc, markFinal⟩ t mkHdr mkFtr

/-- **`max_write_sz` never influences the result**: two writers that differ in `max_write_sz` only get exactly the same
writer calls, the same `finalise` list, the same failures — for every tree, spill size and callback.  True by construction
(`rfl`): `WriterLimits.read` drops the field, as `_mpu.py` never reads it; cf. `max_write_sz_not_enforced_cex`. -/
theorem run_independent_of_max_write_sz (L : WriterLimits) (m : Nat) (spill wpc : Nat) (markFinal : Bool) (t : Tree α)
    (mkHdr mkFtr : Option (List (Nat × Int) → List α)) :
    runL { L with maxWrite := m } spill wpc markFinal t mkHdr mkFtr = runL L spill wpc markFinal t mkHdr mkFtr := rfl

/-- six sub-streams (more than one group of four): the sixth is still there -/
example :
    let subs : List (Tree Nat) := (List.range 6).map fun i => .leaf [([i], (i : Int))]
    (collateTree subs).map Tree.bytes = some [0, 1, 2, 3, 4, 5] ∧ subs ≠ [] ∧ (∀ s ∈ subs, s.NonEmpty) ∧
      (1 + 1 + (subs.map Tree.leaves).sum * 1 ≤ 100 + 1) := by
  refine ⟨by decide, by decide, ?_, by decide⟩
  intro s hs
  simp only [List.mem_map, List.mem_range] at hs
  obtain ⟨i, _, rfl⟩ := hs
  simp [Tree.NonEmpty]

example : runL (α := Nat) ⟨2, 3, 1, 100⟩ 2 1 true (.leaf [([1, 2, 3, 4, 5, 6, 7, 8, 9], 0)]) none none
    = runL ⟨2, 1000, 1, 100⟩ 2 1 true (.leaf [([1, 2, 3, 4, 5, 6, 7, 8, 9], 0)]) none none := rfl

end OdcGeo.C06
