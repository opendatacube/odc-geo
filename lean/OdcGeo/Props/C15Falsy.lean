/-
C15 — corollaries of the call-trace model for the falsy-but-meaningful option spellings of `write_cog` / `to_cog`:
supplied-but-empty overviews, `overview_levels=[]`, `nodata=0` / `0.0`.  (A change `if overviews is not None:` → `if overviews:`
breaks exactly the first.)
-/
import OdcGeo.Props.C15Glue

namespace OdcGeo.C15

def Ev.isBuild : Ev → Bool
  | .buildOverviews _ _ => true
  | _ => false

/-- `levels_empty_never_builds`: `_write_cog` with an EMPTY level list never asks GDAL for overviews — whatever the image size
(also past the 512 px threshold of the default pyramid), layout, destination or other options, and whether the call succeeds
or not -/
theorem levels_empty_never_builds (k0 : Nat) (a : WArgs) (hlv : a.levels = some []) :
    ∀ ev ∈ (writeCogFrom k0 a).1, ev.isBuild = false :=
  forall_mem_writeCogFrom k0 a (fun _ _ _ => rfl) rfl (fun _ _ _ => rfl) rfl (fun _ _ _ => ⟨rfl, rfl, rfl⟩)
    fun _ _ _ hne => absurd (hlv ▸ rfl) hne

/-- every first-pass image of the supplied-overviews path is written with `overview_levels=[]` -/
theorem layerLoop_never_builds (cfg : Dict) : ∀ (ls : List (Layer × String)), ∀ ev ∈ (layerLoop cfg ls).1, ev.isBuild = false := by
  intro ls
  induction ls with
  | nil => exact fun _ h => nomatch h
  | cons p rest ih =>
    obtain ⟨ly, name⟩ := p
    have h1 := levels_empty_never_builds 0 (layerArgs cfg ly name) rfl
    unfold layerLoop
    generalize writeCogFrom 0 (layerArgs cfg ly name) = t at h1 ⊢
    obtain ⟨evs, _ | _⟩ := t
    · exact h1
    · exact List.forall_mem_append.2 ⟨h1, ih⟩

theorem writeCogLayersWith_never_builds (rep : Bool) (a : LArgs) : ∀ ev ∈ (writeCogLayersWith rep a).1, ev.isBuild = false := by
  have hg : ∀ ev ∈ (pathGuard a.dst a.overwrite).1, ev.isBuild = false := fun ev hev => by
    obtain ⟨p, rfl, -⟩ := mem_pathGuard.1 hev
    rfl
  unfold writeCogLayersWith
  cases a.layers with
  | nil => exact fun _ h => nomatch h
  | cons first rest =>
    simp -zeta only
    extract_lets guard b ob
    -- `guard` is `pathGuard a.dst a.overwrite` spelled out; keep only what `hg` says about it before the term is forgotten
    replace hg : ∀ ev ∈ guard.1, ev.isBuild = false := hg
    clear_value guard
    by_cases hg2 : guard.2 = true
    · rw [if_pos hg2]; exact fun _ h => nomatch h
    · rw [if_neg hg2]
      cases first.g with
      | none => exact hg
      | some g =>
        simp only
        generalize hL : layerLoop _ _ = t
        have hloop : ∀ ev ∈ t.1, ev.isBuild = false := hL ▸ layerLoop_never_builds _ _
        obtain ⟨evs, _ | _⟩ := t
        · exact List.forall_mem_append.2 ⟨hg, hloop⟩
        · cases a.dst <;>
            simp only [List.forall_mem_append, List.forall_mem_cons, List.not_mem_nil, false_imp_iff, implies_true, and_true] <;>
            exact ⟨⟨hg, hloop⟩, rfl, rfl, rfl⟩

/-- `supplied_overviews_never_build`: when `overviews=` is supplied — ANY list, in particular the EMPTY one (`[]`, `()`, an
exhausted iterator) — `write_cog` / `to_cog` never ask GDAL to compute overviews, whatever the image size and whatever
`overview_levels` / `overview_resampling` say -/
theorem supplied_overviews_never_build (a : CArgs) (ovs : List Layer) (h : a.overviews = some ovs) :
    ∀ ev ∈ (writeCogEntry a).1, ev.isBuild = false := by
  unfold writeCogEntry writeCogEntryWith
  simp only [h]
  exact writeCogLayersWith_never_builds true _

/-- the corner a dispatch test `if overviews:` gets wrong (seeded defect C15-19 of DESIGN.md): `overviews=[]` on an image of ANY
size -/
theorem empty_supplied_overviews_never_build (a : CArgs) (h : a.overviews = some []) :
    ∀ ev ∈ (writeCogEntry a).1, ev.isBuild = false := supplied_overviews_never_build a [] h

/-- `overview_levels=[]` on the direct path: no overviews are computed, whatever the image size -/
theorem direct_levels_empty_never_build (a : CArgs) (ho : a.overviews = none) (hl : a.levels = some []) :
    ∀ ev ∈ (writeCogEntry a).1, ev.isBuild = false := by
  unfold writeCogEntry writeCogEntryWith
  simp only [ho]
  cases hg : a.im.g with
  | none => simp
  | some g =>
    simp only
    exact levels_empty_never_builds 0 _ (by simpa using hl)

/-- non-vacuity: a 600 × 513 image (past the threshold) with `overviews=[]` is written without a `build_overviews` call, while the
same call without `overviews=` asks for the default pyramid (`write_cog_default_overviews`) -/
def bigEmptyOverviewsCall : CArgs := {
  im := { shape := [600, 513], g := some ⟨600, 513⟩, dtype := "uint8", isFloat := false },
  dst := .mem, overviews := some [] }

example : ∀ ev ∈ (toCog bigEmptyOverviewsCall).1, ev.isBuild = false :=
  empty_supplied_overviews_never_build _ rfl

/-- `nodata_keyword_forwarded_as_given`: on the direct path every `nodata=` keyword other than `None` — in particular the falsy
`0` and `0.0` — reaches GDAL as given; the array's attribute is not consulted -/
theorem nodata_keyword_forwarded_as_given (l : Layout) (dtype : String) (fl : Bool) (b : Nat) (attrs kw : V) (extra : Dict)
    (hk : extra.getNone "nodata" = kw) (hne : kw ≠ .none) :
    Dict.get (rioOpts l dtype fl b (if extra.getNone "nodata" = .none then attrs else extra.getNone "nodata") (extra.without ["nodata"])) "nodata" = some kw := by
  have := entry_nodata_direct l dtype fl b attrs extra
  simp only [hk, hne, if_false] at this ⊢
  exact this

/-- the same on the supplied-overviews path -/
theorem nodata_keyword_forwarded_as_given_layers (b w h : Nat) (fl : Bool) (attrs kw : V) (extra : Dict)
    (hu : extra.lastGet "nodata" = Dict.get extra "nodata") (hk : extra.getNone "nodata" = kw) (hne : kw ≠ .none) :
    Dict.get ((defaultCogOpts b w h fl [("nodata", attrs)]).update (layersExtra true extra)) "nodata" = some kw := by
  rw [layers_nodata_resolution b w h fl attrs extra hu, hk, if_neg hne]

example : Dict.get ((defaultCogOpts 512 64 64 false [("nodata", .int 255)]).update (layersExtra true [("nodata", .int 0)])) "nodata" = some (.int 0) :=
  nodata_keyword_forwarded_as_given_layers 512 64 64 false (.int 255) (.int 0) [("nodata", .int 0)] rfl rfl (by decide)

example : Dict.get ((defaultCogOpts 512 64 64 true [("nodata", .int 255)]).update (layersExtra true [("nodata", .ext "f0.0")])) "nodata" =
    some (.ext "f0.0") :=
  nodata_keyword_forwarded_as_given_layers 512 64 64 true (.int 255) (.ext "f0.0") [("nodata", .ext "f0.0")] rfl rfl (by decide)

end OdcGeo.C15
