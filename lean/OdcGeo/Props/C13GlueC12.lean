/-
C13 glue × C12/C04 — the public entry point from its arguments to its pixels on the linear path, with no tiling and no
dependency hypothesis.  `chunked_eq_whole_linear` (Props/C13C12) assumes `GridRel`: that the C04/C12 tilings and C13's
span lists describe the same tiles.  Here that is proved for every tiling the glue can produce: the dask chunks of the
source (`chunksTiling` vs `Tiling.var`) and every accepted `chunks=` argument (`regularTiling` vs `Tiling.reg`,
`chunksTiling` vs `Tiling.var`).
-/
import OdcGeo.Props.C13Glue
import OdcGeo.Props.C13C12
import OdcGeo.Props.C13Nd

namespace OdcGeo.C13
open OdcGeo OdcGeo.C17 OdcGeo.C04

/-- dask chunks as the C04 model of `VariableSizedTiles` takes them -/
def intChunks (ch : List Nat) : List Int := ch.map Int.ofNat

private theorem chunksTilingFrom_length (l : List Nat) (off : Int) : (chunksTilingFrom off l).length = l.length := by
  induction l generalizing off with
  | nil => rfl
  | cons n r ih => simp [chunksTilingFrom, ih]

private theorem chunksTilingFrom_get : ∀ (l : List Nat) (off : Int) (i : Nat) (s : Span),
    (chunksTilingFrom off l)[i]? = some s →
      s = (off + pre (intChunks l) i, off + pre (intChunks l) (i + 1))
  | [], _, _, _, h => by cases h
  | n :: r, off, 0, s, h => by
    cases h
    simp [intChunks, pre]
  | n :: r, off, i + 1, s, h => by
    rw [chunksTilingFrom_get r (off + n) i s h]
    simp only [intChunks, List.map_cons, pre, Int.add_assoc]
    rfl

theorem total_intChunks (ch : List Nat) : total (intChunks ch) = ((ch.sum : Nat) : Int) := by
  induction ch with
  | nil => rfl
  | cons n r ih => simp only [intChunks, List.map_cons, total, List.sum_cons] at *; rw [ih]; push_cast; rfl

/-- **dask chunks = `VariableSizedTiles`**: the span list C13 uses for a chunk tuple and C04's model of
`VariableSizedTiles(chunks)` describe the same tiles (chunk sums below 2³¹: the `int32` cumsum of the
real class) -/
theorem tilingRel_var (ch : List Nat) (hok : ChunksOK (intChunks ch)) :
    TilingRel (.var (intChunks ch)) (chunksTiling ch) := by
  refine ⟨?_, ?_⟩
  · simp [Tiling.count, vcount_eq, chunksTiling, chunksTilingFrom_length, intChunks]
  · intro i s h
    have hi := (List.getElem?_eq_some_iff.1 h).1
    rw [chunksTiling, chunksTilingFrom_length] at hi
    simp only [Tiling.getItem]
    rw [vgetItem_idx (intChunks ch) hok i (by rw [intChunks, List.length_map]; exact hi),
      chunksTilingFrom_get ch 0 i s h]
    simp

private theorem regularTiling_get (N n : Nat) (i : Nat) (s : Span) (h : (regularTiling N n)[i]? = some s) :
    i < (N + n - 1) / n ∧ s = (((i * n : Nat) : Int), ((min ((i + 1) * n) N : Nat) : Int)) := by
  obtain ⟨hi, rfl⟩ := List.getElem?_eq_some_iff.1 h
  simp only [regularTiling, List.length_map, List.length_range] at hi
  exact ⟨hi, by simp only [regularTiling, List.getElem_map, List.getElem_range]⟩

/-- **`(ny, nx)` chunks = `Tiles`**: the regular span list and C04's model of `Tiles(N, n)` describe the same
tiles, ragged last tile included -/
theorem tilingRel_reg (N n : Nat) (hn : 0 < n) :
    TilingRel (.reg (N : Int) (n : Int)) (regularTiling N n) := by
  have hcount : C04.count (N : Int) (n : Int) = (((N + n - 1) / n : Nat) : Int) := by
    simp only [C04.count, ceilDiv]
    rw [if_pos (by omega)]
    have : (N : Int) + (n : Int) - 1 = ((N + n - 1 : Nat) : Int) := by omega
    rw [this]
    exact (Int.natCast_ediv _ _).symm
  refine ⟨?_, ?_⟩
  · simp only [Tiling.count, hcount, regularTiling, List.length_map, List.length_range]
  · intro i s h
    obtain ⟨hi, hs⟩ := regularTiling_get N n i s h
    have := getItem_idx (N : Int) (n : Int) (by omega) (i : Int) ⟨by omega, by rw [hcount]; exact_mod_cast hi⟩
    rw [Tiling.getItem, this, hs]
    push_cast
    rfl

/-- the C04/C12 tiling that `GeoboxTiles(d_gbox, chunks)` builds for each form of `chunks=` -/
def tiling12 (H W : Nat) (sy sx : List Nat) : ChunkArg → Tiling2
  | .default => ⟨.reg (H : Int) (chunkSize sy : Nat), .reg (W : Int) (chunkSize sx : Nat)⟩
  | .pair cy cx => ⟨.reg (H : Int) cy, .reg (W : Int) cx⟩
  | .var ys xs => ⟨.var (intChunks ys), .var (intChunks xs)⟩

/-- size condition of the variable form (the `int32` offsets of `VariableSizedTiles`) -/
def ChunkArg.Small : ChunkArg → Prop
  | .var ys xs => ChunksOK (intChunks ys) ∧ ChunksOK (intChunks xs)
  | _ => True

private theorem tilesPair_rel {H W : Nat} {cy cx : Int} {dy dx : List Span}
    (h : tilesPair H W cy cx = .ok (dy, dx)) :
    TilingRel (.reg (H : Int) cy) dy ∧ TilingRel (.reg (W : Int) cx) dx := by
  obtain ⟨hy, hx, rfl, rfl⟩ := tilesPair_ok h
  have ry := tilingRel_reg H cy.toNat (by omega)
  have rx := tilingRel_reg W cx.toNat (by omega)
  rw [Int.toNat_of_nonneg hy.le] at ry
  rw [Int.toNat_of_nonneg hx.le] at rx
  exact ⟨ry, rx⟩

/-- **Every accepted `chunks=` argument is the tiling `GeoboxTiles` builds from it** -/
theorem dstTilings_rel {H W : Nat} {sy sx : List Nat} {a : ChunkArg} (ha : a.Small) {dy dx : List Span}
    (h : dstTilings H W sy sx a = .ok (dy, dx)) :
    TilingRel (tiling12 H W sy sx a).y dy ∧ TilingRel (tiling12 H W sy sx a).x dx := by
  cases a with
  | var ys xs =>
    obtain ⟨_, _, rfl, rfl⟩ := dstTilings_var_ok h
    exact ⟨tilingRel_var ys ha.1, tilingRel_var xs ha.2⟩
  | _ => exact tilesPair_rel h

theorem varTiles_wf {H W : Nat} {ys xs : List Nat} (hy' : ChunksOK (intChunks ys)) (hx' : ChunksOK (intChunks xs))
    (hy : ys.sum = H) (hx : xs.sum = W) (hH : 1 ≤ H) (hW : 1 ≤ W) :
    C12.GBT.WF ⟨H, W, ⟨.var (intChunks ys), .var (intChunks xs)⟩⟩ :=
  ⟨hy', hx', by simp only [Tiling.base]; rw [vbase_eq_total _ hy', total_intChunks, hy],
    by simp only [Tiling.base]; rw [vbase_eq_total _ hx', total_intChunks, hx],
    by simp only; omega, by simp only; omega⟩

theorem xrCfg_gridRel {a : XrArgs} {deps : List (TIdx × List TIdx)} {c : Cfg} (hc : xrCfg a deps = .ok c)
    (hsmall : a.chunks.Small) (hsy' : ChunksOK (intChunks a.sy)) (hsx' : ChunksOK (intChunks a.sx)) :
    GridRel c ⟨a.dstH, a.dstW, tiling12 a.dstH a.dstW a.sy a.sx a.chunks⟩
      ⟨a.srcH, a.srcW, ⟨.var (intChunks a.sy), .var (intChunks a.sx)⟩⟩ := by
  obtain ⟨dy, dx, ht, rfl⟩ := xrCfg_ok hc
  obtain ⟨hry, hrx⟩ := dstTilings_rel hsmall ht
  exact ⟨tilingRel_var a.sy hsy', tilingRel_var a.sx hsx', hry, hrx, rfl, rfl⟩

example : TilingRel (.var (intChunks [2, 0, 3])) (chunksTiling [2, 0, 3]) :=
  tilingRel_var _ ⟨by decide, by decide⟩

example : TilingRel (.reg 5 2) (regularTiling 5 2) := tilingRel_reg 5 2 (by decide)

/-- the witness configuration of Props/C13 as arguments of the public entry point -/
def cexArgs : XrArgs :=
  { kind := .float, srcH := 1, srcW := 1, S := Aff.id, dstH := 1, dstW := 2, D := Aff.id, sy := [1], sx := [1],
    attrNd := none, kwSrcNd := none, dstNd := none, chunks := .pair 1 2 }

theorem cexArgs_cfg : xrCfg cexArgs [((0, 0), [(0, 0)])] = .ok (cexCfg Variant.repaired .float none none) := by
  rfl

example : ∃ r, xrDask cexArgs cexGdal [((0, 0), [(0, 0)])] (full 1 1 (.num 5)) = .ok r ∧
    r (0, 1) = xrNumpy cexArgs cexGdal (full 1 1 (.num 5)) (full 1 2 (.num 77)) (0, 1) :=
  ⟨_, rfl, xr_entry_chunked_eq_whole cexArgs cexGdal _ _ (full 1 2 (.num 77)) _ _ cexArgs_cfg rfl
    (full_wf _ _ _) rfl rfl (by decide +kernel) (cexCfg_deps_valid _ _ _ _) (cexCfg_deps_complete _ _ _ _)
    nofun nofun (0, 1) (by decide)⟩

theorem cexArgs_linear_deps :
    C12.gridIntersectLinear ⟨cexArgs.dstH, cexArgs.dstW, tiling12 cexArgs.dstH cexArgs.dstW cexArgs.sy cexArgs.sx cexArgs.chunks⟩
      ⟨cexArgs.srcH, cexArgs.srcW, ⟨.var (intChunks cexArgs.sy), .var (intChunks cexArgs.sx)⟩⟩
      (cexArgs.S.inv * cexArgs.D) = .ok [((0, 0), [(0, 0)])] := by decide +kernel

private theorem regularTiling_nonempty (N n : Nat) (hn : 0 < n) : ∀ s ∈ regularTiling N n, s.1 < s.2 := by
  intro s hs
  obtain ⟨i, hi⟩ := List.getElem?_of_mem hs
  obtain ⟨hlt, rfl⟩ := regularTiling_get N n i s hi
  have h1 := (ceilDiv_tiles N n hn).1 i hlt
  have : i * n < min ((i + 1) * n) N := by rw [Nat.add_mul]; omega
  exact Int.ofNat_lt.2 this

private theorem tilesPair_nonempty {H W : Nat} {cy cx : Int} {dy dx : List Span}
    (h : tilesPair H W cy cx = .ok (dy, dx)) : (∀ s ∈ dy, s.1 < s.2) ∧ (∀ s ∈ dx, s.1 < s.2) := by
  obtain ⟨hy, hx, rfl, rfl⟩ := tilesPair_ok h
  exact ⟨regularTiling_nonempty H cy.toNat (by omega), regularTiling_nonempty W cx.toNat (by omega)⟩

/-- **`chunks=None` and `chunks=(ny, nx)` never produce an empty destination chunk**, so the compute-time GDAL
error of `xrDask` (`emptyTask`) can only come from zero-length chunks the caller spelled out in the tuple-of-tuples
form -/
theorem emptyTask_false_of_regular (a : XrArgs) (deps : List (TIdx × List TIdx)) (c : Cfg)
    (hform : a.chunks = .default ∨ ∃ cy cx, a.chunks = .pair cy cx)
    (hc : xrCfg a deps = .ok c) : emptyTask c = false := by
  obtain ⟨dy, dx, ht, rfl⟩ := xrCfg_ok hc
  have hne : (∀ s ∈ dy, s.1 < s.2) ∧ (∀ s ∈ dx, s.1 < s.2) := by
    rcases hform with h | ⟨cy, cx, h⟩ <;> rw [h] at ht
    · exact tilesPair_nonempty ht
    · exact tilesPair_nonempty ht
  simp only [emptyTask, List.any_eq_false, List.mem_range, Bool.not_eq_true]
  intro iy hiy ix hix
  have h1 := hne.1 _ (List.getElem_mem hiy)
  have h2 := hne.2 _ (List.getElem_mem hix)
  rw [List.getElem?_eq_getElem hiy, List.getElem?_eq_getElem hix]
  show (decide (_ ∨ _) && _) = false
  rw [decide_eq_false (by omega), Bool.false_and]

/-- **The default never fails**: `xr_reproject(dask-backed, geobox)` without `chunks=` (source chunked into non-empty
blocks) always builds and computes — in the model there is no error branch left -/
theorem xrDask_default_ok (a : XrArgs) (G : Gdal) (deps : List (TIdx × List TIdx)) (src : Img)
    (hd : a.chunks = .default) (hy : 0 < chunkSize a.sy) (hx : 0 < chunkSize a.sx) :
    ∃ r, xrDask a G deps src = .ok r := by
  obtain ⟨t, ht⟩ : ∃ t, dstTilings a.dstH a.dstW a.sy a.sx a.chunks = .ok t := by
    rw [hd]
    simp only [dstTilings, tilesPair]
    rw [if_neg (by omega), if_neg (by omega)]
    exact ⟨_, rfl⟩
  obtain ⟨c, hc⟩ : ∃ c, xrCfg a deps = .ok c := by unfold xrCfg; rw [ht]; exact ⟨_, rfl⟩
  exact ⟨_, xrDask_ok_iff.2 ⟨_, hc, emptyTask_false_of_regular a deps _ (Or.inl hd) hc, rfl⟩⟩

example : ∃ r, xrDask { cexArgs with chunks := .default } cexGdal [] (full 1 1 (.num 5)) = .ok r :=
  xrDask_default_ok _ _ _ _ rfl (by decide) (by decide)

/-- The linear path with the chunk dependencies computed from ANY scale + translation `A'` that, per axis and over the
destination raster, reaches every image point of the pixel map `~S * D` from within a quarter of a destination pixel. -/
theorem xr_entry_linear_drift (a : XrArgs) (G : Gdal) (src buf r : Img)
    (g : List ((Int × Int) × List (Int × Int))) (A' : Aff) (hb' : A'.b = 0) (hd'' : A'.d = 0)
    (hg : C12.gridIntersectLinear ⟨a.dstH, a.dstW, tiling12 a.dstH a.dstW a.sy a.sx a.chunks⟩
            ⟨a.srcH, a.srcW, ⟨.var (intChunks a.sy), .var (intChunks a.sx)⟩⟩ A' = .ok g)
    (hr : xrDask a G (depsOfC12 g) src = .ok r)
    (hsmall : a.chunks.Small) (hsy' : ChunksOK (intChunks a.sy)) (hsx' : ChunksOK (intChunks a.sx))
    (hb : (a.S.inv * a.D).b = 0) (hd' : (a.S.inv * a.D).d = 0)
    (ha : (a.S.inv * a.D).a ≠ 0) (he : (a.S.inv * a.D).e ≠ 0)
    (hx : Reaches A'.a A'.c (a.S.inv * a.D).a (a.S.inv * a.D).c 0 ((a.dstW : Int) : Rat))
    (hy : Reaches A'.e A'.f (a.S.inv * a.D).e (a.S.inv * a.D).f 0 ((a.dstH : Int) : Rat))
    (hbuf : WF buf a.dstH a.dstW)
    (hsy : a.sy.sum = a.srcH) (hsx : a.sx.sum = a.srcW)
    (hH : 1 ≤ a.srcH) (hW : 1 ≤ a.srcW)
    (hS : a.S.det ≠ 0)
    (hnd1 : NodataOk a.kind (xrNodata a.attrNd a.kwSrcNd a.dstNd).2)
    (hnd2 : NodataOk a.kind (xrNodata a.attrNd a.kwSrcNd a.dstNd).1)
    (d : Int × Int) (hd : 0 ≤ d.1 ∧ d.1 < a.dstH ∧ 0 ≤ d.2 ∧ d.2 < a.dstW) :
    r d = xrNumpy a G src buf d := by
  obtain ⟨c, hc, _, _⟩ := xrDask_ok_iff.1 hr
  have hrel := xrCfg_gridRel hc hsmall hsy' hsx'
  have hw := varTiles_wf hsy' hsx' hsy hsx hH hW
  obtain ⟨dy, dx, ht, rfl⟩ := xrCfg_ok hc
  obtain ⟨hdy, hdx⟩ := dstTilings_chain ht
  refine xr_entry_chunked_eq_whole a G (depsOfC12 g) src buf r _ hc hr hbuf hsy hsx hS
    (depsValid_of_linear _ _ hw _ g hg _ _ hrel.sy hrel.sx) ?_ hnd1 hnd2 d hd
  exact deps_complete_of_linear_drift _ _ _ hrel hw (hsy ▸ chunksTiling_isTiling a.sy)
    (hsx ▸ chunksTiling_isTiling a.sx) hb hd' ha he A' hb' hd''
    (hx.of_chain hdx) (hy.of_chain hdy)
    (linearDeps_listed hg hrel.dy hrel.dx)

/-- **`xr_reproject`, linear path, from the arguments to the pixels — no named hypothesis left.**
Same CRS, nearest neighbour, pixel map `~S * D` a (possibly mirrored) scale + translation that `snap_affine` leaves
alone.  For EVERY `nodata` attribute, `src_nodata=`, `dst_nodata=`, EVERY accepted form of `chunks=` (`None`, pair, tuple
of tuples), every source chunking: with the dependency map that the C12 model of `_grid_intersect_linear` computes for
the two tilings `GeoboxTiles` builds from these arguments, every pixel of the computed dask array equals the pixel of
the numpy-backed call.  What remains are facts about the inputs themselves (source chunks add up to the source shape;
they and the chunks of a `chunks=` tuple are below 2³¹; the source is not empty, `S` is invertible, boolean nodata values
are booleans, the in-memory buffer has the destination shape). -/
theorem xr_entry_linear_total (a : XrArgs) (G : Gdal) (src buf r : Img)
    (g : List ((Int × Int) × List (Int × Int)))
    (hg : C12.gridIntersectLinear ⟨a.dstH, a.dstW, tiling12 a.dstH a.dstW a.sy a.sx a.chunks⟩
            ⟨a.srcH, a.srcW, ⟨.var (intChunks a.sy), .var (intChunks a.sx)⟩⟩ (a.S.inv * a.D) = .ok g)
    (hr : xrDask a G (depsOfC12 g) src = .ok r)
    (hsmall : a.chunks.Small) (hsy' : ChunksOK (intChunks a.sy)) (hsx' : ChunksOK (intChunks a.sx))
    (hb : (a.S.inv * a.D).b = 0) (hd' : (a.S.inv * a.D).d = 0)
    (ha : (a.S.inv * a.D).a ≠ 0) (he : (a.S.inv * a.D).e ≠ 0)
    (hbuf : WF buf a.dstH a.dstW)
    (hsy : a.sy.sum = a.srcH) (hsx : a.sx.sum = a.srcW)
    (hH : 1 ≤ a.srcH) (hW : 1 ≤ a.srcW)
    (hS : a.S.det ≠ 0)
    (hnd1 : NodataOk a.kind (xrNodata a.attrNd a.kwSrcNd a.dstNd).2)
    (hnd2 : NodataOk a.kind (xrNodata a.attrNd a.kwSrcNd a.dstNd).1)
    (d : Int × Int) (hd : 0 ≤ d.1 ∧ d.1 < a.dstH ∧ 0 ≤ d.2 ∧ d.2 < a.dstW) :
    r d = xrNumpy a G src buf d :=
  xr_entry_linear_drift a G src buf r g _ hb hd' hg hr hsmall hsy' hsx' hb hd' ha he (Reaches.refl _ _ _ _)
    (Reaches.refl _ _ _ _) hbuf hsy hsx hH hW hS hnd1 hnd2 d hd

theorem cexArgs_linear_entry :
    ∃ r, xrDask cexArgs cexGdal (depsOfC12 [((0, 0), [(0, 0)])]) (full 1 1 (.num 5)) = .ok r ∧
      r (0, 1) = xrNumpy cexArgs cexGdal (full 1 1 (.num 5)) (full 1 2 (.num 77)) (0, 1) :=
  ⟨_, rfl, xr_entry_linear_total cexArgs cexGdal _ (full 1 2 (.num 77)) _ _ cexArgs_linear_deps rfl trivial
    ⟨by decide, by decide⟩ ⟨by decide, by decide⟩ (by decide +kernel) (by decide +kernel) (by decide +kernel)
    (by decide +kernel) (full_wf _ _ _) rfl rfl (by decide) (by decide) (by decide +kernel)
    nofun nofun (0, 1) (by decide)⟩

/-- all hypotheses of `xr_entry_linear_total` hold together -/
example : ∃ r, xrDask cexArgs cexGdal (depsOfC12 [((0, 0), [(0, 0)])]) (full 1 1 (.num 5)) = .ok r ∧
    r (0, 1) = xrNumpy cexArgs cexGdal (full 1 1 (.num 5)) (full 1 2 (.num 77)) (0, 1) :=
  cexArgs_linear_entry

example : ∃ r, xrDask cexArgs cexGdal (depsOfC12 [((0, 0), [(0, 0)])]) (full 1 1 (.num 5)) = .ok r ∧
    r (0, 1) = xrNumpy cexArgs cexGdal (full 1 1 (.num 5)) (full 1 2 (.num 77)) (0, 1) :=
  cexArgs_linear_entry

/-- **`xr_reproject` on an N-d array, linear path, no named hypothesis**: spatial axes at any position `ydim`, any
chunk tables on the other axes (time, band, …), every accepted `chunks=` form, every nodata option: element
`(*e[:ydim], y, x, *e[ydim:])` of the computed dask array is pixel `(y, x)` of the numpy-backed call on the plane at
non-spatial index `e` (`rio_reproject` warps plane by plane). -/
theorem xr_entry_nd_linear (ydim : Nat) (tables : List (List Span)) (a : XrArgs) (G : Gdal)
    (arr : List Int → Option Val) (buf : Img) (e : List Int) (y x : Int) (hy : ydim ≤ e.length)
    (b : List Nat) (l : List Int) (hloc : locAxes tables e = some (b, l))
    (g : List ((Int × Int) × List (Int × Int))) (c : Cfg)
    (hg : C12.gridIntersectLinear ⟨a.dstH, a.dstW, tiling12 a.dstH a.dstW a.sy a.sx a.chunks⟩
            ⟨a.srcH, a.srcW, ⟨.var (intChunks a.sy), .var (intChunks a.sx)⟩⟩ (a.S.inv * a.D) = .ok g)
    (hc : xrCfg a (depsOfC12 g) = .ok c) (hne : emptyTask c = false)
    (hsmall : a.chunks.Small) (hsy' : ChunksOK (intChunks a.sy)) (hsx' : ChunksOK (intChunks a.sx))
    (hb : (a.S.inv * a.D).b = 0) (hd' : (a.S.inv * a.D).d = 0)
    (ha : (a.S.inv * a.D).a ≠ 0) (he : (a.S.inv * a.D).e ≠ 0)
    (hbuf : WF buf a.dstH a.dstW)
    (hsy : a.sy.sum = a.srcH) (hsx : a.sx.sum = a.srcW)
    (hH : 1 ≤ a.srcH) (hW : 1 ≤ a.srcW)
    (hS : a.S.det ≠ 0)
    (hnd1 : NodataOk a.kind (xrNodata a.attrNd a.kwSrcNd a.dstNd).2)
    (hnd2 : NodataOk a.kind (xrNodata a.attrNd a.kwSrcNd a.dstNd).1)
    (hd : 0 ≤ y ∧ y < a.dstH ∧ 0 ≤ x ∧ x < a.dstW) :
    daskResultFull ydim tables c G arr (withYX ydim e y x) = xrNumpy a G (planeOf ydim arr e) buf (y, x) := by
  rw [nd_any_ydim ydim tables c G arr e y x hy b l hloc]
  have hr : xrDask a G (depsOfC12 g) (planeOf ydim arr e) = .ok (daskResult c G (planeOf ydim arr e)) :=
    xrDask_ok_iff.2 ⟨c, hc, hne, rfl⟩
  exact xr_entry_linear_total a G (planeOf ydim arr e) buf _ g hg hr hsmall hsy' hsx' hb hd' ha he hbuf hsy hsx hH hW
    hS hnd1 hnd2 (y, x) hd

/-- all hypotheses of `xr_entry_nd_linear` hold together: a time axis of 5 steps chunked (2, 2, 1), time step 4 -/
example (arr : List Int → Option Val) :
    daskResultFull 1 [chunksTiling [2, 2, 1]] (cexCfg Variant.repaired .float none none) cexGdal arr (withYX 1 [4] 0 1) =
      xrNumpy cexArgs cexGdal (planeOf 1 arr [4]) (full 1 2 (.num 77)) (0, 1) :=
  xr_entry_nd_linear 1 _ cexArgs cexGdal arr _ [4] 0 1 (by decide) [2] [0] (by decide) _ _ cexArgs_linear_deps
    (by rfl) (by decide +kernel) trivial
    ⟨by decide, by decide⟩ ⟨by decide, by decide⟩ (by decide +kernel) (by decide +kernel) (by decide +kernel)
    (by decide +kernel)
    (full_wf _ _ _)
    rfl rfl (by decide) (by decide) (by decide +kernel)
    nofun nofun (by decide)

/-- **`xr_reproject`, linear path, SNAPPED dependency transform, from the arguments to the pixels.**
The real code computes the chunk dependencies with `A' = snap_affine(~S * D)` (what `_check_linear` returns), not with
the pixel map `~S * D` GDAL samples through.  If per axis the drift stays within a quarter of a destination pixel over
the whole destination raster, `|a - a'|·dstW + |c - c'| ≤ |a'|/4` (same in `y`), then for every nodata option, every
accepted `chunks=` form and every source chunking the dask-backed result equals the numpy-backed one, pixel for
pixel — no tiling / dependency / validity hypothesis.  `A'` is whatever the model of `_check_linear` returns at the
code's tolerances (`hchk`), so its off-diagonal terms are 0 (`check_linear_accepts_only_st`).
The known findings are exactly outside the bound: K17 (`extreme_zoom_snap_cex`: translation snap at zoom > 500x),
K23 (`scale_snap_cex`: scale snap on a 2^21 wide raster). -/
theorem xr_entry_linear_snapped (a : XrArgs) (G : Gdal) (src buf r : Img)
    (g : List ((Int × Int) × List (Int × Int))) (A' : Aff) (ttol stol tol sttol : Rat) (hst : sttol ≤ tol)
    (hchk : C12.checkLinear a.S a.D ttol stol tol sttol = .ok (some A'))
    (hg : C12.gridIntersectLinear ⟨a.dstH, a.dstW, tiling12 a.dstH a.dstW a.sy a.sx a.chunks⟩
            ⟨a.srcH, a.srcW, ⟨.var (intChunks a.sy), .var (intChunks a.sx)⟩⟩ A' = .ok g)
    (hr : xrDask a G (depsOfC12 g) src = .ok r)
    (hsmall : a.chunks.Small) (hsy' : ChunksOK (intChunks a.sy)) (hsx' : ChunksOK (intChunks a.sx))
    (hb : (a.S.inv * a.D).b = 0) (hd' : (a.S.inv * a.D).d = 0)
    (ha : (a.S.inv * a.D).a ≠ 0) (he : (a.S.inv * a.D).e ≠ 0)
    (ha' : A'.a ≠ 0) (he' : A'.e ≠ 0)
    (hx : |(a.S.inv * a.D).a - A'.a| * ((a.dstW : Int) : Rat) + |(a.S.inv * a.D).c - A'.c| ≤ |A'.a| / 4)
    (hy : |(a.S.inv * a.D).e - A'.e| * ((a.dstH : Int) : Rat) + |(a.S.inv * a.D).f - A'.f| ≤ |A'.e| / 4)
    (hbuf : WF buf a.dstH a.dstW)
    (hsy : a.sy.sum = a.srcH) (hsx : a.sx.sum = a.srcW)
    (hH : 1 ≤ a.srcH) (hW : 1 ≤ a.srcW)
    (hS : a.S.det ≠ 0)
    (hnd1 : NodataOk a.kind (xrNodata a.attrNd a.kwSrcNd a.dstNd).2)
    (hnd2 : NodataOk a.kind (xrNodata a.attrNd a.kwSrcNd a.dstNd).1)
    (d : Int × Int) (hd : 0 ≤ d.1 ∧ d.1 < a.dstH ∧ 0 ≤ d.2 ∧ d.2 < a.dstW) :
    r d = xrNumpy a G src buf d := by
  obtain ⟨_, _, hb', hd''⟩ := check_linear_accepts_only_st a.S a.D ttol stol tol sttol A' hS hst hchk
  exact xr_entry_linear_drift a G src buf r g A' hb' hd'' hg hr hsmall hsy' hsx' hb hd' ha he
    (drift_witness _ _ _ _ _ ha' hx) (drift_witness _ _ _ _ _ he' hy) hbuf hsy hsx hH hW hS hnd1 hnd2 d hd

/-- a destination grid shifted by 2^-11 source pixels: `_check_linear` snaps the shift away -/
def snapArgs : XrArgs := { cexArgs with D := ⟨1, 0, 1 / 2048, 0, 1, 0⟩ }

theorem snapArgs_checkLinear :
    C12.checkLinear snapArgs.S snapArgs.D (1 / 1000) (1 / 1000000) (1 / 100000000) (1 / 10000000000) = .ok (some Aff.id) := by
  decide +kernel

/-- all hypotheses of `xr_entry_linear_snapped` hold together on a transform that IS snapped -/
example : ∃ r, xrDask snapArgs cexGdal (depsOfC12 [((0, 0), [(0, 0)])]) (full 1 1 (.num 5)) = .ok r ∧
    r (0, 0) = xrNumpy snapArgs cexGdal (full 1 1 (.num 5)) (full 1 2 (.num 77)) (0, 0) :=
  ⟨_, rfl, xr_entry_linear_snapped snapArgs cexGdal _ (full 1 2 (.num 77)) _ _ Aff.id (1 / 1000) (1 / 1000000)
    (1 / 100000000) (1 / 10000000000) (by decide +kernel) snapArgs_checkLinear (by decide +kernel) rfl trivial
    ⟨by decide, by decide⟩ ⟨by decide, by decide⟩ (by decide +kernel) (by decide +kernel) (by decide +kernel)
    (by decide +kernel) (by decide +kernel) (by decide +kernel) (by decide +kernel) (by decide +kernel)
    (full_wf _ _ _) rfl rfl (by decide) (by decide) (by decide +kernel)
    nofun nofun (0, 0) (by decide)⟩

/-- K17 (translation snapped at 2048x zoom): the snap moves the map by 2^-11 source pixels = one destination pixel,
four times the quarter-pixel budget `|a'|/4 = 2^-13` -/
theorem k17_outside_bound :
    ¬ (|(k17S.inv * k17D).a - k17A'.a| * ((2056 : Int) : Rat) + |(k17S.inv * k17D).c - k17A'.c| ≤ |k17A'.a| / 4) := by
  decide +kernel

/-- K23 (scale `1 + 2^-21` snapped to 1 on a raster 2^21 + 8 pixels wide): the accumulated drift exceeds one source
pixel, the budget is a quarter -/
theorem k23_outside_bound :
    ¬ (|(k23S.inv * k23D).a - Aff.id.a| * ((2097152 + 8 : Int) : Rat) + |(k23S.inv * k23D).c - Aff.id.c| ≤ |Aff.id.a| / 4) := by
  decide +kernel

end OdcGeo.C13
