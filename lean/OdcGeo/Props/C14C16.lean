/-
C14 × C16 — composition of the GridSpec model with the BoundingBox model of property C16
(`BoundingBox.from_transform`, geom.py:276-292, as repaired on HEAD: `Model/C16.lean`, with C16's theorem
`bbox_from_transform_covers` for the second item).

* every tile handed out by a GridSpec, looked at through C16's `from_transform`, has the bin rectangle as bounding box;
* the public path `gs.tiles(geobox.boundingbox)` for ANY GeoBox (rotated, sheared, mirrored affine): the returned tiles
  cover the whole footprint of the GeoBox except possibly the `tol`-wide band along the edges of its bounding box, and
  nothing farther than `tol` from the bounding box is returned.
-/
import OdcGeo.Lemmas.C14C16
import OdcGeo.Props.C14
import OdcGeo.Props.C16

namespace OdcGeo.C14

section
variable {ny nx : Int} {rx ry ox oy : Rat} {fx fy : Bool} {g : GridSpec}

/-- C16's `BoundingBox.from_transform(shape, affine)` is this model's `GeoBox.boundingbox`, for every GeoBox -/
theorem c16_boundingbox_agrees (gb : GeoBox) (crs : Option Nat) :
    ofC16 (C16.BBox.fromTransform gb.ny gb.nx gb.aff crs) = gb.bbox id := by
  unfold GeoBox.bbox applyF ofC16 C16.BBox.fromTransform C16.bboxOfPoints Aff.apply
  simp only [List.map, C16.minL, C16.maxL, id, BBox.mk.injEq]
  refine ⟨?_, ?_, ?_, ?_⟩ <;> simp only [mul_comm]

/-- every tile of a grid, through C16's `BoundingBox.from_transform(shape, affine)`: the bin rectangle -/
theorem c16_tile_boundingbox (hg : GridSpec.new id ny nx rx ry ox oy fx fy = .ok g) (k : Int × Int) (crs : Option Nat) :
    ofC16 (C16.BBox.fromTransform (g.tileGeobox id k).ny (g.tileGeobox id k).nx (g.tileGeobox id k).aff crs) =
      ⟨g.xbin.lo id k.1, g.ybin.lo id k.2, g.xbin.hi id k.1, g.ybin.hi id k.2⟩ ∧
    ofC16 (C16.BBox.fromTransform (g.tileGeobox id k).ny (g.tileGeobox id k).nx (g.tileGeobox id k).aff crs) = g.footprint k := by
  have e := c16_boundingbox_agrees (g.tileGeobox id k) crs
  exact ⟨e.trans (GridSpec.footprint_eq g (GridSpec.new_ok hg).2 k), e⟩

/-- END TO END `gs.tiles(geobox.boundingbox)` for any GeoBox `(ny', nx', A)`, any tolerance `0 ≤ tol` not wider than half the
    bounding box: the tile of EVERY point of the GeoBox footprint is returned unless the point lies in the `tol` band along the
    edges of the bounding box; conversely every returned tile comes within `tol` of the bounding box. -/
theorem geobox_bbox_query_covers (hg : GridSpec.new id ny nx rx ry ox oy fx fy = .ok g) (ny' nx' : Int) (A : Aff)
    (crs : Option Nat) {tol : Rat} (ht : 0 ≤ tol) :
    let q := ofC16 (C16.BBox.fromTransform ny' nx' A crs)
    q.left + tol ≤ q.right - tol → q.bottom + tol ≤ q.top - tol →
    (∀ u v : Rat, 0 ≤ u → u ≤ (nx' : Rat) → 0 ≤ v → v ≤ (ny' : Rat) →
      g.pt2idx id (A.apply (u, v)).1 (A.apply (u, v)).2 ∈ g.tiles id tol q ∨
      ¬ (q.left + tol ≤ (A.apply (u, v)).1 ∧ (A.apply (u, v)).1 ≤ q.right - tol ∧
         q.bottom + tol ≤ (A.apply (u, v)).2 ∧ (A.apply (u, v)).2 ≤ q.top - tol)) ∧
    (∀ u v : Rat, 0 ≤ u → u ≤ (nx' : Rat) → 0 ≤ v → v ≤ (ny' : Rat) → q.memClosed (A.apply (u, v))) ∧
    (∀ k ∈ g.tiles id tol q, ∃ p : Rat × Rat, q.left - tol ≤ p.1 ∧ p.1 ≤ q.right + tol ∧ q.bottom - tol ≤ p.2 ∧
      p.2 ≤ q.top + tol ∧ (g.footprint k).memHalfOpen p) := by
  intro q hx hy
  refine ⟨fun u v _ _ _ _ => (em _).imp_left fun hp => ?_,
    fun u v hu0 hu hv0 hv => C16.bbox_from_transform_covers ny' nx' A crs (u, v) ⟨hu0, hu, hv0, hv⟩, fun k hk =>
    idx_bounds_sound hg ht q ((le_add_of_nonneg_right ht).trans (hx.trans (sub_le_self _ ht)))
      ((le_add_of_nonneg_right ht).trans (hy.trans (sub_le_self _ ht))) k ((tiles_mem g tol q k).mp hk)⟩
  rw [bbox_query_exact hg tol q hx hy]
  exact ⟨A.apply (u, v), hp.1, hp.2.1, hp.2.2.1, hp.2.2.2, pt_in_its_tile hg _ _⟩

end

example : ofC16 (C16.BBox.fromTransform 1 1 ⟨1, -1, 0, 1, 1, 0⟩ none) = ⟨-1, 0, 1, 2⟩ := by decide +kernel

end OdcGeo.C14
