/-
C05 — theorems about `_stats_from_layer` on integer data (`Model/C05Stats.lean`).
-/
import OdcGeo.Model.C05Stats
import Mathlib.Algebra.Order.Field.Rat

namespace OdcGeo.C05

theorem mem_validPixels (pix : List Int) (nodata : Option Int) (v : Int) :
    v ∈ validPixels pix nodata ↔ v ∈ pix ∧ nodata ≠ some v := by
  cases nodata with
  | none => simp [validPixels]
  | some nd => simp [validPixels, eq_comm (a := nd)]

/-- `level0_statistics_are_the_valid_pixels`: for every band the reported minimum / maximum are values of valid source pixels
(pixels different from the nodata value) that bound all valid pixels, the mean times the number of valid pixels is their
exact sum, and the count is exactly the number of valid pixels -/
theorem level0_statistics_are_the_valid_pixels (pix : List Int) (nodata : Option Int) :
    let s := bandStats pix nodata
    (∀ m, s.minimum = some m → (m ∈ pix ∧ nodata ≠ some m) ∧ ∀ v ∈ pix, nodata ≠ some v → m ≤ v) ∧
    (∀ m, s.maximum = some m → (m ∈ pix ∧ nodata ≠ some m) ∧ ∀ v ∈ pix, nodata ≠ some v → v ≤ m) ∧
    (∀ μ, s.mean = some μ → μ * (s.valid : Rat) = ((validPixels pix nodata).sum : Rat) ∧ 0 < s.valid) ∧
    s.valid = (validPixels pix nodata).length ∧ s.npix = pix.length ∧
    (s.minimum = none ↔ s.valid = 0) ∧ (s.mean = none ↔ s.valid = 0) := by
  intro s
  refine ⟨?_, ?_, ?_, rfl, rfl, ?_, ?_⟩
  · intro m hm
    have := List.min?_eq_some_iff.mp (show (validPixels pix nodata).min? = some m from hm)
    exact ⟨(mem_validPixels ..).mp this.1, fun v hv hn => this.2 v ((mem_validPixels ..).mpr ⟨hv, hn⟩)⟩
  · intro m hm
    have := List.max?_eq_some_iff.mp (show (validPixels pix nodata).max? = some m from hm)
    exact ⟨(mem_validPixels ..).mp this.1, fun v hv hn => this.2 v ((mem_validPixels ..).mpr ⟨hv, hn⟩)⟩
  · intro μ hμ
    simp only [s, bandStats] at hμ ⊢
    split at hμ
    · cases hμ
    · rename_i hne
      cases hμ
      have hpos : 0 < (validPixels pix nodata).length :=
        List.length_pos_iff.mpr fun h => hne (by rw [h]; rfl)
      exact ⟨div_mul_cancel₀ _ (Nat.cast_ne_zero.mpr hpos.ne'), hpos⟩
  · simp only [s, bandStats]
    cases hv : validPixels pix nodata with
    | nil => simp
    | cons a l => simp
  · simp only [s, bandStats]
    cases hv : validPixels pix nodata <;> simp

example : (bandStats [5, 7, -9999, 2, 7] (some (-9999))).minimum = some 2 ∧ (bandStats [5, 7, -9999, 2, 7] (some (-9999))).maximum = some 7 ∧
    (bandStats [5, 7, -9999, 2, 7] (some (-9999))).valid = 4 ∧ (bandStats [-9999] (some (-9999))).minimum = none := by decide

/-- which pixels belong to which band: band-first data `[s][y][x]` → band `s` holds exactly the rows of `data[s]` -/
theorem bands_of_syx (data : List (List (List Int))) (s : Nat) :
    (bandsOf .SYX data)[s]? = (data[s]?).map List.flatten := by
  simp [bandsOf]

/-- band-last data `[y][x][s]`: the value of sample `s` of every pixel is in band `s` (and the band holds nothing else) -/
theorem bands_of_yxs (data : List (List (List Int))) (s : Nat) (pix : List Int)
    (h : (bandsOf .YXS data)[s]? = some pix) (v : Int) :
    v ∈ pix ↔ ∃ row ∈ data, ∃ cell ∈ row, cell[s]? = some v := by
  simp only [bandsOf, List.getElem?_map, Option.map_eq_some_iff] at h
  obtain ⟨s', hs, rfl⟩ := h
  obtain ⟨_, rfl⟩ := List.getElem?_eq_some_iff.mp hs
  simp only [List.getElem_range, List.mem_filterMap, List.mem_flatten]
  exact ⟨fun ⟨cell, ⟨row, hr, hc⟩, hv⟩ => ⟨row, hr, cell, hc, hv⟩, fun ⟨row, hr, cell, hc, hv⟩ => ⟨cell, ⟨row, hr, hc⟩, hv⟩⟩

/-- one record per band, each computed from that band's pixels alone -/
theorem stats_per_band (ax : Axis) (data : List (List (List Int))) (nodata : Option Int) (s : Nat) :
    (statsFromLayer ax data nodata)[s]? = ((bandsOf ax data)[s]?).map fun pix => bandStats pix nodata := by
  simp [statsFromLayer]

end OdcGeo.C05
