/-
C09 — the argument forms of the registration entry points (Model/C09Glue.lean): `wrap_xr`, `xr_zeros`,
`.odc.nodata`, the `.geobox` compatibility property; the accessor's fallbacks: dropped spatial coordinates
(`GeoTransform`), which coordinate `grid_mapping` names, `_get_crs_from_attrs`.
-/
import OdcGeo.Model.C09Glue
import OdcGeo.Props.C09

namespace OdcGeo.C09
open OdcGeo

/-- the image shape `wrap_xr` is documented for: `(time?) y x (band?)` -/
def canonShape (s : Src) (nt nb : Option Nat) : List Nat := nt.toList ++ srcShape s ++ nb.toList

/-- **wrap_xr_canonical** — with the documented argument forms (image `(time?) y x (band?)`, `time=` a list of as many
values as the leading axis, `axis` left to its default, no `nodata`) `wrap_xr` is the function `wrap` all C09
theorems are stated for. -/
theorem wrap_xr_canonical (s : Src) (nt nb : Option Nat) (cn : String) (attrs : List String) :
    wrapXr s ⟨canonShape s nt nb, nt.map .list, none, false, some cn, attrs⟩ = wrap s nt nb cn attrs := by
  obtain ⟨ny, nx, hsh⟩ : ∃ ny nx, srcShape s = [ny, nx] := by cases s <;> exact ⟨_, _, rfl⟩
  cases nt <;> cases nb <;>
    simp [wrapXr, wrapXrCore, wrapAxis, wrapShape, wrap, canonShape, hsh, timeCoord, bind, Except.bind, pure,
      Except.pure] <;>
    cases xrCoords s cn <;> rfl

theorem wrapXrCore_axis {s : Src} {w : WrapArgs} {axis : Int} {shape : List Nat} (h : ¬ (axis = 0 ∨ axis = 1)) :
    wrapXrCore s w axis shape = .error .assertion := if_pos h

theorem wrapXrCore_rank {s : Src} {w : WrapArgs} {axis : Int} {shape : List Nat}
    (h : ¬ ((shape.length : Int) - axis - 2 = 0 ∨ (shape.length : Int) - axis - 2 = 1)) :
    wrapXrCore s w axis shape = .error .assertion := by
  rw [wrapXrCore, if_pos h, ite_self]

theorem wrapXrCore_shape {s : Src} {w : WrapArgs} {axis : Int} {shape : List Nat}
    (h : (shape.drop axis.toNat).take 2 ≠ srcShape s) :
    wrapXrCore s w axis shape = .error .assertion := by
  rw [wrapXrCore, if_pos h, ite_self, ite_self]

/-- **wrap_xr_ok_dims** — whatever `wrap_xr` accepts (`axis` given or defaulted, with or without the implicit new axis
of a 2-D image with a time axis) has dims `(time?) y x (band?)` — so every C09 theorem stated for that dims shape
applies to every accepted call — its `grid_mapping` is the `crs_coord_name` argument, `nodata=` shows as an attribute
and the caller's attributes are kept.  What is rejected: `wrap_xr_rejects`. -/
theorem wrap_xr_ok_dims (s : Src) (w : WrapArgs) (a : XArr) (h : wrapXr s w = .ok a) :
    ∃ pre post, a.dims = pre ++ [(srcDims s).1, (srcDims s).2] ++ post ∧ (pre = [] ∨ pre = ["time"]) ∧
      (post = [] ∨ post = ["band"]) ∧ a.gridMapping = w.crsName ∧
      (w.nodata = true → "nodata" ∈ a.attrs) ∧ (∀ k ∈ w.attrs, k ∈ a.attrs) := by
  unfold wrapXr at h
  generalize wrapAxis w = axis at h
  generalize wrapShape w = shape at h
  by_cases ha : ¬ (axis = 0 ∨ axis = 1)
  · rw [wrapXrCore_axis ha] at h; cases h
  by_cases hr : ¬ ((shape.length : Int) - axis - 2 = 0 ∨ (shape.length : Int) - axis - 2 = 1)
  · rw [wrapXrCore_rank hr] at h; cases h
  by_cases hs : (shape.drop axis.toNat).take 2 ≠ srcShape s
  · rw [wrapXrCore_shape hs] at h; cases h
  rw [wrapXrCore, if_neg ha, if_neg hr, if_neg hs] at h
  simp only at h
  split at h
  · cases h
  · split at h
    · cases h
    · cases h
      refine ⟨_, _, rfl, ?_, ?_, rfl, fun hn => ?_, fun k hk => ?_⟩
      · exact (ite_eq_or_eq _ _ _).symm
      · exact (ite_eq_or_eq _ _ _).symm
      · show "nodata" ∈ if w.nodata = true then _ else _
        rw [if_pos hn]
        exact List.mem_cons_self
      · show k ∈ if w.nodata = true then _ else _
        split
        · by_cases hkn : k = "nodata"
          · rw [hkn]; exact List.mem_cons_self
          · exact List.mem_cons_of_mem _ (List.mem_filter.mpr ⟨hk, by simpa using hkn⟩)
        · exact hk

theorem wrap_xr_dimsShape (g : GeoBox) (w : WrapArgs) (a : XArr) (h : wrapXr (.lin g) w = .ok a) :
    ∃ pre post, DimsShape a g.crs pre post := by
  obtain ⟨pre, post, hd, hp, hq, _⟩ := wrap_xr_ok_dims (.lin g) w a h
  refine ⟨pre, post, hd, ?_⟩
  rcases hp with rfl | rfl <;> rcases hq with rfl | rfl <;> simp

/-- **wrap_xr_rejects** — the three `assert`s: an `axis` outside `{0, 1}`, a rank that leaves fewer than two or more than
three axes from `axis` on, and a spatial shape different from the GeoBox's are all rejected with `AssertionError`
(nothing is silently transposed, squeezed or broadcast); rank and shape are stated for `axis=0`. -/
theorem wrap_xr_rejects (s : Src) (w : WrapArgs) :
    (∀ ax : Int, w.axis = some ax → ax ≠ 0 → ax ≠ 1 → wrapXr s w = .error .assertion) ∧
    (w.axis = some 0 → w.imShape.length ≠ 2 → w.imShape.length ≠ 3 → wrapXr s w = .error .assertion) ∧
    (w.axis = some 0 → w.imShape.take 2 ≠ srcShape s → wrapXr s w = .error .assertion) := by
  have hgiven : ∀ ax, w.axis = some ax → wrapAxis w = ax := fun ax h => by rw [wrapAxis, h]; rfl
  have h0 : w.axis = some 0 → wrapAxis w = 0 ∧ wrapShape w = w.imShape := fun hax =>
    ⟨hgiven 0 hax, by rw [wrapShape, hgiven 0 hax, if_neg (fun h => absurd h.2 (by decide))]⟩
  refine ⟨fun ax hax h0 h1 => ?_, fun hax h2 h3 => ?_, fun hax hs => ?_⟩
  · rw [wrapXr, hgiven ax hax]
    exact wrapXrCore_axis fun h => h.elim h0 h1
  · rw [wrapXr, (h0 hax).1, (h0 hax).2]
    exact wrapXrCore_rank (by omega)
  · rw [wrapXr, (h0 hax).1, (h0 hax).2]
    exact wrapXrCore_shape hs

/-- **xr_zeros_scalar_time_cex** — `wrap_xr` accepts a single time stamp given as a string (`time="2020-01-01"` gives a
one-element time axis) but `xr_zeros(gbox, time="2020-01-01")` does not: it sizes the array by `len(time)` — the
number of characters — and the coordinate then does not fit (`ValueError`).  Witness replayed on the real code by the
harness (`zeros … s:10`); a list of one stamp works. -/
theorem xr_zeros_scalar_time_cex :
    xrZeros (.lin ⟨3, 4, ⟨2, 0, 10, 0, -2, 20⟩, some ⟨3857, false⟩⟩) (some (.scalar (some 10))) (some "spatial_ref") false []
      = .error .valueError ∧
    (wrapXr (.lin ⟨3, 4, ⟨2, 0, 10, 0, -2, 20⟩, some ⟨3857, false⟩⟩)
        ⟨[3, 4], some (.scalar (some 10)), none, false, some "spatial_ref", []⟩).isOk = true ∧
    (xrZeros (.lin ⟨3, 4, ⟨2, 0, 10, 0, -2, 20⟩, some ⟨3857, false⟩⟩) (some (.list 1)) (some "spatial_ref") false []).isOk
      = true := by
  decide +kernel

theorem xr_zeros_is_wrap (s : Src) (nt : Option Nat) (cn : String) (attrs : List String) :
    xrZeros s (nt.map .list) (some cn) false attrs = wrap s nt none cn attrs := by
  cases nt with
  | none => simpa [xrZeros, canonShape] using wrap_xr_canonical s none none cn attrs
  | some n => simpa [xrZeros, canonShape, timeLen] using wrap_xr_canonical s (some n) none cn attrs

/-- **xr_zeros_fixed_scalar_time** — in `xr_zeros` as repaired on branch fix3-C09 (`xrZerosFixed`) a single time stamp
gives the one-step time axis `wrap_xr` gives, for every source and CRS-coordinate name; every other form of `time=`
behaves as in `xrZeros`. -/
theorem xr_zeros_fixed_scalar_time (s : Src) (len : Option Nat) (cn : String) (attrs : List String) (t : Option TimeArg)
    (ht : ∀ l, t ≠ some (.scalar l)) :
    xrZerosFixed s (some (.scalar len)) (some cn) false attrs = wrap s (some 1) none cn attrs ∧
    xrZerosFixed s t (some cn) false attrs = xrZeros s t (some cn) false attrs := by
  constructor
  · exact xr_zeros_is_wrap s (some 1) cn attrs
  · unfold xrZerosFixed
    split
    · rename_i l
      exact absurd rfl (ht l)
    · rfl

/-- **dataset_geobox_is_first_registered** — the `.geobox` compatibility property of a Dataset returns the geobox of
the first data variable that has one, skipping unregistered variables; `None` when there is none. -/
theorem dataset_geobox_is_first_registered (pre : List (String × XArr)) (nm : String) (v : XArr) (rest : List (String × XArr))
    (r : Recovered) (hpre : ∀ u ∈ pre, recover u.2 = .ok .nothing) (hv : recover v = .ok r) (hr : r ≠ .nothing) :
    xarrayGeobox (pre ++ (nm, v) :: rest) = .ok r ∧ xarrayGeobox pre = .ok .nothing := by
  induction pre with
  | nil =>
    refine ⟨?_, rfl⟩
    cases r with
    | nothing => exact absurd rfl hr
    | lin g => simp only [List.nil_append, xarrayGeobox, hv]
    | gcp g => simp only [List.nil_append, xarrayGeobox, hv]
  | cons u us ih =>
    have hu := hpre u List.mem_cons_self
    obtain ⟨h1, h2⟩ := ih (fun x hx => hpre x (List.mem_cons_of_mem _ hx))
    obtain ⟨un, uv⟩ := u
    simp only at hu
    constructor
    · simp only [List.cons_append, xarrayGeobox, hu]
      exact h1
    · simp only [xarrayGeobox, hu]
      exact h2

/-- **nodata_attribute_precedence** — `.odc.nodata`: the `nodata` attribute wins over `_FillValue`; an attribute whose
value is `None` counts as absent; zero is a value (not "unset"). -/
theorem nodata_attribute_precedence (v w : Rat) (f : AttrNum) :
    odcNodata (.num v) f = some v ∧ odcNodata .none (.num w) = some w ∧ odcNodata .absent (.num w) = some w ∧
    odcNodata (.num 0) (.num w) = some 0 ∧ odcNodata .none .none = none ∧ odcNodata .absent .absent = none :=
  ⟨rfl, rfl, rfl, rfl, rfl, rfl⟩

/-- **dropped_coords_geotransform** — when the labels of a spatial axis are gone (`drop_vars`, or a loader that writes
none) the accessor falls back to the `GeoTransform` stored on the CRS coordinate: after any history the recovered box
has the shape of the array, the CRS of the original and the **original** transform `g.A` — exact for every GeoBox
(rotated and sheared included) as long as the history did not move the origin or the stride
(`dropped_coords_roundtrip`), stale otherwise (`dropped_coords_stale_cex`); without labels nothing better is
available. -/
theorem dropped_coords_geotransform (g : GeoBox) (c : Crs) (nt nb : Option Nat) (cn : String) (attrs : List String)
    (ops : List Op) (a0 a : XArr) (drop : List String) (hcn : NameOk cn) (hcrs : g.crs = some c)
    (hw : wrap (.lin g) nt nb cn attrs = .ok a0) (hadm : ∀ op ∈ ops, op.admissible) (hops : applyOps a0 ops = .ok a)
    (hdrop : (dimsOf g.crs).1 ∈ drop ∨ (dimsOf g.crs).2 ∈ drop) :
    let m := track (dimsOf g.crs).1 (dimsOf g.crs).2 (AxMap.ident g.ny, AxMap.ident g.nx) ops
    recoverDropped a drop = .ok (.lin ⟨m.1.len, m.2.len, g.A, some c⟩) := by
  obtain ⟨ny, nx, A, crs⟩ := g
  simp only at hcrs
  subst hcrs
  intro m
  have hI := inv_history hcn hw hadm hops
  have hloc := hI.toCrsInv.locate
  unfold recoverDropped
  rw [spatialDims_of_guess hI.sd]
  have hd : (drop.contains (dimsOf (some c)).1 || drop.contains (dimsOf (some c)).2) = true := by
    rcases hdrop with h | h <;> simp only at h <;> simp [h]
  simp only [hd, if_true, hI.ylk, hI.xlk, hloc]
  simp [recoverNoCoords, ccOf, coordLen, labelsFor_length, m]

theorem dropped_coords_roundtrip (g : GeoBox) (c : Crs) (nt nb : Option Nat) (cn : String) (attrs : List String)
    (a0 : XArr) (drop : List String) (hcn : NameOk cn) (hcrs : g.crs = some c)
    (hw : wrap (.lin g) nt nb cn attrs = .ok a0)
    (hdrop : (dimsOf g.crs).1 ∈ drop ∨ (dimsOf g.crs).2 ∈ drop) :
    recoverDropped a0 drop = .ok (.lin g) := by
  have := dropped_coords_geotransform g c nt nb cn attrs [] a0 a0 drop hcn hcrs hw (by simp) rfl hdrop
  simp only [track, List.foldl_nil, AxMap.ident] at this
  rw [this, ← hcrs]

/-- **dropped_coords_stale_cex** — the `GeoTransform` is written once and not updated by slicing: after `[1:, 2:]` an
array whose labels were dropped is located at the origin of the *unsliced* grid (the labelled array is right:
theorem `survives`).  Replayed on the real code by the harness (`rtdrop` with a history). -/
theorem dropped_coords_stale_cex :
    ((wrap (.lin ⟨4, 5, ⟨2, 0, 10, 0, -2, 20⟩, some ⟨3857, false⟩⟩) none none "spatial_ref" []).bind
        (fun a => applyOps a [.isel "y" (.slc (some 1) none none), .isel "x" (.slc (some 2) none none)])).bind
        (fun a => recoverDropped a ["y", "x"])
      = .ok (.lin ⟨3, 3, ⟨2, 0, 10, 0, -2, 20⟩, some ⟨3857, false⟩⟩) ∧
    ((wrap (.lin ⟨4, 5, ⟨2, 0, 10, 0, -2, 20⟩, some ⟨3857, false⟩⟩) none none "spatial_ref" []).bind
        (fun a => applyOps a [.isel "y" (.slc (some 1) none none), .isel "x" (.slc (some 2) none none)])).bind recover
      = .ok (.lin ⟨3, 3, ⟨2, 0, 14, 0, -2, 18⟩, some ⟨3857, false⟩⟩) := by
  decide +kernel

/-- **grid_mapping_encoding_first** — the CRS coordinate is named by `encoding["grid_mapping"]` when present, else by
`attrs["grid_mapping"]`, else every 0-d coordinate with a `spatial_ref` / `crs_wkt` attribute is a candidate. -/
theorem grid_mapping_encoding_first (e a : String) :
    gridMappingOf (some e) (some a) = some e ∧ gridMappingOf (some e) none = some e ∧
    gridMappingOf none (some a) = some a ∧ gridMappingOf none none = none := ⟨rfl, rfl, rfl, rfl⟩

/-- **crs_from_attrs_unique** — `_get_crs_from_attrs`: when every `crs` / `crs_wkt` attribute that can be read (array,
spatial coordinates, Dataset; strings that parse, or CRS objects) names the same CRS `c`, the result is `c` — however
many times, in whichever attribute and on whichever object it appears, and whatever unreadable values sit next to it;
with no readable value there is no CRS. -/
theorem crs_from_attrs_unique (dicts : List (CrsAttrVal × CrsAttrVal)) (c : Crs)
    (hall : ∀ d ∈ dicts, (d.1.cand = none ∨ d.1.cand = some c) ∧ (d.2.cand = none ∨ d.2.cand = some c)) :
    (crsFromAttrs dicts = [c] ∨ crsFromAttrs dicts = []) ∧
    ((∃ d ∈ dicts, d.1.cand = some c ∨ d.2.cand = some c) → crsFromAttrs dicts = [c]) := by
  have hmem : ∀ x ∈ crsCandidates dicts, x = c := by
    intro x hx
    simp only [crsCandidates, List.mem_filterMap, List.mem_flatMap, id] at hx
    obtain ⟨o, ⟨d, hd, ho⟩, hox⟩ := hx
    simp only [List.mem_cons, List.not_mem_nil, or_false] at ho
    have h : o = none ∨ o = some c := by
      rcases ho with rfl | rfl
      · exact (hall d hd).1
      · exact (hall d hd).2
    rcases h with h | h
    · rw [h] at hox; cases hox
    · exact Option.some.inj (hox.symm.trans h)
  have hrep : ∀ l : List Crs, (∀ x ∈ l, x = c) → l ≠ [] → l.eraseDups = [c] := by
    intro l hl hne
    cases l with
    | nil => exact absurd rfl hne
    | cons x xs =>
      obtain rfl : x = c := hl x List.mem_cons_self
      have : xs.filter (fun b => !b == x) = [] :=
        List.filter_eq_nil_iff.mpr fun y hy => by simp [hl y (List.mem_cons_of_mem _ hy)]
      rw [List.eraseDups_cons, this]
      rfl
  constructor
  · by_cases hne : crsCandidates dicts = []
    · exact Or.inr (by rw [crsFromAttrs, hne]; rfl)
    · exact Or.inl (hrep _ hmem hne)
  · rintro ⟨d, hd, hdc⟩
    refine hrep _ hmem (List.ne_nil_of_mem (a := c) ?_)
    simp only [crsCandidates, List.mem_filterMap, List.mem_flatMap, id]
    rcases hdc with h' | h' <;> exact ⟨some c, ⟨d, hd, by simp [h']⟩, rfl⟩

/-- non-vacuity of `crs_from_attrs_unique` and the several-candidates case (a set: arbitrary pick, warned about) -/
example :
    crsFromAttrs [(.str none, .obj ⟨3857, false⟩), (.absent, .str (some ⟨3857, false⟩)), (.other, .absent)] = [⟨3857, false⟩] ∧
    crsFromAttrs [(.str (some ⟨4326, true⟩), .obj ⟨3857, false⟩)] = [⟨4326, true⟩, ⟨3857, false⟩] := by
  decide +kernel

end OdcGeo.C09
