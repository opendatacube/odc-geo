/-
C10 ∘ C03 ∘ C02 — the paste contract for read-shrink `k > 1`, END TO END from the two `GeoBox`es through the public
`compute_reproject_roi` (model `C03.computeReprojectRoi`) and C02's model of `GeoBox.zoom_out`.

The consumer of a `paste_ok` plan with `read_shrink = k > 1` reads the `k`-fold overview of the source, i.e. the raster
whose grid is `src.zoom_out(k)`.  This file shows that pasting the planned overview block equals the nearest-neighbour
warp of the WHOLE overview image, where "the overview image" is C02's zoomed-out GeoBox (shape and affine) and the warp's
transform is destination pixel → world (destination grid) → overview pixel (inverse of the zoomed-out grid), written
with the two grids' affines only (`overviewTr` does not occur in the statement).
-/
import OdcGeo.Props.C10C03
import OdcGeo.Props.C03C02
namespace OdcGeo.C10
open OdcGeo.C17 OdcGeo.C03

/-- **Paste = nearest-neighbour warp of the overview, for every read-shrink `k > 1`, from the arguments.**
Two `GeoBox`es of one CRS; the plan reports `paste_ok` with `read_shrink = k ≠ 1`.  Then `src.zoom_out(k)` (C02) exists,
the planned source region is `k` times a region `r'` of that overview, and — under the half-pixel budget stated for the
true destination → overview pixel transform `B = ~(S · scale(k)) · D` — filling the planned destination region from the
overview block `r'` (reversed on mirrored axes), nodata elsewhere, equals the nearest-neighbour warp of the whole
overview image under `B`, pixel for pixel, for every pixel type. -/
theorem paste_overview_end_to_end {α : Type} (ov : Int → Int → α) (nodata : α) (src dst : Side) (crs : Nat)
    (projF projB : Proj) (n : Rat) (scaleAt : Rat × Rat → Rat × Rat) (ttol stol : Rat) (padding align : Option Int)
    (p : Plan) (hs : src.isGeoBox = true) (hdg : dst.isGeoBox = true)
    (h : computeReprojectRoi src dst true projF projB n scaleAt ttol stol padding align = .ok p)
    (hp : p.pasteOk = true) (hrs : p.readShrink ≠ 1) (hstol : stol ≤ 1 / 2) (hd : 0 ≤ dst.shape.1 ∧ 0 ≤ dst.shape.2)
    (hbx : rabs (rabs ((src.aff * Aff.scale p.readShrink p.readShrink).inv * dst.aff).a - 1) * dst.shape.2 +
           rabs ((src.aff * Aff.scale p.readShrink p.readShrink).inv * dst.aff).b * dst.shape.1 + ttol ≤ 1 / 2)
    (hby : rabs (rabs ((src.aff * Aff.scale p.readShrink p.readShrink).inv * dst.aff).e - 1) * dst.shape.1 +
           rabs ((src.aff * Aff.scale p.readShrink p.readShrink).inv * dst.aff).d * dst.shape.2 + ttol ≤ 1 / 2) :
    ∃ g' : C02.GeoBox, C02.zoomOut ⟨src.shape.1, src.shape.2, src.aff, crs⟩ (p.readShrink : Rat) = .ok g' ∧
      g'.A = src.aff * Aff.scale p.readShrink p.readShrink ∧
      ∃ r' : ROI, p.roiSrc = scaledUpROI r' p.readShrink ∧
        ∀ dy dx : Int, 0 ≤ dy ∧ dy < dst.shape.1 → 0 ≤ dx ∧ dx < dst.shape.2 →
          pasted ov (decide ((g'.A.inv * dst.aff).e < 0)) (decide ((g'.A.inv * dst.aff).a < 0)) r' p.roiDst nodata dy dx =
            Warp.nnWarp ov (g'.ny, g'.nx) (g'.A.inv * dst.aff) nodata dy dx := by
  rw [top_same_crs_is_core src dst projF projB n scaleAt ttol stol padding align hs hdg] at h
  obtain ⟨hS, hD, _, hl, _, _⟩ := geoboxes_ok h
  have hk : 1 ≤ p.readShrink := (plan_scale _ _ _ _ _ _ _ _ _ p hl).2.2.1
  obtain ⟨g', hz, hshape, _, happ⟩ := overview_is_zoom_out src.shape.1 src.shape.2 src.aff dst.aff crs p.readShrink hk hS hD
  have hA : g'.A = src.aff * Aff.scale p.readShrink p.readShrink := by
    have hkq : (p.readShrink : Rat) ≠ 0 := Int.cast_ne_zero.mpr (by omega)
    simp only [C02.zoomOut, hkq, if_false, Except.ok.injEq] at hz
    rw [← hz]
  have hB : overviewTr (dst.aff.inv * src.aff).inv p.readShrink = g'.A.inv * dst.aff := by
    apply Aff.ext_apply
    intro q
    rw [Aff.apply_mul]
    exact happ q
  obtain ⟨r', hr, hall⟩ := plan_paste_eq_warp ov nodata hl hp hstol hB ((readShape_of_ne _ hrs).trans hshape.symm)
    (by rw [hshape]; exact zoomOutDim_nonneg _ _) hd (by rw [hA]; exact hbx) (by rw [hA]; exact hby)
  exact ⟨g', hz, hA, r', hr, hall⟩

-- non-vacuity: an 8x8 source, a 4x4 destination with pixels twice as large, shifted by one overview pixel: paste_ok with
-- read_shrink 2, and the budget hypotheses hold (B is the exact unit transform)
example : (computeReprojectRoi ⟨true, (8, 8), ⟨1, 0, 0, 0, 1, 0⟩, false⟩ ⟨true, (4, 4), ⟨2, 0, 2, 0, 2, 2⟩, false⟩ true
    C03.idProj C03.idProj 2 (fun _ => (1, 1)) (1 / 20) tol1em3 none none).toOption.map
      (fun p => (p.roiSrc, p.roiDst, p.pasteOk, p.readShrink)) = some ((⟨2, 8⟩, ⟨2, 8⟩), (⟨0, 3⟩, ⟨0, 3⟩), true, 2) := by
  decide +kernel
example : ((⟨1, 0, 0, 0, 1, 0⟩ : Aff) * Aff.scale 2 2).inv * ⟨2, 0, 2, 0, 2, 2⟩ = ⟨1, 0, 1, 0, 1, 1⟩ := by decide +kernel

end OdcGeo.C10
