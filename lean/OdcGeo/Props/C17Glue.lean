/-
C17 — the glue of `odc/geo/roi.py` (`Model/C17Glue.lean`): slices with a step, dispatch on one / many, error branches,
`WindowFromSlice`, the argument normalisation of `roi_from_points`, `_norm_slice_2d`.  Where the code violates the
statement at an excluded point there is a `_cex` theorem (replayed on the real code by the harness).
-/
import OdcGeo.Model.C17Glue
import OdcGeo.Lemmas.Unpack
import OdcGeo.Spec.PySlice
import OdcGeo.Spec.PySliceStep
import OdcGeo.Props.C17

namespace OdcGeo.C17
open OdcGeo.PySliceStep

/-- For a positive step `slice.indices` clamps the bounds as it does for step `None` (`Spec/PySlice`). -/
theorem bounds_eq_adjust (n : Int) (a b : Option Int) :
    PySlice.bounds n a b = (adjust n 0 n 0 a, adjust n 0 n n b) := by
  cases a <;> cases b <;> simp only [PySlice.bounds, PySlice.clampBound, adjust, max_comm, add_comm]

theorem sel_congr_pos (n : Nat) (a b a' b' : Option Int) (k : Int) (hk : 0 < k)
    (h : PySlice.bounds n a b = PySlice.bounds n a' b') : sel n a b k = sel n a' b' k := by
  rw [bounds_eq_adjust, bounds_eq_adjust, Prod.mk.injEq] at h
  simp only [sel, indices, hk, if_true, h.1, h.2]

/-- `_norm_slice`'s wrap of a given bound is invisible to `slice.indices`' clamp as long as the bound is not below `-n`
(there the wrap clamps at 0 where `adjust` clamps at `lower`).  For the negative-step pair `lower = -1`, `upper = n - 1`. -/
theorem adjust_wrapNeg (n lower upper d v : Int) (hl : lower ≤ 0) (hu : n - 1 ≤ upper) (hv : -n ≤ v) :
    adjust n lower upper d (some (wrapNeg n v)) = adjust n lower upper d (some v) := by
  show (if wrapNeg n v < 0 then _ else _) = if v < 0 then _ else _
  unfold wrapNeg
  by_cases h : v ≥ 0
  · rw [if_pos h]
  · rw [if_neg h, if_neg (by omega), if_pos (by omega)]
    omega

/-- **A normalised slice with a POSITIVE step selects the same elements as the original** (numpy /
`slice.indices` semantics, `Spec/PySliceStep`), for every length, open / negative / out-of-range bounds. -/
theorem normalise_step_pos_same_elements (n : Nat) (a b : Option Int) (k : Int) (hk : 0 < k) :
    let r := normSliceS (.slc a b (some k)) n
    r.step = some k ∧ sel n (some r.start) (some r.stop) k = sel n a b k :=
  ⟨rfl, sel_congr_pos n _ _ a b k hk (bounds_normSlice n (Int.natCast_nonneg n) a b)⟩

/-- … and with a NEGATIVE step as long as both bounds are given and not below `-n`. -/
theorem normalise_step_neg_same_when_bounds_in_range (n : Nat) (x y k : Int) (hk : k < 0)
    (hx : -(n : Int) ≤ x) (hy : -(n : Int) ≤ y) :
    let r := normSliceS (.slc (some x) (some y) (some k)) n
    sel n (some r.start) (some r.stop) k = sel n (some x) (some y) k := by
  have hnk : ¬ 0 < k := by omega
  simp only [sel, indices, hnk, if_false, normSliceS, SIdx.toPIdx, normSlice]
  simp only [adjust_wrapNeg n (-1) (n - 1) (n - 1) x (by omega) le_rfl hx,
    adjust_wrapNeg n (-1) (n - 1) (-1) y (by omega) le_rfl hy]

/-- **False for a negative step with an open (or below `-n`) bound**: `roi_normalise(slice(None, None, -1), 5)`
is `slice(0, 5, -1)`, which selects nothing, while the original selects `4, 3, 2, 1, 0` (the defaults of an open bound
depend on the sign of the step; `_norm_slice` always fills in `0` / `n`).  Replayed on the real code. -/
theorem normalise_step_neg_cex :
    let r := normSliceS (.slc none none (some (-1))) 5
    r = ⟨0, 5, some (-1)⟩ ∧ sel 5 (some r.start) (some r.stop) (-1) = [] ∧ sel 5 none none (-1) = [4, 3, 2, 1, 0] := by
  decide

/-- `roi_shape` / `roi_is_empty` / `roi_is_full` do not look at the step: `roi_shape(slice(0, 10, 2))` is `(10,)` where
`X[0:10:2].shape` is `(5,)`, and `roi_is_full(slice(0, 10, 2), 10)` is `True` although half of the array is dropped.
Replayed on the real code. -/
theorem shape_ignores_step_cex :
    roiShapeArg (.one (.slc (some 0) (some 10) (some 2))) = .ok [10] ∧
    (sel 10 (some 0) (some 10) 2).length = 5 ∧
    roiIsFullArg (.one (.slc (some 0) (some 10) (some 2))) (.one 10) = true := by decide

/-- with step `None` / 1 the count is right (closed, in-range, ordered bounds) -/
theorem shape_step_one_counts (n : Nat) (s e : Int) (h : 0 ≤ s ∧ s ≤ e ∧ e ≤ n) :
    roiShapeArg (.one (.slc (some s) (some e) none)) = .ok [e - s] ∧
    ((sel n (some s) (some e) 1).length : Int) = e - s := by
  refine ⟨rfl, ?_⟩
  simp only [sel, indices, adjust, if_neg (show ¬ s < 0 by omega), if_neg (show ¬ e < 0 by omega), List.length_map,
    List.length_range, Int.zero_lt_one, if_true, min_eq_left (show s ≤ (n : Int) by omega), min_eq_left h.2.2,
    Int.ediv_one]
  split <;> omega

/-- `roi_pad` answers without a step whatever the step of its argument -/
theorem pad_drops_step (s : SIdx) (pad n : Int) : (padSliceS s pad n).step = none := rfl

theorem unpack1_of_length_ne {β : Type} (xs : List β) (h : xs.length ≠ 1) : unpack1 xs = .error .valueError :=
  ne_single_cases xs h rfl fun _ _ _ => rfl

/-- a single index with a one-element shape sequence is the same as with the bare length -/
theorem roi_normalise_one_vs_seq1 (s : SIdx) (n : Int) :
    roiNormaliseArg (.one s) (.many [n]) = roiNormaliseArg (.one s) (.one n) := rfl

/-- a single index with a shape sequence of any other length is rejected (`(shape,) = shape`) -/
theorem roi_normalise_one_bad_shape (s : SIdx) (ns : List Int) (h : ns.length ≠ 1) :
    roiNormaliseArg (.one s) (.many ns) = .error .valueError := by
  simp only [roiNormaliseArg, unpack1_of_length_ne ns h]

/-- **N-D normalisation**: never fails; one result per (index, length) pair — extra indices or extra lengths are
silently dropped (`zip`) — and on every axis it is the 1-D normalisation, hence selects the same elements
(`normalise_same_elements`) whenever the step is `None`. -/
theorem roi_normalise_many_spec (ss : List SIdx) (ns : List Int) :
    ∃ rs, roiNormaliseArg (.many ss) (.many ns) = .ok (.many rs) ∧ rs.length = min ss.length ns.length ∧
      ∀ k (hk : k < rs.length) (hs : k < ss.length) (hn : k < ns.length),
        rs[k] = normSliceS ss[k] ns[k] ∧ (rs[k]).step = (ss[k]).step ∧
        (∀ a b i, 0 ≤ ns[k] → ss[k] = .slc a b none →
          (PySlice.Sel ns[k] (rs[k]).ns.toPIdx i ↔ PySlice.Sel ns[k] (.slc a b) i)) := by
  refine ⟨(ss.zip ns).map fun p => normSliceS p.1 p.2, rfl, by simp, ?_⟩
  intro k hk hs hn
  refine ⟨by simp, by simp [normSliceS], ?_⟩
  intro a b i h0 hsk
  simp only [List.getElem_map, List.getElem_zip]
  rw [hsk]
  exact normalise_same_elements ns[k] h0 a b i

/-- a bare length with a sequence of indices: only the first index is used -/
theorem roi_normalise_many_vs_one (ss : List SIdx) (n : Int) :
    roiNormaliseArg (.many ss) (.one n) = roiNormaliseArg (.many ss) (.many [n]) := rfl

theorem roi_pad_one_vs_seq1 (s : SIdx) (pad n : Int) :
    roiPadArg (.one s) pad (.many [n]) = roiPadArg (.one s) pad (.one n) := rfl

/-- N-D padding is the 1-D padding per axis; every result lies within `[0, n]` -/
theorem roi_pad_many_spec (ss : List SIdx) (pad : Int) (ns : List Int) :
    ∃ rs, roiPadArg (.many ss) pad (.many ns) = .ok (.many rs) ∧ rs.length = min ss.length ns.length ∧
      ∀ k (hk : k < rs.length) (hs : k < ss.length) (hn : k < ns.length),
        rs[k] = padSliceS ss[k] pad ns[k] ∧ (0 ≤ ns[k] → 0 ≤ (rs[k]).start ∧ (rs[k]).stop ≤ ns[k]) := by
  refine ⟨_, rfl, by simp, ?_⟩
  intro k hk hs hn
  have e : ((ss.zip ns).map fun p => padSliceS p.1 pad p.2)[k] = padSliceS ss[k] pad ns[k] := by
    simp only [List.getElem_map, List.getElem_zip]
  exact ⟨e, fun h0 => e ▸ pad_within ns[k] h0 (ss[k]).toPIdx pad⟩

/-- `roi_intersect` of two single indices, however the second one is wrapped -/
theorem roi_intersect_one_vs_seq1 (a b : SIdx) :
    roiIntersectArg (.one a) (.many [b]) = roiIntersectArg (.one a) (.one b) := rfl

theorem roi_intersect_one_bad_seq (a : SIdx) (bs : List SIdx) (h : bs.length ≠ 1) :
    roiIntersectArg (.one a) (.many bs) = .error .valueError := by
  simp only [roiIntersectArg, unpack1_of_length_ne bs h]

/-- **N-D intersection of closed non-negative regions**: never fails, one slice per axis pair (`zip`), each the 1-D
intersection, which is exactly the common index set (`intersect_eq_set`). -/
theorem roi_intersect_many_closed (as bs : List (Int × Int))
    (ha : ∀ p ∈ as, 0 ≤ p.1 ∧ 0 ≤ p.2) (hb : ∀ p ∈ bs, 0 ≤ p.1 ∧ 0 ≤ p.2) :
    roiIntersectArg (.many (as.map fun p => .slc (some p.1) (some p.2) none))
        (.many (bs.map fun p => .slc (some p.1) (some p.2) none))
      = .ok (.many ((as.zip bs).map fun q => intersectN ⟨q.1.1, q.1.2⟩ ⟨q.2.1, q.2.2⟩)) := by
  simp only [roiIntersectArg, List.zip_map]
  rw [mapM_map_ok _ _ (fun q => intersectN ⟨q.1.1, q.1.2⟩ ⟨q.2.1, q.2.2⟩) _ fun q hq => ?_]
  obtain ⟨h1, h2⟩ := ha _ (List.of_mem_zip hq).1
  obtain ⟨h3, h4⟩ := hb _ (List.of_mem_zip hq).2
  simp only [sliceIntersect, Prod.map, SIdx.toPIdx, normSliceOrError_closed _ _ h1 h2,
    normSliceOrError_closed _ _ h3 h4, bind, Except.bind, pure, Except.pure]

/-- `roi_intersect3` needs as many indices on both sides … -/
theorem roi_intersect3_len_mismatch (a b : List SIdx) (h : a.length ≠ b.length) :
    roiIntersect3Arg a b = .error .assertion := if_pos h

/-- … at least one, … -/
theorem roi_intersect3_no_axis : roiIntersect3Arg [] [] = .error .valueError := rfl

/-- … and when it answers, the three tuples have one entry per axis and every axis is the 1-D three-way intersection
(to which `intersect3_left` / `intersect3_right` / `intersect3_common` apply). -/
theorem roi_intersect3_many_spec (a b : List SIdx) (aa bb cc : List NSlice)
    (h : roiIntersect3Arg a b = .ok (aa, bb, cc)) :
    aa.length = a.length ∧ bb.length = a.length ∧ cc.length = a.length ∧
    ∀ k (hk : k < a.length) (hkb : k < b.length) (h1 : k < aa.length) (h2 : k < bb.length) (h3 : k < cc.length),
      sliceIntersect3 (a[k]).toPIdx (b[k]).toPIdx = .ok (aa[k], bb[k], cc[k]) := by
  unfold roiIntersect3Arg at h
  split at h
  · cases h
  · rename_i hl
    split at h
    · cases h
    · cases h
    · rename_i rs _ hm
      cases h
      obtain ⟨g1, g2⟩ := mapM_ok_inv _ _ rs hm
      have hz : rs.length = a.length := by rw [g1, List.length_zip]; omega
      simp only [List.length_map, hz, true_and]
      intro k hk hkb h1 h2 h3
      have := g2 k (by rw [← g1, hz]; exact hk) (by rw [hz]; exact hk)
      simp only [List.getElem_zip] at this
      simp only [List.getElem_map, this]

/-- `roi_is_full` wraps a single index / a single length; with fewer indices than axes the trailing axes are whole
(that is also numpy's meaning of `X[roi]`) -/
theorem roi_is_full_arg_forms (s : SIdx) (n : Int) (rest : List Int) :
    roiIsFullArg (.one s) (.one n) = sliceFull s.toPIdx n ∧
    roiIsFullArg (.one s) (.many (n :: rest)) = sliceFull s.toPIdx n ∧
    roiIsFullArg (.many [s]) (.one n) = sliceFull s.toPIdx n ∧
    roiIsFullArg (.many []) (.many (n :: rest)) = true := by
  simp [roiIsFullArg]

/-- `roi_shape` always answers with a tuple; `roi_center` answers in the form it was asked -/
theorem roi_shape_center_forms (s : SIdx) :
    roiShapeArg (.one s) = roiShapeArg (.many [s]) ∧
    (∀ c, sliceCenter s.toPIdx = .ok c → roiCenterArg (.one s) = .ok (.one c) ∧ roiCenterArg (.many [s]) = .ok (.many [c])) := by
  refine ⟨rfl, ?_⟩
  intro c hc
  simp [roiCenterArg, hc, List.mapM_cons, bind, Except.bind, pure, Except.pure]

/-- for a normalised 2-D roi the rasterio window is `((y0, y1), (x0, x1))`: offsets = starts, and
`stop - offset` = `roi_shape` on each axis -/
theorem window_of_normalised (y x : NSlice) :
    windowFromSlice (some [(some y.start, some y.stop), (some x.start, some x.stop)])
      = .ok (some ((y.start, some y.stop), (x.start, some x.stop))) ∧
    sliceDim y.toPIdx = .ok (y.stop - y.start) ∧ sliceDim x.toPIdx = .ok (x.stop - x.start) := ⟨rfl, rfl, rfl⟩

/-- an open start is offset 0 -/
theorem window_open_start (b d : Option Int) :
    windowFromSlice (some [(none, b), (none, d)]) = .ok (some ((0, b), (0, d))) := rfl

theorem window_none : windowFromSlice none = .ok none := rfl

theorem window_bad_arity (roi : List (Option Int × Option Int)) (h : roi.length ≠ 2) :
    windowFromSlice (some roi) = .error .valueError :=
  ne_pair_cases roi h rfl (fun _ => rfl) fun _ _ _ _ => rfl

theorem alignDownPy_pos (x a : Int) (ha : 0 < a) : alignDownPy x a = .ok (alignDown x a) := by
  have : a ≠ 0 := by omega
  simp [alignDownPy, this, alignDown, Int.fmod_eq_emod_of_nonneg x (Int.le_of_lt ha)]

theorem alignUpPy_pos (x a : Int) (ha : 0 < a) : alignUpPy x a = .ok (alignUp x a) :=
  alignDownPy_pos _ a ha

/-- `int()` truncates towards zero (`pyInt` is the prelude's `int()`, `Lemmas/Py`, by `rfl`) -/
theorem pyInt_trunc (x : Rat) : (0 ≤ x → (pyInt x : Rat) ≤ x ∧ x < pyInt x + 1) ∧
    (x < 0 → x ≤ (pyInt x : Rat) ∧ (pyInt x : Rat) < x + 1) :=
  ⟨fun h => ((Gen.Py.trunc_spec x).1 h).2, fun h => ((Gen.Py.trunc_spec x).2 h).2⟩

theorem pyInt_int (k : Int) : pyInt (k : Rat) = k := Gen.Py.trunc_intCast k

theorem map_pyInt_pos (align : Option Rat) (ha : ∀ a, align = some a → 0 < pyInt a) :
    ∀ a, align.map pyInt = some a → 0 < a := by
  rintro _ h
  obtain ⟨q, rfl, rfl⟩ := Option.map_eq_some_iff.1 h
  exact ha q rfl

theorem fromPointsAxisPy_pos (lo hi : Rat) (n pad : Int) (al : Option Int) (hal : ∀ a, al = some a → 0 < a) :
    fromPointsAxisPy lo hi n pad al = .ok (fromPointsAxis lo hi n pad al) := by
  cases al with
  | none => rfl
  | some a => simp only [fromPointsAxisPy, fromPointsAxis, alignDownPy_pos _ a (hal a rfl), alignUpPy_pos _ a (hal a rfl)]

/-- **`roi_from_points` from its public arguments is the modelled core** whenever the call is well formed: the shape in
any accepted spelling, any real `padding` (truncated by `int`), `align` absent or truncating to a positive integer, an
`(N, 2)` point array.  Every theorem about `fromPoints` (`from_points_contains`, `…_within_image`, `…_ignores_nonfinite`,
`from_points_axis_aligned`) therefore speaks about the public call. -/
theorem from_points_public_eq (pts : List (Coord × Coord)) (shape : ShapeSpelling) (ny nx : Int)
    (padding : Rat) (align : Option Rat) (hs : shapeOf shape = .ok (ny, nx))
    (ha : ∀ a, align = some a → 0 < pyInt a) :
    fromPointsPublic pts true shape padding align
      = .ok (fromPoints pts ny nx (pyInt padding) (align.map pyInt)) := by
  simp only [fromPointsPublic, hs, fromPoints, Bool.not_true, Bool.false_eq_true, if_false]
  cases finitePts pts with
  | nil => rfl
  | cons p ps => simp only [fromPointsAxisPy_pos _ _ _ _ _ (map_pyInt_pos align ha)]

/-- corollary: the public call keeps every finite point that lies inside the image -/
theorem from_points_public_contains (pts : List (Coord × Coord)) (shape : ShapeSpelling) (ny nx : Int)
    (padding : Rat) (align : Option Rat) (hs : shapeOf shape = .ok (ny, nx))
    (ha : ∀ a, align = some a → 0 < pyInt a) (hp : 0 ≤ pyInt padding) (x y : Rat)
    (hmem : (Coord.fin x, Coord.fin y) ∈ pts) (hx : 0 ≤ x ∧ x ≤ nx) (hy : 0 ≤ y ∧ y ≤ ny) :
    ∃ ys xs, fromPointsPublic pts true shape padding align = .ok (ys, xs) ∧
      ((xs.start : Rat) ≤ max 0 (x - pyInt padding) ∧ min (nx : Rat) (x + pyInt padding) ≤ xs.stop) ∧
      ((ys.start : Rat) ≤ max 0 (y - pyInt padding) ∧ min (ny : Rat) (y + pyInt padding) ≤ ys.stop) := by
  exact ⟨_, _, from_points_public_eq pts shape ny nx padding align hs ha,
    from_points_contains pts ny nx (pyInt padding) (align.map pyInt) x y hmem hx hy hp (map_pyInt_pos align ha)⟩

/-- `align` that truncates to 0 (`0`, `0.5`, `-0.3`) is rejected with `ZeroDivisionError` as soon as there is a finite
point; without finite points the early return wins -/
theorem from_points_public_align_zero (pts : List (Coord × Coord)) (shape : ShapeSpelling) (ny nx : Int)
    (padding a : Rat) (hs : shapeOf shape = .ok (ny, nx)) (ha : pyInt a = 0) :
    fromPointsPublic pts true shape padding (some a)
      = (if finitePts pts = [] then .ok (⟨0, 0⟩, ⟨0, 0⟩) else .error .zeroDiv) := by
  simp only [fromPointsPublic, hs, Bool.not_true, Bool.false_eq_true, if_false, Option.map_some, ha]
  cases finitePts pts with
  | nil => simp
  | cons p ps => simp [fromPointsAxisPy, alignDownPy]

/-- **a negative `align` is accepted and turns the envelope inside out** (Python's `%` takes the sign of the divisor, so
`align_down` rounds up): `roi_from_points([[5,5],[9,7]], (20,20), align=-4)` answers `(8:4, 8:4)`, which contains neither
point.  The containment theorems need `0 < align`; replayed on the real code. -/
theorem from_points_negative_align_cex :
    fromPointsPublic [(.fin 5, .fin 5), (.fin 9, .fin 7)] true (.seq [20, 20]) 0 (some (-4))
      = .ok (⟨8, 4⟩, ⟨8, 4⟩) := by decide

/-- a shape sequence must have exactly two entries; a bare number is not a shape -/
theorem from_points_public_bad_shape (pts : List (Coord × Coord)) (vals : List Rat) (padding : Rat)
    (align : Option Rat) (ok : Bool) (h : vals.length ≠ 2) :
    fromPointsPublic pts ok (.seq vals) padding align = .error .valueError ∧
    fromPointsPublic pts ok .other padding align = .error .valueError :=
  ⟨ne_pair_cases vals h rfl (fun _ => rfl) fun _ _ _ _ => rfl, rfl⟩

example : shapeOf (.seq [20, 30]) = .ok (20, 30) ∧ (∀ a, (some (4 : Rat)) = some a → 0 < pyInt a) := by
  refine ⟨by decide, fun a h => ?_⟩
  cases h
  decide

example : roiIntersect3Arg [.slc (some 2) (some 9) none, .idx 3] [.slc (some 5) (some 12) (some 2), .slc none (some 4) none]
    = .ok ([⟨3, 7⟩, ⟨0, 1⟩], [⟨0, 4⟩, ⟨3, 4⟩], [⟨5, 9⟩, ⟨3, 4⟩]) := by decide

/-- an `Index2d(y, x)` / `XY` index and the tuple `(y, x)` mean the same -/
theorem norm_slice_2d_index_eq_tuple (y x : Int) (shape : List Int) :
    normSlice2d (.index2d y x) shape = normSlice2d (.tuple [.idx y, .idx x]) shape := rfl

/-- **an in-range 2-D integer index (negative = from the end) normalises to the 1×1 region holding exactly that
element** on each axis -/
theorem norm_slice_2d_selects_the_element (y x ny nx : Int) (hy : -ny ≤ y ∧ y < ny) (hx : -nx ≤ x ∧ x < nx) (i : Int) :
    ∃ ry rx, normSlice2d (.index2d y x) [ny, nx] = .ok [ry, rx] ∧
      ry.stop = ry.start + 1 ∧ rx.stop = rx.start + 1 ∧
      (PySlice.Sel ny ry.ns.toPIdx i ↔ PySlice.Sel ny (.idx y) i) ∧
      (PySlice.Sel nx rx.ns.toPIdx i ↔ PySlice.Sel nx (.idx x) i) :=
  ⟨normSliceS (.idx y) ny, normSliceS (.idx x) nx, rfl, rfl, rfl, normalise_int_index ny y hy i,
    normalise_int_index nx x hx i⟩

theorem norm_slice_2d_other (shape : List Int) : normSlice2d .other shape = .error .valueError := rfl

example : normSlice2d (.index2d (-1) 2) [4, 5] = .ok [⟨3, 4, none⟩, ⟨2, 3, none⟩] := by decide

end OdcGeo.C17
