/-
C18 — Part writers: upload is initiated exactly once under every interleaving; sinks honour
their contract.  The invariants and their preservation proofs are in `Lemmas/C18Local.lean` and
`Lemmas/C18Dist.lean`, the file sink's lemmas in `Lemmas/C18Sink.lean`; `Local.Inv.once` / `Dist.Inv.once` here
read the claim off the invariant.

Threads are natural numbers (every `Nat` is a thread that starts at the first instruction),
a schedule is any `List Nat`; all `*_once` theorems therefore hold for ANY number of threads
and EVERY interleaving (induction over the schedule), including schedules that offer steps
to blocked or finished threads.
-/
import OdcGeo.Model.C18
import OdcGeo.Lemmas.C18

namespace OdcGeo.C18

/-- The C18 claim about a state of the in-process protocol. -/
def Local.Once (s : Local.State) : Prop :=
  -- at most one `create_multipart_upload`, and the counter is the number of such calls
  (s.creates ≤ 1 ∧ s.calls.countP Call.isCreate = s.creates) ∧
  -- no write / finalise failed because another thread won the initiation race
  (∀ t, s.pc t ≠ .failed) ∧
  -- every client call (create / upload_part / complete) carries the one upload id
  (∀ c ∈ s.calls, c.id = 1) ∧
  -- `mpu.uploadId` is empty or that id
  (s.uploadId = 0 ∨ s.uploadId = 1) ∧
  -- lock discipline: at most one thread is inside the `with` block, ...
  (∀ t t', Local.inCS (s.pc t) = true → Local.inCS (s.pc t') = true → t = t') ∧
  -- ... it holds the lock object that is stored in `_state` (the one everybody is handed), ...
  (∀ t, Local.inCS (s.pc t) = true → s.slot = some (s.mylock t) ∧ s.locks (s.mylock t) = some t) ∧
  -- ... and no other lock object is ever held, nor any by a thread outside the block
  (∀ l h, s.locks l = some h → s.slot = some l ∧ Local.inCS (s.pc h) = true)

theorem Local.Inv.once {cfg : Local.Cfg} {s : Local.State} (hI : Local.Inv cfg s) : Local.Once s :=
  ⟨⟨hI.ids.2.2, hI.count⟩, fun t h => by have := hI.pcs t; rw [h] at this; exact this,
    hI.calls, hI.ids.1, fun t t' h h' => hI.lk.mutex h h',
    fun t h => ⟨hI.lk.sel t (Local.usesLock_of_inCS h), hI.lk.holds t h⟩, hI.lk.only⟩

/-- **local_once**: repaired code, any threads, any schedule, starting from the state in
which `_state` holds no lock yet (the lock is created lazily by the racing threads through
the atomic `_state.setdefault`). -/
theorem local_once (cfg : Local.Cfg) (hr : cfg.recheck = true) (ha : cfg.atomicLock = true)
    (sched : List Nat) : Local.Once (Local.run cfg sched) :=
  (Local.runFrom_inv cfg hr ha sched _ (Local.inv_init cfg)).once

/-- … and likewise for every later attempt in the same process (a fresh upload object, while
`_state` already holds the lock object `l` created by an earlier attempt). -/
theorem local_once_later_attempt (cfg : Local.Cfg) (hr : cfg.recheck = true) (ha : cfg.atomicLock = true)
    (l : Nat) (sched : List Nat) : Local.Once (Local.runFrom cfg (Local.initWithLock l) sched) :=
  (Local.runFrom_inv cfg hr ha sched _
    (Local.inv_fresh cfg (Local.initWithLock l) ⟨rfl, rfl, rfl, fun _ => rfl, fun _ => rfl⟩)).once

/-- A thread that has returned did its job: exactly one upload exists and its own
`upload_part(part)` / `complete_multipart_upload` call under that id is in the log. -/
theorem local_done_uploaded (cfg : Local.Cfg) (hr : cfg.recheck = true) (ha : cfg.atomicLock = true)
    (sched : List Nat) (t : Nat)
    (hd : (Local.run cfg sched).pc t = .done) :
    (Local.run cfg sched).creates = 1 ∧
      (match cfg.kind t with
       | .write p => Call.upload p 1 ∈ (Local.run cfg sched).calls
       | .fin => Call.complete 1 ∈ (Local.run cfg sched).calls) := by
  have hI : Local.Inv cfg (Local.run cfg sched) := Local.runFrom_inv cfg hr ha sched _ (Local.inv_init cfg)
  have := hI.pcs t
  rw [hd] at this
  exact ⟨hI.ids.2.1 this.1, this.2⟩

/-- **local_progress**: a complete schedule over the threads `T` (nobody else was scheduled,
and at the end no thread of `T` can take a step: no deadlock is possible) ends with every
thread of `T` returned normally, i.e. (by `local_done_uploaded`) all parts uploaded - or
ended in the storage error that the fault model injected into its own call. -/
theorem local_progress (cfg : Local.Cfg) (hr : cfg.recheck = true) (ha : cfg.atomicLock = true)
    (T sched : List Nat)
    (hs : ∀ t ∈ sched, t ∈ T) (hmax : ∀ t ∈ T, Local.enabled (Local.run cfg sched) t = false) :
    ∀ t ∈ T, (Local.run cfg sched).pc t = .done ∨ (Local.run cfg sched).pc t = .faulted := by
  have hI : Local.Inv cfg (Local.run cfg sched) := Local.runFrom_inv cfg hr ha sched _ (Local.inv_init cfg)
  refine Local.all_done_of_stuck cfg _ hI T ?_ hmax
  intro t hne
  by_cases ht : t ∈ sched
  · exact hs t ht
  · exact absurd (Local.runFrom_pc_unscheduled cfg sched t ht Local.init) hne

/-- A schedule over `T` contains at most `14·|T|` effective (non-stutter) steps.  That a fair scheduler therefore
reaches a complete schedule is the intended reading, not part of the statement.  (`hnd` is not needed: listing a
thread twice only loosens the bound.) -/
theorem local_bounded (cfg : Local.Cfg) (T : List Nat) (hnd : T.Nodup) (sched : List Nat)
    (hs : ∀ t ∈ sched, t ∈ T) :
    Sched.effective (Local.step cfg) Local.enabled Local.init sched ≤ 14 * T.length := by
  have h := Sched.effective_bound (step := Local.step cfg) (enabled := Local.enabled)
    (rem := fun s t => Local.remaining (s.pc t))
    (Local.step_of_not_enabled cfg)
    (fun s _ _ h => congrArg Local.remaining (Local.step_pc_other cfg s h))
    (Local.step_decreases cfg) T sched Local.init hs
  have h0 := Sched.total_const (fun (s : Local.State) t => Local.remaining (s.pc t)) Local.init 14
    (fun _ => rfl) T
  omega

/-- the code as found (no re-check of `mpu.started` under the lock) -/
def Local.asFound : Local.Cfg := { kind := fun t => .write (t + 1), recheck := false }

/-- the race of finding F5: both threads read `started` before either initiates -/
def Local.cexSchedule : List Nat := [0, 1, 0, 0, 0, 0, 0, 0, 0, 0, 1, 1, 1, 1, 1]

/-- **local_once_cex** (F5): on the code as found the second thread trips
`assert self.uploadId == ""` in `initiate` — `local_once` is false without the repair. -/
theorem local_once_cex : ¬ Local.Once (Local.run Local.asFound Local.cexSchedule) :=
  fun h => h.2.1 1 (by decide +kernel)

/-- the same race (continued to completion) is harmless on the repaired code -/
example : let s := Local.run { Local.asFound with recheck := true }
            ([0, 1] ++ List.replicate 12 0 ++ List.replicate 8 1)
    s.pc 0 = .done ∧ s.pc 1 = .done ∧ s.creates = 1 ∧ s.held = none := by decide +kernel

/-- What the atomicity of `_state.setdefault` is needed for: with a check-then-store lock
creation (`lck = _state.get(k); if lck is None: lck = _state[k] = Lock()`) two threads doing
the process's first lookup each get their own lock object, both pass the re-check and two
uploads are initiated - even with the F5 repair in place. -/
theorem local_lock_creation_cex :
    (Local.run { kind := fun t => .write (t + 1), recheck := true, atomicLock := false }
      [0, 0, 0, 1, 1, 1, 0, 1, 0, 0, 0, 1, 1, 1, 0, 1]).creates = 2 := by decide +kernel

/-- The C18 claim about a state of the cluster protocol. -/
def Dist.Once (s : Dist.State) : Prop :=
  (s.creates ≤ 1 ∧ s.calls.countP Call.isCreate = s.creates) ∧
  (∀ t, s.pc t ≠ .failed) ∧
  (∀ c ∈ s.calls, c.id = 1) ∧
  -- every worker's copy and the shared variable hold nothing or the one id
  ((∀ w, s.wid w = 0 ∨ s.wid w = 1) ∧ (s.var = none ∨ s.var = some 1)) ∧
  (∀ t, s.lock = some t ↔ Dist.inCS (s.pc t) = true)

theorem Dist.Inv.once {cfg : Dist.Cfg} {s : Dist.State} (hI : Dist.Inv cfg s) : Dist.Once s :=
  ⟨⟨hI.ids.creates_le, hI.count⟩, fun t h => by have := hI.pcs t; rw [h] at this; exact this,
    hI.calls, ⟨hI.ids.wid_range, hI.ids.var_range⟩, fun t => (hI.mutex t).symm⟩

/-- **dist_once**: any assignment of threads to workers, any threads, any schedule — as long
as no `finalise` has deleted the shared variable yet (`cleanup_client`, the very last
action of a finalise). -/
theorem dist_once (cfg : Dist.Cfg) (sched : List Nat) (hd : (Dist.run cfg sched).deleted = false) :
    Dist.Once (Dist.run cfg sched) :=
  (Dist.runFrom_inv cfg sched _ (Dist.inv_init cfg) hd).once

/-- An attempt on a scheduler on which an earlier attempt for the same object left anything
in the shared variable (e.g. the id of an upload that was never finalised) starts, after
`prep_client`, exactly like the first one: `dist_once` applies to it. -/
theorem dist_once_after_prep (cfg : Dist.Cfg) (leftover : Option Nat) (sched : List Nat)
    (hd : (Dist.runFrom cfg (Dist.initAfterPrep leftover) sched).deleted = false) :
    Dist.Once (Dist.runFrom cfg (Dist.initAfterPrep leftover) sched) :=
  dist_once cfg sched hd

/-- With writers only the side condition is void: the variable is never deleted. -/
theorem dist_once_writers (cfg : Dist.Cfg) (hk : ∀ t, cfg.kind t ≠ .fin) (sched : List Nat) :
    Dist.Once (Dist.run cfg sched) :=
  (Dist.runFrom_inv_writers cfg hk sched _ (Dist.inv_init cfg) rfl).1.once

theorem dist_done_uploaded (cfg : Dist.Cfg) (sched : List Nat) (t : Nat)
    (hdel : (Dist.run cfg sched).deleted = false) (hd : (Dist.run cfg sched).pc t = .done) :
    (Dist.run cfg sched).creates = 1 ∧
      (match cfg.kind t with
       | .write p => Call.upload p 1 ∈ (Dist.run cfg sched).calls
       | .fin => Call.complete 1 ∈ (Dist.run cfg sched).calls) := by
  have hI : Dist.Inv cfg (Dist.run cfg sched) := Dist.runFrom_inv cfg sched _ (Dist.inv_init cfg) hdel
  have := hI.pcs t
  rw [hd] at this
  exact this

/-- **dist_progress**: a complete schedule over `T` ends with every thread of `T` returned or ended in its injected
storage error - as long as no `finalise` has deleted the shared variable. -/
theorem dist_progress (cfg : Dist.Cfg) (T sched : List Nat)
    (hdel : (Dist.run cfg sched).deleted = false)
    (hs : ∀ t ∈ sched, t ∈ T) (hmax : ∀ t ∈ T, Dist.enabled (Dist.run cfg sched) t = false) :
    ∀ t ∈ T, (Dist.run cfg sched).pc t = .done ∨ (Dist.run cfg sched).pc t = .faulted := by
  have hI : Dist.Inv cfg (Dist.run cfg sched) := Dist.runFrom_inv cfg sched _ (Dist.inv_init cfg) hdel
  refine Dist.all_done_of_stuck cfg _ hI T ?_ hmax
  intro t hne
  by_cases ht : t ∈ sched
  · exact hs t ht
  · exact absurd (Dist.runFrom_pc_unscheduled cfg sched t ht Dist.init) hne

theorem dist_bounded (cfg : Dist.Cfg) (T : List Nat) (hnd : T.Nodup) (sched : List Nat)
    (hs : ∀ t ∈ sched, t ∈ T) :
    Sched.effective (Dist.step cfg) Dist.enabled Dist.init sched ≤ 18 * T.length := by
  have h := Sched.effective_bound (step := Dist.step cfg) (enabled := Dist.enabled)
    (rem := fun s t => Dist.remaining (s.pc t))
    (Dist.step_of_not_enabled cfg)
    (fun s t t' h => congrArg Dist.remaining ((Dist.step_frame cfg s t).1 t' h))
    (Dist.step_decreases cfg) T sched Dist.init hs
  have h0 := Sched.total_const (fun (s : Dist.State) t => Dist.remaining (s.pc t)) Dist.init 18
    (fun _ => rfl) T
  omega

/-- **Transient storage errors.**  `local_once` / `dist_once` quantify over every `Cfg`,
hence over every assignment of injected failures (`faultCreate`, `faultCall`: a thread's
create / upload_part / complete call raises once, nothing happens on the service): still at
most one upload is initiated, every call carries its id, no thread fails for another reason.
A thread whose own call failed only faults; a retry (another thread of the same kind) then
finds the state the protocol needs - in particular a finalise whose `complete` call failed
has NOT deleted the shared variable, so the retry completes the one upload: -/
theorem dist_finalise_retry_example :
    let cfg : Dist.Cfg := { kind := fun t => if t = 0 then .write 1 else .fin, worker := fun t => t,
                            faultCall := fun t => t = 1 }
    let s := Dist.run cfg (List.replicate 16 0 ++ List.replicate 12 1 ++ List.replicate 12 2)
    s.pc 0 = .done ∧ s.pc 1 = .faulted ∧ s.pc 2 = .done ∧ s.creates = 1 ∧
      s.calls = [.complete 1, .upload 1 1, .create 1] := by decide +kernel

/-- **dist_once_named**: the workers are independent interpreter processes that find the
Variable and the Lock on the scheduler by the names each of them computes.  If all workers
compute the same two names - i.e. `_build_name` is a pure function of the writer's value,
identical in every interpreter - the run is, seen through those names, a run of `Dist`, and
`dist_once` holds for it. -/
theorem dist_once_named (cfg : DistN.Cfg) (L V : Nat) (hL : ∀ w, cfg.lockName w = L)
    (hV : ∀ w, cfg.varName w = V) (sched : List Nat) (hd : (DistN.run cfg sched).deleted = false) :
    Dist.Once (DistN.proj L V (DistN.run cfg sched)) := by
  have h : DistN.proj L V (DistN.run cfg sched) = Dist.run (DistN.toDist cfg) sched :=
    DistN.proj_runFrom cfg L V hL hV sched DistN.init
  rw [h]
  exact dist_once _ sched (by rw [← h]; exact hd)

/-- … and the hypothesis is needed: when two worker processes disagree on the names (e.g. a
name derived from a per-process salted `hash()`), sequential first writes already initiate
two uploads. -/
theorem dist_names_cex :
    (DistN.run { kind := fun t => .write (t + 1), worker := fun t => t, varName := fun w => w,
                 lockName := fun w => w } (List.replicate 16 0 ++ List.replicate 16 1)).creates = 2 := by
  decide +kernel

/-- thread 0 finalises on worker 0; thread 1 writes part 1 on worker 1 -/
def Dist.lateCfg : Dist.Cfg := { kind := fun t => if t = 0 then .fin else .write 1, worker := fun t => t }

/-- Why `dist_once` stops at the deletion: a first write that starts after a finalise has
completed and deleted the variable initiates a second upload.  (Not reachable through
`mpu_write`: the finalise task consumes the results of all writes.) -/
theorem dist_after_delete_cex :
    (Dist.run Dist.lateCfg (List.replicate 18 0 ++ List.replicate 18 1)).creates = 2 := by decide +kernel

/-- **once_after_cancel**: whatever happened to the object before (uploads completed, aborted,
still active, a stale id left in `uploadId`), `cancel("all")` leaves it not started with no
active upload on the service, and the next first write initiates exactly one new upload under
which all parts of that attempt go; nothing fails. -/
theorem once_after_cancel (s : Seq.State) (n : Nat) :
    (Seq.step s .cancelAll).1.uploadId = 0 ∧ (Seq.step s .cancelAll).1.active = [] ∧
    (Seq.run (Seq.step s .cancelAll).1 (List.replicate (n + 1) .write)).1.creates = s.creates + 1 ∧
    (Seq.run (Seq.step s .cancelAll).1 (List.replicate (n + 1) .write)).1.uploadId = s.creates + 1 ∧
    (∃ p rest, (Seq.run (Seq.step s .cancelAll).1 (List.replicate (n + 1) .write)).2.1 =
        .create (s.creates + 1) :: .upload p (s.creates + 1) :: rest ∧
        ∀ c ∈ rest, ∃ q, c = Seq.SCall.upload q (s.creates + 1)) ∧
    (∀ b ∈ (Seq.run (Seq.step s .cancelAll).1 (List.replicate (n + 1) .write)).2.2, b = true) :=
  ⟨rfl, rfl, Seq.writes_unstarted (Seq.step s .cancelAll).1 rfl n⟩

/-- `cancel()` of the current, still active upload also resets the object (and aborts it). -/
theorem cancel_current_resets (s : Seq.State) (h : s.active.contains s.uploadId = true) (h0 : s.uploadId ≠ 0) :
    (Seq.step s .cancelCur).1.uploadId = 0 ∧ (Seq.step s .cancelCur).2.2 = true ∧
      s.uploadId ∈ (Seq.step s .cancelCur).1.aborted := by
  have hm : s.uploadId ∈ s.active := by simpa using h
  simp [Seq.step, hm, h0]

/-- What `cancel` cannot repair by naming a dead id (behaviour of the code as it is):
after a finalise the object keeps the completed id; `cancel()` then fails with
NoSuchUpload and the next write goes to the dead id. `cancel("all")` is the way out. -/
theorem cancel_current_after_finalise_cex :
    (Seq.run {} [.write, .fin, .cancelCur, .write]).2.2 = [true, true, false, false] := by decide +kernel

/-- **sink_finalise_concat**: for distinct listed parts that were all written, the repaired
`finalise` leaves in the destination the concatenation of the parts in the order given
(whatever `keep_parts`, whatever else is in the directory, empty parts included); the only
possible error is the final `rmdir` when unlisted part files remain. -/
theorem sink_finalise_concat (s : Sink) (ps : List Nat) (keep : Bool) (f : Nat → Bytes)
    (hne : ps ≠ []) (hnd : ps.Nodup) (hw : ∀ p ∈ ps, s.lookup p = some (f p)) :
    (Sink.finalise true s ps keep).1.dst = some (ps.flatMap f) ∧
      ((Sink.finalise true s ps keep).2 = none ∨
        ((Sink.finalise true s ps keep).2 = some .osError ∧ keep = false ∧
          ∃ q ∈ s.parts, q.1 ∉ ps)) := by
  cases ps with
  | nil => exact absurd rfl hne
  | cons first rest =>
    rw [Sink.finalise_ok s first rest keep f hnd hw]
    cases keep
    · rw [if_neg Bool.false_ne_true]
      split
      · exact ⟨rfl, .inl rfl⟩
      · rename_i h
        obtain ⟨x, hx⟩ := List.exists_mem_of_ne_nil _ (fun e => h (List.isEmpty_iff.2 e))
        have hx' := List.mem_filter.1 hx
        exact ⟨rfl, .inr ⟨rfl, rfl, x, hx'.1, by simpa using hx'.2⟩⟩
    · exact ⟨rfl, .inl rfl⟩

/-- … and removes its temporary parts: if every file of the parts directory is listed and
`keep_parts` is false, finalise succeeds and the parts directory is gone. -/
theorem sink_finalise_cleanup (s : Sink) (ps : List Nat) (f : Nat → Bytes)
    (hne : ps ≠ []) (hnd : ps.Nodup) (hw : ∀ p ∈ ps, s.lookup p = some (f p))
    (hall : ∀ q ∈ s.parts, q.1 ∈ ps) :
    (Sink.finalise true s ps false).2 = none ∧ (Sink.finalise true s ps false).1.dirExists = false ∧
      (Sink.finalise true s ps false).1.parts = [] := by
  rw [Sink.finalise_all_listed s ps f hne hnd hw hall]
  exact ⟨rfl, rfl, rfl⟩

/-- With `keep_parts=True` finalise succeeds and every non-first part file is still there
(the first one is always renamed into the destination). -/
theorem sink_finalise_keep (s : Sink) (first : Nat) (rest : List Nat) (f : Nat → Bytes)
    (hnd : (first :: rest).Nodup) (hw : ∀ p ∈ first :: rest, s.lookup p = some (f p)) :
    (Sink.finalise true s (first :: rest) true).2 = none ∧
      (Sink.finalise true s (first :: rest) true).1.dirExists = s.dirExists ∧
      ∀ p ∈ rest, (Sink.finalise true s (first :: rest) true).1.lookup p = some (f p) := by
  rw [Sink.finalise_ok s first rest true f hnd hw]
  refine ⟨rfl, rfl, fun p hp => ?_⟩
  have hpf : p ≠ first := fun e => (List.nodup_cons.1 hnd).1 (e ▸ hp)
  show (s.unlink first).lookup p = _
  rw [Sink.lookup_unlink, if_neg hpf]
  exact hw p (List.mem_cons_of_mem _ hp)

/-- `finalise([])` is rejected (`assert len(parts) > 0`) without touching anything. -/
theorem sink_finalise_empty_list (fixed : Bool) (s : Sink) (keep : Bool) :
    Sink.finalise fixed s [] keep = (s, some .assertion) := rfl

/-- **sink_finalise_cex** (F17): the code as found raises `ValueError` on an empty non-first
part and leaves the destination half written (`"abc"` instead of `"abczz"`). -/
theorem sink_finalise_cex :
    let s := [(1, [97, 98, 99]), (2, []), (3, [122, 122])].foldl Sink.write {}
    (Sink.finalise false s [1, 2, 3] false).2 = some .valueError ∧
      (Sink.finalise false s [1, 2, 3] false).1.dst = some [97, 98, 99] ∧
      (Sink.finalise true s [1, 2, 3] false).1.dst = some [97, 98, 99, 122, 122] := by decide +kernel

/-- The hidden parts directory is `root/.{name}.parts`: two sinks share it exactly when they have
the same root (destination directory, or `parts_base`) and the same full destination name. -/
theorem parts_dir_shared_iff (c1 c2 : SinkCfg) :
    c1.pkey = c2.pkey ↔ c1.root = c2.root ∧ c1.name = c2.name := by
  simp [SinkCfg.pkey, Prod.ext_iff]

/-- Without `parts_base` the parts-directory function is injective on destinations: different
destination files (differing in directory, suffix, case, by a prefix, …) have different parts
directories. -/
theorem parts_dir_injective_on_destinations (c1 c2 : SinkCfg) (h1 : c1.base = none) (h2 : c2.base = none) :
    c1.pkey = c2.pkey ↔ c1.dkey = c2.dkey := by
  simp [SinkCfg.pkey, SinkCfg.dkey, SinkCfg.root, h1, h2]

/-- With private `parts_base` directories the same holds even for equal destination names. -/
theorem parts_dir_distinct_of_distinct_base (c1 c2 : SinkCfg) (b1 b2 : String) (h1 : c1.base = some b1)
    (h2 : c2.base = some b2) (hb : b1 ≠ b2) : c1.pkey ≠ c2.pkey := by
  simp [SinkCfg.pkey, SinkCfg.root, h1, h2, hb]

/-- **sinks_never_interfere**: any number of sinks alive at once, with pairwise different parts
directories and destinations, under ANY interleaving of their part writes and finalises: what each
sink sees at the end is exactly what it would see had it run its own operations alone. -/
theorem sinks_never_interfere (cfgs : List SinkCfg)
    (hdist : ∀ (i j : Nat) (ci cj : SinkCfg), cfgs[i]? = some ci → cfgs[j]? = some cj → i ≠ j →
      ci.pkey ≠ cj.pkey ∧ ci.dkey ≠ cj.dkey)
    (i : Nat) (c : SinkCfg) (hc : cfgs[i]? = some c) (ops : List (Nat × SinkOp)) (fs : FS) :
    (FS.run cfgs fs ops).1.view c = Sink.runOps (fs.view c) (ownOps i ops) := by
  induction ops generalizing fs with
  | nil => rfl
  | cons o ops ih =>
    obtain ⟨j, op⟩ := o
    simp only [FS.run]
    by_cases hji : j = i
    · subst hji
      simp only [hc, ownOps, List.filter_cons, beq_self_eq_true, if_true, List.map_cons, Sink.runOps,
        List.foldl_cons]
      rw [ih]
      rw [FS.apply_eq]
      simp only [ownOps, Sink.runOps]
      rw [FS.view_store_self _ _ _ (Sink.apply_wf _ (FS.view_wf fs c) op)]
    · have hne : (j == i) = false := by simpa using hji
      simp only [ownOps, List.filter_cons, hne, Bool.false_eq_true, if_false]
      cases hj : cfgs[j]? with
      | none => simp only []; exact ih fs
      | some cj =>
        simp only []
        rw [ih]
        have hk := hdist i j c cj hc hj (fun (e : i = j) => hji e.symm)
        rw [FS.apply_eq, FS.view_store_other _ _ _ _ hk.1 hk.2]
        rfl

theorem runOps_writes_finalise (s : Sink) (ws : List (Nat × Bytes)) (ps : List Nat) (keep : Bool) :
    Sink.runOps s (ws.map SinkOp.write ++ [SinkOp.finalise ps keep]) =
      (Sink.finalise true (ws.foldl Sink.write s) ps keep).1 := by
  simp only [Sink.runOps, List.foldl_append, List.foldl_map, List.foldl_cons, List.foldl_nil]
  rfl

/-- The single-sink contract on the shared file system: a sink that starts with nothing of its
own there, writes parts `ws` (distinct part numbers) and finalises them in that order ends with
its destination equal to the concatenation of its own data and its parts directory removed -
whatever the other live sinks did in between. -/
theorem sink_contract_among_others (cfgs : List SinkCfg)
    (hdist : ∀ (i j : Nat) (ci cj : SinkCfg), cfgs[i]? = some ci → cfgs[j]? = some cj → i ≠ j →
      ci.pkey ≠ cj.pkey ∧ ci.dkey ≠ cj.dkey)
    (i : Nat) (c : SinkCfg) (hc : cfgs[i]? = some c) (ops : List (Nat × SinkOp)) (fs : FS)
    (hfresh : fs.view c = {}) (ws : List (Nat × Bytes)) (hne : ws ≠ []) (hnd : (ws.map (·.1)).Nodup)
    (hown : ownOps i ops = ws.map SinkOp.write ++ [SinkOp.finalise (ws.map (·.1)) false]) :
    ((FS.run cfgs fs ops).1.view c).dst = some (ws.flatMap (·.2)) ∧
      ((FS.run cfgs fs ops).1.view c).dirExists = false ∧ ((FS.run cfgs fs ops).1.view c).parts = [] := by
  rw [sinks_never_interfere cfgs hdist i c hc ops fs, hown, hfresh, runOps_writes_finalise,
    Sink.foldl_write_finalise {} rfl ws hne hnd]
  exact ⟨rfl, rfl, rfl⟩

/-- **common_parts_base_cex** (known finding K24): the hypothesis is needed and the code as it is violates the contract
for two destinations with the same name in different directories that are given a COMMON
`parts_base` (replayed on the real code: `d/x.tif` ends up with the other sink's bytes, the second
finalise raises FileNotFoundError). -/
theorem common_parts_base_cex :
    let a : SinkCfg := { dir := "d", name := "x.tif", base := some "pb" }
    let b : SinkCfg := { dir := "e", name := "x.tif", base := some "pb" }
    let r := FS.run [a, b] {} [(0, .write (1, [65, 65, 65, 65])), (1, .write (1, [98, 98])),
                               (0, .finalise [1] false), (1, .finalise [1] false)]
    a.dkey ≠ b.dkey ∧ a.pkey = b.pkey ∧ (r.1.view a).dst = some [98, 98] ∧ (r.1.view b).dst = none ∧
      r.2 = [none, none, none, some .fileNotFound] := by decide +kernel

/-- non-vacuity of `sinks_never_interfere`: `dem.tif` and `dem.msk` in one directory -/
example :
    let a : SinkCfg := { dir := "d", name := "dem.tif" }
    let b : SinkCfg := { dir := "d", name := "dem.msk" }
    a.pkey ≠ b.pkey ∧ a.dkey ≠ b.dkey ∧
      ((FS.run [a, b] {} [(0, .write (1, [1])), (1, .write (1, [2])), (0, .finalise [1] false),
                         (1, .finalise [1] false)]).1.view a).dst = some [1] := by decide +kernel

/-- the writer's dask token - from which `_build_name` derives the names of the shared Variable
and Lock - does not depend on the (mutable) upload id, whereas the upload object's token does -/
theorem writer_token_ignores_upload_id (b k u u' : String) : writerToken b k u = writerToken b k u' := rfl

theorem mpu_token_tracks_upload_id (b k u u' : String) (h : mpuToken b k u = mpuToken b k u') : u = u' := by
  simpa [mpuToken] using h

theorem sink_token_spec (c : SinkCfg) : sinkToken c = [c.dir ++ "/" ++ c.name, c.partsDirPath] := rfl

theorem parse_url_not_s3 (url : String) (h : url.startsWith "s3://" = false) : s3ParseUrl url = ("", "") := by
  simp [s3ParseUrl, h]

-- (`s3_parse_url(mpu.url) = (bucket, key)` is checked by the correspondence on generated addresses;
-- core `String.splitOn` does not reduce in the kernel, so no `decide` example is given.)

/-- the model's accessor table is complete (the harness compares it with the protocol) -/
theorem accessors_complete (a : Acc) : a ∈ Acc.all := by cases a <;> simp [Acc.all]

/-- **limits_as_configured**: every accessor of the (repaired) file sink returns its own
keyword, or its documented default when the keyword is absent. -/
theorem limits_as_configured (kw : LimitKw) (a : Acc) :
    sinkLimit true kw a = match kw.get a with | some v => v | none => sinkDefault a := by
  cases a <;> simp [sinkLimit, LimitKw.get, sinkDefault, dictGet] <;> split <;> simp_all

/-- … with each maximum above the corresponding minimum whenever the configuration
(keywords completed by the defaults) is; in particular without keywords. -/
theorem limits_max_above_min (kw : LimitKw)
    (h1 : dictGet kw.minWriteSz (sinkDefault .minWriteSz) < dictGet kw.maxWriteSz (sinkDefault .maxWriteSz))
    (h2 : dictGet kw.minPart (sinkDefault .minPart) < dictGet kw.maxPart (sinkDefault .maxPart)) :
    sinkLimit true kw .minWriteSz < sinkLimit true kw .maxWriteSz ∧
      sinkLimit true kw .minPart < sinkLimit true kw .maxPart := by
  simpa [sinkLimit, sinkDefault] using And.intro h1 h2

theorem limits_defaults_ordered :
    sinkLimit true {} .minWriteSz < sinkLimit true {} .maxWriteSz ∧
      sinkLimit true {} .minPart < sinkLimit true {} .maxPart ∧
      s3Limit .minWriteSz < s3Limit .maxWriteSz ∧ s3Limit .minPart < s3Limit .maxPart := by decide +kernel

/-- Zero and any other integer are values, not "missing": every keyword that is given is reported as
given (a truthiness test such as `kw.get(k) or default` would lose `min_part=0`). -/
theorem limits_given_value_reported (kw : LimitKw) (a : Acc) (v : Int) (h : kw.get a = some v) :
    sinkLimit true kw a = v := by
  rw [limits_as_configured, h]

example : sinkLimit true { minPart := some 0, minWriteSz := some 0 } .minPart = 0 ∧
    sinkLimit true { minPart := some 0, minWriteSz := some 0 } .minWriteSz = 0 ∧
    sinkLimit true { minPart := some 0 } .maxPart = 10000 := by decide +kernel

/-- each accessor depends on its own keyword only -/
theorem limits_independent (kw kw' : LimitKw) (a : Acc) (h : kw.get a = kw'.get a) :
    sinkLimit true kw a = sinkLimit true kw' a := by
  rw [limits_as_configured, limits_as_configured, h]

/-- the S3 writers (`MultiPartUpload`, `DelayedS3Writer`) report the limits of the S3 multipart API -/
theorem s3_limits_spec : s3Limit .minWriteSz = 5 * 1024 * 1024 ∧ s3Limit .maxWriteSz = 5 * 1024 * 1024 * 1024 ∧
    s3Limit .minPart = 1 ∧ s3Limit .maxPart = 10000 := by decide +kernel

/-- **limits_cex** (F4): as found, `MPUFileSink(dst, min_write_sz=100, max_write_sz=1000,
min_part=2, max_part=50)` reports `max_write_sz = 100` and `max_part = 2`. -/
theorem limits_cex :
    let kw : LimitKw := { minWriteSz := some 100, maxWriteSz := some 1000, minPart := some 2, maxPart := some 50 }
    sinkLimit false kw .maxWriteSz = 100 ∧ sinkLimit false kw .maxPart = 2 ∧
      ¬ (sinkLimit false kw .minWriteSz < sinkLimit false kw .maxWriteSz) := by decide +kernel

end OdcGeo.C18
