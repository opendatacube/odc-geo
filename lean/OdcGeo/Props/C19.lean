/-
C19 — value objects: equality, hashing, pickling, dask tokens and caches are coherent.

First the CRS caches over a heap with id reuse (`Model/C19.lean`; the invariants are proved in
`Lemmas/C19a.lean` and `Lemmas/C19c.lean`) and `CRS.__eq__` / hash / token / pickle, then the
value types field by field, their constructors, the links to the C04 / C14 models, and `crs == other`
for a non-CRS `other`.  `_cex` theorems are witnesses of what does not hold; where a `_partial` theorem
of the same stem exists, it names the hypothesis that excludes the witness.
-/
import OdcGeo.Model.C19
import OdcGeo.Lemmas.C19a
import OdcGeo.Lemmas.C19b
import OdcGeo.Lemmas.C19c
import OdcGeo.Model.C04
import OdcGeo.Lemmas.C04
import OdcGeo.Model.C14
import Mathlib.Algebra.Order.Field.Rat

namespace OdcGeo.C19

/-- **Transformer cache.**  After *any* history of real operations — constructions through
every kind of spec, copies, pickles, `del`, garbage collections, earlier transformer
requests, and every possible reuse of freed object ids by the allocator (the `pick`
arguments) — the transformer returned for `(a, b)` converts from the system of `a` to the
system of `b`. -/
theorem transformer_correct (W : World) (h : List Op) (hreal : ∀ op ∈ h, op.real = true)
    (a b : Nat) (xy : Bool) (ca cb : CrsObj)
    (ha : assoc a (run W h).1.vars = some ca) (hb : assoc b (run W h).1.vars = some cb) :
    (step W (run W h).1 (.transformer a b xy)).2 = .tr ca.info.sys cb.info.sys :=
  transformer_correct_state W _ (inv_run W h hreal) a b xy ca cb ha hb

/-- The invariant that carries it: the pyproj object of every live `CRS` instance is alive
with the attributes the instance believes it has, and is pinned by an entry of
`_crs_cache` (so its id can never be handed out again while a transformer key mentions it). -/
theorem cache_pins_every_crs (W : World) (h : List Op) (hreal : ∀ op ∈ h, op.real = true)
    (v : Nat) (c : CrsObj) (hv : assoc v (run W h).1.vars = some c) :
    (c.obj, c.info) ∈ (run W h).1.heap ∧ ∃ ke ∈ (run W h).1.cache, ke.2.obj = c.obj :=
  have hi := inv_run W h hreal
  ⟨hi.live (hi.good hv), (hi.good hv).imp fun _ hke => ⟨hke.1, hke.2.1⟩⟩

/-- Two live instances holding the same object id describe the same pyproj object. -/
theorem same_id_same_object (W : World) (h : List Op) (hreal : ∀ op ∈ h, op.real = true)
    (a b : Nat) (ca cb : CrsObj)
    (ha : assoc a (run W h).1.vars = some ca) (hb : assoc b (run W h).1.vars = some cb)
    (hab : ca.obj = cb.obj) : ca.info = cb.info := by
  have h1 := (cache_pins_every_crs W h hreal a ca ha).1
  rw [hab] at h1
  exact (inv_run W h hreal).heapOk.functional h1 (cache_pins_every_crs W h hreal b cb hb).1

/-- **Transformer cache invariant.**  After any history of real operations every entry of
the transformer cache is keyed on two pyproj objects that are still alive and holds a
transformer between exactly the systems of those two objects — this is what stays true
while the entries of `_crs_cache` are immortal (the C19-8 / C12-7 / C13-7 class of changes
breaks it; witness with eviction: `transformer_stale_if_evicting_cex`). -/
theorem tcache_sound (W : World) (h : List Op) (hreal : ∀ op ∈ h, op.real = true) :
    ∀ k r, (k, r) ∈ (run W h).1.tcache →
      ∃ p q, (k.1, p) ∈ (run W h).1.heap ∧ (k.2.1, q) ∈ (run W h).1.heap ∧
        p.sys = r.1 ∧ q.sys = r.2 := by
  have hi := inv_run W h hreal
  intro k r hkr
  obtain ⟨p, q, h1, h2, h3⟩ := hi.refOk.tcachePinned _ hkr
  exact ⟨p, q, hi.live h1, hi.live h2, h3⟩

/-- **The system is never wrong**, whatever the history did to the cache — id reuse, and the
key collisions of finding F16/K5 included: if `CRS(spec)` succeeds, its pyproj object does
not denote a system other than the one pyproj assigns to the spec.  Only hypothesis: pyproj
gives one system to all spellings of one key (`EPSG:n` in any letter case, the integer). -/
theorem construct_sys_sound (W : World) (hW : KeySysCoherent W) (h : List Op)
    (hreal : ∀ op ∈ h, op.real = true) (spec : Spec) (pick : Nat) (c : CrsObj) :
    (construct W (run W h).1 spec pick).2 = .ok c →
      ∀ y, specSys W (run W h).1 spec = some y → y = c.info.sys :=
  construct_sys_of_moves (coh_sound hW) ⟨h, hreal, rfl⟩ spec pick c

/-- With acceptance coherence too (pyproj accepts all spellings of a key or none: without it
a spelling pyproj rejects can *succeed* by hitting an entry stored under another spelling,
since `_make_crs` does not ask pyproj on a hit) the result denotes exactly the system of
the spec. -/
theorem construct_sys_correct (W : World) (hW : KeySysCoherent W) (hA : KeyAcceptCoherent W)
    (h : List Op) (hreal : ∀ op ∈ h, op.real = true) (spec : Spec) (pick : Nat) (c : CrsObj) :
    (construct W (run W h).1 spec pick).2 = .ok c →
      specSys W (run W h).1 spec = some c.info.sys :=
  construct_sys_of_moves (coh_exact hW hA) ⟨h, hreal, rfl⟩ spec pick c

/-- why `construct_sys_correct` needs the acceptance hypothesis: in a world where pyproj
accepted `EPSG:1` but not `epsg:1`, `CRS("epsg:1")` succeeds after `CRS("EPSG:1")` (cache
hit, pyproj is not asked) although the spec denotes nothing.  (On the spellings the harness
tabulates real pyproj is coherent here; accept/reject of each is checked against the model on
every run.) -/
theorem construct_accept_needed_cex :
    ∃ (W : World) (h : List Op) (spec : Spec) (c : CrsObj), KeySysCoherent W ∧
      (∀ op ∈ h, op.real = true) ∧ (construct W (run W h).1 spec 0).2 = .ok c ∧
      specSys W (run W h).1 spec = none :=
  ⟨cxW, [.mk 0 (.str "EPSG:1") 0], .str "epsg:1", ⟨0, cxP, "x", some 0⟩, cxW_coherent,
    fun _ hop => List.mem_singleton.1 hop ▸ rfl, cx_hit, by simp [specSys, cxW]⟩

/-- pyproj objects, dicts and `CRS` instances need no acceptance hypothesis -/
theorem construct_sys_correct_nontext (W : World) (hW : KeySysCoherent W) (h : List Op)
    (hreal : ∀ op ∈ h, op.real = true) (spec : Spec) (hs : spec.textual = false) (pick : Nat)
    (c : CrsObj) :
    (construct W (run W h).1 spec pick).2 = .ok c →
      specSys W (run W h).1 spec = some c.info.sys := by
  intro hc
  obtain ⟨y, hy⟩ := specSys_some_of_ok W _ spec hs pick c hc
  rw [hy, construct_sys_sound W hW h hreal spec pick c hc y hy]

/-- `v = CRS(spec)`: when it prints `s`, `v` holds an instance with `str = s` whose pyproj
object denotes the system of the spec. -/
theorem mk_sys_correct (W : World) (hW : KeySysCoherent W) (hA : KeyAcceptCoherent W)
    (h : List Op) (hreal : ∀ op ∈ h, op.real = true) (v : Nat) (spec : Spec) (pick : Nat)
    (s : String) :
    (step W (run W h).1 (.mk v spec pick)).2 = .str s →
      ∃ c, assoc v (step W (run W h).1 (.mk v spec pick)).1.vars = some c ∧ c.str = s ∧
        specSys W (run W h).1 spec = some c.info.sys :=
  mk_sys (coh_exact hW hA) ⟨h, hreal, rfl⟩ v spec pick s

/-- The same with the hypothesis on pyproj only: the stored instance never denotes a system
other than the one pyproj assigns to the spec. -/
theorem mk_sys_sound_aux (W : World) (hW : KeySysCoherent W)
    (h : List Op) (hreal : ∀ op ∈ h, op.real = true) (v : Nat) (spec : Spec) (pick : Nat)
    (s : String) :
    (step W (run W h).1 (.mk v spec pick)).2 = .str s →
      ∃ c, assoc v (step W (run W h).1 (.mk v spec pick)).1.vars = some c ∧ c.str = s ∧
        ∀ y, specSys W (run W h).1 spec = some y → y = c.info.sys :=
  mk_sys (coh_sound hW) ⟨h, hreal, rfl⟩ v spec pick s

/-- A three-system world used by the concrete witnesses below. -/
def demoWorld : World where
  fromText := fun t =>
    if t = "A" then some ⟨0, "A", "WA", none⟩
    else if t = "B" then some ⟨1, "B", "WB", none⟩
    else if t = "C" then some ⟨2, "C", "WC", none⟩
    else if t = "WA" then some ⟨0, "WA", "WA", none⟩
    else none
  fromEpsg := fun _ => none

/-- What breaks when `_crs_cache` stops pinning (bounded / LRU cache, the artificial `evict`
step): the entry for `A` is evicted, `A` is dropped and collected, its id is reused for `C`,
and the transformer cached under `(id A, id B)` is returned for `(C, B)`: it converts
system 0 → 1 where 2 → 1 was asked for. -/
theorem transformer_stale_if_evicting_cex :
    (run demoWorld [.mk 0 (.str "A") 0, .mk 1 (.str "B") 0, .transformer 0 1 true, .evict 0,
        .drop 0, .gc, .mk 2 (.str "C") 0, .transformer 2 1 true]).2.getLast? = some (.tr 0 1) := by
  decide +kernel

/-- **History freedom of the string form (hence hash and token), partial.**
Full statement: `str(CRS(spec))` is the same after every history.  It is *false* for the
code as it is (finding F16, witness below) because a pyproj object used as a cache key
collides with its own WKT text.  Proved part: for `int` / `str` specs, after every history
that puts no pyproj object into the cache (no `CRS(pyproj_obj)`, no `CRS(dict)`), the
result `(str, _epsg)` — or the error — is the one of a fresh interpreter, provided pyproj
is coherent on spellings that share a key (`EPSG:n` in any letter case, `n`).  The
hypothesis `ht` (`Op.textOnly`: no pyproj-object key ever enters `_crs_cache`) excludes
exactly the known finding (F16 / K5, witness `crs_str_history_dependent_cex`, harness key
`crs-str-history-dependent-pyproj-wkt-collision`).  What survives the collision is proved
at full strength in `construct_sys_correct`: the *system* of the result is never wrong. -/
theorem crs_str_history_free_partial (W : World) (hW : TextCoherent W) (h : List Op)
    (ht : ∀ op ∈ h, op.textOnly = true) (spec : Spec) (hs : spec.textual = true) (pick : Nat) :
    ((construct W (run W h).1 spec pick).2.map (fun c => (c.str, c.epsg))) = freshOut W spec :=
  (construct_text W hW _ spec pick (textInv_run W hW h ht) hs).2

/-- F16 witness: the same spec `CRS(wkt_text)` prints as the WKT in a fresh interpreter but
as `A` when `CRS(pyproj_object)` was constructed first (and the other way round). -/
theorem crs_str_history_dependent_cex :
    (run demoWorld [.mk 0 (.str "WA") 0]).2.getLast? = some (.str "WA") ∧
    (run demoWorld [.pnewText 0 "A" 0, .mk 1 (.pyproj 0) 0, .mk 0 (.str "WA") 0]).2.getLast?
      = some (.str "A") ∧
    (run demoWorld [.pnewText 0 "A" 0, .mk 1 (.pyproj 0) 0]).2.getLast? = some (.str "A") ∧
    (run demoWorld [.mk 0 (.str "WA") 0, .pnewText 0 "A" 0, .mk 1 (.pyproj 0) 0]).2.getLast?
      = some (.str "WA") := by
  decide +kernel

theorem crs_eq_refl (a : CrsObj) : crsEq a a = true := by simp [crsEq]

theorem crs_eq_symm (a b : CrsObj) : crsEq a b = crsEq b a := by
  unfold crsEq
  rw [BEq.comm (a := b.obj), BEq.comm (a := b.epsg), BEq.comm (a := b.str),
    BEq.comm (a := b.info.sys), Bool.and_comm (truthy b.epsg)]

/-- Transitivity under EPSG coherence (full statement without the hypothesis is false: K4). -/
theorem crs_eq_trans {D : CrsObj → Prop} (hD : Coherent D) (a b c : CrsObj)
    (ha : D a) (hb : D b) (hc : D c) (hab : crsEq a b = true) (hbc : crsEq b c = true) :
    crsEq a c = true := by
  rw [crs_eq_iff_sys hD _ _ ha hb] at hab
  rw [crs_eq_iff_sys hD _ _ hb hc] at hbc
  rw [crs_eq_iff_sys hD _ _ ha hc]
  exact hab.trans hbc

/-- K4 witness (replayed on the real code with `+proj=longlat +datum=WGS84 +no_defs`):
`y == x` by string, `x == c` because `x.epsg` was read and reports 4326, yet `y != c`;
and before `x.epsg` was read `x != c`. -/
theorem crs_eq_trans_cex :
    let p4 : PInfo := ⟨12, "P4", "W12", some 4326⟩
    let p0 : PInfo := ⟨0, "EPSG:4326", "W0", some 4326⟩
    let x : CrsObj := ⟨1, p4, "P4", some 4326⟩
    let x0 : CrsObj := ⟨1, p4, "P4", some 0⟩
    let y : CrsObj := ⟨2, p4, "P4", some 0⟩
    let c : CrsObj := ⟨0, p0, "EPSG:4326", some 4326⟩
    crsEq y x = true ∧ crsEq x c = true ∧ crsEq y c = false ∧ crsEq x0 c = false := by
  decide +kernel

/-- `E` stands for a spelling of EPSG:4326 whose code is also found lazily. -/
def lossyWorld : World where
  fromText := fun t =>
    if t = "P4" then some ⟨12, "P4", "W12", some 4326⟩
    else if t = "E" then some ⟨0, "E", "W0", some 4326⟩ else none
  fromEpsg := fun _ => none

/-- The same through the state machine: reading `.epsg` flips `x == c`. -/
theorem crs_eq_depends_on_lazy_epsg_cex :
    (run lossyWorld [.mk 0 (.str "P4") 0, .mk 1 (.str "E") 0, .eq 0 1, .epsg 0, .epsg 1, .eq 0 1]).2
      = [.str "P4", .str "E", .bool false, .epsg (some 4326), .epsg (some 4326), .bool true] := by
  decide +kernel

/-- **Lossless equivalent specifications give equal objects**: two instances that denote the
same system compare equal, whatever spec each was built from (int, string in any letter
case, WKT2, PROJJSON, pyproj object, another CRS, pickled copy) and whatever the cache
held — provided the EPSG codes they know (if both know one) agree, which for the same
system is the determinism of `to_epsg`. -/
theorem crs_specs_equal (a b : CrsObj) (hsys : a.info.sys = b.info.sys)
    (hepsg : truthy a.epsg = true → truthy b.epsg = true → a.epsg = b.epsg) :
    crsEq a b = true := by
  refine (crsEq_iff a b).2 (.inr ?_)
  split
  · next h2 => exact hepsg h2.1 h2.2
  · exact .inr hsys

/-- **Code-less systems fall through to the text comparison.**  `_epsg` has three states —
`some 0` not looked up, `some n` a code, `none` looked up and there is none — and the
short-cut `if self._epsg and other._epsg` is about *truthiness*: when either side has no
code, looked up or not, the EPSG comparison is skipped and two distinct objects are equal
exactly when their strings are equal or pyproj says so.  In particular two different
code-less systems never become equal by reading `.epsg` on both (`none = none` is not an
agreement on a code). -/
theorem eq_codeless_falls_through_to_str (a b : CrsObj) (hobj : a.obj ≠ b.obj)
    (hc : a.epsg = none ∨ a.epsg = some 0 ∨ b.epsg = none ∨ b.epsg = some 0) :
    crsEq a b = (a.str == b.str || a.info.sys == b.info.sys) := by
  have ht : (truthy a.epsg && truthy b.epsg) = false := by
    rcases hc with h | h | h | h <;> simp [h, truthy]
  simp only [crsEq, beq_eq_false_iff_ne.2 hobj, ht, Bool.false_eq_true, if_false, Bool.if_true_left,
    Bool.decide_eq_true]

/-- the two looked-up-none instances of different systems and different strings stay unequal
(witness for the state the seeded change C19-12 gets wrong) -/
theorem eq_codeless_none_none_example :
    let a : CrsObj := ⟨0, ⟨20, "P1", "W1", none⟩, "P1", none⟩
    let b : CrsObj := ⟨1, ⟨21, "P2", "W2", none⟩, "P2", none⟩
    crsEq a b = false := by
  decide +kernel

def codelessWorld : World where
  fromText := fun t =>
    if t = "P1" then some ⟨20, "P1", "W1", none⟩
    else if t = "P2" then some ⟨21, "P2", "W2", none⟩ else none
  fromEpsg := fun _ => none

/-- through the state machine: reading `.epsg` on both of two code-less systems changes
nothing about their equality -/
theorem eq_codeless_stable_under_epsg_reads :
    (run codelessWorld [.mk 0 (.str "P1") 0, .mk 1 (.str "P2") 0, .eq 0 1, .epsg 0, .eq 0 1, .epsg 1,
        .eq 0 1, .eq 1 0]).2
      = [.str "P1", .str "P2", .bool false, .epsg none, .bool false, .epsg none, .bool false, .bool false] := by
  decide +kernel

/-- Equal spellings hash equally (for every string hash `H`).  Partial: the full statement
`crsEq a b = true → crsHash H a = crsHash H b` is false (K1, witness `crs_eq_hash_cex`,
replayed by the harness under key `crs-eq-hash-differs`); the hypothesis `a.str = b.str`
excludes exactly K1's input class — the same system spelled differently. -/
theorem crs_eq_hash_partial (H : String → Int) (a b : CrsObj) (hs : a.str = b.str) :
    crsHash H a = crsHash H b := congrArg H hs

/-- K1 witness: `CRS("EPSG:4326") == CRS(wkt)` but the hashed strings differ, so any hash
that separates the two strings separates the two equal objects. -/
theorem crs_eq_hash_cex :
    let a : CrsObj := ⟨0, ⟨0, "EPSG:4326", "W0", some 4326⟩, "EPSG:4326", some 4326⟩
    let b : CrsObj := ⟨1, ⟨0, "W0", "W0", some 4326⟩, "W0", some 0⟩
    crsEq a b = true ∧ ∀ H : String → Int, H "EPSG:4326" ≠ H "W0" → crsHash H a ≠ crsHash H b :=
  ⟨by decide +kernel, fun _ h => h⟩

/-- Unequal CRSs never share a dask token (under coherence). -/
theorem crs_neq_token {D : CrsObj → Prop} (hD : Coherent D) (a b : CrsObj) (ha : D a) (hb : D b)
    (hne : crsEq a b = false) : crsToken a ≠ crsToken b :=
  ne_of_eq_false
    (fun ht => (crs_eq_iff_sys hD a b ha hb).2 (hD.str_sys a b ha hb (Prod.mk.inj ht).2)) hne

/-- A copy / pickled clone that kept the string form (`CRS(_str)`; that pyproj parses a
`_str` back to the same `_str` is checked by the correspondence, not proved) is equal to
the original and shares its hash and token. -/
theorem crs_pickle_eq {D : CrsObj → Prop} (hD : Coherent D) (H : String → Int) (c c' : CrsObj)
    (hc : D c) (hc' : D c') (hs : c'.str = c.str) :
    crsEq c c' = true ∧ crsToken c' = crsToken c ∧ crsHash H c' = crsHash H c :=
  ⟨(crs_eq_iff_sys hD c c' hc hc').2 (hD.str_sys c c' hc hc' hs.symm),
    congrArg (Prod.mk _) hs, congrArg H hs⟩

/-- `CRS(other_crs)` copies the three fields: identical in every respect. -/
theorem crs_copy_identical (W : World) (σ : State) (v pick : Nat) (c : CrsObj)
    (hv : assoc v σ.vars = some c) : (construct W σ (.crs v) pick).2 = .ok c := by
  simp only [construct, hv]

/-! ## Value types

Per type: `eq_equiv` (reflexive, symmetric, transitive), `eq_hash` where the type is
hashable, `neq_token` (unequal ⇒ different dask token), `clone` (copy / pickle round trip
keeps token and equality).  Types holding a CRS inherit the coherence hypothesis; numbers
are finite (`NaN` is outside the model). -/

theorem XYv.eq_iff (a b : XYv) : a.eq b = true ↔ a.x.val = b.x.val ∧ a.y.val = b.y.val := by
  simp [XYv.eq, PyNum.eq_iff]

/-- equality ignores the class (`XY(1,2) == Index2d(1,2) == Shape2d(1,2)`) and is an equivalence -/
theorem XYv.eq_equiv :
    (∀ a : XYv, a.eq a = true) ∧ (∀ a b : XYv, a.eq b = true → b.eq a = true) ∧
    (∀ a b c : XYv, a.eq b = true → b.eq c = true → a.eq c = true) :=
  equiv_of_key (fun a : XYv => (a.x.val, a.y.val)) fun a b => by rw [XYv.eq_iff, Prod.mk.injEq]

theorem XYv.eq_hash (a b : XYv) (ka kb : List HAtom) (h : a.eq b = true)
    (ha : a.hashKey = some ka) (hb : b.hashKey = some kb) : ka = kb := by
  rw [XYv.eq_iff] at h
  simp only [XYv.hashKey, Option.ite_none_left_eq_some, Option.some.injEq] at ha hb
  rw [← ha.2, ← hb.2, h.1, h.2]

theorem XYv.neq_token (a b : XYv) (h : a.eq b = false) : a.token ≠ b.token := by
  refine ne_of_eq_false (fun ht => ?_) h
  simp only [XYv.token, List.cons.injEq, Atom.num.injEq] at ht
  exact (XYv.eq_iff a b).2 ⟨congrArg PyNum.val ht.2.1, congrArg PyNum.val ht.2.2.1⟩

theorem XYv.clone_coherent (a : XYv) :
    a.eq a.clone = true ∧ a.clone.token = a.token ∧ a.clone.hashKey = a.hashKey :=
  ⟨XYv.eq_equiv.1 a, rfl, rfl⟩

theorem BBox.eq_iff {D : CrsObj → Prop} (hD : Coherent D) (a b : BBox)
    (ha : OptD D a.crs) (hb : OptD D b.crs) :
    a.eq b = true ↔ a.crs.map (·.info.sys) = b.crs.map (·.info.sys) ∧
      a.l.val = b.l.val ∧ a.b.val = b.b.val ∧ a.r.val = b.r.val ∧ a.t.val = b.t.val := by
  simp [BBox.eq, PyNum.eq_iff, optCrsEq_iff hD a.crs b.crs ha hb, and_assoc]

theorem BBox.eq_equiv {D : CrsObj → Prop} (hD : Coherent D) :
    (∀ a : BBox, a.eq a = true) ∧
    (∀ a b : BBox, OptD D a.crs → OptD D b.crs → a.eq b = true → b.eq a = true) ∧
    (∀ a b c : BBox, OptD D a.crs → OptD D b.crs → OptD D c.crs →
      a.eq b = true → b.eq c = true → a.eq c = true) := by
  refine ⟨fun a => by simp [BBox.eq, PyNum.eq, optCrsEq_refl], eqv_of_key (Dom := fun a : BBox => OptD D a.crs)
    (fun a => (a.crs.map (·.info.sys), a.l.val, a.b.val, a.r.val, a.t.val)) fun a b ha hb => ?_⟩
  rw [BBox.eq_iff hD a b ha hb]
  simp only [Prod.mk.injEq]

/-- Equal boxes hash equally **relative to** the hash coherence of their CRSs.  Partial: the
full statement is false only through K1 (witness `BBox.eq_hash_cex`); the hypothesis
`optCrsHash a.crs = optCrsHash b.crs` (same `_str`, or both `None`) excludes exactly that,
everything else that is hashed is covered. -/
theorem BBox.eq_hash_partial (a b : BBox) (h : a.eq b = true)
    (hH : optCrsHash a.crs = optCrsHash b.crs) : a.hashKey = b.hashKey := by
  simp only [BBox.eq, Bool.and_eq_true, PyNum.eq_iff] at h
  simp only [BBox.hashKey, hH, h.2.1.1.1, h.2.1.1.2, h.2.1.2, h.2.2]

theorem BBox.neq_token {D : CrsObj → Prop} (hD : Coherent D) (a b : BBox)
    (ha : OptD D a.crs) (hb : OptD D b.crs) (h : a.eq b = false) : a.token ≠ b.token := by
  refine ne_of_eq_false (fun ht => ?_) h
  simp only [BBox.token, List.cons.injEq, Atom.num.injEq] at ht
  have hc := optCrsEq_of_pkl hD a.crs b.crs ha hb ht.2.1
  simp [BBox.eq, PyNum.eq, hc, ht.2.2.1, ht.2.2.2.1, ht.2.2.2.2.1, ht.2.2.2.2.2.1]

/-- pickle round trip: the clone's CRS is `CRS(_str)` with the same string form -/
theorem BBox.clone_coherent {D : CrsObj → Prop} (hD : Coherent D) (a : BBox) (c' : Option CrsObj)
    (ha : OptD D a.crs) (hc : OptD D c') (hs : optCrsPkl c' = optCrsPkl a.crs) :
    a.eq (a.clone c') = true ∧ (a.clone c').token = a.token := by
  refine ⟨?_, by simp only [BBox.token, BBox.clone, hs]⟩
  simp [BBox.eq, BBox.clone, PyNum.eq, optCrsEq_of_pkl hD a.crs c' ha hc hs.symm]

theorem Geom.eq_iff {D : CrsObj → Prop} (hD : Coherent D) (a b : Geom)
    (ha : OptD D a.crs) (hb : OptD D b.crs) :
    a.eq b = true ↔ a.crs.map (·.info.sys) = b.crs.map (·.info.sys) ∧ a.gtype = b.gtype ∧
      a.layout = b.layout ∧ a.coords.map (·.val) = b.coords.map (·.val) := by
  simp [Geom.eq, numsEq_iff, optCrsEq_iff hD a.crs b.crs ha hb, and_assoc]

theorem Geom.eq_equiv {D : CrsObj → Prop} (hD : Coherent D) :
    (∀ a : Geom, a.eq a = true) ∧
    (∀ a b : Geom, OptD D a.crs → OptD D b.crs → a.eq b = true → b.eq a = true) ∧
    (∀ a b c : Geom, OptD D a.crs → OptD D b.crs → OptD D c.crs →
      a.eq b = true → b.eq c = true → a.eq c = true) := by
  refine ⟨fun a => by simp [Geom.eq, optCrsEq_refl, numsEq_iff], eqv_of_key (Dom := fun a : Geom => OptD D a.crs)
    (fun a => (a.crs.map (·.info.sys), a.gtype, a.layout, a.coords.map (·.val))) fun a b ha hb => ?_⟩
  rw [Geom.eq_iff hD a b ha hb]
  simp only [Prod.mk.injEq]

theorem Geom.neq_token {D : CrsObj → Prop} (hD : Coherent D) (a b : Geom)
    (ha : OptD D a.crs) (hb : OptD D b.crs) (h : a.eq b = false) : a.token ≠ b.token := by
  refine ne_of_eq_false (fun ht => ?_) h
  simp only [Geom.token, List.cons_append, List.nil_append, List.cons.injEq, Atom.txt.injEq,
    Atom.iarr.injEq] at ht
  have hc := optCrsEq_of_pkl hD a.crs b.crs ha hb ht.2.2.2.1
  have hco := map_num_inj _ _ ht.2.2.2.2
  simp [Geom.eq, hc, ht.2.1, ht.2.2.1, hco, numsEq_iff]

theorem Geom.clone_coherent {D : CrsObj → Prop} (hD : Coherent D) (a : Geom) (c' : Option CrsObj)
    (ha : OptD D a.crs) (hc : OptD D c') (hs : optCrsPkl c' = optCrsPkl a.crs) :
    a.eq (a.clone c') = true ∧ (a.clone c').token = a.token := by
  refine ⟨?_, by simp only [Geom.token, Geom.clone, hs]⟩
  simp [Geom.eq, Geom.clone, numsEq_iff, optCrsEq_of_pkl hD a.crs c' ha hc hs.symm]

theorem GBox.eq_iff {D : CrsObj → Prop} (hD : Coherent D) (a b : GBox)
    (ha : OptD D a.crs) (hb : OptD D b.crs) :
    a.eq b = true ↔ a.nx = b.nx ∧ a.ny = b.ny ∧ a.aff.map (·.val) = b.aff.map (·.val) ∧
      a.crs.map (·.info.sys) = b.crs.map (·.info.sys) := by
  simp [GBox.eq, numsEq_iff, optCrsEq_iff hD a.crs b.crs ha hb, and_assoc]

theorem GBox.eq_equiv {D : CrsObj → Prop} (hD : Coherent D) :
    (∀ a : GBox, a.eq a = true) ∧
    (∀ a b : GBox, OptD D a.crs → OptD D b.crs → a.eq b = true → b.eq a = true) ∧
    (∀ a b c : GBox, OptD D a.crs → OptD D b.crs → OptD D c.crs →
      a.eq b = true → b.eq c = true → a.eq c = true) := by
  refine ⟨fun a => by simp [GBox.eq, optCrsEq_refl, numsEq_iff], eqv_of_key (Dom := fun a : GBox => OptD D a.crs)
    (fun a => (a.nx, a.ny, a.aff.map (·.val), a.crs.map (·.info.sys))) fun a b ha hb => ?_⟩
  rw [GBox.eq_iff hD a b ha hb]
  simp only [Prod.mk.injEq]

/-- relative to CRS hash coherence, as for BoundingBox.  Partial only through K1 (witness
`GBox.eq_hash_cex`), excluded by the hypothesis `optCrsHash a.crs = optCrsHash b.crs`. -/
theorem GBox.eq_hash_partial (a b : GBox) (h : a.eq b = true)
    (hH : optCrsHash a.crs = optCrsHash b.crs) : a.hashKey = b.hashKey := by
  simp only [GBox.eq, Bool.and_eq_true, numsEq_iff, beq_iff_eq] at h
  simp only [GBox.hashKey, hH, h.1.1.1, h.1.1.2, map_hv_congr h.1.2]

theorem GBox.tokenTail_inj {D : CrsObj → Prop} (hD : Coherent D) (a b : GBox)
    (ha : OptD D a.crs) (hb : OptD D b.crs) (ht : a.tokenTail = b.tokenTail) : a.eq b = true := by
  simp only [GBox.tokenTail, List.cons_append, List.nil_append, List.cons.injEq, Atom.txt.injEq,
    Atom.int.injEq] at ht
  have hc := optCrsEq_of_str hD a.crs b.crs ha hb ht.1
  have hco := map_num_inj _ _ ht.2.2.2
  simp [GBox.eq, hc, ht.2.1, ht.2.2.1, hco, numsEq_iff]

theorem GBox.neq_token {D : CrsObj → Prop} (hD : Coherent D) (a b : GBox)
    (ha : OptD D a.crs) (hb : OptD D b.crs) (h : a.eq b = false) : a.token ≠ b.token :=
  ne_of_eq_false (fun ht => GBox.tokenTail_inj hD a b ha hb (List.cons.inj ht).2) h

theorem GBox.clone_coherent {D : CrsObj → Prop} (hD : Coherent D) (a : GBox) (c' : Option CrsObj)
    (ha : OptD D a.crs) (hc : OptD D c') (hs : optCrsStr c' = optCrsStr a.crs) :
    a.eq (a.clone c') = true ∧ (a.clone c').token = a.token ∧
      (optCrsHash c' = optCrsHash a.crs → (a.clone c').hashKey = a.hashKey) := by
  refine ⟨?_, by simp only [GBox.token, GBox.tokenTail, GBox.clone, hs], ?_⟩
  · simp [GBox.eq, GBox.clone, numsEq_iff, optCrsEq_of_str hD a.crs c' ha hc hs.symm]
  · intro hh; simp only [GBox.hashKey, GBox.clone, hh]

theorem GCPBox.eq_iff (a b : GCPBox) :
    a.eq b = true ↔ a.nx = b.nx ∧ a.ny = b.ny ∧ a.mapping.ident = b.mapping.ident ∧
      a.aff.map (·.val) = b.aff.map (·.val) := by
  simp [GCPBox.eq, numsEq_iff, and_assoc]

theorem GCPBox.eq_equiv :
    (∀ a : GCPBox, a.eq a = true) ∧ (∀ a b : GCPBox, a.eq b = true → b.eq a = true) ∧
    (∀ a b c : GCPBox, a.eq b = true → b.eq c = true → a.eq c = true) :=
  equiv_of_key (fun a : GCPBox => (a.nx, a.ny, a.mapping.ident, a.aff.map (·.val))) fun a b => by
    rw [GCPBox.eq_iff, Prod.mk.injEq, Prod.mk.injEq, Prod.mk.injEq]

/-- equal ⇒ same mapping *object* ⇒ same hash (an identity names one object) -/
theorem GCPBox.eq_hash (a b : GCPBox) (h : a.eq b = true)
    (hwf : a.mapping.ident = b.mapping.ident → a.mapping = b.mapping) : a.hashKey = b.hashKey := by
  rw [GCPBox.eq_iff] at h
  simp only [GCPBox.hashKey, hwf h.2.2.1, h.1, h.2.1, map_hv_congr h.2.2.2]

/-- K2 witness: the pickled clone gets a new mapping object, so it is **not** equal to the
original (`pickle_eq` fails) although it shares the dask token (`neq_token` fails too);
a shallow copy shares the mapping and is equal. -/
theorem GCPBox.pickle_eq_cex :
    let g : GCPBox := ⟨3, 4, [], ⟨0, none, [], []⟩⟩
    g.eq (g.clone 1 none) = false ∧ (g.clone 1 none).token = g.token ∧ g.eq g.copy = true := by
  decide +kernel

/-- what does hold for the clone: same token; equality exactly when the mapping identity
were kept -/
theorem GCPBox.clone_token (a : GCPBox) (fresh : Nat) (c' : Option CrsObj)
    (hs : optCrsStr c' = optCrsStr a.mapping.crs) :
    (a.clone fresh c').token = a.token ∧ (a.eq (a.clone fresh c') = true ↔ fresh = a.mapping.ident) := by
  refine ⟨by simp only [GCPBox.token, GCPBox.tokenTail, GCPBox.clone, hs], ?_⟩
  rw [GCPBox.eq_iff]
  simp [GCPBox.clone, eq_comm]

theorem GCPBox.tokenTail_inj (a b : GCPBox) (hm : a.mapping.ident = b.mapping.ident)
    (ht : a.tokenTail = b.tokenTail) : a.eq b = true := by
  simp only [GCPBox.tokenTail, List.cons_append, List.nil_append, List.cons.injEq, Atom.int.injEq] at ht
  exact (GCPBox.eq_iff a b).2
    ⟨ht.2.2.2.2.1, ht.2.2.2.1, hm, congrArg _ (map_num_inj _ _ ht.2.2.2.2.2)⟩

/-- `neq_token` restricted to what K2 leaves true.  Partial: the full statement is false
(witness `GCPBox.neq_token_cex`: content-identical but distinct mappings); the hypothesis
`a.mapping.ident = b.mapping.ident` — both boxes sit on the same mapping object — excludes
exactly that. -/
theorem GCPBox.neq_token_partial (a b : GCPBox) (hm : a.mapping.ident = b.mapping.ident)
    (h : a.eq b = false) : a.token ≠ b.token :=
  ne_of_eq_false (fun ht => GCPBox.tokenTail_inj a b hm (List.cons.inj ht).2) h

theorem Tiles.eq_iff (a b : Tiles) :
    a.eq b = true ↔ a.baseX = b.baseX ∧ a.baseY = b.baseY ∧ a.tileX = b.tileX ∧ a.tileY = b.tileY := by
  simp [Tiles.eq, and_assoc]

theorem Tiles.eq_equiv :
    (∀ a : Tiles, a.eq a = true) ∧ (∀ a b : Tiles, a.eq b = true → b.eq a = true) ∧
    (∀ a b c : Tiles, a.eq b = true → b.eq c = true → a.eq c = true) :=
  equiv_of_key (fun a : Tiles => (a.baseX, a.baseY, a.tileX, a.tileY)) fun a b => by
    rw [Tiles.eq_iff, Prod.mk.injEq, Prod.mk.injEq, Prod.mk.injEq]

theorem Tiles.tokenTail_inj (a b : Tiles) (ht : a.tokenTail = b.tokenTail) : a.eq b = true := by
  simp only [Tiles.tokenTail, List.cons.injEq, Atom.int.injEq] at ht
  rw [Tiles.eq_iff]; exact ⟨ht.2.2.2.2.2.1, ht.2.2.2.2.1, ht.2.2.2.1, ht.2.2.1⟩

/-- the token includes the base shape (`Tiles.tokenLegacy` is the token without it: F6) -/
theorem Tiles.neq_token (a b : Tiles) (h : a.eq b = false) : a.token ≠ b.token :=
  ne_of_eq_false (fun ht => Tiles.tokenTail_inj a b (List.cons.inj ht).2) h

/-- F6 witness for the token without the base shape: `Tiles((10,10),(5,5)) != Tiles((9,9),(5,5))`,
same `tokenLegacy` -/
theorem Tiles.neq_token_legacy_cex :
    ∃ a b : Tiles, Tiles.mk' 10 10 5 5 = .ok a ∧ Tiles.mk' 9 9 5 5 = .ok b ∧
      a.eq b = false ∧ a.tokenLegacy = b.tokenLegacy := by
  have h1 : ceilDiv 10 5 = 2 := by decide +kernel
  have h2 : ceilDiv 9 5 = 2 := by decide +kernel
  exact ⟨⟨10, 10, 5, 5, 2, 2⟩, ⟨9, 9, 5, 5, 2, 2⟩, by simp [Tiles.mk', h1], by simp [Tiles.mk', h2],
    by decide +kernel, by decide +kernel⟩

theorem Tiles.clone_coherent (a : Tiles) : a.eq a.clone = true ∧ a.clone.token = a.token :=
  ⟨Tiles.eq_equiv.1 a, rfl⟩

theorem VTiles.eq_iff (a b : VTiles) : a.eq b = true ↔ a = b := by
  cases a; cases b; simp [VTiles.eq]

theorem VTiles.eq_equiv :
    (∀ a : VTiles, a.eq a = true) ∧ (∀ a b : VTiles, a.eq b = true → b.eq a = true) ∧
    (∀ a b c : VTiles, a.eq b = true → b.eq c = true → a.eq c = true) :=
  equiv_of_key id VTiles.eq_iff

theorem VTiles.tokenTail_inj (a b : VTiles) (ht : a.tokenTail = b.tokenTail) : a.eq b = true := by
  simp only [VTiles.tokenTail, List.cons.injEq, Atom.iarr.injEq] at ht
  rw [VTiles.eq_iff]; cases a; cases b; simp_all

theorem VTiles.neq_token (a b : VTiles) (h : a.eq b = false) : a.token ≠ b.token :=
  ne_of_eq_false (fun ht => VTiles.tokenTail_inj a b (List.cons.inj ht).2) h

theorem VTiles.clone_coherent (a : VTiles) : a.eq a.clone = true ∧ a.clone.token = a.token :=
  ⟨VTiles.eq_equiv.1 a, rfl⟩

theorem Bin1D.eq_iff (a b : Bin1D) :
    a.eq b = true ↔ a.sz.val = b.sz.val ∧ a.origin.val = b.origin.val ∧ a.dir = b.dir := by
  simp [Bin1D.eq, PyNum.eq_iff, and_assoc]

theorem Bin1D.eq_equiv :
    (∀ a : Bin1D, a.eq a = true) ∧ (∀ a b : Bin1D, a.eq b = true → b.eq a = true) ∧
    (∀ a b c : Bin1D, a.eq b = true → b.eq c = true → a.eq c = true) :=
  equiv_of_key (fun a : Bin1D => (a.sz.val, a.origin.val, a.dir)) fun a b => by
    rw [Bin1D.eq_iff, Prod.mk.injEq, Prod.mk.injEq]

theorem Bin1D.tokenTail_inj (a b : Bin1D) (ht : a.tokenTail = b.tokenTail) : a.eq b = true := by
  simp only [Bin1D.tokenTail, List.cons.injEq, Atom.num.injEq, Atom.int.injEq] at ht
  rw [Bin1D.eq_iff]; exact ⟨by rw [ht.1], by rw [ht.2.1], ht.2.2.1⟩

theorem Bin1D.neq_token (a b : Bin1D) (h : a.eq b = false) : a.token ≠ b.token :=
  ne_of_eq_false (fun ht => Bin1D.tokenTail_inj a b (List.cons.inj ht).2) h

theorem Bin1D.clone_coherent (a : Bin1D) : a.eq a.clone = true ∧ a.clone.token = a.token :=
  ⟨Bin1D.eq_equiv.1 a, rfl⟩

theorem GridSpec.eq_iff {D : CrsObj → Prop} (hD : Coherent D) (a b : GridSpec) (ha : D a.crs) (hb : D b.crs) :
    a.eq b = true ↔ a.tx = b.tx ∧ a.ty = b.ty ∧ a.ybin.eq b.ybin = true ∧ a.xbin.eq b.xbin = true ∧
      a.crs.info.sys = b.crs.info.sys := by
  simp [GridSpec.eq, crs_eq_iff_sys hD a.crs b.crs ha hb, and_assoc]

theorem GridSpec.eq_equiv {D : CrsObj → Prop} (hD : Coherent D) :
    (∀ a : GridSpec, a.eq a = true) ∧
    (∀ a b : GridSpec, D a.crs → D b.crs → a.eq b = true → b.eq a = true) ∧
    (∀ a b c : GridSpec, D a.crs → D b.crs → D c.crs → a.eq b = true → b.eq c = true → a.eq c = true) := by
  refine ⟨fun a => by simp [GridSpec.eq, Bin1D.eq_equiv.1, crs_eq_refl], eqv_of_key (Dom := fun a : GridSpec => D a.crs)
    (fun a => (a.tx, a.ty, (a.ybin.sz.val, a.ybin.origin.val, a.ybin.dir),
      (a.xbin.sz.val, a.xbin.origin.val, a.xbin.dir), a.crs.info.sys)) fun a b ha hb => ?_⟩
  rw [GridSpec.eq_iff hD a b ha hb, Bin1D.eq_iff, Bin1D.eq_iff]
  simp only [Prod.mk.injEq]

theorem GridSpec.token_inj (a b : GridSpec) (ht : a.token = b.token) :
    a.crs.str = b.crs.str ∧ a.clone b.crs = b := by
  rcases a with ⟨ca, ty, tx, rx, ry, ox, oy, ⟨ys, yo, yd⟩, ⟨xs, xo, xd⟩⟩
  rcases b with ⟨cb, ty', tx', rx', ry', ox', oy', ⟨ys', yo', yd'⟩, ⟨xs', xo', xd'⟩⟩
  simp only [GridSpec.token, Bin1D.tokenTail, List.cons_append, List.nil_append, List.cons.injEq,
    Atom.txt.injEq, Atom.int.injEq, Atom.num.injEq, and_true, true_and] at ht
  obtain ⟨hs, rfl, rfl, rfl, rfl, rfl, rfl, rfl, rfl, rfl, rfl, rfl, rfl⟩ := ht
  exact ⟨hs, rfl⟩

theorem GridSpec.clone_coherent {D : CrsObj → Prop} (hD : Coherent D) (a : GridSpec) (c' : CrsObj)
    (ha : D a.crs) (hc : D c') (hs : c'.str = a.crs.str) :
    a.eq (a.clone c') = true ∧ (a.clone c').token = a.token := by
  refine ⟨?_, by simp only [GridSpec.token, GridSpec.clone, hs]⟩
  simp [GridSpec.eq, GridSpec.clone, Bin1D.eq_equiv.1,
    (crs_eq_iff_sys hD a.crs c' ha hc).2 (hD.str_sys _ _ ha hc hs.symm)]

theorem GridSpec.neq_token {D : CrsObj → Prop} (hD : Coherent D) (a b : GridSpec) (ha : D a.crs) (hb : D b.crs)
    (h : a.eq b = false) : a.token ≠ b.token := by
  refine ne_of_eq_false (fun ht => ?_) h
  obtain ⟨hs, hb'⟩ := GridSpec.token_inj a b ht
  exact hb' ▸ (GridSpec.clone_coherent hD a b.crs ha hb hs.symm).1

/-- `GridSpec.__eq__` does not look at the resolution itself: two grids with the same tile
*size* but flipped sign of the y resolution are equal (and have different tokens, which
the property allows). -/
theorem GridSpec.eq_ignores_resolution_sign (c : CrsObj) :
    let z : PyNum := ⟨.float, 0, false⟩
    let bin : Bin1D := ⟨⟨.float, 80, false⟩, z, 1⟩
    let a : GridSpec := ⟨c, 10, 10, ⟨.float, 8, false⟩, ⟨.float, -8, false⟩, z, z, bin, bin⟩
    let b : GridSpec := ⟨c, 10, 10, ⟨.float, 8, false⟩, ⟨.float, 8, false⟩, z, z, bin, bin⟩
    a.eq b = true ∧ a.token ≠ b.token := by
  refine ⟨?_, ?_⟩
  · simp [GridSpec.eq, Bin1D.eq, PyNum.eq, crs_eq_refl]
  · simp [GridSpec.token]
    decide +kernel

/-- where the CRS of the base box (if it is a linear GeoBox) has to be coherent -/
def AnyBox.OkD (D : CrsObj → Prop) : AnyBox → Prop
  | .lin g => OptD D g.crs
  | .gcp _ => True

theorem AnyBox.eq_equiv {D : CrsObj → Prop} (hD : Coherent D) :
    (∀ a : AnyBox, a.eq a = true) ∧
    (∀ a b : AnyBox, a.OkD D → b.OkD D → a.eq b = true → b.eq a = true) ∧
    (∀ a b c : AnyBox, a.OkD D → b.OkD D → c.OkD D → a.eq b = true → b.eq c = true → a.eq c = true) := by
  refine ⟨fun a => ?_, eqv_of_key (Dom := AnyBox.OkD D)
    (κ := (Int × Int × List Rat × Option Nat) ⊕ (Int × Int × Nat × List Rat))
    (fun a => match a with
      | .lin g => Sum.inl (g.nx, g.ny, g.aff.map (·.val), g.crs.map (·.info.sys))
      | .gcp g => Sum.inr (g.nx, g.ny, g.mapping.ident, g.aff.map (·.val))) fun a b ha hb => ?_⟩
  · cases a with
    | lin g => exact (GBox.eq_equiv hD).1 g
    | gcp g => exact GCPBox.eq_equiv.1 g
  · rcases a with x | x <;> rcases b with y | y
    · simp only [AnyBox.eq, GBox.eq_iff hD x y ha hb, Sum.inl.injEq, Prod.mk.injEq]
    · simp only [AnyBox.eq, reduceCtorEq, Bool.false_eq_true]
    · simp only [AnyBox.eq, reduceCtorEq, Bool.false_eq_true]
    · simp only [AnyBox.eq, GCPBox.eq_iff, Sum.inr.injEq, Prod.mk.injEq]

theorem AnyTiles.eq_equiv :
    (∀ a : AnyTiles, a.eq a = true) ∧ (∀ a b : AnyTiles, a.eq b = true → b.eq a = true) ∧
    (∀ a b c : AnyTiles, a.eq b = true → b.eq c = true → a.eq c = true) := by
  refine equiv_of_key (fun a => match a with
      | .reg t => Sum.inl (t.baseX, t.baseY, t.tileX, t.tileY)
      | .var t => Sum.inr t) fun a b => ?_
  cases a <;> cases b <;>
    simp only [AnyTiles.eq, Tiles.eq_iff, VTiles.eq_iff, Sum.inl.injEq, Sum.inr.injEq, Prod.mk.injEq,
      reduceCtorEq, Bool.false_eq_true]

/-- GeoboxTiles equality is an equivalence (regular and variable tilings, linear and GCP
bases mixed) -/
theorem GBTiles.eq_equiv {D : CrsObj → Prop} (hD : Coherent D) :
    (∀ a : GBTiles, a.eq a = true) ∧
    (∀ a b : GBTiles, a.gbox.OkD D → b.gbox.OkD D → a.eq b = true → b.eq a = true) ∧
    (∀ a b c : GBTiles, a.gbox.OkD D → b.gbox.OkD D → c.gbox.OkD D →
      a.eq b = true → b.eq c = true → a.eq c = true) := by
  refine ⟨?_, ?_, ?_⟩
  · intro a; simp [GBTiles.eq, (AnyBox.eq_equiv hD).1, AnyTiles.eq_equiv.1]
  · intro a b ha hb h
    simp only [GBTiles.eq, Bool.and_eq_true] at h ⊢
    exact ⟨AnyTiles.eq_equiv.2.1 _ _ h.1, (AnyBox.eq_equiv hD).2.1 _ _ ha hb h.2⟩
  · intro a b c ha hb hc h g
    simp only [GBTiles.eq, Bool.and_eq_true] at h g ⊢
    exact ⟨AnyTiles.eq_equiv.2.2 _ _ _ h.1 g.1, (AnyBox.eq_equiv hD).2.2 _ _ _ ha hb hc h.2 g.2⟩

/-- K1 through a BoundingBox: `BoundingBox(0,0,1,1,"EPSG:4326") == BoundingBox(0,0,1,1,wkt)`,
different hash inputs.  The hypothesis `optCrsHash a.crs = optCrsHash b.crs` of
`BBox.eq_hash_partial` is exactly what fails. -/
theorem BBox.eq_hash_cex :
    let ca : CrsObj := ⟨0, ⟨0, "EPSG:4326", "W0", some 4326⟩, "EPSG:4326", some 4326⟩
    let cb : CrsObj := ⟨1, ⟨0, "W0", "W0", some 4326⟩, "W0", some 0⟩
    let z : PyNum := ⟨.int, 0, false⟩
    let o : PyNum := ⟨.int, 1, false⟩
    (BBox.mk (some ca) z z o o).eq (BBox.mk (some cb) z z o o) = true ∧
      (BBox.mk (some ca) z z o o).hashKey ≠ (BBox.mk (some cb) z z o o).hashKey := by
  decide +kernel

/-- K1 through a GeoBox -/
theorem GBox.eq_hash_cex :
    let ca : CrsObj := ⟨0, ⟨0, "EPSG:4326", "W0", some 4326⟩, "EPSG:4326", some 4326⟩
    let cb : CrsObj := ⟨1, ⟨0, "W0", "W0", some 4326⟩, "W0", some 0⟩
    (GBox.mk (some ca) 3 4 []).eq (GBox.mk (some cb) 3 4 []) = true ∧
      (GBox.mk (some ca) 3 4 []).hashKey ≠ (GBox.mk (some cb) 3 4 []).hashKey := by
  decide +kernel

/-- K2 as a token collision: two GCPGeoBoxes over content-identical but distinct mappings
are unequal and share their token.  `GCPBox.neq_token_partial` excludes exactly this by
`a.mapping.ident = b.mapping.ident`. -/
theorem GCPBox.neq_token_cex :
    let a : GCPBox := ⟨3, 4, [], ⟨0, none, [], []⟩⟩
    let b : GCPBox := ⟨3, 4, [], ⟨1, none, [], []⟩⟩
    a.eq b = false ∧ a.token = b.token := by
  decide +kernel

/-- K2 inherited by GeoboxTiles over GCP bases -/
theorem GBTiles.neq_token_gcp_cex :
    let a : GBTiles := ⟨.gcp ⟨3, 4, [], ⟨0, none, [], []⟩⟩, .var ⟨[0, 3], [0, 4]⟩⟩
    let b : GBTiles := ⟨.gcp ⟨3, 4, [], ⟨1, none, [], []⟩⟩, .var ⟨[0, 3], [0, 4]⟩⟩
    a.eq b = false ∧ a.token = b.token := by
  decide +kernel

theorem AnyTiles.tokenTail_inj (ta tb : AnyTiles) (h : ta.tokenTail = tb.tokenTail) : ta.eq tb = true := by
  cases ta with
  | reg x =>
    cases tb with
    | reg y => exact Tiles.tokenTail_inj x y h
    | var y => simp [AnyTiles.tokenTail, Tiles.tokenTail, VTiles.tokenTail] at h
  | var x =>
    cases tb with
    | reg y => simp [AnyTiles.tokenTail, Tiles.tokenTail, VTiles.tokenTail] at h
    | var y => exact VTiles.tokenTail_inj x y h

theorem AnyTiles.tokenTail_len (t : AnyTiles) : t.tokenTail.length = 6 ∨ t.tokenTail.length = 2 := by
  cases t
  · exact Or.inl rfl
  · exact Or.inr rfl

def AnyBox.affLen : AnyBox → Nat
  | .lin g => g.aff.length
  | .gcp g => g.aff.length

theorem AnyBox.tokenTail_len (g : AnyBox) : g.tokenTail.length = g.affLen + 3 ∨
    g.tokenTail.length = g.affLen + 5 := by
  cases g
  · exact Or.inl (by simp [AnyBox.tokenTail, GBox.tokenTail, AnyBox.affLen])
  · exact Or.inr (by simp [AnyBox.tokenTail, GCPBox.tokenTail, AnyBox.affLen])

/-- A GeoBox-based and a GCP-based token tail differ in their second atom (an `int` against a
point array), so only like bases can collide; two GCP bases do unless they share the mapping. -/
theorem AnyBox.tokenTail_inj {D : CrsObj → Prop} (hD : Coherent D) (a b : AnyBox)
    (ha : a.OkD D) (hb : b.OkD D)
    (hK2 : ∀ x y, a = .gcp x → b = .gcp y → x.mapping.ident = y.mapping.ident)
    (ht : a.tokenTail = b.tokenTail) : a.eq b = true := by
  cases a with
  | lin x =>
    cases b with
    | lin y => exact GBox.tokenTail_inj hD x y ha hb ht
    | gcp y =>
      simp only [AnyBox.tokenTail, GBox.tokenTail, GCPBox.tokenTail, List.cons_append, List.cons.injEq,
        reduceCtorEq, false_and, and_false] at ht
  | gcp x =>
    cases b with
    | lin y =>
      simp only [AnyBox.tokenTail, GBox.tokenTail, GCPBox.tokenTail, List.cons_append, List.cons.injEq,
        reduceCtorEq, false_and, and_false] at ht
    | gcp y => exact GCPBox.tokenTail_inj x y (hK2 x y rfl rfl) ht

theorem GBTiles.neq_token_of_affLen {D : CrsObj → Prop} (hD : Coherent D) (a b : GBTiles)
    (ha : a.gbox.OkD D) (hb : b.gbox.OkD D) (hl : a.gbox.affLen = b.gbox.affLen)
    (hK2 : ∀ x y, a.gbox = .gcp x → b.gbox = .gcp y → x.mapping.ident = y.mapping.ident)
    (h : a.eq b = false) : a.token ≠ b.token := by
  refine ne_of_eq_false (fun ht => ?_) h
  have ht := (List.cons.inj ht).2
  -- `affLen + 3` or `+ 5` atoms for the base, 6 or 2 for the tiling: the total tells where the base ends
  have hlen : a.gbox.tokenTail.length = b.gbox.tokenTail.length := by
    have hl' := congrArg List.length ht
    rw [List.length_append, List.length_append] at hl'
    have h1 := a.gbox.tokenTail_len
    have h2 := b.gbox.tokenTail_len
    have h3 := a.tiles.tokenTail_len
    have h4 := b.tiles.tokenTail_len
    omega
  obtain ⟨hg, htl⟩ := List.append_inj ht hlen
  rw [GBTiles.eq, AnyTiles.tokenTail_inj _ _ htl, AnyBox.tokenTail_inj hD _ _ ha hb hK2 hg]
  rfl

/-- **Unequal GeoboxTiles never share a token** — over linear and GCP bases, regular and
variable tilings, in any mix (a GeoBox-based and a GCP-based one can never collide, nor a
regular and a variable tiling).  Partial: the full statement is false by K2
(`GBTiles.neq_token_gcp_cex`); the hypothesis `hK2` excludes exactly that — when *both*
bases are GCPGeoBoxes they sit on the same mapping object.  (`affLen = 6`: an
`affine.Affine` has six coefficients.) -/
theorem GBTiles.neq_token_partial {D : CrsObj → Prop} (hD : Coherent D) (a b : GBTiles)
    (ha : a.gbox.OkD D) (hb : b.gbox.OkD D) (hla : a.gbox.affLen = 6) (hlb : b.gbox.affLen = 6)
    (hK2 : ∀ x y, a.gbox = .gcp x → b.gbox = .gcp y → x.mapping.ident = y.mapping.ident)
    (h : a.eq b = false) : a.token ≠ b.token :=
  GBTiles.neq_token_of_affLen hD a b ha hb (hla.trans hlb.symm) hK2 h

/-- `Resolution(x)` is `Resolution(x, -x)`; both fields are floats with the values `x`, `-x` -/
theorem Resolution.default_y (x : PyNum) :
    Resolution.mk' x none = Resolution.mk' x (some x.neg) ∧
    (Resolution.mk' x none).x.kind = .float ∧ (Resolution.mk' x none).y.kind = .float ∧
    (Resolution.mk' x none).x.val = x.val ∧ (Resolution.mk' x none).y.val = -x.val :=
  ⟨rfl, rfl, rfl, rfl, PyNum.neg_val x⟩

/-- `res_(x)` and `Resolution(x)` are equal values with equal hashes … -/
theorem resNorm_eq_ctor (x : PyNum) :
    (resNorm (.num x)).eq (Resolution.mk' x none) = true ∧
    (resNorm (.num x)).hashKey = (Resolution.mk' x none).hashKey := by
  have hy : (resNorm (.num x)).y.val = (Resolution.mk' x none).y.val :=
    (PyNum.neg_val x.toFloat).trans (PyNum.neg_val x).symm
  exact ⟨(XYv.eq_iff _ _).2 ⟨rfl, hy⟩, congrArg (fun v => some [hv x.val, hv v]) hy⟩

/-- … but not interchangeable for tokens: `res_(0)` is `(0.0, -0.0)`, `Resolution(0)` is
`(0.0, 0.0)` (the property allows equal values with different tokens; replayed on the code
by the constructor correspondence). -/
theorem resNorm_zero_token_cex :
    (resNorm (.num ⟨.int, 0, false⟩)).token ≠ (Resolution.mk' ⟨.int, 0, false⟩ none).token ∧
    (resNorm (.num ⟨.int, 0, false⟩)).y.negz = true := by
  decide +kernel

theorem resNorm_idem (i : ResIn) : resNorm (.res (resNorm i)) = resNorm i := rfl

theorem shapeNorm_idem (i : ShapeIn) (v : XYv) (_h : shapeNorm i = .ok v) :
    shapeNorm (.shape2d v) = .ok v := rfl

/-- what `shape_` builds from a sequence or an `XY` is a `Shape2d` of ints -/
theorem shapeNorm_ints (i : ShapeIn) (v : XYv) (hi : ∀ w, i ≠ .shape2d w) (h : shapeNorm i = .ok v) :
    v.cls = .shape2d ∧ v.x.isInt = true ∧ v.y.isInt = true := by
  cases i with
  | shape2d w => exact absurd rfl (hi w)
  | xy w => cases h; exact ⟨rfl, rfl, rfl⟩
  | seq xs =>
    rcases xs with _ | ⟨a, _ | ⟨b, _ | _⟩⟩ <;> cases h
    exact ⟨rfl, rfl, rfl⟩

/-- `int()` of a number with an integer value, whichever way it truncates -/
theorem toInt_int (n : PyNum) (k : Int) (h : n.val = k) : n.toInt = ⟨.int, k, false⟩ := by
  simp only [PyNum.toInt, h, ← Int.cast_neg, Rat.floor_intCast, neg_neg, ite_self]

/-- `shape_((ny, nx)) == (ny, nx)` for integers: the sequence form is `(y, x)` ordered on
the way in (`shape_`) and on the way out (`Shape2d.__eq__(tuple)`) -/
theorem shapeNorm_seq_eq_tuple (ny nx : PyNum) (ky kx : Int) (hy : ny.val = ky) (hx : nx.val = kx)
    (v : XYv) (h : shapeNorm (.seq [ny, nx]) = .ok v) : Shape2d.eqTuple v [ny, nx] = .ok true := by
  simp only [shapeNorm, Except.ok.injEq] at h
  subst h
  rw [toInt_int ny ky hy, toInt_int nx kx hx]
  simp [Shape2d.eqTuple, PyNum.isInt, PyNum.eq, hy, hx]

/-- `GeoboxTiles(box, (ty, tx))`: the regular tiling is over the box's own shape -/
theorem GBTiles.ctor_regular_base (g : AnyBox) (ty tx : Int) (t : GBTiles)
    (h : GBTiles.mk' g (.shape ty tx) = .ok t) :
    t.gbox = g ∧ ∃ r, t.tiles = .reg r ∧ r.baseY = g.ny ∧ r.baseX = g.nx ∧ r.tileY = ty ∧ r.tileX = tx := by
  by_cases hz : ty = 0 ∨ tx = 0
  · simp [GBTiles.mk', roiTiles, Tiles.mk', hz, Except.map] at h
  · simp only [GBTiles.mk', roiTiles, Tiles.mk', hz, if_false, Except.map, AnyTiles.base, if_true,
      Except.ok.injEq] at h
    subst h
    exact ⟨rfl, _, rfl, rfl, rfl, rfl, rfl⟩

/-- `GeoboxTiles(box, (chunks_y, chunks_x))`: the tiling itself is made of the chunks alone
(`roi_tiles` does not look at the shape); the constructor then REFUSES chunks whose sums are not
the box's shape (`GBTiles.ctor_chunks_add_up`, by which two boxes accepting the same chunks have
the same shape) -/
theorem GBTiles.ctor_chunks_ignore_shape (g g' : AnyBox) (y x : List Int) (t t' : GBTiles)
    (h : GBTiles.mk' g (.chunks y x) = .ok t) (h' : GBTiles.mk' g' (.chunks y x) = .ok t') :
    t.tiles = t'.tiles := by
  simp only [GBTiles.mk', roiTiles] at h h'
  split at h <;> split at h' <;> simp only [Except.ok.injEq, reduceCtorEq] at h h'
  subst h; subst h'; rfl

/-- chunks are accepted exactly when they add up (in int32 arithmetic, as the code computes
them) to the box's shape -/
theorem GBTiles.ctor_chunks_add_up (g : AnyBox) (y x : List Int) :
    (∃ t, GBTiles.mk' g (.chunks y x) = .ok t) ↔
      (lastOff (VTiles.mk' y x).offY = g.ny ∧ lastOff (VTiles.mk' y x).offX = g.nx) := by
  simp only [GBTiles.mk', roiTiles, AnyTiles.base, Prod.mk.injEq]
  split
  · next h => exact iff_of_true ⟨_, rfl⟩ h
  · next h => exact iff_of_false (fun ⟨_, e⟩ => nomatch e) h

/-- F6 does not reach GeoboxTiles built through the constructor: even with the Tiles token
without the base shape (`tokenLegacy`), unequal regular GeoboxTiles over linear GeoBoxes have
different tokens, because the base shape is the box's shape and the box is in the token. -/
theorem GBTiles.ctor_neq_token_legacy {D : CrsObj → Prop} (hD : Coherent D) (ga gb : GBox)
    (ty tx ty' tx' : Int) (a b : GBTiles)
    (ha : OptD D ga.crs) (hb : OptD D gb.crs) (hl : ga.aff.length = gb.aff.length)
    (hca : GBTiles.mk' (.lin ga) (.shape ty tx) = .ok a) (hcb : GBTiles.mk' (.lin gb) (.shape ty' tx') = .ok b)
    (h : a.eq b = false) : a.tokenLegacy ≠ b.tokenLegacy := by
  obtain ⟨hga, ra, hta, h1, h2, -, -⟩ := GBTiles.ctor_regular_base _ _ _ _ hca
  obtain ⟨hgb, rb, htb, g1, g2, -, -⟩ := GBTiles.ctor_regular_base _ _ _ _ hcb
  refine ne_of_eq_false (fun ht => ?_) h
  simp only [GBTiles.tokenLegacy, hga, hgb, hta, htb, AnyBox.tokenTail, AnyTiles.tokenTailLegacy,
    Tiles.tokenLegacy, List.drop, List.cons.injEq, true_and] at ht
  -- the affines are equally long, so the base's part of the token ends at the same place
  obtain ⟨e1, e2⟩ := List.append_inj ht (by simp [GBox.tokenTail, hl])
  have hg := GBox.tokenTail_inj hD ga gb ha hb e1
  have hshape := (GBox.eq_iff hD ga gb ha hb).1 hg
  simp only [List.cons.injEq, Atom.int.injEq] at e2
  rw [GBTiles.eq, hga, hgb, hta, htb, AnyBox.eq, AnyTiles.eq, hg, Bool.and_true, Tiles.eq_iff,
    h1, h2, g1, g2]
  exact ⟨hshape.1, hshape.2.1, e2.2.2.2.1, e2.2.2.1⟩

/-! ## Composition with C04 (tilings as partitions) and C14 (GridSpec tiles)

A dask token stands for "the same computation".  Linking the value model with the models of
what the values *do*: tilings with the same token select the same pixels for every index,
grid specs with the same token produce the same tile GeoBoxes. -/

/-- `Tiles.__init__`'s tile count is the count of the C04 partition model (the two models
write `ceil(N/n)` differently: rational ceiling here, integer arithmetic there). -/
theorem ceilDiv_eq_C04 (N n : Int) (hn : 0 < n) : ceilDiv N n = C04.ceilDiv N n :=
  (ceil_intCast_div_eq_iff hn).mpr (C04.count_is_ceil N n hn)

theorem Tiles.count_eq_C04 (baseY baseX tileY tileX : Int) (t : Tiles)
    (h : Tiles.mk' baseY baseX tileY tileX = .ok t) (hy : 0 < tileY) (hx : 0 < tileX) :
    t.ny = C04.count baseY tileY ∧ t.nx = C04.count baseX tileX := by
  rw [Tiles.mk', if_neg (by omega), Except.ok.injEq] at h
  subst h
  exact ⟨ceilDiv_eq_C04 _ _ hy, ceilDiv_eq_C04 _ _ hx⟩

/-- **token ⇒ same partition**: two regular tilings with the same dask token select the same
pixel range for every tile index / slice, on both axes (C04's `Tiles.__getitem__`). -/
theorem Tiles.token_sound_C04 (a b : Tiles) (ht : a.token = b.token) (idx : C17.PIdx) :
    C04.getItem a.baseY a.tileY idx = C04.getItem b.baseY b.tileY idx ∧
    C04.getItem a.baseX a.tileX idx = C04.getItem b.baseX b.tileX idx ∧
    C04.chunks a.baseY a.tileY = C04.chunks b.baseY b.tileY := by
  have h := (Tiles.eq_iff a b).1 (Tiles.tokenTail_inj a b (List.cons.inj ht).2)
  rw [h.1, h.2.1, h.2.2.1, h.2.2.2]
  exact ⟨rfl, rfl, rfl⟩

/-- F6 in terms of what the tilings do: `Tiles((10,10),(5,5))` and `Tiles((9,9),(5,5))` share
`tokenLegacy`, yet tile 1 is `5:10` in one and `5:9` in the other. -/
theorem Tiles.legacy_token_unsound_cex :
    (Tiles.mk 10 10 5 5 2 2).tokenLegacy = (Tiles.mk 9 9 5 5 2 2).tokenLegacy ∧
    C04.getItem 10 5 (.idx 1) ≠ C04.getItem 9 5 (.idx 1) := by
  decide +kernel

theorem wrap32_add_wrap32 (acc c : Int) : wrap32 (acc + wrap32 c) = C04.wrap32 (acc + c) := by
  unfold wrap32 C04.wrap32
  rw [Int.add_assoc acc, Int.sub_add_cancel, Int.add_emod_emod, Int.add_assoc]

theorem cumsum32_eq_C04 : ∀ (acc : Int) (l : List Int), cumsum32 acc l = C04.cumsum32 acc l
  | _, [] => rfl
  | acc, c :: cs => by
    simp only [cumsum32, C04.cumsum32, wrap32_add_wrap32]
    rw [cumsum32_eq_C04]

/-- the offsets a `VariableSizedTiles` stores are those of the C04 partition model -/
theorem VTiles.offsets_eq_C04 (y x : List Int) :
    VTiles.mk' y x = ⟨C04.offsets y, C04.offsets x⟩ := by
  simp only [VTiles.mk', C04.offsets, cumsum32_eq_C04]

/-- **token ⇒ same partition** for variable tilings -/
theorem VTiles.token_sound_C04 (y x y' x' : List Int)
    (ht : (VTiles.mk' y x).token = (VTiles.mk' y' x').token) (idx : C17.PIdx) :
    C04.vgetItem y idx = C04.vgetItem y' idx ∧ C04.vgetItem x idx = C04.vgetItem x' idx := by
  have h := (VTiles.eq_iff _ _).1 (VTiles.tokenTail_inj _ _ (List.cons.inj ht).2)
  rw [VTiles.offsets_eq_C04, VTiles.offsets_eq_C04, VTiles.mk.injEq] at h
  simp only [C04.vgetItem, C04.vcount, h.1, h.2]
  exact ⟨rfl, rfl⟩

/-- a C19 GridSpec value seen as the C14 grid it defines -/
def GridSpec.toC14 (a : GridSpec) : C14.GridSpec :=
  ⟨a.ty, a.tx, a.resx.val, a.resy.val, a.ox.val, a.oy.val,
   ⟨a.xbin.sz.val, a.xbin.origin.val, a.xbin.dir⟩, ⟨a.ybin.sz.val, a.ybin.origin.val, a.ybin.dir⟩⟩

/-- **token ⇒ same grid**: grid specs with the same dask token are the same C14 grid, hence
give the same tile GeoBox for every index and the same tile index for every point (any
rounding mode `fl`). -/
theorem GridSpec.token_sound_C14 (a b : GridSpec) (ht : a.token = b.token) :
    a.toC14 = b.toC14 ∧
    (∀ (fl : C14.Rnd) k, C14.GridSpec.tileGeobox fl a.toC14 k = C14.GridSpec.tileGeobox fl b.toC14 k) ∧
    (∀ (fl : C14.Rnd) x y, C14.GridSpec.pt2idx fl a.toC14 x y = C14.GridSpec.pt2idx fl b.toC14 x y) := by
  -- `toC14` does not look at the CRS
  have h : a.toC14 = b.toC14 := (congrArg GridSpec.toC14 (GridSpec.token_inj a b ht).2 :)
  exact ⟨h, fun fl k => by rw [h], fun fl x y => by rw [h]⟩

/-- `GridSpec.__init__` here and in the C14 model (exact mode, `fl = id`) build the same
grid and reject the same arguments -/
theorem GridSpec.mk'_eq_C14_new (crs : CrsObj) (ty tx : Int) (rx ry ox oy : PyNum) (fx fy : Bool) :
    (GridSpec.mk' crs ty tx rx ry ox oy fx fy).map GridSpec.toC14 =
      C14.GridSpec.new id ty tx rx.val ry.val ox.val oy.val fx fy := by
  have hnew : ∀ (sz o : Rat) (f : Bool), C14.Bin1D.new sz o (C14.dirOf f) =
      if sz ≤ 0 then .error .assertion else .ok ⟨sz, o, C14.dirOf f⟩ := by
    intro sz o f
    unfold C14.Bin1D.new
    rw [if_neg (not_not.2 (by cases f; exact Or.inr rfl; exact Or.inl rfl))]
    simp only [not_lt]
  unfold GridSpec.mk' C14.GridSpec.new
  simp only [id, hnew, show ∀ p, absNum p = C14.rabs p.val from fun _ => rfl]
  by_cases hy : (ty : Rat) * C14.rabs ry.val ≤ 0
  · simp only [hy, true_or, if_true]
    rfl
  · simp only [hy, false_or, if_false, bind, Except.bind]
    split <;> rfl

/-- `==` is coarser than what a GridSpec does: the two grids of
`GridSpec.eq_ignores_resolution_sign` are equal, yet their tile (0, 0) has a different
affine (y resolution −8 vs 8; anchored at the top vs the bottom edge).  Not excluded by
the property (equal values may differ in token), recorded because `==` is the only thing
the library offers to compare grids. -/
theorem GridSpec.eq_coarser_than_tiles_cex (c : CrsObj) :
    let z : PyNum := ⟨.float, 0, false⟩
    let bin : Bin1D := ⟨⟨.float, 80, false⟩, z, 1⟩
    let a : GridSpec := ⟨c, 10, 10, ⟨.float, 8, false⟩, ⟨.float, -8, false⟩, z, z, bin, bin⟩
    let b : GridSpec := ⟨c, 10, 10, ⟨.float, 8, false⟩, ⟨.float, 8, false⟩, z, z, bin, bin⟩
    a.eq b = true ∧
      C14.GridSpec.tileGeobox id a.toC14 (0, 0) ≠ C14.GridSpec.tileGeobox id b.toC14 (0, 0) := by
  refine ⟨(GridSpec.eq_ignores_resolution_sign c).1, ?_⟩
  simp only [GridSpec.toC14]
  decide +kernel

/-! ## `crs == other` for a non-CRS `other` (crs.py `CRS.__eq__`, lines 263-267) -/

/-- `crs == spec` never raises: it answers `False` whenever `CRS(spec)` fails and otherwise
what `crs == CRS(spec)` answers (`tmp` is a variable name nothing uses). -/
theorem eqSpec_out (W : World) (σ : State) (v tmp : Nat) (spec : Spec) (pick : Nat) (c : CrsObj)
    (hv : assoc v σ.vars = some c) (htmp : assoc tmp σ.vars = none) :
    eqSpecOut (runFrom W σ (eqSpecOps v spec pick tmp)).2 =
      match (construct W σ spec pick).2 with
      | .ok c' => .bool (crsEq c c')
      | .error _ => .bool false := by
  have hvt : v ≠ tmp := fun e => by rw [e, htmp] at hv; cases hv
  have hcv := construct_vars W σ spec pick
  simp only [eqSpecOps, runFrom, step]
  generalize construct W σ spec pick = r at hcv ⊢
  obtain ⟨σ1, e | c'⟩ := r
  · rfl
  · simp only [assoc_setVar_ne v tmp c' _ hvt, assoc_setVar, show σ1.vars = σ.vars from hcv, hv]
    rfl

/-- `Coherent` is satisfiable: any single CRS instance (with a sane string) is coherent -/
example (x : CrsObj) (hx : x.str ≠ "None") : Coherent (fun c => c = x) :=
  ⟨fun a b ha hb _ => by rw [ha, hb], fun a b ha hb _ _ => by rw [ha, hb]; simp,
   fun a b ha hb _ => by rw [ha, hb], fun a ha => by rw [ha]; exact hx⟩

/-- the hypotheses of `GBTiles.neq_token_partial` hold for a GeoBox-based and a GCP-based
tiling (which the theorem then separates) -/
example :
    let a : GBTiles := ⟨.lin ⟨none, 3, 4, List.replicate 6 ⟨.float, 0, false⟩⟩, .var ⟨[0, 3], [0, 4]⟩⟩
    let b : GBTiles := ⟨.gcp ⟨3, 4, List.replicate 6 ⟨.float, 0, false⟩, ⟨0, none, [], []⟩⟩, .var ⟨[0, 3], [0, 4]⟩⟩
    a.gbox.affLen = 6 ∧ b.gbox.affLen = 6 ∧ a.eq b = false ∧
      (∀ x y, a.gbox = .gcp x → b.gbox = .gcp y → x.mapping.ident = y.mapping.ident) := by
  refine ⟨rfl, rfl, by decide +kernel, ?_⟩
  intro x y hx; cases hx

/-- the F16 witness history consists of real operations -/
example : ∀ op ∈ ([.pnewText 0 "A" 0, .mk 1 (.pyproj 0) 0, .mk 0 (.str "WA") 0] : List Op), op.real = true := by
  decide

end OdcGeo.C19
