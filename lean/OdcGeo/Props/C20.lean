/-
C20 — numeric helpers of `odc/geo/math.py` meet their documented contracts.

Helper lemmas are in `Lemmas/C20*.lean`.  Everything is over exact rationals; IEEE rounding is outside the
model (see DESIGN.md §3.1).  In this order: `split_float`, `maybe_int`, `snap_scale`, `align_*`, `snap_grid`,
`snap_affine`; `decompose_rws`, `resolution_from_affine`; the affine and polynomial fits, `Poly2d` under a change of
input; `norm_xy` and `Poly2d.fit` through it; `affine_from_axis`, `data_resolution_and_offset`; `Bin1D`.
-/
import OdcGeo.Model.C20
import OdcGeo.Lemmas.C20
import OdcGeo.Lemmas.C20b
import OdcGeo.Lemmas.C20c
import OdcGeo.Lemmas.C20d
import OdcGeo.Lemmas.C20e
import Mathlib.Algebra.Order.Field.Basic
import OdcGeo.Props.C17

namespace OdcGeo.C20

/-- The whole part is an integer, whole + fraction = `x`, and the fraction lies in
`[-1/2, 1/2]` (with `fmod`'s truncation semantics: `2.5 ↦ (2, 0.5)`, `-2.5 ↦ (-2, -0.5)`). -/
theorem split_float_sum_range_whole (x : Rat) :
    (∃ k : Int, (splitFloat x).1 = (k : Rat)) ∧ (splitFloat x).1 + (splitFloat x).2 = x ∧
      -(1 / 2) ≤ (splitFloat x).2 ∧ (splitFloat x).2 ≤ 1 / 2 :=
  splitFloat_spec x

theorem split_float_nonfinite (x : XF) (h : ∀ q, x ≠ .fin q) : splitFloatX x = (x, .fin 0) := by
  cases x with
  | fin q => exact absurd rfl (h q)
  | _ => rfl

theorem split_translation_spec (t : Rat × Rat) :
    let r := splitTranslation t
    (r.1.1 + r.2.1 = t.1 ∧ r.1.2 + r.2.2 = t.2) ∧
    (∃ i j : Int, r.1 = ((i : Rat), (j : Rat))) ∧
    (-(1 / 2) ≤ r.2.1 ∧ r.2.1 ≤ 1 / 2 ∧ -(1 / 2) ≤ r.2.2 ∧ r.2.2 ≤ 1 / 2) := by
  obtain ⟨⟨i, hi⟩, s1, l1, u1⟩ := splitFloat_spec t.1
  obtain ⟨⟨j, hj⟩, s2, l2, u2⟩ := splitFloat_spec t.2
  exact ⟨⟨s1, s2⟩, ⟨i, j, by simp only [splitTranslation, hi, hj]⟩, l1, u1, l2, u2⟩

theorem maybe_int_iff_is_almost_int (x tol : Rat) :
    (maybeInt? x tol).isSome = isAlmostInt x tol := (isAlmostInt_eq x tol).symm

theorem is_almost_int_iff (x tol : Rat) : isAlmostInt x tol = true ↔ ∃ n : Int, |x - n| < tol := by
  rw [isAlmostInt_eq]; exact maybeInt?_isSome_iff x tol

theorem maybe_int_snapped {x tol : Rat} {k : Int} (h : maybeInt? x tol = some k) :
    maybeInt x tol = k ∧ |x - k| < tol ∧ ∀ n : Int, |x - k| ≤ |x - n| := by
  obtain ⟨_, h1, h2⟩ := maybeInt?_some h
  exact ⟨maybeInt_of_some h, h1, abs_sub_intCast_le h2⟩

theorem maybe_int_unsnapped {x tol : Rat} (h : maybeInt? x tol = none) :
    maybeInt x tol = x ∧ ∀ n : Int, tol ≤ |x - n| :=
  ⟨maybeInt_of_none h, maybeInt?_none h⟩

theorem maybe_int_nonfinite (x : XF) (tol : Rat) (h : ∀ q, x ≠ .fin q) :
    maybeIntX x tol = .inr x ∧ isAlmostIntX x tol = false := by
  cases x with
  | fin q => exact absurd rfl (h q)
  | _ => exact ⟨rfl, rfl⟩

theorem snap_scale_within_tol {s tol r : Rat} (h : snapScale s tol = .ok r) :
    r = s ∨ (∃ k : Int, r = k ∧ |s - k| < tol) ∨
      (∃ k : Int, k ≠ 0 ∧ s ≠ 0 ∧ r = 1 / (k : Rat) ∧ |1 / s - k| < tol) := by
  rcases snapScale_cases h with h | h | ⟨k, h1, h2, h3, h4, _⟩
  exacts [.inl h, .inr (.inl h), .inr (.inr ⟨k, h1, h2, h3, h4⟩)]

/-- With a positive tolerance `snap_scale` never divides by zero. -/
theorem snap_scale_total (s : Rat) {tol : Rat} (ht : 0 < tol) : ∃ r, snapScale s tol = .ok r :=
  snapScale_total s ht

theorem snap_scale_idem {s tol r : Rat} (h : snapScale s tol = .ok r) : snapScale r tol = .ok r := by
  rcases snapScale_cases h with rfl | ⟨k, rfl, hk⟩ | ⟨k, hk0, _, rfl, hk, ht2, _⟩
  · exact h
  · exact snapScale_intCast k ((abs_nonneg _).trans_lt hk)
  · exact snapScale_inv_intCast hk0 ((abs_nonneg _).trans_lt hk) ht2

/-- `align_down`, `align_up` (Python floor-mod, negative `x` included): proved in C17, restated
here because the statement of C20 lists them. -/
theorem align_down_spec (x a : Int) (ha : 0 < a) :
    a ∣ C17.alignDown x a ∧ C17.alignDown x a ≤ x ∧ x - C17.alignDown x a < a :=
  C17.align_down_spec x a ha

theorem align_up_spec (x a : Int) (ha : 0 < a) :
    a ∣ C17.alignUp x a ∧ x ≤ C17.alignUp x a ∧ C17.alignUp x a - x < a :=
  C17.align_up_spec x a ha

/-- `align_up_pow2(x)` is the least power of two `≥ x` (for `x ≥ 1`; `log2` exact). -/
theorem align_up_pow2_least (x : Int) (hx : 1 ≤ x) :
    ∃ n : Nat, alignUpPow2 x = 2 ^ n ∧ x ≤ 2 ^ n ∧ ∀ m : Nat, x ≤ 2 ^ m → (2 : Int) ^ n ≤ 2 ^ m :=
  alignUpPow2_least x hx

theorem align_down_pow2_greatest (x : Int) (hx : 1 ≤ x) :
    ∃ n : Nat, alignDownPow2 x = 2 ^ n ∧ (2 : Int) ^ n ≤ x ∧ ∀ m : Nat, (2 : Int) ^ m ≤ x → (2 : Int) ^ m ≤ 2 ^ n :=
  alignDownPow2_greatest x hx

theorem align_pow2_nonpos (x : Int) (hx : x ≤ 0) : alignUpPow2 x = 1 ∧ alignDownPow2 x = 0 := by
  have h1 : alignUpPow2 x = 1 := if_pos hx
  refine ⟨h1, ?_⟩
  unfold alignDownPow2
  rw [h1, if_pos (by omega)]
  rfl

theorem snap_grid_n_pos {x0 x1 res tol : Rat} (off : Option Rat) (hr : res ≠ 0) (hx : x0 ≤ x1)
    (hop : ∀ op, off = some op → 0 ≤ op ∧ op < 1) (ht : 0 ≤ tol) (ht2 : tol < 1 / 2) :
    ∃ tx nx, snapGrid x0 x1 res off tol = .ok (tx, nx) ∧ 1 ≤ nx := by
  cases off with
  | none => exact ⟨_, _, snapGrid_none_eq hr, le_max_left _ _⟩
  | some op =>
    obtain ⟨tx, n, h⟩ := snapGrid_some_isOk hr hx (hop op rfl) tol
    exact ⟨tx, n, h, (snapGrid_ok h).2.1⟩

/-- **Cover**: the grid covers `[x0, x1]` except at most `tol·|res|` per side.  (Here and in the next two `h` implies
`hr` and `hop`, and `ht2` is not needed; `snapGrid_ok` is the contract without them.) -/
theorem snap_grid_cover {x0 x1 res tol tx : Rat} {nx : Int} (off : Option Rat) (hr : res ≠ 0)
    (hx : x0 ≤ x1) (hop : ∀ op, off = some op → 0 ≤ op ∧ op < 1) (ht : 0 ≤ tol) (ht2 : tol < 1 / 2)
    (h : snapGrid x0 x1 res off tol = .ok (tx, nx)) :
    gridLo res tx nx ≤ x0 + tol * |res| ∧ x1 - tol * |res| ≤ gridHi res tx nx :=
  snapGrid_ok_cover ht h

/-- **Minimal**: the grid exceeds the interval by less than one pixel (plus `tol`) per side.
The strict bound needs `0 < tol ∨ x0 < x1`: a zero-width interval sitting exactly on a pixel
edge with `tol = 0` still gets one whole pixel (`nx ≥ 1`), see `snap_grid_minimal_le` and
`snap_grid_minimal_degenerate`. -/
theorem snap_grid_minimal {x0 x1 res tol tx : Rat} {nx : Int} (off : Option Rat) (hr : res ≠ 0)
    (hx : x0 ≤ x1) (hop : ∀ op, off = some op → 0 ≤ op ∧ op < 1) (ht : 0 ≤ tol) (ht2 : tol < 1 / 2)
    (hs : 0 < tol ∨ x0 < x1)
    (h : snapGrid x0 x1 res off tol = .ok (tx, nx)) :
    x0 - gridLo res tx nx < |res| * (1 + tol) ∧ gridHi res tx nx - x1 < |res| * (1 + tol) :=
  (snapGrid_ok_excess ht hx h).2.2.1 hs

theorem snap_grid_minimal_le {x0 x1 res tol tx : Rat} {nx : Int} (off : Option Rat) (hr : res ≠ 0)
    (hx : x0 ≤ x1) (hop : ∀ op, off = some op → 0 ≤ op ∧ op < 1) (ht : 0 ≤ tol) (ht2 : tol < 1 / 2)
    (h : snapGrid x0 x1 res off tol = .ok (tx, nx)) :
    x0 - gridLo res tx nx ≤ |res| * (1 + tol) ∧ gridHi res tx nx - x1 ≤ |res| * (1 + tol) :=
  have he := snapGrid_ok_excess ht hx h
  ⟨he.1, he.2.1⟩

/-- The excluded point of `snap_grid_minimal`: `x0 = x1 = 2`, `res = 1`, `tol = 0` gives the pixel
`[2, 3]`, exactly one pixel beyond `x1` (replayed on the real code by the harness). -/
theorem snap_grid_minimal_degenerate :
    snapGrid 2 2 1 (some 0) 0 = .ok (2, 1) ∧ gridHi 1 2 1 - 2 = |(1 : Rat)| * (1 + 0) := by
  constructor
  · decide +kernel
  · simp [gridHi]

/-- **Aligned**: the pixel edges are offset from the origin by exactly the requested
fraction of a pixel: `(lo − off·|res|)/|res|` and `(hi − off·|res|)/|res|` are integers. -/
theorem snap_grid_aligned {x0 x1 res tol tx op : Rat} {nx : Int} (hr : res ≠ 0)
    (hx : x0 ≤ x1) (hop : 0 ≤ op ∧ op < 1) (ht : 0 ≤ tol) (ht2 : tol < 1 / 2)
    (h : snapGrid x0 x1 res (some op) tol = .ok (tx, nx)) :
    ∃ i : Int, (gridLo res tx nx - op * |res|) / |res| = i ∧
      (gridHi res tx nx - op * |res|) / |res| = ((i + nx : Int) : Rat) := by
  obtain ⟨-, -, -, i, h1⟩ := (snapGrid_ok h).2.2.1 op rfl
  have key (k : Rat) : ((k + op) * |res| - op * |res|) / |res| = k := by
    rw [add_mul, add_sub_cancel_right, mul_div_cancel_right₀ _ (abs_ne_zero.mpr hr)]
  exact ⟨i, by rw [h1, key], by rw [gridHi_eq, h1, ← add_mul, add_right_comm, key, Int.cast_add]⟩

/-- **Not snapping**: with `off_pix = None` the origin is `x0` (`res > 0`) / `x1` (`res < 0`). -/
theorem snap_grid_none_exact {x0 x1 res tol tx : Rat} {nx : Int} (hr : res ≠ 0) (hx : x0 ≤ x1)
    (ht : 0 ≤ tol) (h : snapGrid x0 x1 res none tol = .ok (tx, nx)) :
    tx = if 0 < res then x0 else x1 := by
  rw [snapGrid_none_eq hr] at h
  exact (Prod.mk.inj (Except.ok.inj h)).1.symm

/-- What the code rejects: a zero resolution, an inverted interval (when snapping), an
anchor fraction outside `[0, 1)`. -/
theorem snap_grid_rejects (x0 x1 res tol : Rat) :
    snapGrid x0 x1 0 none tol = .error .zeroDiv ∧
    (∀ op, 0 ≤ op ∧ op < 1 → snapGrid x0 x1 0 (some op) tol = .error .assertion) ∧
    (∀ op, ¬ (0 ≤ op ∧ op < 1) → snapGrid x0 x1 res (some op) tol = .error .assertion) ∧
    (∀ op, 0 ≤ op ∧ op < 1 → x1 < x0 → snapGrid x0 x1 res (some op) tol = .error .assertion) := by
  refine ⟨by simp [snapGrid], fun op hop => ?_, fun op hop => if_pos hop, fun op hop hlt => ?_⟩
  · -- `_snap_edge_pos` wants a positive resolution
    rw [snapGrid_some_eq hop, abs_zero, snapEdgePos, if_pos (lt_irrefl 0)]
    rfl
  · unfold snapGrid snapEdge
    simp only
    rw [if_neg (not_not.mpr hop), if_pos (not_le.mpr (sub_lt_sub_right hlt _))]
    rfl

theorem is_affine_st_iff (A : Aff) (tol : Rat) : isAffineSt A tol = true ↔ |A.b| < tol ∧ |A.d| < tol := by
  simp [isAffineSt, rabs_eq_abs]

theorem snap_affine_rotated_untouched (A : Aff) (ttol stol tol : Rat) (h : tol < |A.b| ∨ tol < |A.d|) :
    snapAffine A ttol stol tol = .ok A :=
  if_pos (by simpa [rabs_eq_abs] using h)

/-- Without rotation / shear above `tol` the off-diagonal terms become `0`, each translation moves by less
than `ttol` (or not at all) and each scale is `snap_scale` of the input scale (see `snap_scale_within_tol`). -/
theorem snap_affine_within_tol {A B : Aff} {ttol stol tol : Rat} (hr : ¬ (tol < |A.b| ∨ tol < |A.d|))
    (h : snapAffine A ttol stol tol = .ok B) :
    B.b = 0 ∧ B.d = 0 ∧ (B.c = A.c ∨ |A.c - B.c| < ttol) ∧ (B.f = A.f ∨ |A.f - B.f| < ttol) ∧
      snapScale A.a stol = .ok B.a ∧ snapScale A.e stol = .ok B.e := by
  obtain ⟨sx, sy, h1, h2, rfl⟩ := snapAffine_inv hr h
  exact ⟨rfl, rfl, maybeInt_close A.c ttol, maybeInt_close A.f ttol, h1, h2⟩

theorem snap_affine_idem {A B : Aff} {ttol stol tol : Rat} (h : snapAffine A ttol stol tol = .ok B) :
    snapAffine B ttol stol tol = .ok B := by
  by_cases hr : tol < |A.b| ∨ tol < |A.d|
  · have h' := snap_affine_rotated_untouched A ttol stol tol hr
    obtain rfl : A = B := Except.ok.inj (h'.symm.trans h)
    exact h'
  · obtain ⟨sx, sy, h1, h2, rfl⟩ := snapAffine_inv hr h
    unfold snapAffine
    split
    · rfl
    · rw [snap_scale_idem h1, snap_scale_idem h2]
      simp only [bind, Except.bind, pure, Except.pure, maybeInt_idem]

/-! `decompose_rws`, `resolution_from_affine`: `n` and `p` are the two square roots taken by the Cholesky
factorisation of `AᵀA` (`n² = a² + d²`, `p² = (b² + e²) − ((ab + de)/n)²`, both positive); the model follows the
code step by step (Cholesky, inverse, determinant test with column / row flip, diagonal extraction). -/

/-- The same decomposition in closed form over **any ordered field** (so also over ℝ, where
`n = √(a² + d²)` exists for every invertible `A`): with `R = [[a,−d],[d,a]]/n`,
`W = [[1, (ab+de)/det], [0, 1]]`, `S = diag(n, det/n)` one has `R·W·S = A`, `RᵀR = I`, `det R = 1`. -/
theorem decompose_rws_field {K : Type} [Field K] [LinearOrder K] [IsStrictOrderedRing K]
    (a b d e n : K) (hdet : a * e - b * d ≠ 0) (hn : 0 < n) (hn2 : n * n = a * a + d * d) :
    let w := (a * b + d * e) / (a * e - b * d)
    let s2 := (a * e - b * d) / n
    -- R·W·S, entry by entry
    (a / n * n = a ∧ (a / n * w + -d / n) * s2 = b ∧ d / n * n = d ∧ (d / n * w + a / n) * s2 = e) ∧
    -- RᵀR = I and det R = 1
    (a / n * (a / n) + d / n * (d / n) = 1 ∧ a / n * (-d / n) + d / n * (a / n) = 0 ∧
      a / n * (a / n) - -d / n * (d / n) = 1) := by
  have hne : n ≠ 0 := ne_of_gt hn
  have hnn : n * n ≠ 0 := mul_ne_zero hne hne
  intro w s2
  have hs2 : s2 = (a * e - b * d) / n := rfl
  have hw : w * s2 = (a * b + d * e) / n := div_mul_div_cancel₀ hdet
  have h1 : a / n * (a / n) + d / n * (d / n) = 1 := by
    rw [div_mul_div_comm, div_mul_div_comm, ← add_div, ← hn2, div_self hnn]
  have key (x y : K) : (x / n * w + y / n) * s2 = (x * (a * b + d * e) + y * (a * e - b * d)) / (n * n) := by
    rw [add_mul, mul_assoc, hw, hs2, div_mul_div_comm, div_mul_div_comm, ← add_div]
  refine ⟨⟨div_mul_cancel₀ a hne, ?_, div_mul_cancel₀ d hne, ?_⟩, h1,
    by rw [neg_div, mul_neg, mul_comm, neg_add_cancel], by rw [neg_div, neg_mul, sub_neg_eq_add]; exact h1⟩
  · rw [key, div_eq_iff hnn, hn2]
    ring
  · rw [key, div_eq_iff hnn, hn2]
    ring

/-- **`decompose_rws`**: `R·W·S = A` (translation carried by `R`), `R` is a proper rotation
(`RᵀR = I`, `det R = 1`), `W = [[1, w], [0, 1]]`, `S` is diagonal with `S₁₁ = n > 0` and
`S₁₁·S₂₂ = det A`. -/
theorem decompose_rws_spec (A : Aff) (n p : Rat) (hdet : A.det ≠ 0) (hn : 0 < n)
    (hn2 : n * n = A.a * A.a + A.d * A.d) (hp : 0 < p)
    (hp2 : p * p = (A.b * A.b + A.e * A.e) - ((A.b * A.a + A.e * A.d) / n) ^ 2) :
    let r := decomposeRws A n p
    r.R * r.W * r.S = A ∧
    (r.R.a * r.R.a + r.R.d * r.R.d = 1 ∧ r.R.b * r.R.b + r.R.e * r.R.e = 1 ∧
      r.R.a * r.R.b + r.R.d * r.R.e = 0 ∧ r.R.det = 1) ∧
    (r.W.a = 1 ∧ r.W.d = 0 ∧ r.W.e = 1 ∧ r.W.c = 0 ∧ r.W.f = 0) ∧
    (r.S.b = 0 ∧ r.S.d = 0 ∧ r.S.c = 0 ∧ r.S.f = 0 ∧ r.S.a = n ∧ r.S.e = A.det / n) := by
  intro r
  have hr : r = ⟨⟨A.a / n, -A.d / n, A.c, A.d / n, A.a / n, A.f⟩,
      ⟨1, (A.a * A.b + A.d * A.e) / A.det, 0, 0, 1, 0⟩, ⟨n, 0, 0, 0, A.det / n, 0⟩⟩ := by
    simp only [r, decomposeRws, decomposeRws2_closed A n p hn hn2 hp hp2, m2]
  rw [hr]
  obtain ⟨a, b, c, d, e, f⟩ := A
  simp only [Aff.det] at hdet ⊢
  obtain ⟨⟨e1, e2, e3, e4⟩, o1, o2, o3⟩ := decompose_rws_field a b d e n hdet hn hn2
  refine ⟨?_, ⟨o1, by linear_combination o1, by linear_combination o2, o3⟩, by simp, by simp⟩
  simp only [Aff.mul_def, Aff.mul]
  ext <;> simp only []
  · linear_combination e1
  · linear_combination e2
  · ring
  · linear_combination e3
  · linear_combination e4
  · ring

/-- **`resolution_from_affine`**: without rotation/shear (off-diagonal terms below `1e-10`) the
resolution is the diagonal of `A` (signs kept); otherwise it is `(n, det A / n)`: the length of
the first column and a second component that makes the product equal `det A`. -/
theorem resolution_from_affine_spec (A : Aff) (n p : Rat) :
    (isAffineSt A tol1em10 = true → resolutionFromAffine A n p = (A.a, A.e)) ∧
    (isAffineSt A tol1em10 = false → A.det ≠ 0 → 0 < n → n * n = A.a * A.a + A.d * A.d → 0 < p →
      p * p = (A.b * A.b + A.e * A.e) - ((A.b * A.a + A.e * A.d) / n) ^ 2 →
      resolutionFromAffine A n p = (n, A.det / n)) := by
  refine ⟨fun h => if_pos h, fun h _ hn hn2 hp hp2 => ?_⟩
  unfold resolutionFromAffine
  rw [if_neg (h ▸ Bool.false_ne_true)]
  simp only [decomposeRws, decomposeRws2_closed A n p hn hn2 hp hp2, m2]

/-- The tolerance constants are the exact values of the Python doubles `1e-10` (`is_affine_st`
default, used by `resolution_from_affine`) and `1e-6`: `m / 2^86` resp. `m / 2^72`, within `1e-26` resp.
`1e-22` of the decimal. -/
theorem tolerance_constants :
    tol1em10 = 7737125245533627 / 2 ^ 86 ∧ |tol1em10 - 1 / 10 ^ 10| < 1 / 10 ^ 26 ∧
    tol1em6 = 4722366482869645 / 2 ^ 72 ∧ |tol1em6 - 1 / 10 ^ 6| < 1 / 10 ^ 22 := by
  decide +kernel

/-- **Sheared input** (`A = [[sx, k], [0, sy]]`, shear `k` at or above the `1e-10` tolerance): the
reported resolution is `(|sx|, sy·sign sx)` — the shear does not leak into it, the x component is
always positive. -/
theorem resolution_from_affine_sheared (sx k c sy f : Rat) (hsx : sx ≠ 0) (hsy : sy ≠ 0)
    (hk : tol1em10 ≤ |k|) :
    resolutionFromAffine ⟨sx, k, c, 0, sy, f⟩ |sx| |sy| = (|sx|, sx * sy / |sx|) := by
  have hst : isAffineSt ⟨sx, k, c, 0, sy, f⟩ tol1em10 = false :=
    Bool.eq_false_iff.mpr fun h => ((is_affine_st_iff _ _).mp h).1.not_ge hk
  have h := (resolution_from_affine_spec ⟨sx, k, c, 0, sy, f⟩ |sx| |sy|).2 hst
    (by simp [Aff.det, hsx, hsy]) (abs_pos.mpr hsx) (by simp [abs_mul_abs_self]) (abs_pos.mpr hsy)
    (by
      simp only [mul_zero, add_zero]
      have : (k * sx / |sx|) ^ 2 = k * k := by
        rw [div_pow, mul_pow, sq_abs, mul_div_assoc, div_self (pow_ne_zero 2 hsx), mul_one, sq]
      rw [this, abs_mul_abs_self]; ring)
  rw [h]; simp [Aff.det]

/-- What HEAD does at the boundary between the two branches: a mirrored scale keeps its sign without
shear (`(-1, 1)`), but the same scale with a shear reports `(1, -1)` — the documented sign
ambiguity of `decompose_rws` becomes a discontinuity of `resolution_from_affine`. -/
theorem resolution_from_affine_sign_discontinuity :
    resolutionFromAffine ⟨-1, 0, 0, 0, 1, 0⟩ 1 1 = (-1, 1) ∧
    resolutionFromAffine ⟨-1, 1, 0, 0, 1, 0⟩ 1 1 = (1, -1) := by
  constructor <;> decide +kernel

/-- Hypotheses of `decompose_rws_spec` are satisfiable: the 3-4-5 rotation with shear and scale. -/
example : (decomposeRws ⟨3, -1, 7, 4, 7, 9⟩ 5 5).S = ⟨5, 0, 0, 0, 5, 0⟩ ∧
    (decomposeRws ⟨3, -1, 7, 4, 7, 9⟩ 5 5).R = ⟨3 / 5, -4 / 5, 7, 4 / 5, 3 / 5, 9⟩ := by
  constructor <;> decide +kernel

theorem sq_residual_zero_iff (M : Aff) (XY : List ((Rat × Rat) × (Rat × Rat))) :
    sqResidual M XY = 0 ↔ ∀ q ∈ XY, M.apply q.1 = q.2 :=
  sqResidual_eq_zero_iff M XY

/-- **`poly_fit_exact_partial`** — the general least-squares fact behind `Poly2d.fit`: for any
parametrised model `F`, if some parameter reproduces the data exactly then every minimiser of the
squared residual reproduces it too; with an injective design (the premise of the second conjunct) the
minimiser is that parameter.  It is instantiated for the real pipeline — `norm_xy` on both sides, LAPACK on
the normalised problem, de-normalisation — by `poly_fit_exact_affine` (N = 3),
`poly_fit_exact_bilinear` (4 ≤ N ≤ 8) and `poly_fit_exact_biquadratic` (N ≥ 9) below, so what
remains *partial* is only the assumption that LAPACK returns a minimiser (and IEEE rounding). -/
theorem poly_fit_exact_partial {C : Type} (F : C → (Rat × Rat) → (Rat × Rat))
    (XY : List ((Rat × Rat) × (Rat × Rat))) (c0 c : C)
    (hexact : ∀ q ∈ XY, F c0 q.1 = q.2)
    (hmin : ∀ c' : C,
      (XY.map fun q => ((F c q.1).1 - q.2.1) * ((F c q.1).1 - q.2.1) + ((F c q.1).2 - q.2.2) * ((F c q.1).2 - q.2.2)).sum ≤
      (XY.map fun q => ((F c' q.1).1 - q.2.1) * ((F c' q.1).1 - q.2.1) + ((F c' q.1).2 - q.2.2) * ((F c' q.1).2 - q.2.2)).sum) :
    (∀ q ∈ XY, F c q.1 = q.2) ∧
      ((∀ c1 c2 : C, (∀ q ∈ XY, F c1 q.1 = F c2 q.1) → c1 = c2) → c = c0) := by
  have key := fun c : C => sum_sq_pair XY (fun q => (F c q.1).1 - q.2.1) (fun q => (F c q.1).2 - q.2.2)
  have hz : ∀ c : C, (∀ q ∈ XY, (F c q.1).1 - q.2.1 = 0 ∧ (F c q.1).2 - q.2.2 = 0) ↔ ∀ q ∈ XY, F c q.1 = q.2 :=
    fun c => by simp only [sub_eq_zero, Prod.ext_iff]
  -- the exact parameter has cost 0, so the minimiser has cost 0 as well
  have h0 := (key c0).2.mpr ((hz c0).mpr hexact)
  have hc := (hz c).mp ((key c).2.mp (le_antisymm ((hmin c0).trans_eq h0) (key c).1))
  exact ⟨hc, fun hinj => hinj c c0 fun q hq => by rw [hc q hq, hexact q hq]⟩

/-- **`affine_fit_exact`**: if `Y = A·X` holds exactly on the correspondences and three of the `X`
are not collinear, then *every* least-squares minimiser equals `A` (so whatever LAPACK returns,
if it is a minimiser, it is `A`). -/
theorem affine_fit_exact (A M : Aff) (XY : List ((Rat × Rat) × (Rat × Rat)))
    (hexact : ∀ q ∈ XY, A.apply q.1 = q.2)
    (hmin : ∀ M' : Aff, sqResidual M XY ≤ sqResidual M' XY)
    (p q r : (Rat × Rat) × (Rat × Rat)) (hp : p ∈ XY) (hq : q ∈ XY) (hr : r ∈ XY)
    (hnc : (q.1.1 - p.1.1) * (r.1.2 - p.1.2) - (q.1.2 - p.1.2) * (r.1.1 - p.1.1) ≠ 0) :
    M = A := by
  have hM := (poly_fit_exact_partial (fun M : Aff => M.apply) XY A M hexact hmin).1
  exact aff_eq_of_three (by rw [hM p hp, hexact p hp]) (by rw [hM q hq, hexact q hq])
    (by rw [hM r hr, hexact r hr]) hnc

/-- `affine_from_pts` with a solver that returns a minimiser reproduces an exact mapping. -/
theorem affine_from_pts_exact (lstsq : List (Rat × Rat) → List (Rat × Rat) → Option Aff)
    (X Y : List (Rat × Rat)) (A M : Aff)
    (hsolver : ∀ M0, lstsq X Y = some M0 → ∀ M' : Aff, sqResidual M0 (X.zip Y) ≤ sqResidual M' (X.zip Y))
    (hexact : ∀ q ∈ X.zip Y, A.apply q.1 = q.2)
    (p q r : (Rat × Rat) × (Rat × Rat)) (hp : p ∈ X.zip Y) (hq : q ∈ X.zip Y) (hr : r ∈ X.zip Y)
    (hnc : (q.1.1 - p.1.1) * (r.1.2 - p.1.2) - (q.1.2 - p.1.2) * (r.1.1 - p.1.1) ≠ 0)
    (h : affineFromPts lstsq X Y = .ok M) : M = A :=
  affine_fit_exact A M _ hexact (hsolver M (affineFromPts_ok_length h).2.2) p q r hp hq hr hnc

theorem affine_from_pts_rejects (lstsq : List (Rat × Rat) → List (Rat × Rat) → Option Aff)
    (X Y : List (Rat × Rat)) (h : X.length ≠ Y.length ∨ X.length < 3) :
    affineFromPts lstsq X Y = .error .assertion := by
  unfold affineFromPts
  by_cases h1 : X.length ≠ Y.length
  · rw [if_pos h1]
  · rw [if_neg h1, if_pos (h.resolve_left h1)]

/-- The scale/translation shortcut of `Poly2d._norm` (taken only for exactly zero off-diagonal
terms) computes the same point as the full affine map. -/
theorem poly_norm_eq_apply (A : Aff) (p : Rat × Rat) : Poly2d.norm A p = A.apply p := by
  unfold Poly2d.norm
  split
  · rename_i h
    exact (Aff.apply_of_st h.1 h.2 p).symm
  · rfl

theorem poly_with_input_transform (P : Poly2d) (A : Aff) (p : Rat × Rat) :
    (P.withInputTransform A).eval p = P.eval (A.apply p) := by
  simp only [Poly2d.eval, Poly2d.withInputTransform, poly_norm_eq_apply, Aff.apply_mul]

/-- **`grid2d` is pointwise evaluation**: whenever it returns, `out[i][j]` is the value of the
polynomial at `(xs[i], ys[j])` — first index along `x`, second along `y`, any lengths. -/
theorem poly_grid2d_pointwise (P : Poly2d) (xs ys : List Rat) (out : List (List (Rat × Rat)))
    (h : P.grid2d xs ys = .ok out) :
    out = xs.map fun x => ys.map fun y => P.eval (x, y) := by
  unfold Poly2d.grid2d at h
  split at h
  · cases h
  · rename_i hst
    obtain rfl := Except.ok.inj h
    simp only [List.map_map, Function.comp_def, Poly2d.eval, Poly2d.norm, if_pos (not_not.mp hst)]

/-- `grid2d` refuses input transforms with rotation or shear (as after `with_input_transform` of a
rotated map): the axes are not separable there. -/
theorem poly_grid2d_rejects_rotated (P : Poly2d) (xs ys : List Rat) (h : ¬ (P.A.b = 0 ∧ P.A.d = 0)) :
    P.grid2d xs ys = .error .assertion :=
  if_pos h

/-- Before the repair (`_norm` ignored off-diagonal terms below an absolute `1e-6`) the
composition law failed: normalising scale `2⁻¹⁴`, input rotated by `2⁻⁶` rad-ish shear, point
`(0, 2¹⁴)` (replayed on the real code by the harness: key
`poly2d-input-transform-ignores-small-rotation`). -/
theorem poly_with_input_transform_prefix_cex :
    let cc : List (List (Rat × Rat)) := [[(0, 0), (0, 1)], [(1, 0), (0, 0)]]   -- the identity polynomial
    let A1 : Aff := Aff.scale (1 / 16384) (1 / 16384)
    let A2 : Aff := ⟨1, -(1 / 64), 0, 1 / 64, 1, 0⟩
    Poly2d.evalCC cc (Poly2d.normTol (A1 * A2) (0, 16384)) ≠
      Poly2d.evalCC cc (Poly2d.normTol A1 (A2.apply (0, 16384))) := by
  decide +kernel

/-! `norm_xy` (as repaired) and `Poly2d.fit` through normalisation + de-normalisation: `norm_xy` is modelled over
an arbitrary ordered field (`normXYK` in `Lemmas/C20e.lean`; over `Rat` there is no `√2`), with the distances from
the centroid and `√2` given as witnesses. -/

section normxy
variable {K : Type} [Field K] [LinearOrder K] [IsStrictOrderedRing K]
set_option linter.unusedSectionVars false

/-- **The affine returned by `norm_xy` maps the input points onto the normalised ones**, it is a
uniform scale + translation with positive scale (hence invertible). -/
theorem norm_xy_affine_maps (pts : List (K × K)) (ds : List K) (r : K) (hr : 0 < r) :
    (normXYK pts ds r).pts =
      pts.map (fun p => ((normXYK pts ds r).s * p.1 + (normXYK pts ds r).tx,
                         (normXYK pts ds r).s * p.2 + (normXYK pts ds r).ty)) ∧
    0 < (normXYK pts ds r).s := by
  refine ⟨?_, normXYK_scale_pos pts ds r hr⟩
  simp only [normXYK]
  apply List.map_congr_left
  intro p _
  ext <;> simp only [] <;> ring

/-- **The mean of the normalised points is 0** (any non-empty point set). -/
theorem norm_xy_mean_zero (pts : List (K × K)) (ds : List K) (r : K) (hne : pts ≠ []) :
    meanK ((normXYK pts ds r).pts.map (·.1)) = 0 ∧ meanK ((normXYK pts ds r).pts.map (·.2)) = 0 := by
  constructor
  · simpa only [normXYK, List.map_map, Function.comp_def] using
      meanK_centred (pts.map (·.1)) (by simpa using hne) (normXYK pts ds r).s
  · simpa only [normXYK, List.map_map, Function.comp_def] using
      meanK_centred (pts.map (·.2)) (by simpa using hne) (normXYK pts ds r).s

/-- **The mean distance of the normalised points from 0 is `√2`** whenever the input has a positive
mean distance from its centroid (i.e. not all points coincide): with `ds` the distances of the
centred input points (`0 ≤ d`, `d² = x² + y²`), `ds·s` are the distances of the normalised
points, their mean is `r`, and `r·r = 2` makes its square 2.  A point *on* the centroid
(`d = 0`) is harmless — that was the defect repaired by 1cb55fb. -/
theorem norm_xy_mean_dist_sqrt2 (pts : List (K × K)) (ds : List K) (r : K) (hr : 0 < r)
    (hd : IsCentredDist pts ds) (hm : 0 < meanK ds) :
    List.Forall₂ (fun q d => 0 ≤ d ∧ d * d = q.1 * q.1 + q.2 * q.2)
        (normXYK pts ds r).pts (ds.map (· * (normXYK pts ds r).s)) ∧
      meanK (ds.map (· * (normXYK pts ds r).s)) = r ∧
      (r * r = 2 → meanK (ds.map (· * (normXYK pts ds r).s)) * meanK (ds.map (· * (normXYK pts ds r).s)) = 2) := by
  have hs : (normXYK pts ds r).s = r / meanK ds := if_pos hm
  have hmean : meanK (ds.map (· * (normXYK pts ds r).s)) = r := by
    rw [hs]
    unfold meanK at hm ⊢
    rw [sum_map_mul_right, List.length_map, mul_div_right_comm, mul_comm, div_mul_cancel₀ _ hm.ne']
  exact ⟨forall2_scale pts ds _ _ _ (normXYK_scale_pos pts ds r hr).le hd, hmean, fun h2 => by rw [hmean, h2]⟩

/-- Mean distance 0 (all points coincide): the scale is 1. -/
theorem norm_xy_degenerate (pts : List (K × K)) (ds : List K) (r : K) (hm : ¬ 0 < meanK ds) :
    (normXYK pts ds r).s = 1 :=
  if_neg hm

end normxy

/-- Hypotheses of `norm_xy_mean_dist_sqrt2` are satisfiable, with a point exactly on the centroid:
a 6×8 rectangle plus its centre, distances `5, 5, 5, 5, 0`, mean distance `4 > 0`. -/
example : IsCentredDist (K := Rat) [(-3, -4), (3, 4), (-3, 4), (3, -4), (0, 0)] [5, 5, 5, 5, 0] ∧
    0 < meanK (K := Rat) [5, 5, 5, 5, 0] := by
  constructor <;> norm_num [IsCentredDist, meanK]

/-- `norm_xy`'s output (any witnesses, any positive stand-in `r` for `√2`; rational instance)
satisfies `FitNorms`: `aa_, Ain = norm_xy(aa)`, `bb_, Ab = norm_xy(bb)`. -/
theorem fit_norms_of_norm_xy (aa bb : List (Rat × Rat)) (da db : List Rat) (r : Rat) (hr : 0 < r) :
    FitNorms
      ⟨(normXYK aa da r).s, 0, (normXYK aa da r).tx, 0, (normXYK aa da r).s, (normXYK aa da r).ty⟩
      ⟨(normXYK bb db r).s, 0, (normXYK bb db r).tx, 0, (normXYK bb db r).s, (normXYK bb db r).ty⟩ :=
  ⟨rfl, rfl, ne_of_gt (normXYK_scale_pos aa da r hr), ne_of_gt (normXYK_scale_pos aa da r hr), rfl, rfl, rfl,
   ne_of_gt (normXYK_scale_pos bb db r hr)⟩

/-- The three `_fit*` theorems below in one: a family `S` of coefficient tables (side `k + 1`) that contains, with the
exact polynomial `p`, also `Ab ∘ p ∘ B` for every scale + translation `B` of the input (`hclosed`, used with
`B = Ain⁻¹`).  If `c0 :: cs` minimises the squared residual on the normalised correspondences within the family, the
returned `Poly2d` reproduces the data (its de-normalisation is `Ab⁻¹ ∘ ·` by `denorm_eval`). -/
theorem poly_fit_exact_family (k : Nat) (S : List (Rat × Rat) → Prop) (Ain Ab : Aff) (hN : FitNorms Ain Ab)
    (data : List ((Rat × Rat) × (Rat × Rat))) (p : List (Rat × Rat)) (c0 : Rat × Rat) (cs : List (Rat × Rat))
    (hc : S (c0 :: cs))
    (hexact : ∀ q ∈ data, Poly2d.evalCC (Poly2d.reshape (k + 1) p) q.1 = q.2)
    (hclosed : ∀ B : Aff, B.b = 0 ∧ B.d = 0 → ∃ e, S e ∧ ∀ u, Poly2d.evalCC (Poly2d.reshape (k + 1) e) u =
      Ab.apply (Poly2d.evalCC (Poly2d.reshape (k + 1) p) (B.apply u)))
    (hmin : ∀ d, S d → Poly2d.fitCost (k + 1) Ain Ab data (c0 :: cs) ≤ Poly2d.fitCost (k + 1) Ain Ab data d) :
    ∀ q ∈ data, (Poly2d.ofFit (k + 1) (c0 :: cs) Ain Ab).eval q.1 = q.2 := by
  have hdetin : Ain.det ≠ 0 := by rw [Aff.det_of_st hN.inb]; exact mul_ne_zero hN.ina hN.ine
  have hdetout : Ab.det ≠ 0 := by rw [Aff.det_of_st hN.outb, ← hN.outs]; exact mul_ne_zero hN.outa hN.outa
  obtain ⟨e, he, hcl⟩ := hclosed Ain.inv (Aff.inv_of_st hN.inb hN.ind)
  -- the problem LAPACK solves, as an instance of the general least-squares fact
  have hfit := (poly_fit_exact_partial (C := {l // S l})
    (fun c a => Poly2d.evalCC (Poly2d.reshape (k + 1) c.1) (Ain.apply a))
    (data.map fun q => (q.1, Ab.apply q.2)) ⟨e, he⟩ ⟨c0 :: cs, hc⟩
    (by
      intro q hq
      obtain ⟨q', hq', rfl⟩ := List.mem_map.mp hq
      simp only
      rw [hcl, Aff.inv_apply_apply Ain hdetin, hexact q' hq'])
    (fun d => by simpa only [Poly2d.fitCost, List.map_map, Function.comp_def] using hmin d.1 d.2)).1
  intro q hq
  have h1 := hfit (q.1, Ab.apply q.2) (List.mem_map.mpr ⟨q, hq, rfl⟩)
  simp only [Poly2d.eval, Poly2d.ofFit, poly_norm_eq_apply]
  rw [denorm_eval k c0 cs Ab hN.outb hN.outd hN.outs, h1, Aff.inv_apply_apply Ab hdetout]

/-- **`Poly2d.fit`, `4 ≤ N ≤ 8` (`_fit4`): exactly bilinear data are reproduced through the
normalisation and the de-normalisation.**  If `b_i = p(a_i)` for a bilinear `p` (in the original
coordinates) and LAPACK's coefficient table `[c0..c3]` minimises the squared residual on the
*normalised* correspondences `(Ain·a_i, Ab·b_i)`, then the returned `Poly2d` maps every `a_i` to
`b_i`.  The only assumption left is "LAPACK returns a minimiser". -/
theorem poly_fit_exact_bilinear (Ain Ab : Aff) (hN : FitNorms Ain Ab)
    (data : List ((Rat × Rat) × (Rat × Rat))) (p0 p1 p2 p3 : Rat × Rat)
    (hexact : ∀ q ∈ data, Poly2d.evalCC (Poly2d.reshape 2 [p0, p1, p2, p3]) q.1 = q.2)
    (c0 c1 c2 c3 : Rat × Rat)
    (hmin : ∀ d0 d1 d2 d3 : Rat × Rat,
      Poly2d.fitCost 2 Ain Ab data [c0, c1, c2, c3] ≤ Poly2d.fitCost 2 Ain Ab data [d0, d1, d2, d3]) :
    ∀ q ∈ data, (Poly2d.ofFit 2 [c0, c1, c2, c3] Ain Ab).eval q.1 = q.2 := by
  refine poly_fit_exact_family 1 (fun l => ∃ d0 d1 d2 d3, l = [d0, d1, d2, d3]) Ain Ab hN data _ c0 [c1, c2, c3]
    ⟨c0, c1, c2, c3, rfl⟩ hexact (fun B hB => ?_) fun _ ⟨d0, d1, d2, d3, h⟩ => h ▸ hmin d0 d1 d2 d3
  obtain ⟨e0, e1, e2, e3, _, hcl⟩ := bilinear_closed p0 p1 p2 p3 B Ab hB ⟨hN.outb, hN.outd⟩
  exact ⟨_, ⟨e0, e1, e2, e3, rfl⟩, hcl⟩

/-- **`Poly2d.fit`, `N = 3` (`_fit3`): exactly affine data are reproduced**; LAPACK minimises over
the three coefficients of `1, y, x`, the `xy` coefficient is the appended zero row. -/
theorem poly_fit_exact_affine (Ain Ab : Aff) (hN : FitNorms Ain Ab)
    (data : List ((Rat × Rat) × (Rat × Rat))) (p0 p1 p2 : Rat × Rat)
    (hexact : ∀ q ∈ data, Poly2d.evalCC (Poly2d.reshape 2 [p0, p1, p2, (0, 0)]) q.1 = q.2)
    (c0 c1 c2 : Rat × Rat)
    (hmin : ∀ d0 d1 d2 : Rat × Rat,
      Poly2d.fitCost 2 Ain Ab data [c0, c1, c2, (0, 0)] ≤ Poly2d.fitCost 2 Ain Ab data [d0, d1, d2, (0, 0)]) :
    ∀ q ∈ data, (Poly2d.ofFit 2 [c0, c1, c2, (0, 0)] Ain Ab).eval q.1 = q.2 := by
  refine poly_fit_exact_family 1 (fun l => ∃ d0 d1 d2, l = [d0, d1, d2, (0, 0)]) Ain Ab hN data _ c0 [c1, c2, (0, 0)]
    ⟨c0, c1, c2, rfl⟩ hexact (fun B hB => ?_) fun _ ⟨d0, d1, d2, h⟩ => h ▸ hmin d0 d1 d2
  obtain ⟨e0, e1, e2, e3, he3, hcl⟩ := bilinear_closed p0 p1 p2 (0, 0) B Ab hB ⟨hN.outb, hN.outd⟩
  obtain rfl := he3 rfl
  exact ⟨_, ⟨e0, e1, e2, rfl⟩, hcl⟩

/-- **`Poly2d.fit`, `N ≥ 9` (`_fit9`): exactly biquadratic data are reproduced** through the
normalisation and the de-normalisation, given that LAPACK returns a minimiser. -/
theorem poly_fit_exact_biquadratic (Ain Ab : Aff) (hN : FitNorms Ain Ab)
    (data : List ((Rat × Rat) × (Rat × Rat))) (p0 p1 p2 p3 p4 p5 p6 p7 p8 : Rat × Rat)
    (hexact : ∀ q ∈ data, Poly2d.evalCC (Poly2d.reshape 3 [p0, p1, p2, p3, p4, p5, p6, p7, p8]) q.1 = q.2)
    (c0 c1 c2 c3 c4 c5 c6 c7 c8 : Rat × Rat)
    (hmin : ∀ d0 d1 d2 d3 d4 d5 d6 d7 d8 : Rat × Rat,
      Poly2d.fitCost 3 Ain Ab data [c0, c1, c2, c3, c4, c5, c6, c7, c8] ≤
        Poly2d.fitCost 3 Ain Ab data [d0, d1, d2, d3, d4, d5, d6, d7, d8]) :
    ∀ q ∈ data, (Poly2d.ofFit 3 [c0, c1, c2, c3, c4, c5, c6, c7, c8] Ain Ab).eval q.1 = q.2 := by
  refine poly_fit_exact_family 2 (fun l => ∃ d0 d1 d2 d3 d4 d5 d6 d7 d8, l = [d0, d1, d2, d3, d4, d5, d6, d7, d8])
    Ain Ab hN data _ c0 [c1, c2, c3, c4, c5, c6, c7, c8] ⟨c0, c1, c2, c3, c4, c5, c6, c7, c8, rfl⟩ hexact (fun B hB => ?_)
    fun _ ⟨d0, d1, d2, d3, d4, d5, d6, d7, d8, h⟩ => h ▸ hmin d0 d1 d2 d3 d4 d5 d6 d7 d8
  obtain ⟨e0, e1, e2, e3, e4, e5, e6, e7, e8, hcl⟩ :=
    biquadratic_closed p0 p1 p2 p3 p4 p5 p6 p7 p8 B Ab hB ⟨hN.outb, hN.outd⟩
  exact ⟨_, ⟨e0, e1, e2, e3, e4, e5, e6, e7, e8, rfl⟩, hcl⟩

/-- **Dispatch**: fewer than three point pairs are rejected; 3 → affine (`_fit3`), 4…8 → bilinear
(`_fit4`), 9 and more → biquadratic (`_fit9`); the system LAPACK gets is never under-determined
(`columns ≤ points`). -/
theorem fit_kind_spec (N : Nat) :
    (N < 3 → Poly2d.fitKind N = .error .valueError) ∧
    (N = 3 → Poly2d.fitKind N = .ok .affine) ∧
    (4 ≤ N ∧ N ≤ 8 → Poly2d.fitKind N = .ok .bilinear) ∧
    (9 ≤ N → Poly2d.fitKind N = .ok .biquadratic) ∧
    (∀ k, Poly2d.fitKind N = .ok k → k.ncols ≤ N) := by
  refine ⟨fun h => if_pos h, by rintro rfl; rfl, fun ⟨h1, h2⟩ => ?_, fun h => ?_, fun k hk => ?_⟩
  · unfold Poly2d.fitKind
    rw [if_neg (by omega), if_neg (by omega), if_pos h1]
  · unfold Poly2d.fitKind
    rw [if_neg (by omega), if_pos h]
  · unfold Poly2d.fitKind at hk
    split_ifs at hk <;> cases hk <;> simp only [Poly2d.FitKind.ncols] <;> omega

/-- **The columns of the design matrix match the coefficient layout `Poly2d` evaluates**: for each
family, `AA[i] · cc` (what LAPACK fits) is `polyval2d` of the reshaped (for `_fit3`: zero-padded)
coefficient table at the same point — `cc[i][j]` multiplies `x^i·y^j`. -/
theorem design_row_is_polyval (p : Rat × Rat) :
    (∀ c0 c1 c2 : Rat × Rat,
      Poly2d.designDot (Poly2d.designRow .affine p) [c0, c1, c2] =
        Poly2d.evalCC (Poly2d.reshape 2 (Poly2d.padCoeffs .affine [c0, c1, c2])) p) ∧
    (∀ c0 c1 c2 c3 : Rat × Rat,
      Poly2d.designDot (Poly2d.designRow .bilinear p) [c0, c1, c2, c3] =
        Poly2d.evalCC (Poly2d.reshape 2 (Poly2d.padCoeffs .bilinear [c0, c1, c2, c3])) p) ∧
    (∀ c0 c1 c2 c3 c4 c5 c6 c7 c8 : Rat × Rat,
      Poly2d.designDot (Poly2d.designRow .biquadratic p) [c0, c1, c2, c3, c4, c5, c6, c7, c8] =
        Poly2d.evalCC (Poly2d.reshape 3 (Poly2d.padCoeffs .biquadratic [c0, c1, c2, c3, c4, c5, c6, c7, c8])) p) := by
  refine ⟨fun c0 c1 c2 => ?_, fun c0 c1 c2 c3 => ?_, fun c0 c1 c2 c3 c4 c5 c6 c7 c8 => ?_⟩
  -- in each family both sides, written out, are the same polynomial in the coordinates of `p`
  all_goals
    simp only [Poly2d.padCoeffs, List.cons_append, List.nil_append, evalCC_reshape2, evalCC_reshape3, biq,
      Poly2d.designDot, Poly2d.designRow, List.zip_cons_cons, List.zip_nil_right, List.foldl_cons, List.foldl_nil]
    ext <;> simp only [] <;> ring

/-- The squared residual `‖AA·cc − B‖²` handed to LAPACK *is* `Poly2d.fitCost` on the zipped data (bilinear
case): the cost LAPACK minimises is the cost the `poly_fit_exact_*` theorems are about. -/
theorem design_residual_is_fit_cost (Ain Ab : Aff) (aa bb : List (Rat × Rat)) (c0 c1 c2 c3 : Rat × Rat) :
    Poly2d.lsqCost (aa.map fun a => Poly2d.designRow .bilinear (Ain.apply a)) (bb.map Ab.apply) [c0, c1, c2, c3] =
      Poly2d.fitCost 2 Ain Ab (aa.zip bb) [c0, c1, c2, c3] := by
  unfold Poly2d.lsqCost Poly2d.fitCost
  rw [List.zip_map, List.map_map]
  congr 1
  apply List.map_congr_left
  intro q _
  have := (design_row_is_polyval (Ain.apply q.1)).2.1 c0 c1 c2 c3
  simp only [Poly2d.padCoeffs] at this
  simp only [Function.comp_def, Prod.map, this]

/-- **`Poly2d.fit` end to end (4 ≤ N ≤ 8)**: with `norm_xy`'s two affines and LAPACK as parameters,
if LAPACK returns four coefficient pairs minimising `‖AA·cc − B‖²` and the data are exactly bilinear
(in the original coordinates), the returned `Poly2d` maps every `a_i` to `b_i`.  Only this case is
composed; for N = 3 and N ≥ 9 there are `poly_fit_exact_affine` / `poly_fit_exact_biquadratic`, not the composition. -/
theorem poly_fit_pipeline_exact (lstsq : List (List Rat) → List (Rat × Rat) → Option (List (Rat × Rat)))
    (Ain Ab : Aff) (hN : FitNorms Ain Ab) (aa bb : List (Rat × Rat)) (hN4 : 4 ≤ aa.length) (hN8 : aa.length ≤ 8)
    (p0 p1 p2 p3 : Rat × Rat)
    (hexact : ∀ q ∈ aa.zip bb, Poly2d.evalCC (Poly2d.reshape 2 [p0, p1, p2, p3]) q.1 = q.2)
    (hls : ∀ rows targets cc, lstsq rows targets = some cc →
      ∃ c0 c1 c2 c3, cc = [c0, c1, c2, c3] ∧ ∀ d0 d1 d2 d3 : Rat × Rat,
        Poly2d.lsqCost rows targets [c0, c1, c2, c3] ≤ Poly2d.lsqCost rows targets [d0, d1, d2, d3])
    (P : Poly2d) (h : Poly2d.fit lstsq Ain Ab aa bb = .ok P) :
    ∀ q ∈ aa.zip bb, P.eval q.1 = q.2 := by
  unfold Poly2d.fit at h
  split at h
  · cases h
  · rw [(fit_kind_spec aa.length).2.2.1 ⟨hN4, hN8⟩] at h
    simp only at h
    split at h
    · cases h
    · rename_i cc hcc
      obtain ⟨c0, c1, c2, c3, rfl, hmin⟩ := hls _ _ cc hcc
      obtain rfl := Except.ok.inj h
      have := poly_fit_exact_bilinear Ain Ab hN (aa.zip bb) p0 p1 p2 p3 hexact c0 c1 c2 c3 fun d0 d1 d2 d3 => by
        simpa only [design_residual_is_fit_cost] using hmin d0 d1 d2 d3
      simpa only [Poly2d.ofFit, Poly2d.padCoeffs, Poly2d.FitKind.side] using this

/-- `Poly2d.fit` rejects mismatching inputs and fewer than three point pairs before anything else. -/
theorem poly_fit_rejects (lstsq : List (List Rat) → List (Rat × Rat) → Option (List (Rat × Rat)))
    (Ain Ab : Aff) (aa bb : List (Rat × Rat)) :
    (aa.length ≠ bb.length → Poly2d.fit lstsq Ain Ab aa bb = .error .assertion) ∧
    (aa.length = bb.length → aa.length < 3 → Poly2d.fit lstsq Ain Ab aa bb = .error .valueError) := by
  refine ⟨fun h => if_pos h, fun h1 h2 => ?_⟩
  unfold Poly2d.fit
  rw [if_neg (not_not.mpr h1), (fit_kind_spec aa.length).1 h2]

/-- **`affine_from_axis_roundtrip`**: labels `t + (i + ½)·r`, `i < n`, `n ≥ 2` give back
resolution `r` and offset `t` (pixel-edge convention). -/
theorem affine_from_axis_roundtrip (t r : Rat) (n : Nat) (hn : 2 ≤ n) (fb : Option Rat) :
    dataResolutionAndOffset ((List.range n).map fun (i : Nat) => t + ((i : Rat) + 1 / 2) * r) fb = .ok (r, t) := by
  obtain ⟨m, rfl⟩ : ∃ m, n = m + 1 := ⟨n - 1, by omega⟩
  have hm : (m : Rat) ≠ 0 := Nat.cast_ne_zero.mpr (by omega)
  rw [dataResolutionAndOffset_eq _ (by simpa using hn) (by simp)]
  simp only [List.head_map, List.getLast_map, List.head_range, List.getLast_range, List.length_map, List.length_range,
    Nat.add_sub_cancel]
  have e : (t + ((m : Rat) + 1 / 2) * r - (t + (((0 : Nat) : Rat) + 1 / 2) * r)) / (m : Rat) = r := by
    rw [Nat.cast_zero]; field_simp; ring
  rw [e, Nat.cast_zero]
  congr 2; ring

/-- **Branch order of `data_resolution_and_offset`**: with two or more labels the fallback resolution
is never consulted, and only the first and the last label matter (not "the first two" as the
docstring says): `res = (last − first)/(n − 1)`, `off = first − res/2`. -/
theorem data_resolution_first_last (x y : Rat) (rest : List Rat) (fb : Option Rat) :
    dataResolutionAndOffset (x :: y :: rest) fb =
      .ok (((y :: rest).getLast (List.cons_ne_nil y rest) - x) / (((rest.length + 1 : Nat)) : Rat),
           x - 1 / 2 * (((y :: rest).getLast (List.cons_ne_nil y rest) - x) / (((rest.length + 1 : Nat)) : Rat))) ∧
    dataResolutionAndOffset (x :: y :: rest) fb = dataResolutionAndOffset (x :: y :: rest) none := by
  constructor
  · simp [dataResolutionAndOffset]
  · rfl

/-- `affine_from_axis` passes the x / y component of the fallback to the respective axis, and an axis
with a single label takes its resolution from it (sign included). -/
theorem affine_from_axis_single_labels (x y rx ry : Rat) :
    affineFromAxis [x] [y] (some (rx, ry)) = .ok (Aff.translation (x - 1 / 2 * rx) (y - 1 / 2 * ry) * Aff.scale rx ry) ∧
    affineFromAxis [x] [y] none = .error .valueError := by
  constructor <;> rfl

theorem data_resolution_small (x : Rat) (fb : Option Rat) :
    dataResolutionAndOffset [] fb = .error .valueError ∧
    dataResolutionAndOffset [x] none = .error .valueError ∧
    (∀ r, dataResolutionAndOffset [x] (some r) = .ok (r, x - 1 / 2 * r)) :=
  ⟨rfl, rfl, fun _ => rfl⟩

/-- `affine_from_axis` is `T(xoff, yoff)·S(xres, yres)`: pixel `(i, j)`'s centre maps to the
labels `(xx[i], yy[j])`. -/
theorem affine_from_axis_centres (tx rx ty ry : Rat) (nx ny : Nat) (hnx : 2 ≤ nx) (hny : 2 ≤ ny)
    (fb : Option (Rat × Rat)) :
    ∃ A, affineFromAxis ((List.range nx).map fun (i : Nat) => tx + ((i : Rat) + 1 / 2) * rx)
        ((List.range ny).map fun (j : Nat) => ty + ((j : Rat) + 1 / 2) * ry) fb = .ok A ∧
      ∀ i j : Nat, A.apply ((i : Rat) + 1 / 2, (j : Rat) + 1 / 2) =
        (tx + ((i : Rat) + 1 / 2) * rx, ty + ((j : Rat) + 1 / 2) * ry) := by
  refine ⟨Aff.translation tx ty * Aff.scale rx ry, ?_, ?_⟩
  · unfold affineFromAxis
    rw [affine_from_axis_roundtrip tx rx nx hnx, affine_from_axis_roundtrip ty ry ny hny]
    rfl
  · intro i j
    simp [Aff.mul_def, Aff.mul, Aff.apply, Aff.translation, Aff.scale]
    constructor <;> ring

/-- `self.bin(x) == idx` exactly for the points of the interval `self[idx]` (both directions). -/
theorem bin1d_bin_eq_iff (b : Bin1D) (hsz : 0 < b.sz) (hd : b.direction = 1 ∨ b.direction = -1) (idx : Int)
    (x : Rat) : b.bin x = idx ↔ (b.interval idx).1 ≤ x ∧ x < (b.interval idx).2 := by
  have hdd : b.direction * b.direction = 1 := by rcases hd with h | h <;> rw [h] <;> rfl
  -- `bin` multiplies the floor by `direction = ±1`, so it is `idx` iff the floor is `direction * idx`
  have h1 : b.bin x = idx ↔ ((x - b.origin) / b.sz).floor = b.direction * idx :=
    ⟨fun h => by rw [← h, Bin1D.bin, ← mul_assoc, hdd, one_mul],
      fun h => by rw [Bin1D.bin, h, ← mul_assoc, hdd, one_mul]⟩
  rw [h1, le_antisymm_iff, ← Int.lt_add_one_iff, Rat.floor_lt_iff, Rat.le_floor_iff, div_lt_iff₀ hsz,
    le_div_iff₀ hsz, and_comm]
  simp only [Bin1D.interval]
  push_cast
  constructor
  · rintro ⟨h1, h2⟩
    exact ⟨by linear_combination h1, by linear_combination h2⟩
  · rintro ⟨h1, h2⟩
    exact ⟨by linear_combination h1, by linear_combination h2⟩

/-- **Every point lies in the interval of the bin it is mapped to** (both directions). -/
theorem bin1d_point_in_bin (b : Bin1D) (hsz : 0 < b.sz) (hd : b.direction = 1 ∨ b.direction = -1)
    (x : Rat) : (b.interval (b.bin x)).1 ≤ x ∧ x < (b.interval (b.bin x)).2 :=
  (bin1d_bin_eq_iff b hsz hd _ x).mp rfl

theorem bin1d_bin_of_interval (b : Bin1D) (hsz : 0 < b.sz) (hd : b.direction = 1 ∨ b.direction = -1)
    (idx : Int) (x : Rat) (hx : (b.interval idx).1 ≤ x ∧ x < (b.interval idx).2) : b.bin x = idx :=
  (bin1d_bin_eq_iff b hsz hd idx x).mpr hx

/-- Consecutive intervals tile the line: all have width `sz` and `self[i + direction]` starts
where `self[i]` ends. -/
theorem bin1d_intervals_tile (b : Bin1D) (hd : b.direction = 1 ∨ b.direction = -1) (idx : Int) :
    (b.interval idx).2 - (b.interval idx).1 = b.sz ∧
      (b.interval (idx + b.direction)).1 = (b.interval idx).2 := by
  have hdd : (b.direction : Rat) * b.direction = 1 := by rcases hd with h | h <;> rw [h] <;> norm_num
  simp only [Bin1D.interval]
  push_cast
  exact ⟨by ring, by linear_combination b.sz * hdd⟩

theorem bin1d_from_sample_bin (b : Bin1D) (hsz : 0 < b.sz) (hd : b.direction = 1 ∨ b.direction = -1)
    (idx : Int) :
    Bin1D.fromSampleBin idx (b.interval idx).1 (b.interval idx).2 b.direction = .ok b := by
  have hlt : (b.interval idx).1 < (b.interval idx).2 := lt_add_of_pos_right _ hsz
  have ho : (b.interval idx).1 - b.sz * (idx : Rat) * (b.direction : Rat) = b.origin := by
    simp only [Bin1D.interval]; ring
  unfold Bin1D.fromSampleBin
  rw [if_neg (not_not.mpr hlt)]
  simp only [(bin1d_intervals_tile b hd idx).1, ho]
  unfold Bin1D.mk?
  rw [if_neg (not_not.mpr hd.symm), if_neg (not_not.mpr hsz)]

theorem bin1d_rejects (sz origin : Rat) (d : Int) (h : ¬ (d = -1 ∨ d = 1) ∨ ¬ sz > 0) :
    Bin1D.mk? sz origin d = .error .assertion := by
  unfold Bin1D.mk?
  by_cases h1 : ¬ (d = -1 ∨ d = 1)
  · rw [if_pos h1]
  · rw [if_neg h1, if_pos (h.resolve_left h1)]

end OdcGeo.C20
