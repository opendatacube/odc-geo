/-
C09 — the Dataset seen as one object when it also holds variables that are not geo-registered
(`Dataset({"a": arr, "b": arr * 2, "c": <table over another dimension>})`): the Dataset-level recovery hypothesis of
`xr_reproject_ds_crs` is discharged for that shape too (for variables that all share the array's coordinates see
`ds_view_recover` in Props/C09C11.lean).
-/
import OdcGeo.Props.C09C11

namespace OdcGeo.C09
open OdcGeo

def isCrsCoord : Coord → Bool
  | .crs _ => true
  | _ => false

theorem lookup_append_of_mem (k : String) (l1 l2 : List (String × Coord)) (h : k ∈ l1.map (·.1)) :
    (l1 ++ l2).lookup k = l1.lookup k := by
  rw [List.lookup_append]
  cases hl : l1.lookup k with
  | some c => rfl
  | none =>
    obtain ⟨kc, hm, rfl⟩ := List.mem_map.mp h
    have := List.lookup_eq_none_iff.mp hl kc hm
    rw [bne_self_eq_false] at this
    cases this

/-- **ds_view_recover_extra** — the geobox of a Dataset as a whole when it also holds unregistered variables: the first
data variable carries the dims and coordinates of the array `a`; every other variable either does too, or is an
"extra" one whose own coordinates are either shared with `a` (same name: the scalar CRS coordinate a Dataset attaches
to all its variables) or are not CRS coordinates, and whose dimensions are not named like spatial dimensions unless
`a` has them.  Then `_locate_geo_info(ds)` recovers exactly what it recovers from `a` under the Dataset's own
`grid_mapping` (which, if set, names a coordinate of `a`). -/
theorem ds_view_recover_extra (attrs : List String) (gm : Option String) (a : XArr) (n0 : String) (v0 : XArr)
    (rest : List (String × XArr)) (p : String × String)
    (h0 : v0.dims = a.dims ∧ v0.coords = a.coords)
    (hco : ∀ w ∈ rest, ∀ kc ∈ w.2.coords, kc.1 ∈ a.coords.map (·.1) ∨ isCrsCoord kc.2 = false)
    (hdi : ∀ w ∈ rest, ∀ d ∈ w.2.dims, d ∈ a.dims ∨ d ∉ ["y", "x", "latitude", "longitude", "lat", "lon"])
    (hnd : (a.coords.map (·.1)).Nodup) (hg : guessDims a.dims = some p)
    (hy : p.1 ∈ a.coords.map (·.1)) (hx : p.2 ∈ a.coords.map (·.1))
    (hgm : ∀ nm, gm = some nm → nm ∈ a.coords.map (·.1)) :
    recover (dsSrcView attrs gm ((n0, v0) :: rest)) = recover { a with gridMapping := gm } := by
  -- coordinates: those of `a`, followed by fresh non-CRS ones
  obtain ⟨F, hF, hFm⟩ := merge_appends (rest.flatMap (·.2.coords)) a.coords
  have hc : (dsSrcView attrs gm ((n0, v0) :: rest)).coords = a.coords ++ F :=
    (dsView_coords_cons attrs a (n0, v0) rest h0.2 hnd).trans hF
  have hFcrs : ∀ kc ∈ F, kc.2.crs? = none := by
    intro kc hm
    obtain ⟨hin, hfresh⟩ := hFm _ hm
    obtain ⟨w, hw, hkw⟩ := List.mem_flatMap.mp hin
    rcases hco w hw _ hkw with h | h
    · exact absurd h hfresh
    · obtain ⟨_, c⟩ := kc
      cases c <;> first | rfl | cases h
  have hgd := (guessDims_dsSrcView attrs gm a (n0, v0) rest h0.1 hdi).trans hg
  have hly := lookup_append_of_mem p.1 a.coords F hy
  have hlx := lookup_append_of_mem p.2 a.coords F hx
  have hscan : crsScan (a.coords ++ F) = crsScan a.coords := by
    rw [crsScan_append, crsScan_eq_nil F hFcrs, List.append_nil]
  have hgmv : (dsSrcView attrs gm ((n0, v0) :: rest)).gridMapping = gm := rfl
  unfold recover locateCrsCoords
  rw [spatialDims_of_guess hgd, spatialDims_of_guess hg, hc, hgmv]
  simp only [hly, hlx, hscan]
  cases gm with
  | none => rfl
  | some nm => simp only [lookup_append_of_mem nm a.coords F (hgm nm rfl)]

/-- **xr_reproject_ds_crs_extra** — `xr_reproject_ds_crs` without the Dataset-level hypothesis for a Dataset with
unregistered extra variables: the destination is computed from the GeoBox recovered from the array `a` the
registered variables share. -/
theorem xr_reproject_ds_crs_extra (attrs : List String) (gm : Option String) (a0 : XArr) (n0 : String) (v0 : XArr)
    (rest : List (String × XArr)) (pd : String × String) (g : GeoBox) (c : Crs) (p : Proj) (a : C11.GridArgs)
    (extra : List (String × KwVal)) (attrs' : List String) (out : List (String × XArr))
    (h0 : v0.dims = a0.dims ∧ v0.coords = a0.coords)
    (hco : ∀ w ∈ rest, ∀ kc ∈ w.2.coords, kc.1 ∈ a0.coords.map (·.1) ∨ isCrsCoord kc.2 = false)
    (hdi : ∀ w ∈ rest, ∀ d ∈ w.2.dims, d ∈ a0.dims ∨ d ∉ ["y", "x", "latitude", "longitude", "lat", "lon"])
    (hnd : (a0.coords.map (·.1)).Nodup) (hgd : guessDims a0.dims = some pd)
    (hy : pd.1 ∈ a0.coords.map (·.1)) (hx : pd.2 ∈ a0.coords.map (·.1))
    (hgm : ∀ nm, gm = some nm → nm ∈ a0.coords.map (·.1))
    (hrec : recover { a0 with gridMapping := gm } = .ok (.lin g)) (hextra : ∀ kv ∈ extra, kv.1 ∉ gboxKeys)
    (hg : g.crs = some c → 1 ≤ g.ny ∧ 1 ≤ g.nx ∧ (isAffineST g.A = true → g.A.b = 0 ∧ g.A.d = 0))
    (h : xrReprojectDs attrs gm ((n0, v0) :: rest) (.crs c p) a extra = .ok (attrs', out)) :
    ∃ sc dst, g.crs = some sc ∧ outputGeoboxOf (.lin g) sc c p a = .ok dst ∧ dst.crs = some c ∧
      (∀ k ∈ attrs', k ∉ spatialAttributes) ∧
      ∀ nm o, (nm, o) ∈ out → ∃ v, (nm, v) ∈ (n0, v0) :: rest ∧
        ((recover v = .ok .nothing ∧ o.dims = v.dims ∧ o.attrs = v.attrs) ∨
         ((∀ k ∈ o.attrs, k ∉ spatialAttributes) ∧ o.gridMapping = some "spatial_ref" ∧
           (∀ sc0 pre post, DimsShape v sc0 pre post → recover o = .ok (.lin dst)))) :=
  xr_reproject_ds_crs attrs gm ((n0, v0) :: rest) g c p a extra attrs' out
    (by rw [ds_view_recover_extra attrs gm a0 n0 v0 rest pd h0 hco hdi hnd hgd hy hx hgm]; exact hrec) hextra hg h

/-- the unregistered table variable a Dataset may hold next to the rasters: its own dimension `t`, plus the scalar
coordinates (CRS coordinate included) the Dataset attaches to every variable -/
def extraVar (a : XArr) : XArr :=
  ⟨["t"], a.coords.filter (fun kc => match kc.2 with | .crs _ => true | .scalar => true | _ => false) ++ [("t", .other 3)],
    none, []⟩

/-- non-vacuity of `ds_view_recover_extra` / `xr_reproject_ds_crs_extra`: `Dataset({"a": arr, "b": arr * 2, "c": table})` of a
rotated, sliced array — the hypotheses hold and the Dataset-level geobox is the array's on both location paths -/
example :
    let arr := (wrap (.lin ⟨4, 6, ⟨3, 4, 100, 4, -3, 200⟩, some ⟨3857, false⟩⟩) (some 2) none "foo" ["keep"]).bind
      (fun a => applyOps a [.isel "y" (.slc (some 1) none none), .isel "time" (.int 0)])
    arr.bind (fun a => recover (dsSrcView ["title"] none [("a", a), ("b", { a with gridMapping := none }), ("c", extraVar a)]))
      = arr.bind recover ∧
    arr.bind (fun a => recover (dsSrcView [] (some "foo") [("a", a), ("c", extraVar a), ("b", { a with gridMapping := none })]))
      = arr.bind recover ∧
    arr.bind (fun a => .ok (
      decide ((a.coords.map (·.1)).Nodup) && (guessDims a.dims == some ("y", "x")) &&
      (a.coords.map (·.1)).contains "y" && (a.coords.map (·.1)).contains "x" && (a.coords.map (·.1)).contains "foo" &&
      (extraVar a).coords.all (fun kc => (a.coords.map (·.1)).contains kc.1 || !isCrsCoord kc.2) &&
      (extraVar a).dims.all (fun d => a.dims.contains d || !["y", "x", "latitude", "longitude", "lat", "lon"].contains d))) = .ok true := by
  decide +kernel

end OdcGeo.C09
