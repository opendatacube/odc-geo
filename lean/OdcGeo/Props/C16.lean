/-
C16 — GeoBox and bounding-box set operations respect the common pixel grid.  Parts A–E are in
`Props/C16Core.lean`; this file continues with order independence of the n-ary forms, `snap_to` against the
set operations, degenerate regions of `enclosing`, `overlap_roi` composed with the C02 views, more of
`BoundingBox`, and IEEE specials.
-/
import OdcGeo.Props.C16Core
import OdcGeo.Model.C16Link
import OdcGeo.Lemmas.C17

namespace OdcGeo.C16
open OdcGeo

/-! ## Part F — order independence of the n-ary forms -/

/-- `geobox_union_conservative` gives the same GeoBox (shape *and* world affine) for every ordering
of its operands, in particular whichever operand comes first and serves as the reference. -/
theorem union_list_perm (g0 : GeoBox) (hdet : g0.aff.det ≠ 0) (r r' : Rect) (ss ss' : List Rect)
    (p : (r :: ss).Perm (r' :: ss')) :
    geoboxUnionConservative ((r :: ss).map (onGrid g0)) =
    geoboxUnionConservative ((r' :: ss').map (onGrid g0)) := by
  rw [union_list_onGrid g0 hdet, union_list_onGrid g0 hdet,
    foldl_perm_head Rect.union Rect.union_assoc Rect.union_self Rect.union_comm r r' ss ss' p]

/-- the same for `geobox_intersection_conservative`, empty results included -/
theorem inter_list_perm (g0 : GeoBox) (hdet : g0.aff.det ≠ 0) (r r' : Rect) (ss ss' : List Rect)
    (p : (r :: ss).Perm (r' :: ss')) :
    geoboxIntersectionConservative ((r :: ss).map (onGrid g0)) =
    geoboxIntersectionConservative ((r' :: ss').map (onGrid g0)) := by
  rw [inter_list_onGrid g0 hdet, inter_list_onGrid g0 hdet,
    foldl_perm_head Rect.rawInter Rect.rawInter_assoc Rect.rawInter_self Rect.rawInter_comm r r' ss ss' p]

example : ([⟨0, 0, 2, 2⟩, ⟨1, 1, 3, 3⟩, ⟨5, 0, 6, 1⟩] : List Rect).Perm
    [⟨5, 0, 6, 1⟩, ⟨0, 0, 2, 2⟩, ⟨1, 1, 3, 3⟩] := by decide

/-! ## Part G — `snap_to` and the set operations use matching tolerances -/

theorem ops_accept_near_shift (a b : GeoBox) (hc : b.crs = a.crs) (hdet : a.aff.det ≠ 0)
    (kx ky : Int) (ex ey : Rat) (h : b.aff = a.aff * Aff.translation (kx + ex) (ky + ey))
    (hx : |ex| < tolPix) (hy : |ey| < tolPix) :
    (∃ u, a.or b = .ok u) ∧ (∃ i, a.and b = .ok i) ∧ (∃ roi, a.overlapRoi b tolPix = .ok roi) ∧
    (∃ u, b.or a = .ok u) ∧ (∃ i, b.and a = .ok i) ∧ (∃ roi, b.overlapRoi a tolPix = .ok roi) := by
  have hab := compatible_accepted b a hc hdet kx ky ex ey tolPix h hx hy tolPix_le_half
  have hdetb : b.aff.det ≠ 0 := by rw [h, Aff.det_mul_translation]; exact hdet
  have cancel : ∀ (k : Int) (e : Rat), (k : Rat) + e + (((-k : Int) : Rat) + -e) = 0 := fun k e => by
    push_cast; ring
  have hba := compatible_accepted a b hc.symm hdetb (-kx) (-ky) (-ex) (-ey) tolPix
    (by rw [h, Aff.mul_assoc', Aff.translation_mul_translation, cancel, cancel, Aff.translation_zero, Aff.mul_id])
    (by rwa [abs_neg]) (by rwa [abs_neg]) tolPix_le_half
  obtain ⟨h1, h2, h3⟩ := ops_succeed_of_accepted a b hdet _ hab
  obtain ⟨h4, h5, h6⟩ := ops_succeed_of_accepted b a hdetb _ hba
  exact ⟨h1, h2, h3, h4, h5, h6⟩

/-- **After `s = a.snap_to(b)` the set operations between `s` and `b` work** (both operand orders):
the threshold `1e-8` below which `snap_to` leaves an offset alone (`maybe_zero`) is the same `1e-8`
within which `bounding_box_in_pixel_domain` accepts an offset as whole, and both tests are strict
on the same side.  (A larger `maybe_zero` threshold would leave results that `|`, `&`,
`overlap_roi` reject.) -/
theorem snap_then_ops_succeed (self other : GeoBox) (hdet : self.aff.det ≠ 0) (tx ty : Rat)
    (h : other.aff = self.aff * Aff.translation tx ty) (hc : other.crs = self.crs) :
    ∃ s, self.snapTo other = .ok s ∧
      (∃ u, s.or other = .ok u) ∧ (∃ i, s.and other = .ok i) ∧ (∃ roi, s.overlapRoi other tolPix = .ok roi) ∧
      (∃ u, other.or s = .ok u) ∧ (∃ i, other.and s = .ok i) ∧ (∃ roi, other.overlapRoi s tolPix = .ok roi) := by
  obtain ⟨s, dx, dy, kx, ky, ex, ey, hs, _, _, _, hcrs, _, _, hon, hex, hey⟩ :=
    snap_to_half_pixel self other hdet tx ty h hc
  have hdeto : other.aff.det ≠ 0 := by rw [h, Aff.det_mul_translation]; exact hdet
  have small : ∀ {e d : Rat}, e = 0 ∨ d = 0 ∧ |e| < tolPix → |e| < tolPix := by
    rintro e d (rfl | ⟨-, h'⟩)
    exacts [by simpa using tolPix_pos, h']
  obtain ⟨h1, h2, h3, h4, h5, h6⟩ :=
    ops_accept_near_shift other s (hcrs.trans hc.symm) hdeto kx ky ex ey hon (small hex) (small hey)
  exact ⟨s, hs, h4, h5, h6, h1, h2, h3⟩

/-! ## Part H — `enclosing` never returns an empty GeoBox -/

/-- whatever the region (a point on a pixel corner, a segment along a pixel edge, …) the result has
at least one pixel on each axis -/
theorem enclosing_never_empty (g : GeoBox) (rc : Option Nat) (p : Rat × Rat) (ps : List (Rat × Rat))
    (res : GeoBox) (h : g.enclosing rc p ps = .ok res) : 1 ≤ res.nx ∧ 1 ≤ res.ny ∧ res.isEmpty = false := by
  rw [enclosing_eq] at h
  split_ifs at h
  cases h
  simp only [GeoBox.isEmpty, onGrid, enclosingRect, add_sub_cancel_left, Bool.or_eq_false_iff, beq_eq_false_iff_ne]
  have pos : ∀ a : Int, 1 ≤ max 1 a := fun a => le_max_left _ _
  exact ⟨pos _, pos _, (zero_lt_one.trans_le (pos _)).ne', (zero_lt_one.trans_le (pos _)).ne'⟩

/-- a region with zero extent along x that sits exactly on the pixel edge `x = k` of the grid (a
vertical segment, or a point) gets exactly one pixel column starting at `k` — never zero columns -/
theorem enclosing_on_pixel_edge (g : GeoBox) (hdet : g.aff.det ≠ 0) (rc : Option Nat) (hrc : rc ≠ none)
    (hg : g.crs ≠ none) (k : Int) (ys : List Rat) (y0 : Rat) :
    ∃ res, g.enclosing rc (g.aff.apply ((k : Rat), y0)) (ys.map fun y => g.aff.apply ((k : Rat), y)) = .ok res ∧
      res.nx = 1 ∧ ∃ ty : Int, res.aff = g.aff * Aff.translation k ty := by
  obtain ⟨res, tx, ty, h, e⟩ := enclosing_spec g hdet rc hrc hg (g.aff.apply ((k : Rat), y0))
    (ys.map fun y => g.aff.apply ((k : Rat), y))
  have hk : ∀ q ∈ g.aff.apply ((k : Rat), y0) :: ys.map (fun y => g.aff.apply ((k : Rat), y)),
      (g.aff.inv.apply q).1 = k := by
    intro q hq
    rcases List.mem_cons.mp hq with rfl | hq
    · rw [Aff.inv_apply_apply g.aff hdet]
    · obtain ⟨y, -, rfl⟩ := List.mem_map.mp hq
      rw [Aff.inv_apply_apply g.aff hdet]
  obtain ⟨rfl, h1⟩ := e.x.of_const hk
  exact ⟨res, h, h1, ty, e.aff_eq⟩

/-! ## Part I — `overlap_roi` is normalised; composition with the C02 views -/

/-- the ROI has non-negative, ordered bounds on both axes (never a negative stop that numpy would wrap) -/
theorem overlap_roi_normalised (a b : GeoBox) (tol : Rat) (roi : Roi) (h : a.overlapRoi b tol = .ok roi) :
    0 ≤ roi.x0 ∧ roi.x0 ≤ roi.x1 ∧ 0 ≤ roi.y0 ∧ roi.y0 ≤ roi.y1 := by
  unfold GeoBox.overlapRoi at h
  split at h
  · cases h
  · cases h
    exact ⟨le_max_left _ _, le_max_left _ _, le_max_left _ _, le_max_left _ _⟩

theorem crs_roundtrip {c : Option Nat} (h : c ≠ some 0) : (if c.getD 0 = 0 then none else some (c.getD 0)) = c := by
  cases c with
  | none => rfl
  | some n =>
    have : n ≠ 0 := fun e => h (by rw [e])
    simp [this]

theorem cropRoi_onGrid (g0 : GeoBox) (hcrs : g0.crs ≠ some 0) (t : Rect) (roi : Roi)
    (h : 0 ≤ roi.x0 ∧ 0 ≤ roi.x1 ∧ 0 ≤ roi.y0 ∧ 0 ≤ roi.y1) :
    (onGrid g0 t).cropRoi roi =
      onGrid g0 ⟨t.x0 + roi.x0, t.y0 + roi.y0, t.x0 + roi.x1, t.y0 + roi.y1⟩ := by
  obtain ⟨h1, h2, h3, h4⟩ := h
  have hc := crs_roundtrip hcrs
  simp only [GeoBox.cropRoi, ofC02, toC02, C02.crop, C17.normSlice_of_nonneg _ h1 h2, C17.normSlice_of_nonneg _ h3 h4,
    onGrid, GeoBox.mk.injEq, hc, and_true]
  refine ⟨by omega, by omega, ?_⟩
  rw [Aff.mul_assoc', Aff.translation_mul_translation]
  congr 2 <;> push_cast <;> ring

theorem cropRoi_roiIn_inter (g0 : GeoBox) (hcrs : g0.crs ≠ some 0) (r s : Rect) :
    (onGrid g0 r).cropRoi (r.roiIn (r.inter s)) = onGrid g0 (r.inter s) := by
  rw [cropRoi_onGrid g0 hcrs r _ (r.roiIn_inter_nonneg s)]
  simp only [Rect.roiIn, add_sub_cancel]

/-- **Cropping `a` by `a.overlap_roi(b)` is `a & b`** — same shape and same world affine, also when
there is no overlap (both are the same empty GeoBox). -/
theorem crop_overlap_is_intersection (g0 : GeoBox) (hdet : g0.aff.det ≠ 0) (hcrs : g0.crs ≠ some 0)
    (r s : Rect) :
    cropOverlap (onGrid g0 r) (onGrid g0 s) tolPix = (onGrid g0 r).and (onGrid g0 s) := by
  simp only [cropOverlap, overlapRoi_onGrid g0 hdet _ _ _ tolPix_pos, cropRoi_roiIn_inter g0 hcrs,
    and_onGrid g0 hdet]

/-- **Cropping a union by the pixel window of an operand gives that operand back**:
`u = a | b; u[u.overlap_roi(a)] == a` (C16 `|`, `overlap_roi` composed with C02 `__getitem__`). -/
theorem crop_union_gives_operand_back (g0 : GeoBox) (hdet : g0.aff.det ≠ 0) (hcrs : g0.crs ≠ some 0)
    (r s : Rect) (hr : r.Valid) :
    cropUnionBack (onGrid g0 r) (onGrid g0 s) tolPix = .ok (onGrid g0 r) := by
  simp only [cropUnionBack, or_onGrid g0 hdet, overlapRoi_onGrid g0 hdet _ _ _ tolPix_pos,
    cropRoi_roiIn_inter g0 hcrs]
  rw [Rect.inter_comm, Rect.inter_union_self hr]

def Rect.shift (r : Rect) (tx ty : Int) : Rect := ⟨r.x0 + tx, r.y0 + ty, r.x1 + tx, r.y1 + ty⟩

theorem neighbours_onGrid (g0 : GeoBox) (hcrs : g0.crs ≠ some 0) (r : Rect) :
    (onGrid g0 r).right = onGrid g0 (r.shift (r.x1 - r.x0) 0) ∧
    (onGrid g0 r).left = onGrid g0 (r.shift (-(r.x1 - r.x0)) 0) ∧
    (onGrid g0 r).bottom = onGrid g0 (r.shift 0 (r.y1 - r.y0)) ∧
    (onGrid g0 r).top = onGrid g0 (r.shift 0 (-(r.y1 - r.y0))) := by
  have hc := crs_roundtrip hcrs
  have aux : ∀ (tx ty : Int) (qx qy : Rat), qx = tx → qy = ty →
      ofC02 (C02.translatePix (toC02 (onGrid g0 r)) qx qy) = onGrid g0 (r.shift tx ty) := by
    rintro tx ty _ _ rfl rfl
    simp only [ofC02, toC02, C02.translatePix, C02.mulPix, onGrid, Rect.shift, GeoBox.mk.injEq]
    refine ⟨by omega, by omega, ?_, hc⟩
    rw [Aff.mul_assoc', Aff.translation_mul_translation]
    congr 2 <;> push_cast <;> ring
  exact ⟨aux _ 0 _ _ rfl Int.cast_zero.symm, aux _ 0 _ _ (Int.cast_neg _).symm Int.cast_zero.symm,
    aux 0 _ _ _ Int.cast_zero.symm rfl, aux 0 _ _ _ Int.cast_zero.symm (Int.cast_neg _).symm⟩

/-- **Neighbouring tiles**: `a` and `a.right` (resp. `a.bottom`) share no pixel — `&` is an empty
GeoBox — and `|` is exactly the two tiles side by side. -/
theorem neighbour_tiles (g0 : GeoBox) (hdet : g0.aff.det ≠ 0) (hcrs : g0.crs ≠ some 0) (r : Rect)
    (hr : r.Valid) :
    (∃ e, (onGrid g0 r).and (onGrid g0 r).right = .ok e ∧ e.nx = 0) ∧
    (onGrid g0 r).or (onGrid g0 r).right = .ok (onGrid g0 ⟨r.x0, r.y0, r.x1 + (r.x1 - r.x0), r.y1⟩) ∧
    (∃ e, (onGrid g0 r).and (onGrid g0 r).bottom = .ok e ∧ e.ny = 0) ∧
    (onGrid g0 r).or (onGrid g0 r).bottom = .ok (onGrid g0 ⟨r.x0, r.y0, r.x1, r.y1 + (r.y1 - r.y0)⟩) := by
  obtain ⟨hr1, hr2⟩ := hr
  obtain ⟨e1, _, e3, _⟩ := neighbours_onGrid g0 hcrs r
  rw [e1, e3]
  refine ⟨⟨_, and_onGrid g0 hdet _ _, ?_⟩, ?_, ⟨_, and_onGrid g0 hdet _ _, ?_⟩, ?_⟩
  · simp only [onGrid, Rect.inter, Rect.shift]; omega
  · rw [or_onGrid g0 hdet]
    refine congrArg Except.ok (congrArg (onGrid g0) ?_)
    simp only [Rect.union, Rect.shift, Rect.mk.injEq]; omega
  · simp only [onGrid, Rect.inter, Rect.shift]; omega
  · rw [or_onGrid g0 hdet]
    refine congrArg Except.ok (congrArg (onGrid g0) ?_)
    simp only [Rect.union, Rect.shift, Rect.mk.injEq]; omega

/-- a mirrored view (`flipx`, `flipy` of C02) covers the same footprint but is on a *different* pixel
grid: `|` refuses it instead of resampling (and so do `&`, `overlap_roi`: `rejection_propagates`) -/
theorem flipped_rejected (a : GeoBox) (hdet : a.aff.det ≠ 0) (hcrs : a.crs ≠ some 0) :
    a.or a.flipx = .error .valueError ∧ a.or a.flipy = .error .valueError := by
  have t1 : tolOne < 2 := by unfold tolOne; norm_num
  constructor
  · refine (rejection_propagates a a.flipx tolPix ?_).1
    refine relative_transform_rejected _ a (Aff.translation (a.nx : Rat) 0 * Aff.scale (-1) 1) hdet ?_ _
      (Or.inl ?_)
    · simp [GeoBox.flipx, ofC02, toC02, C02.flipx, C02.mulPix]
    · rw [Aff.translation_mul_scale]; norm_num; exact t1
  · refine (rejection_propagates a a.flipy tolPix ?_).1
    refine relative_transform_rejected _ a (Aff.translation 0 (a.ny : Rat) * Aff.scale 1 (-1)) hdet ?_ _
      (Or.inr (Or.inl ?_))
    · simp [GeoBox.flipy, ofC02, toC02, C02.flipy, C02.mulPix]
    · rw [Aff.translation_mul_scale]; norm_num; exact t1

/-- `GeoBox.pad` is C02's `pad` -/
theorem pad_eq_C02 (g : GeoBox) (px : Int) (py : Option Int) :
    toC02 (g.pad px py) = C02.pad (toC02 g) px py := by
  cases py <;> rfl

/-- `pad` stays on the grid; a padded GeoBox contains the original: `a.pad(px, py) & a == a` and
`a | a.pad(px, py) == a.pad(px, py)` for non-negative paddings -/
theorem pad_contains (g0 : GeoBox) (hdet : g0.aff.det ≠ 0) (r : Rect) (hr : r.Valid) (px py : Int)
    (hx : 0 ≤ px) (hy : 0 ≤ py) :
    (onGrid g0 r).pad px (some py) = onGrid g0 ⟨r.x0 - px, r.y0 - py, r.x1 + px, r.y1 + py⟩ ∧
    ((onGrid g0 r).pad px (some py)).and (onGrid g0 r) = .ok (onGrid g0 r) ∧
    (onGrid g0 r).or ((onGrid g0 r).pad px (some py)) = .ok ((onGrid g0 r).pad px (some py)) := by
  have e : (onGrid g0 r).pad px (some py) = onGrid g0 ⟨r.x0 - px, r.y0 - py, r.x1 + px, r.y1 + py⟩ := by
    simp only [GeoBox.pad, onGrid, GeoBox.mk.injEq, and_true]
    refine ⟨by omega, by omega, ?_⟩
    rw [Aff.mul_assoc', Aff.translation_mul_translation]
    congr 2 <;> push_cast <;> ring
  have hw : r.Within ⟨r.x0 - px, r.y0 - py, r.x1 + px, r.y1 + py⟩ :=
    ⟨sub_le_self _ hx, sub_le_self _ hy, le_add_of_nonneg_right hx, le_add_of_nonneg_right hy⟩
  refine ⟨e, ?_, ?_⟩
  · rw [e, and_onGrid g0 hdet, Rect.inter_comm, Rect.inter_eq_of_within hr hw]
  · rw [e, or_onGrid g0 hdet, Rect.union_eq_of_within hw]

/-! ## Part J — more of `BoundingBox` -/

/-- `buffered` with non-negative buffers contains the box; spans grow by twice the buffer; `ybuff=None`
means `ybuff=xbuff` -/
theorem bbox_buffered_spec (bb : BBox Rat) (xb yb : Rat) :
    (0 ≤ xb → 0 ≤ yb → bb.Within (bb.buffered xb (some yb))) ∧
    (bb.buffered xb (some yb)).spanX = bb.spanX + 2 * xb ∧
    (bb.buffered xb (some yb)).spanY = bb.spanY + 2 * yb ∧
    bb.buffered xb none = bb.buffered xb (some xb) ∧
    (bb.buffered xb (some yb)).buffered (-xb) (some (-yb)) = bb := by
  refine ⟨?_, ?_, ?_, rfl, ?_⟩
  · intro hx hy
    simp only [BBox.Within, BBox.buffered]
    refine ⟨?_, ?_, ?_, ?_⟩ <;> linarith
  · simp only [BBox.spanX, BBox.buffered]; ring
  · simp only [BBox.spanY, BBox.buffered]; ring
  · cases bb
    simp only [BBox.buffered, BBox.mk.injEq, and_true]
    refine ⟨?_, ?_, ?_, ?_⟩ <;> ring

/-- the `shape` of a box with integer edges is exactly `(top - bottom, right - left)` — this is how
`geobox_union_conservative` / `geobox_intersection_conservative` obtain the result shape -/
theorem bbox_shape_int (l b r t : Int) (crs : Option Nat) :
    (⟨(l : Rat), (b : Rat), (r : Rat), (t : Rat), crs⟩ : BBox Rat).shape = (t - b, r - l) := by
  obtain ⟨_, _, h⟩ := pyInt_spec 0
  simp only [BBox.shape, BBox.height, BBox.width]
  rw [show (t : Rat) - b = ((t - b : Int) : Rat) by push_cast; ring,
    show (r : Rat) - l = ((r - l : Int) : Rat) by push_cast; ring, h, h]

/-- `from_points` / `from_xy`: a well-formed box (left ≤ right, bottom ≤ top) that contains both
points and is the least such box -/
theorem bbox_from_points_spec (p1 p2 : Rat × Rat) (crs : Option Nat) :
    let bb := BBox.fromPoints p1 p2 crs
    bb.left ≤ bb.right ∧ bb.bottom ≤ bb.top ∧ bb.Contains p1 ∧ bb.Contains p2 ∧
    ∀ c : BBox Rat, c.Contains p1 → c.Contains p2 → bb.Within c := by
  simp only [BBox.fromPoints, BBox.fromXY, BBox.Contains, BBox.Within]
  refine ⟨min_le_max, min_le_max, ⟨min_le_left _ _, le_max_left _ _, min_le_left _ _, le_max_left _ _⟩,
    ⟨min_le_right _ _, le_max_right _ _, min_le_right _ _, le_max_right _ _⟩, ?_⟩
  rintro c ⟨a1, a2, a3, a4⟩ ⟨b1, b2, b3, b4⟩
  exact ⟨le_min a1 b1, le_min a3 b3, max_le a2 b2, max_le a4 b4⟩

/-- `from_transform(shape, A)` is the bounding box of the whole pixel rectangle: it equals
`BoundingBox(0, 0, nx, ny).transform(A)` for every transform (rotated, sheared, mirrored) … -/
theorem bbox_from_transform_eq_transform (ny nx : Int) (A : Aff) (crs : Option Nat) :
    BBox.fromTransform ny nx A crs = (⟨0, 0, (nx : Rat), (ny : Rat), crs⟩ : BBox Rat).transform A := by
  simp only [BBox.fromTransform, BBox.transform, bboxOfPoints, List.map, minL, maxL, BBox.mk.injEq, and_true]
  exact ⟨min_right_comm .., min_right_comm .., max_right_comm .., max_right_comm ..⟩

theorem bbox_from_transform_covers (ny nx : Int) (A : Aff) (crs : Option Nat) (p : Rat × Rat)
    (h : 0 ≤ p.1 ∧ p.1 ≤ nx ∧ 0 ≤ p.2 ∧ p.2 ≤ ny) :
    (BBox.fromTransform ny nx A crs).Contains (A.apply p) := by
  rw [bbox_from_transform_eq_transform]
  exact bbox_transform_covers _ A p h

example : (BBox.fromTransform 1 1 ⟨1, -1, 0, 1, 1, 0⟩ none) = ⟨-1, 0, 1, 2, none⟩ := by
  simp only [BBox.fromTransform, bboxOfPoints, Aff.apply, List.map, minL, maxL, BBox.mk.injEq, and_true]
  norm_num

/-! ## Part K — IEEE specials in `bbox_union` / `bbox_intersection`

The lattice laws of Part A need no well-formedness: they hold for *inverted* boxes (left > right)
too, since they are laws of `min`/`max` on a linear order.  Doubles with `nan` are not a linear
order; on the carrier `PyF` the same generic model describes what the code does. -/

/-- on finite operands Python's `min` / `max` are the rational ones: Part A applies verbatim -/
theorem pyF_fin_min_max (a b : Rat) :
    min (PyF.fin a) (PyF.fin b) = PyF.fin (min a b) ∧ max (PyF.fin a) (PyF.fin b) = PyF.fin (max a b) := by
  constructor
  · show (if PyF.lt (.fin b) (.fin a) then PyF.fin b else PyF.fin a) = _
    rw [min_comm, min_def_lt, apply_ite PyF.fin]
    simp only [PyF.lt, decide_eq_true_eq]
  · show (if PyF.lt (.fin a) (.fin b) then PyF.fin b else PyF.fin a) = _
    rw [max_def_lt, apply_ite PyF.fin]
    simp only [PyF.lt, decide_eq_true_eq]

/-- infinite edges behave as ±∞ should: `inf` absorbs in `max`, is neutral in `min` (and dually) -/
theorem pyF_inf (a : Rat) :
    max (PyF.fin a) PyF.pinf = .pinf ∧ max PyF.pinf (PyF.fin a) = .pinf ∧
    min (PyF.fin a) PyF.pinf = .fin a ∧ min PyF.pinf (PyF.fin a) = .fin a ∧
    min (PyF.fin a) PyF.ninf = .ninf ∧ min PyF.ninf (PyF.fin a) = .ninf ∧
    max (PyF.fin a) PyF.ninf = .fin a ∧ max PyF.ninf (PyF.fin a) = .fin a := by
  refine ⟨rfl, rfl, rfl, rfl, rfl, rfl, rfl, rfl⟩

/-- **With a `nan` edge the result depends on the operand order** (in odc-geo too; replayed by the
harness): `BoundingBox(nan,0,1,1) | BoundingBox(0,0,2,2)` has `left = 0`, the other order has
`left = nan`.  `nan` boxes are outside the property's quantifier (not bounding boxes of anything);
recorded so that the model states what the code does. -/
theorem bbox_union_nan_order_cex :
    (⟨.nan, .fin 0, .fin 1, .fin 1, none⟩ : BBox PyF).or ⟨.fin 0, .fin 0, .fin 2, .fin 2, none⟩ =
      .ok ⟨.fin 0, .fin 0, .fin 2, .fin 2, none⟩ ∧
    (⟨.fin 0, .fin 0, .fin 2, .fin 2, none⟩ : BBox PyF).or ⟨.nan, .fin 0, .fin 1, .fin 1, none⟩ =
      .ok ⟨.nan, .fin 0, .fin 2, .fin 2, none⟩ := by
  constructor <;> decide

/-- inverted operands: nothing special happens, e.g. `BoundingBox(3,3,1,1) | BoundingBox(0,0,2,2)` is
`(0,0,2,2)` and `&` of them is `(3,3,1,1)` (covered by Part A, which assumes no well-formedness) -/
example : (⟨3, 3, 1, 1, none⟩ : BBox Int).or ⟨0, 0, 2, 2, none⟩ = .ok ⟨0, 0, 2, 2, none⟩ ∧
    (⟨3, 3, 1, 1, none⟩ : BBox Int).and ⟨0, 0, 2, 2, none⟩ = .ok ⟨3, 3, 1, 1, none⟩ := by
  constructor <;> decide

end OdcGeo.C16
