/-
C09 — GCP-registered sources through `xr_reproject(<CRS>)` (model branch `.gcp` of Model/C09Reproject.lean):
the identity fast path is never taken, so no side condition is needed; the invariant `CrsInv` on the CRS
coordinate (Lemmas/C09Inv.lean) carries the statement through every finite history of admissible operations.
-/
import OdcGeo.Props.C09C11

namespace OdcGeo.C09
open OdcGeo

/-- **xr_reproject_crs_geobox_gcp** — `xr_reproject(src, <CRS>, **options)` for a source registered with ground
control points: for every source array with dims `(time?) y x (band?)` whose recovered box is the GCP box `gg`, every
destination CRS (the box's own CRS included), every option set and other keywords, whenever the call succeeds the
GeoBox recovered from the output is exactly the axis-aligned grid `compute_output_geobox(gg, c, **options)` describes, in
CRS `c`, with at least one pixel per axis; attrs pruned, `grid_mapping = spatial_ref`.  No side condition. -/
theorem xr_reproject_crs_geobox_gcp (src : XArr) (sc0 : Option Crs) (pre post : List String) (gg : GcpBox) (c : Crs)
    (p : Proj) (a : C11.GridArgs) (extra : List (String × KwVal)) (nd : Bool) (out : XArr)
    (hshape : DimsShape src sc0 pre post) (hrec : recover src = .ok (.gcp gg))
    (hextra : ∀ kv ∈ extra, kv.1 ∉ gboxKeys)
    (h : xrReprojectDa src (.crs c p) a extra nd = .ok out) :
    ∃ sc dst, gg.crs = some sc ∧ outputGeoboxOf (.gcp gg) sc c p a = .ok dst ∧ recover out = .ok (.lin dst) ∧
      dst.crs = some c ∧ dst.A.b = 0 ∧ dst.A.d = 0 ∧ 1 ≤ dst.ny ∧ 1 ≤ dst.nx ∧
      (∀ k ∈ out.attrs, k ∉ spatialAttributes) ∧ out.gridMapping = some "spatial_ref" := by
  obtain ⟨r, sc, dst, hr, hsc, hd, hasm⟩ := xrReprojectDa_ok hextra h
  cases hrec.symm.trans hr
  obtain ⟨hc, hny, hnx, hb, hdd⟩ := (output_geobox_wellformed hd).resolve_left fun h => by cases h.1
  obtain ⟨hp1, hp2, hgb⟩ := assembled_var ⟨hc, hny, hnx, fun _ => ⟨hb, hdd⟩⟩ hasm
  exact ⟨sc, dst, hsc, hd, hgb sc0 pre post hshape, hc, hb, hdd, hny, hnx, hp1, hp2⟩

theorem notcrs_match (x : Coord) (h : ∀ c', x ≠ Coord.crs c') :
    (match x with | Coord.crs c' => some c' | _ => none) = (none : Option CrsCoord) := by
  cases x with
  | crs c' => exact absurd rfl (h c')
  | axis _ _ _ => rfl
  | other _ => rfl
  | scalar => rfl

theorem recover_gcp_kind {cn : String} {cc : CrsCoord} {pts : List Gcp} {a : XArr} {r : Recovered}
    (hI : CrsInv cn (some cc) a) (hp : cc.gcps = some pts) (hr : recover a = .ok r) :
    r = .nothing ∨ ∃ gg : GcpBox, r = .gcp gg ∧ gg.pts = pts ∧ gg.crs = cc.crs := by
  unfold recover at hr
  split at hr
  · exact Or.inl (Except.ok.inj hr).symm
  · split at hr
    · simp only [hI.locate, Option.toList_some, List.head?_cons, Option.bind_some, hp] at hr
      split at hr
      · cases hr
      · exact Or.inr ⟨_, (Except.ok.inj hr).symm, rfl, rfl⟩
    · cases hr

/-- **xr_reproject_crs_history_gcp** — the property's quantifier for GCP-registered arrays: wrap any GCPGeoBox with a CRS
(any shape, rank, CRS-coordinate name), apply any finite history of admissible operations (slices of any axis,
arithmetic, `astype`, pickling, integer indexing of `time` / `band`), call `xr_reproject(…, <CRS>, **options)`: whenever
the call succeeds, what was recovered from the array is a GCP box with the control points `wrap_xr` exported and the
original CRS, the destination is the axis-aligned grid `compute_output_geobox` gives for it, and the GeoBox recovered
from the output is exactly that grid.  No hypothesis about the intermediate array. -/
theorem xr_reproject_crs_history_gcp (g0 : GcpBox) (c0 : Crs) (nt nb : Option Nat) (cn : String) (attrs : List String)
    (ops : List Op) (a0 arr : XArr) (c : Crs) (p : Proj) (a : C11.GridArgs) (extra : List (String × KwVal))
    (nd : Bool) (out : XArr) (hcn : NameOk cn) (hcrs : g0.crs = some c0)
    (hw : wrap (.gcp g0) nt nb cn attrs = .ok a0) (hadm : ∀ op ∈ ops, op.admissible)
    (hops : applyOps a0 ops = .ok arr) (hextra : ∀ kv ∈ extra, kv.1 ∉ gboxKeys)
    (h : xrReprojectDa arr (.crs c p) a extra nd = .ok out) :
    ∃ gg dst, recover arr = .ok (.gcp gg) ∧ exportGcps g0 = .ok gg.pts ∧ gg.crs = some c0 ∧
      outputGeoboxOf (.gcp gg) c0 c p a = .ok dst ∧ recover out = .ok (.lin dst) ∧ dst.crs = some c ∧
      dst.A.b = 0 ∧ dst.A.d = 0 ∧ (∀ k ∈ out.attrs, k ∉ spatialAttributes) := by
  obtain ⟨pts, hpts, hI0, _⟩ := wrap_gcp_ok hcn hcrs hw
  have hI := hI0.ops hops
  obtain ⟨r, sc, dst, hr, hsc, _, _⟩ := xrReprojectDa_ok hextra h
  obtain ⟨pre, post, hs⟩ := dimsShape_history g0.crs rfl hw hadm hops
  rcases recover_gcp_kind hI rfl hr with rfl | ⟨gg, rfl, hgp, hgc⟩
  · simp [Recovered.crs] at hsc
  · obtain ⟨sc', dst', e1, e2, e3, e4, e5, e6, _, _, e9, _⟩ :=
      xr_reproject_crs_geobox_gcp arr g0.crs pre post gg c p a extra nd out hs hr hextra h
    obtain rfl : sc' = c0 := (Option.some.inj (hgc.symm.trans e1)).symm
    exact ⟨gg, dst', hr, by rw [hgp]; exact hpts, hgc, e2, e3, e4, e5, e6, e9⟩

/-- non-vacuity: a GCP box (3 control points, shifted pixel frame), geographic CRS, custom CRS-coordinate name, a time
axis; strided slice + arithmetic + integer index of `time`; reprojected to its own CRS with default options (where a
linear source would come back unchanged) and to another CRS: the call succeeds and the computed grid is recovered. -/
example :
    let g0 : GcpBox := ⟨4, 6, [⟨0, 0, 14, 50⟩, ⟨6, 0, 16, 50⟩, ⟨0, 4, 14, 48⟩], ⟨1, 0, 1, 0, 1, 2⟩, some ⟨4326, true⟩⟩
    let arr := (wrap (.gcp g0) (some 2) none "foo" ["crs", "keep"]).bind
      (fun a => applyOps a [.isel "longitude" (.slc none none (some 2)), .arith, .isel "time" (.int 1)])
    let p : Proj := ⟨true, (1 / 4, -1 / 4), ⟨13, 47, 17, 51⟩, ⟨0, 0, 1, 1⟩, (1, 1)⟩
    arr.bind (fun a => (xrReprojectDa a (.crs ⟨4326, true⟩ p) {} [] false).bind recover)
      = .ok (.lin ⟨16, 16, ⟨1 / 4, 0, 13, 0, -1 / 4, 51⟩, some ⟨4326, true⟩⟩) ∧
    arr.bind (fun a => (xrReprojectDa a (.crs ⟨3857, false⟩ p) { resolution := some (.num 2), tol := some 0 } [] false).bind recover)
      = .ok (.lin ⟨3, 3, ⟨2, 0, 12, 0, -2, 52⟩, some ⟨3857, false⟩⟩) := by
  decide +kernel

end OdcGeo.C09
