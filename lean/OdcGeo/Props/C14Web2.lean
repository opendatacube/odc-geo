/-
C14 — web tiles: ITERATED refinement zoom `z` → `z+k`.  Every tile `(i, j)` at zoom `z` splits into exactly its `(2^k)² = 4^k`
descendants `(2^k·i + a, 2^k·j + b)`, `0 ≤ a, b < 2^k`, at zoom `z+k`, and the half-open descendants partition the half-open tile.
-/
import OdcGeo.Lemmas.C14Web
import OdcGeo.Props.C14

namespace OdcGeo.C14

section
variable {P : Rat} {npix : Int} {g g' : GridSpec}

theorem web_tiles_refinement_iterated (hP : 0 < P) (z k : Nat) (hn : 0 < npix)
    (hg : GridSpec.webTiles id P (z : Int) npix = .ok g)
    (hg' : GridSpec.webTiles id P ((z + k : Nat) : Int) npix = .ok g') (i j : Int) (p : Rat × Rat) :
    (g.footprint (i, j)).memHalfOpen p ↔
      ∃ a b : Int, (0 ≤ a ∧ a < 2 ^ k) ∧ (0 ≤ b ∧ b < 2 ^ k) ∧
        (g'.footprint (2 ^ k * i + a, 2 ^ k * j + b)).memHalfOpen p := by
  have hT : (0 : Rat) < 2 * P / 2 ^ (z + k) := by positivity
  have hTT : 2 * P / 2 ^ z = ((2 ^ k : Int) : Rat) * (2 * P / 2 ^ (z + k)) := by
    push_cast; rw [pow_add]; field_simp
  rw [(web_tile_extent hP z hn hg i j).1, hTT]
  simp only [fun a b => (web_tile_extent hP (z + k) hn hg' a b).1]
  exact halfOpen_refine hT (2 ^ k) (-P) P i j p

end

example : ∃ g g', GridSpec.webTiles id 3 ((1 : Nat) : Int) 256 = .ok g ∧ GridSpec.webTiles id 3 ((1 + 3 : Nat) : Int) 256 = .ok g' := by
  have ok := fun z => GridSpec.webTiles_isOk (P := 3) (by norm_num) z (npix := 256) (by norm_num)
  exact ⟨_, _, (ok _).choose_spec, (ok _).choose_spec⟩

end OdcGeo.C14
