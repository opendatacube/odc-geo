/-
C08 — `GeoBox.from_bbox` on regions / resolutions / tolerances that may be `nan` or `±inf`.  Resolution branch
(`fromBboxResX` of `Model/C20NonFinite.lean`): a non-finite region coordinate is always rejected; on finite arguments the
extended model is C08's own resolution branch.  Shape branches (`Model/C08NonFinite.lean`): rejected when snapping or for
a single-number shape, accepted unchecked when floating / tight.
-/
import OdcGeo.Props.C20NonFinite
import OdcGeo.Model.C08NonFinite

namespace OdcGeo.C08
open OdcGeo.C20 OdcGeo.C20.NF

theorem axes_rejected {l b r t : XF}
    (h : isFinite l = false ∨ isFinite b = false ∨ isFinite r = false ∨ isFinite t = false)
    (rx ry : XF) (ox oy : Option XF) (tol : XF) :
    (∃ e, snapGridX l r rx ox tol = .error e) ∨ (∃ e, snapGridX b t ry oy tol = .error e) := by
  rcases h with h | h | h | h
  · exact Or.inl (snap_grid_x_nonfinite_rejected l r rx ox tol (Or.inl h))
  · exact Or.inr (snap_grid_x_nonfinite_rejected b t ry oy tol (Or.inl h))
  · exact Or.inl (snap_grid_x_nonfinite_rejected l r rx ox tol (Or.inr h))
  · exact Or.inr (snap_grid_x_nonfinite_rejected b t ry oy tol (Or.inr h))

/-- **`from_bbox` never builds a GeoBox from a region with a `nan` / infinite coordinate**: the resolution branch
raises, whatever resolution, anchor and tolerance. -/
theorem from_bbox_x_nonfinite_rejected (l b r t rx ry : XF) (snap : Option (Rat × Rat)) (tol : XF)
    (h : isFinite l = false ∨ isFinite b = false ∨ isFinite r = false ∨ isFinite t = false) :
    ∃ e, fromBboxResX l b r t rx ry snap tol = .error e :=
  seq_rejected _ (axes_rejected h rx ry _ _ tol)

/-- On a finite region, resolution and tolerance it is the resolution branch of C08's `from_bbox` (two finite
`snap_grid` calls). -/
theorem from_bbox_res_x_finite (l b r t rx ry tol : Rat) (snap : Option (Rat × Rat)) :
    fromBboxResX (.fin l) (.fin b) (.fin r) (.fin t) (.fin rx) (.fin ry) snap (.fin tol) =
      NF.liftRes (snapGrid l r rx (snap.map (·.1)) tol >>= fun p =>
        snapGrid b t ry (snap.map (·.2)) tol >>= fun q => pure (q.2, p.2, XF.fin p.1, XF.fin q.1)) := by
  unfold fromBboxResX
  have e1 : (snap.map fun s => XF.fin s.1) = (snap.map (·.1)).map XF.fin := by cases snap <;> rfl
  have e2 : (snap.map fun s => XF.fin s.2) = (snap.map (·.2)).map XF.fin := by cases snap <;> rfl
  rw [e1, e2, snap_grid_x_finite, snap_grid_x_finite]
  cases snapGrid l r rx (snap.map (·.1)) tol with
  | error e => rfl
  | ok p => cases snapGrid b t ry (snap.map (·.2)) tol <;> rfl

open OdcGeo.C08.NF in
/-- **Shape-driven construction with snapping rejects a non-finite region** (any shape, anchor fractions, tolerance). -/
theorem from_bbox_shape_x_snapped_rejected (l b r t : XF) (ny nx : Int) (sx sy tol : XF)
    (h : isFinite l = false ∨ isFinite b = false ∨ isFinite r = false ∨ isFinite t = false) :
    ∃ e, fromBboxShapeX l b r t ny nx (some (sx, sy)) tol = .error e := by
  unfold fromBboxShapeX
  cases h1 : NF.div (NF.sub r l) (ofInt nx) with
  | error e => exact ⟨e, rfl⟩
  | ok rx =>
    cases h2 : NF.div (NF.neg (NF.sub t b)) (ofInt ny) with
    | error e => exact ⟨e, rfl⟩
    | ok ry => exact seq_rejected (x := snapGridX l r rx (some sx) tol) _ (axes_rejected h rx ry _ _ tol)

open OdcGeo.C08.NF in
/-- **As found: without snapping (`tight=True` / floating anchor) the shape-driven branch checks nothing** — a region
with a `nan` or infinite coordinate comes back as a GeoBox whose transform contains `nan` / `inf`.  (Observation outside the
property's quantifier — finite regions —, replayed by the correspondence.) -/
theorem from_bbox_shape_x_floating_accepts_nonfinite :
    fromBboxShapeX .nan (.fin 0) (.fin 4) (.fin 2) 2 4 none (.fin (1 / 100)) =
      .ok ⟨2, 4, .nan, .fin (-1), .nan, .fin 2⟩ ∧
    fromBboxShapeX (.fin 0) (.fin 0) .pinf (.fin 2) 2 4 none (.fin (1 / 100)) =
      .ok ⟨2, 4, .pinf, .fin (-1), .fin 0, .fin 2⟩ := by decide +kernel

open OdcGeo.C08.NF in
/-- **A single-number `shape` rejects a non-finite region** (it goes through the resolution branch). -/
theorem from_bbox_num_shape_x_rejected (l b r t q : XF) (snap : Option (XF × XF)) (tol : XF)
    (h : isFinite l = false ∨ isFinite b = false ∨ isFinite r = false ∨ isFinite t = false) :
    ∃ e, fromBboxNumShapeX l b r t q snap tol = .error e := by
  unfold fromBboxNumShapeX
  cases h1 : numShapeResX l b r t q with
  | error e => exact ⟨e, rfl⟩
  | ok res =>
    exact seq_rejected (x := snapGridX l r res (snap.map (·.1)) tol) _ (axes_rejected h res (NF.neg res) _ _ tol)

example : fromBboxResX (.fin 0) (.fin 0) .pinf (.fin 2) (.fin 1) (.fin (-1)) (some (0, 0)) (.fin (1 / 100)) =
    .error .overflow := by decide +kernel
example : fromBboxResX (.fin 0) (.fin 0) (.fin 4) (.fin 2) .pinf .ninf none (.fin (1 / 100)) =
    .ok (1, 1, .fin 0, .fin 2) := by decide +kernel

end OdcGeo.C08
