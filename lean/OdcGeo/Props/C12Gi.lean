/-
C12 — the public entry points `GeoboxTiles.grid_intersect(src)` and `GeoboxTiles.tiles(query)` from
their arguments to their result (model: `Model/C12Gi.lean`).

For rasters of one CRS (any invertible affines) nothing about footprints or shapely is assumed: tile
extents are the rings of `polygon_from_transform`, and the reference semantics of `disjoint` never
separates two rings with a common point (`convex_common_point_not_disjoint`, the half of the
separating-axis theorem that completeness needs; compare `general_deps_complete_ranges`).  On the
linear path the statements here are for maps that `snap_affine` leaves alone; snapped maps are in
`Props/C12GiSnap` and `Props/C13C12`.  Different CRSs and non-`GeoBox` bases: dispatch facts only
(completeness under the `Foreign` parameters is `Props/C12GiParam`).
-/
import OdcGeo.Model.C12Gi
import OdcGeo.Lemmas.C12Gi
import OdcGeo.Lemmas.C12GiSnap
import OdcGeo.Props.C12
import Mathlib.Algebra.Order.Field.Rat
namespace OdcGeo.C12
open OdcGeo OdcGeo.C17 OdcGeo.C04 OdcGeo.Spec

/-- a tiled raster is well formed: the tiling is (C12 `GBT.WF`) and the affine is invertible -/
structure TGB.WF (t : TGB) : Prop where
  g : t.g.WF
  det : t.W.det ≠ 0

def ValidTile (g : GBT) (rc : Int × Int) : Prop :=
  (0 ≤ rc.1 ∧ rc.1 < g.tiles.y.count) ∧ (0 ≤ rc.2 ∧ rc.2 < g.tiles.x.count)

/-- world point `P` lies in the interior of an image pixel owned by tile `rc` -/
def TileSees (t : TGB) (rc : Int × Int) (P : Rat × Rat) : Prop :=
  ValidTile t.g rc ∧
  ∃ sy sx jy jx, t.g.tiles.y.getItem (.idx rc.1) = .ok sy ∧ t.g.tiles.x.getItem (.idx rc.2) = .ok sx ∧
    sy.Has jy ∧ sx.Has jx ∧ (0 ≤ jy ∧ jy < t.g.ny) ∧ (0 ≤ jx ∧ jx < t.g.nx) ∧
    ((jx : Rat) < (t.W.inv.apply P).1 ∧ (t.W.inv.apply P).1 < jx + 1) ∧
    ((jy : Rat) < (t.W.inv.apply P).2 ∧ (t.W.inv.apply P).2 < jy + 1)

theorem TileSees.sees {t : TGB} {rc : Int × Int} {P : Rat × Rat} (h : TileSees t rc P) :
    t.g.Sees rc (t.W.inv.apply P) := h

/-- **tile extents**: the ring `self[idx].extent` is the image of the tile's pixel box under the base affine
(C04 `gbt_tile_is_crop` underneath) -/
theorem tileExtent_eq (t : TGB) (ht : t.WF) {rc : Int × Int} {tb : BBox} (h : pixBBox t.g rc = .ok tb) :
    tileExtent t rc = .ok (Quad.ofBox t.W tb) := by
  obtain ⟨sy, sx, gy, gx, rfl⟩ := pixBBox_inv h
  have hgi := gbt_getitem_eq_base_roi t.c04 _ _ sy sx (zip2_ok_iff.2 ⟨gy, gx⟩)
  generalize t.c04.base.crop sy.toPIdx sx.toPIdx = tile at hgi
  obtain ⟨ry, rx, h2, hny, hnx, happ⟩ := gbt_tile_is_crop t.c04 ht.g.y ht.g.x _ _ _ hgi
  obtain ⟨h2y, h2x⟩ := zip2_ok_iff.1 h2
  cases gy.symm.trans h2y
  cases gx.symm.trans h2x
  simp only [tileExtent, hgi, bind, Except.bind, pure, Except.pure, Quad.ofBox, happ, hny, hnx, Int.cast_sub,
    zero_add, sub_add_cancel]
  rfl  -- `t.c04.base.A` is `t.W`

/-- the ring of tile `idx` as a total function (names what `tileExtent` computes) -/
def extOf (t : TGB) (idx : Int × Int) : Quad :=
  match tileExtent t idx with
  | .ok q => q
  | .error _ => ⟨(0, 0), (0, 0), (0, 0), (0, 0)⟩

theorem tileExtent_eq_extOf (t : TGB) (ht : t.WF) (rc : Int × Int) (hv : ValidTile t.g rc) :
    tileExtent t rc = .ok (extOf t rc) := by
  obtain ⟨tb, htb⟩ := pixBBox_valid ht.g hv
  simp only [extOf, tileExtent_eq t ht htb]

theorem extOf_contains (t : TGB) (ht : t.WF) (d : Int × Int) (P : Rat × Rat) (h1 : TileSees t d P) :
    (extOf t d).Contains P := by
  obtain ⟨tb, htb, hin⟩ := h1.sees.within
  simpa only [extOf, tileExtent_eq t ht htb] using ofBox_contains_world ht.det hin

/-- candidate tiles of `tiles(poly)`: `range_from_bbox` of the ring's bounding box, taken through `~affine` -/
def quadCands (t : TGB) (q : Quad) : List (Int × Int) := candsOf t.g (q.bbox.mapCorners t.W.inv.apply)

/-- `poly.disjoint(self[idx].extent)` -/
def quadDisjoint (t : TGB) (q : Quad) (idx : Int × Int) : Bool := Convex.disjoint q.toList (extOf t idx).toList

/-- result of `tiles(poly)` for a convex ring in the raster's CRS, as a total function -/
def tilesQuadL (t : TGB) (q : Quad) : List (Int × Int) := (quadCands t q).filter fun idx => !quadDisjoint t q idx

theorem filter_map_fst {α} (c : List α) (f : α → Bool) :
    ((c.map fun x => (x, f x)).filter fun p => !p.2).map (·.1) = c.filter fun x => !f x := by
  induction c with
  | nil => rfl
  | cons a as ih =>
    simp only [List.map_cons, List.filter_cons]
    cases f a <;> simp [ih]

theorem tiles_quad_ok (t : TGB) (ht : t.WF) (q : Quad) :
    tilesQuad t q = .ok (tilesQuadL t q) ∧ ∀ idx ∈ tilesQuadL t q, ValidTile t.g idx := by
  obtain ⟨hc, hval, _⟩ := candidates_ok t.g ht.g (q.bbox.mapCorners t.W.inv.apply)
  refine ⟨?_, fun idx h => hval idx (List.mem_of_mem_filter h)⟩
  simp only [tilesQuad, candidatesWorld, projectBBox_id ht.det, hc, bind, Except.bind, pure, Except.pure]
  rw [mapM_ok_of_forall (fun idx => (idx, quadDisjoint t q idx)) fun idx hidx => by
    simp only [tileExtent_eq_extOf t ht idx (hval idx hidx), quadDisjoint]]
  simp only [tilesQuadL, quadCands, filter_map_fst]

/-- **tiles(query) is complete for same-CRS convex queries** (any invertible affine: north-up,
mirrored, rotated, sheared): every tile owning a pixel whose interior contains a point of the
query ring's hull is a candidate that the reference `disjoint` keeps. -/
theorem tiles_quad_complete (t : TGB) (ht : t.WF) (q : Quad) (P : Rat × Rat) (hq : q.Contains P)
    (rc : Int × Int) (hs : TileSees t rc P) : rc ∈ quadCands t q ∧ quadDisjoint t q rc = false :=
  ⟨(candidates_ok t.g ht.g _).2.2 rc (hs.sees.meets (mapCorners_affine_contains t.W.inv _ P (contains_bbox q P hq))),
    convex_common_point_not_disjoint q _ P hq (extOf_contains t ht rc P hs)⟩

/-- the same-CRS general path is the control flow of `gridIntersectGeneral` with nothing left open: candidates
from the projected boxes of the source extent and of each destination tile's extent, verdicts of the reference
`disjoint` on the rings -/
theorem grid_intersect_same_crs_eq (dst src : TGB) (hd : dst.WF) (hs : src.WF) :
    gridIntersectSameCrs dst src = .ok (gridIntersectGeneral (quadCands dst src.extent) (quadDisjoint dst src.extent)
      (fun d => quadCands src (extOf dst d)) fun d => quadDisjoint src (extOf dst d)) := by
  obtain ⟨hq1, hv1⟩ := tiles_quad_ok dst hd src.extent
  simp only [gridIntersectSameCrs, hq1, bind, Except.bind, pure, Except.pure]
  exact mapM_ok_of_forall (fun idx => (idx, tilesQuadL src (extOf dst idx))) fun idx hidx => by
    simp only [tileExtent_eq_extOf dst hd idx (hv1 idx hidx), (tiles_quad_ok src hs _).1]

/-- on the same-CRS path the footprint hypotheses of the general path (`general_deps_complete_partial`, C13
`FootprintsSuperset`) hold for every pair of tiles that see a common world point: the extent rings contain the
point, so do their projected boxes, and the reference `disjoint` separates no two rings with a common point -/
theorem same_crs_footprints (dst src : TGB) (hd : dst.WF) (hs : src.WF) {d s : Int × Int} {P : Rat × Rat}
    (h1 : TileSees dst d P) (h2 : TileSees src s P) :
    (d ∈ quadCands dst src.extent ∧ quadDisjoint dst src.extent d = false) ∧
      s ∈ quadCands src (extOf dst d) ∧ quadDisjoint src (extOf dst d) s = false :=
  ⟨tiles_quad_complete dst hd src.extent P (ofBox_contains_world hs.det h2.sees.within_image) d h1,
    tiles_quad_complete src hs (extOf dst d) P (extOf_contains dst hd d P h1) s h2⟩

/-- **same-CRS general path, end to end** (rotated / sheared / mirrored grids; regular and variable
tilings): `grid_intersect` succeeds and lists source tile `s` among the dependencies of
destination tile `d` whenever some world point lies in the interior of a pixel of `d` and in the
interior of a pixel of `s` – i.e. whenever the two tile footprints overlap with non-empty
interior.  Nothing about footprints, candidate ranges or shapely is assumed: the rings are those
of `polygon_from_transform`, the ranges those of `range_from_bbox`, the predicate is
`Spec.Convex.disjoint` (validated against shapely on every run). -/
theorem grid_intersect_same_crs_general_complete (dst src : TGB) (hd : dst.WF) (hs : src.WF)
    (d s : Int × Int) (P : Rat × Rat) (h1 : TileSees dst d P) (h2 : TileSees src s P) :
    ∃ l deps, gridIntersectSameCrs dst src = .ok l ∧ (d, deps) ∈ l ∧ s ∈ deps := by
  obtain ⟨⟨m1, m2⟩, m3, m4⟩ := same_crs_footprints dst src hd hs h1 h2
  obtain ⟨deps, h, hin⟩ := general_deps_complete_partial _ _ (fun d => quadCands src (extOf dst d))
    (fun d => quadDisjoint src (extOf dst d)) d s m1 m2 m3 m4
  exact ⟨_, deps, grid_intersect_same_crs_eq dst src hd hs, h, hin⟩

/-- **C12 ∘ C04 on the general path**: every source pixel `(jx, jy)` that destination tile `d` needs
(a world point inside a pixel of `d` falls inside it) lies in exactly one source tile (C04
`tiles2_partition`), and that tile is among the dependencies listed for `d`: the dependency lists
of rotated / sheared grids split the needed source pixels exactly – none lost, none served twice. -/
theorem general_deps_partition_needed_pixels (dst src : TGB) (hd : dst.WF) (hs : src.WF)
    (d : Int × Int) (P : Rat × Rat) (h1 : TileSees dst d P)
    (jy jx : Int) (bjy : 0 ≤ jy ∧ jy < src.g.ny) (bjx : 0 ≤ jx ∧ jx < src.g.nx)
    (hx : (jx : Rat) < (src.W.inv.apply P).1 ∧ (src.W.inv.apply P).1 < jx + 1)
    (hy : (jy : Rat) < (src.W.inv.apply P).2 ∧ (src.W.inv.apply P).2 < jy + 1) :
    ∃ l deps, gridIntersectSameCrs dst src = .ok l ∧ (d, deps) ∈ l ∧
      ∃! rc : Int × Int, (((0 ≤ rc.1 ∧ rc.1 < src.g.tiles.y.count) ∧ (0 ≤ rc.2 ∧ rc.2 < src.g.tiles.x.count)) ∧
        ∃ sy sx, getItem2 src.g.tiles (.idx rc.1) (.idx rc.2) = .ok (sy, sx) ∧ sy.Has jy ∧ sx.Has jx) ∧
        rc ∈ deps := by
  obtain ⟨rc, ⟨hbnd, sy, sx, hget, hyy, hxx⟩, huniq⟩ := tiles2_partition src.g.tiles hs.g.y hs.g.x jy jx
    (hs.g.by_ ▸ bjy) (hs.g.bx ▸ bjx)
  obtain ⟨gy, gx⟩ := zip2_ok_iff.1 hget
  obtain ⟨l, deps, hl, hin, hs'⟩ := grid_intersect_same_crs_general_complete dst src hd hs d rc P h1
    ⟨hbnd, sy, sx, jy, jx, gy, gx, hyy, hxx, bjy, bjx, hx, hy⟩
  exact ⟨l, deps, hl, hin, rc, ⟨⟨hbnd, sy, sx, hget, hyy, hxx⟩, hs'⟩, fun rc' h' => huniq rc' h'.1⟩

/-- rasters of different CRSs never take the linear path (`_check_linear` answers `None` before
any arithmetic – also for a singular affine) -/
theorem check_linear_crs_differ (dst src : TGB) (ttol stol tol sttol : Rat) (h : src.crs ≠ dst.crs) :
    checkLinearT dst src ttol stol tol sttol = .ok none := by
  simp only [checkLinearT, if_pos h]

/-- a base that is not a `GeoBox` (GCPGeoBox) never takes the linear path -/
theorem check_linear_nonlinear (dst src : TGB) (ttol stol tol sttol : Rat)
    (h : dst.linear = false ∨ src.linear = false) :
    checkLinearT dst src ttol stol tol sttol = .ok none := by
  rcases h with h | h
  · simp [checkLinearT, h]
  · simp [checkLinearT, h]

theorem check_linear_same_crs (dst src : TGB) (ttol stol tol sttol : Rat) (hc : src.crs = dst.crs)
    (hd : dst.linear = true) (hs : src.linear = true) :
    checkLinearT dst src ttol stol tol sttol = checkLinear src.W dst.W ttol stol tol sttol := by
  simp [checkLinearT, hc, hd, hs]

/-- different CRSs whose robust footprints (via EPSG:4326) have an empty intersection: the empty
graph, not an error -/
theorem grid_intersect_cross_crs_apart (dst src : TGB) (ttol stol tol sttol : Rat) (fr : Foreign)
    (h : src.crs ≠ dst.crs) (he : fr.fpEmpty = true) :
    gridIntersect dst src ttol stol tol sttol fr = .ok [] := by
  simp only [gridIntersect, check_linear_crs_differ dst src ttol stol tol sttol h, bind, Except.bind,
    if_neg h, he, if_true]

/-- `grid_intersect` of two `GeoBox`es of one CRS is the linear path when `_check_linear` finds a
scale + translation map, else the general path computed by the model – `Foreign` is not consulted -/
theorem grid_intersect_same_crs_dispatch (dst src : TGB) (ttol stol tol sttol : Rat) (fr : Foreign)
    (hc : src.crs = dst.crs) (hd : dst.linear = true) (hs : src.linear = true) (r : Option Aff)
    (hr : checkLinear src.W dst.W ttol stol tol sttol = .ok r) :
    gridIntersect dst src ttol stol tol sttol fr =
      match r with
      | some A => gridIntersectLinear dst.g src.g A
      | none => gridIntersectSameCrs dst src := by
  simp only [gridIntersect, check_linear_same_crs dst src ttol stol tol sttol hc hd hs, hr, bind,
    Except.bind]
  cases r with
  | some A => rfl
  | none => simp [hc, hd, hs]

/-- **grid_intersect of two GeoBoxes of one CRS is complete, whichever path is taken**: if the
call succeeds – it always does on the general path – source tile `s` is listed for destination
tile `d` whenever a world point lies in the interior of a pixel of each.  On the linear path this
is stated for maps that `snap_affine` left alone (`A` is the exact pixel-to-pixel map); maps moved
by the tolerances are the subject of `Props/C12GiSnap` and of `Props/C13C12` (drift bound, K17 / K23). -/
theorem grid_intersect_same_crs_complete (dst src : TGB) (hd : dst.WF) (hs : src.WF)
    (ttol stol tol sttol : Rat) (ht : sttol ≤ tol) (fr : Foreign)
    (hc : src.crs = dst.crs) (hld : dst.linear = true) (hls : src.linear = true)
    (r : Option Aff) (hr : checkLinear src.W dst.W ttol stol tol sttol = .ok r)
    (hsnap : ∀ A, r = some A → A = src.W.inv * dst.W)
    (d s : Int × Int) (P : Rat × Rat) (h1 : TileSees dst d P) (h2 : TileSees src s P) :
    ∃ l deps, gridIntersect dst src ttol stol tol sttol fr = .ok l ∧ (d, deps) ∈ l ∧ s ∈ deps := by
  rw [grid_intersect_same_crs_dispatch dst src ttol stol tol sttol fr hc hld hls r hr]
  cases r with
  | none => exact grid_intersect_same_crs_general_complete dst src hd hs d s P h1 h2
  | some A =>
    -- the exact map takes the destination pixel coordinates of `P` to its source pixel coordinates
    obtain ⟨tb, htb, hu⟩ := h1.sees.within
    refine linear_path_complete dst.g src.g hd.g hs.g A htb ((mem_allTiles dst.g d).2 h1.1) hu ?_
    rw [hsnap A rfl, Aff.apply_mul, Aff.apply_inv_apply dst.W hd.det]
    exact h2

/-- **aligned grids (the re-chunk / mosaic case), no snapping hypothesis**: when the exact
destination-to-source pixel map has integer scale and integer translation (same resolution or an
integer zoom, whole-pixel offsets, mirrored or not), `snap_affine` returns it unchanged, the linear
path is taken with the exact map, and `grid_intersect` lists every source tile that shares the
interior of a pixel with a destination tile. -/
theorem grid_intersect_aligned_complete (dst src : TGB) (hd : dst.WF) (hs : src.WF)
    (ttol stol tol sttol : Rat) (h1 : 0 < ttol) (h2 : 0 < stol) (h3 : 0 < sttol) (ht : sttol ≤ tol) (fr : Foreign)
    (hc : src.crs = dst.crs) (hld : dst.linear = true) (hls : src.linear = true)
    (a c e f : Int) (hA : src.W.inv * dst.W = ⟨a, 0, c, 0, e, f⟩)
    (d s : Int × Int) (P : Rat × Rat) (hd1 : TileSees dst d P) (hs1 : TileSees src s P) :
    ∃ l deps, gridIntersect dst src ttol stol tol sttol fr = .ok l ∧ (d, deps) ∈ l ∧ s ∈ deps := by
  have hr : checkLinear src.W dst.W ttol stol tol sttol = .ok (some (src.W.inv * dst.W)) := by
    simp only [checkLinear, Aff.inv?_of_det_ne hs.det, bind, Except.bind, pure, Except.pure]
    rw [hA, snapAffine_int a c e f ttol stol tol h2 (h3.le.trans ht)]
    simp [rabs, h3]
  exact grid_intersect_same_crs_complete dst src hd hs ttol stol tol sttol ht fr hc hld hls _ hr
    (fun A h => by cases h; rfl) d s P hd1 hs1

/-- a convex geometry in the raster's CRS – or without CRS against a CRS-less raster (as
repaired: world coordinates of the raster) – is answered by `tilesQuad`, hence completely -/
theorem tiles_query_quad_complete (t : TGB) (ht : t.WF) (toCrs : Nat → Nat → Quad → Res Quad) (q : Quad)
    (P : Rat × Rat) (hq : q.Contains P) (rc : Int × Int) (hs : TileSees t rc P) :
    ∃ l, tilesQuery t toCrs (.quad t.crs q) = .ok l ∧ rc ∈ l := by
  refine ⟨tilesQuadL t q, ?_, mem_filter_not.2 (tiles_quad_complete t ht q P hq rc hs)⟩
  simp only [tilesQuery, tilesQuery.poly]
  cases h : t.crs with
  | none => exact (tiles_quad_ok t ht _).1
  | some tc => simp only [if_true]; exact (tiles_quad_ok t ht _).1

/-- a `BoundingBox` carrying the raster's CRS: every tile owning a pixel whose interior contains
(the pixel coordinates of) a point of the box is returned -/
theorem tiles_query_box_complete (t : TGB) (ht : t.WF) (c : Nat) (hc : t.crs = some c)
    (toCrs : Nat → Nat → Quad → Res Quad) (b : BBox) (u v : Rat) (hu : b.x1 ≤ u ∧ u ≤ b.x2)
    (hv : b.y1 ≤ v ∧ v ≤ b.y2) (rc : Int × Int) (hs : TileSees t rc (u, v)) :
    ∃ l, tilesQuery t toCrs (.box c b) = .ok l ∧ rc ∈ l := by
  have h := tiles_query_quad_complete t ht toCrs (Quad.ofBBox b) (u, v) (ofBBox_contains b (u, v) ⟨hu, hv⟩) rc hs
  rwa [hc] at h

/-- query and raster disagree on *having* a CRS: the call raises, it never answers with tiles -/
theorem tiles_query_crs_mismatch_raises (t : TGB) (toCrs : Nat → Nat → Quad → Res Quad) (q : Quad) :
    (t.crs = none → ∀ c, tilesQuery t toCrs (.quad (some c) q) = .error .assertion) ∧
    (∀ tc, t.crs = some tc → tilesQuery t toCrs (.quad none q) = .error .valueError) := by
  constructor
  · intro h c; simp only [tilesQuery, tilesQuery.poly, h]
  · intro tc h; simp [tilesQuery, tilesQuery.poly, h]

/-- a pixel-domain box (BoundingBox without CRS) is the query of `Props/C12.tiles_pix_complete` -/
theorem tiles_query_pix (t : TGB) (toCrs : Nat → Nat → Quad → Res Quad) (b : BBox) :
    tilesQuery t toCrs (.pixBox b) = tilesFromPixBBox t.g b := rfl

/-- 8×8 image in 4×4 tiles, origin at (1000, 1000), no CRS -/
def tN : TGB := ⟨none, true, ⟨1, 0, 1000, 0, 1, 1000⟩, ⟨8, 8, ⟨.reg 8 4, .reg 8 4⟩⟩⟩
/-- the same raster rotated by 90° about its centre -/
def tR : TGB := ⟨none, true, ⟨0, -1, 1008, 1, 0, 1000⟩, ⟨8, 8, ⟨.reg 8 4, .reg 8 4⟩⟩⟩

example : tN.WF :=
  ⟨⟨by show (0:Int) < 4; decide, by show (0:Int) < 4; decide, rfl, rfl, by decide, by decide⟩, by decide +kernel⟩
example : tR.WF :=
  ⟨⟨by show (0:Int) < 4; decide, by show (0:Int) < 4; decide, rfl, rfl, by decide, by decide⟩, by decide +kernel⟩
example : TileSees tN (0, 0) (2001 / 2, 2001 / 2) :=
  ⟨⟨by decide, by decide⟩, ⟨0, 4⟩, ⟨0, 4⟩, 0, 0, by decide, by decide,
    by show (0:Int) ≤ 0 ∧ (0:Int) < 4; decide, by show (0:Int) ≤ 0 ∧ (0:Int) < 4; decide, by decide, by decide,
    by decide +kernel, by decide +kernel⟩
example : (Quad.ofBBox ⟨0, 0, 2, 2⟩).Contains (1, 1) := ofBBox_contains _ _ ⟨by decide, by decide⟩
example : checkLinear tN.W tN.W (1 / 1000) (1 / 1000000) (1 / 100000000) (1 / 10000000000) = .ok (some Aff.id) := by
  decide +kernel
example : ∀ A, some Aff.id = some A → A = tN.W.inv * tN.W := by
  intro A h; cases h; decide +kernel

example : tN.W.inv * (⟨1, 0, 1002, 0, 1, 1000⟩ : Aff) = ⟨((1 : Int) : Rat), 0, ((2 : Int) : Rat), 0, ((1 : Int) : Rat), ((0 : Int) : Rat)⟩ := by
  decide +kernel

/-- as repaired, the rotated CRS-less pair has its four dependencies … -/
theorem rotated_no_crs_graph :
    gridIntersectSameCrs tR tN = .ok [((0, 0), [(0, 1)]), ((0, 1), [(1, 1)]), ((1, 0), [(0, 0)]), ((1, 1), [(1, 0)])] := by
  decide +kernel

/-- … **as found** the candidates of the source footprint were taken from its *world* bounding
box read as pixels: only the clamped corner tile `(1, 1)` was ever looked at, so three of the four
destination tiles had no entry at all (replayed on the real code: key
`grid-intersect-misses-dependency`, crs `None`). -/
theorem no_crs_candidates_as_found_cex :
    candidatesAsFound tR tN.extent = .ok [(1, 1)] ∧
    candidatesWorld tR.g tR.W id tN.extent.bbox = .ok [(0, 0), (0, 1), (1, 0), (1, 1)] := by
  decide +kernel

end OdcGeo.C12
