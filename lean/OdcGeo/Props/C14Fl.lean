/-
C14 — a closed-form SUFFICIENT representability criterion for the binary64 instance of the model: on grids whose tile sizes and
origins are integers of magnitude below 2^26, for tile indices of magnitude below 2^26, every intermediate of
`Bin1D.__getitem__` is an integer below 2^53, hence a fixed point of `fl64`: there the rounded model IS the exact model
(`bin_interval_transfer` with its hypotheses discharged), so every footprint theorem of `Props/C14.lean` holds verbatim for
the tile GeoBoxes of the binary64 model.  Point lookup (`bin`, a division) is not covered here: see `Props/C14Band2.lean`.
-/
import OdcGeo.Lemmas.C14Fl
import OdcGeo.Props.C14

namespace OdcGeo.C14

/-- binary64 represents every integer of magnitude below 2^53 exactly, and rounding commutes with negation -/
theorem fl64_exact_on_integers (z : Int) (hz : z.natAbs < 2 ^ 53) (q : Rat) :
    fl64 (z : Rat) = (z : Rat) ∧ fl64 (-q) = -fl64 q :=
  ⟨fl64_int z hz, fl64_neg q⟩

/-- integer tile size, integer origin, integer index, all below 2^26 in magnitude: the binary64 bin edges are the exact ones -/
theorem bin_interval_exact_on_integers (s o d k : Int) (hd : d = 1 ∨ d = -1)
    (hs : s.natAbs < 2 ^ 26) (ho : o.natAbs < 2 ^ 26) (hk : k.natAbs < 2 ^ 26) :
    (⟨(s : Rat), (o : Rat), d⟩ : Bin1D).lo fl64 k = (⟨(s : Rat), (o : Rat), d⟩ : Bin1D).lo id k ∧
    (⟨(s : Rat), (o : Rat), d⟩ : Bin1D).hi fl64 k = (⟨(s : Rat), (o : Rat), d⟩ : Bin1D).hi id k := by
  have hks : (k * s).natAbs < 2 ^ 52 := by
    rw [Int.natAbs_mul]; exact (Nat.mul_lt_mul'' hk hs).trans_eq (by norm_num)
  have hksd : (k * s * d).natAbs = (k * s).natAbs := by
    rcases hd with rfl | rfl
    · rw [mul_one]
    · rw [mul_neg_one, Int.natAbs_neg]
  have a3 := Int.natAbs_add_le (k * s * d) o
  have a4 := Int.natAbs_add_le (k * s * d + o) s
  have cast : ∀ (z : Int) (q : Rat), q = (z : Rat) → z.natAbs < 2 ^ 53 → fl64 q = q :=
    fun z q h hz => h ▸ fl64_int z hz
  exact bin_interval_transfer fl64 _ k
    (cast (k * s) _ (by push_cast; rfl) (by omega)) (cast (k * s * d) _ (by push_cast; rfl) (by omega))
    (cast (k * s * d + o) _ (by push_cast; rfl) (by omega)) (cast (k * s * d + o + s) _ (by push_cast; rfl) (by omega))

/-- UNCONDITIONAL transfer on the integer class: for a grid whose two binnings have integer sizes and origins below 2^26, the
    binary64 model hands out, for every tile index below 2^26, exactly the tile GeoBox of the exact model — so shape, resolution,
    footprint, shared edges and disjointness (theorems of `Props/C14.lean`) hold for what the rounded model computes. -/
theorem tile_geobox_exact_on_integers (g : GridSpec) (sx ox sy oy : Int) (k : Int × Int)
    (hx : g.xbin = ⟨(sx : Rat), (ox : Rat), g.xbin.dir⟩) (hy : g.ybin = ⟨(sy : Rat), (oy : Rat), g.ybin.dir⟩)
    (hdx : g.xbin.dir = 1 ∨ g.xbin.dir = -1) (hdy : g.ybin.dir = 1 ∨ g.ybin.dir = -1)
    (b1 : sx.natAbs < 2 ^ 26) (b2 : ox.natAbs < 2 ^ 26) (b3 : sy.natAbs < 2 ^ 26) (b4 : oy.natAbs < 2 ^ 26)
    (b5 : k.1.natAbs < 2 ^ 26) (b6 : k.2.natAbs < 2 ^ 26) :
    g.tileGeobox fl64 k = g.tileGeobox id k := by
  obtain ⟨x1, x2⟩ := bin_interval_exact_on_integers sx ox g.xbin.dir k.1 hdx b1 b2 b5
  obtain ⟨y1, y2⟩ := bin_interval_exact_on_integers sy oy g.ybin.dir k.2 hdy b3 b4 b6
  rw [← hx] at x1 x2
  rw [← hy] at y1 y2
  exact g.tileGeobox_congr x1 x2 y1 y2

/-- the class is inhabited by the grids used in practice: Australian Albers 100 km tiles (4000 px × 25 m) -/
example : ∃ g, GridSpec.new fl64 4000 4000 25 (-25) 0 0 false false = .ok g ∧
    g.xbin = ⟨((100000 : Int) : Rat), ((0 : Int) : Rat), g.xbin.dir⟩ ∧ g.tileGeobox fl64 (15, -40) = g.tileGeobox id (15, -40) := by
  refine ⟨⟨4000, 4000, 25, -25, 0, 0, ⟨100000, 0, 1⟩, ⟨100000, 0, 1⟩⟩, by decide +kernel, by decide +kernel, by decide +kernel⟩

end OdcGeo.C14
