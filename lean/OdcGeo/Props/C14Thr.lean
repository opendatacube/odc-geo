/-
C14 — threads sharing one `geobox_cache` (`Model/C14Thr.lean`): for ANY interleaving of the dictionary operations of any
number of threads, every thread yields exactly what its query yields alone without a cache, and the cache stays coherent.
-/
import OdcGeo.Model.C14Thr
import OdcGeo.Lemmas.C14Thr
import OdcGeo.Props.C14

namespace OdcGeo.C14

section
variable (fl : Rnd) (g : GridSpec)

/-- ONE dictionary operation of one thread, coherent cache: the thread's invariant (yielded so far ++ still to yield = what the
    query yields alone) and the coherence of the cache are preserved — also when the write overwrites another thread's entry -/
theorem thread_step (t : Thr) (c : Cache) (total : List ((Int × Int) × GeoBox)) (hc : g.Coherent fl c)
    (hi : t.Inv fl g total) :
    (g.thrStep fl t c).1.Inv fl g total ∧ g.Coherent fl (g.thrStep fl t c).2 := by
  obtain ⟨todo, miss, dj, out⟩ := t
  unfold Thr.Inv at hi ⊢
  cases todo with
  | nil => exact ⟨hi, hc⟩
  | cons k ks =>
    -- emitting tile `k` with its own geobox moves it from "still to yield" to "yielded"
    have key : (Thr.emit ⟨k :: ks, miss, dj, out⟩ k (g.tileGeobox fl k)) ++ Thr.spec fl g dj ks = total := by
      rw [← hi]
      unfold Thr.emit Thr.spec
      cases hd : dj (g.tileGeobox fl k) <;> simp [hd]
    cases miss with
    | true => exact ⟨by simpa [GridSpec.thrStep] using key, hc.cons k⟩
    | false =>
      cases hl : c.lookup k with
      | some gb => exact ⟨by simpa [GridSpec.thrStep, hl, hc k gb hl] using key, by simpa [GridSpec.thrStep, hl] using hc⟩
      | none => exact ⟨by simpa [GridSpec.thrStep, hl] using hi, by simpa [GridSpec.thrStep, hl] using hc⟩

/-- ANY INTERLEAVING: whatever the schedule of dictionary operations over any number of threads sharing one coherent cache,
    afterwards every thread still satisfies "yielded ++ still to yield = its stateless result" and the cache is coherent. -/
theorem threads_transparent (sched : List Nat) :
    ∀ (ts : List Thr) (c : Cache) (totals : Nat → List ((Int × Int) × GeoBox)), g.Coherent fl c →
      (∀ (i : Nat) (t : Thr), ts[i]? = some t → t.Inv fl g (totals i)) →
      g.Coherent fl (g.thrRun fl sched ts c).2 ∧
      (∀ (i : Nat) (t : Thr), (g.thrRun fl sched ts c).1[i]? = some t → t.Inv fl g (totals i)) ∧
      (g.thrRun fl sched ts c).1.length = ts.length := by
  induction sched with
  | nil => intro ts c totals hc hi; exact ⟨hc, hi, rfl⟩
  | cons i sched ih =>
    intro ts c totals hc hi
    simp only [GridSpec.thrRun]
    cases ht : ts[i]? with
    | none => exact ih ts c totals hc hi
    | some t =>
      obtain ⟨s1, s2⟩ := thread_step fl g t c (totals i) hc (hi i t ht)
      have hi' : ∀ (j : Nat) (t' : Thr), (setAt ts i (g.thrStep fl t c).1)[j]? = some t' → t'.Inv fl g (totals j) := by
        intro j t' hj
        rw [getElem?_setAt] at hj
        split at hj
        · next h => cases hj; rw [h.1]; exact s1
        · exact hi j t' hj
      obtain ⟨a, b, c'⟩ := ih (setAt ts i (g.thrStep fl t c).1) (g.thrStep fl t c).2 totals s2 hi'
      exact ⟨a, b, by rw [c', length_setAt]⟩

/-- a fresh thread satisfies the invariant for the stateless result of its query; a finished thread has yielded exactly that -/
theorem thread_start_and_finish (ks : List (Int × Int)) (dj : GeoBox → Bool) (t : Thr) (total : List ((Int × Int) × GeoBox)) :
    (Thr.ofTiles ks).Inv fl g (ks.map (fun k => (k, g.tileGeobox fl k))) ∧
    (Thr.ofPolygon ks dj).Inv fl g (Thr.spec fl g dj ks) ∧
    (t.Inv fl g total → t.todo = [] → t.out = total) := by
  refine ⟨?_, ?_, ?_⟩
  · simp [Thr.Inv, Thr.ofTiles, Thr.spec]
  · simp [Thr.Inv, Thr.ofPolygon]
  · intro h he
    unfold Thr.Inv at h
    rw [he] at h
    simpa [Thr.spec] using h

end

example : let g : GridSpec := ⟨1, 1, 1, -1, 0, 0, ⟨1, 0, 1⟩, ⟨1, 0, 1⟩⟩
    ((g.thrRun id [0, 1, 1, 0, 0, 1] [Thr.ofTiles [(0, 0), (1, 0)], Thr.ofTiles [(0, 0)]] []).1.map (fun t => t.out.map (·.1)))
      = [[(0, 0)], [(0, 0)]] := by
  decide +kernel

end OdcGeo.C14
