/-
C20 — the executable `norm_xy` model of `Model/C20NormXy.lean` in exact arithmetic is the field-generic model of
`Lemmas/C20e.lean`, so `norm_xy_affine_maps`, `norm_xy_mean_zero`, `norm_xy_mean_dist_sqrt2`, `norm_xy_degenerate` of
`Props/C20.lean` are statements about the function the driver runs against the real code.  The same for the variant
`normXyP`, whose mean distance uses numpy's pairwise summation: in exact arithmetic that is the plain sum (`pairSum_id`).
-/
import OdcGeo.Model.C20NormXy
import OdcGeo.Lemmas.C20e

namespace OdcGeo.C20

theorem foldl_add_eq (xs : List Rat) (a : Rat) : xs.foldl (fun acc x => acc + x) a = a + xs.sum := by
  induction xs generalizing a with
  | nil => simp
  | cons x xs ih => rw [List.foldl_cons, List.sum_cons, ih, add_assoc]

theorem seqSum_id (xs : List Rat) : seqSum id xs = xs.sum :=
  (foldl_add_eq xs 0).trans (zero_add _)

theorem meanF_id (xs : List Rat) : meanF id xs = meanK xs := by
  unfold meanF meanK
  rw [seqSum_id]; rfl

/-- **In exact arithmetic the executable `norm_xy` is the field-generic `normXYK`** (over `Rat`). -/
theorem norm_xy_exec_is_generic (pts : List (Rat × Rat)) (ds : List Rat) (r : Rat) :
    (normXyF id pts ds r).pts = (normXYK pts ds r).pts ∧ (normXyF id pts ds r).s = (normXYK pts ds r).s ∧
    (normXyF id pts ds r).tx = (normXYK pts ds r).tx ∧ (normXyF id pts ds r).ty = (normXYK pts ds r).ty := by
  simp [normXyF, normXYK, meanF_id, id]

/-- Consequently the returned affine maps every input point to its normalised point, exactly. -/
theorem norm_xy_exec_affine_maps (pts : List (Rat × Rat)) (ds : List Rat) (r : Rat) :
    let N := normXyF id pts ds r
    N.pts = pts.map fun p => (N.s * p.1 + N.tx, N.s * p.2 + N.ty) := by
  simp only [normXyF, id]
  apply List.map_congr_left
  intro p _
  simp only [Prod.mk.injEq]
  constructor <;> ring

theorem sum_zipWith_add (r c : List Rat) (h : r.length = c.length) :
    (List.zipWith (fun a b => id (a + b)) r c).sum = r.sum + c.sum := by
  induction r generalizing c with
  | nil => rw [List.zipWith_nil_left, List.length_eq_zero_iff.mp h.symm, List.sum_nil, add_zero]
  | cons a r ih =>
    obtain _ | ⟨b, c⟩ := c
    · cases h
    · rw [List.zipWith_cons_cons, List.sum_cons, ih c (Nat.succ.inj h), List.sum_cons, List.sum_cons, id_eq]
      ring

theorem accsK_sum (k : Nat) : ∀ (r rest : List Rat), r.length = 8 → 8 * k ≤ rest.length →
    (accsK id k r rest).1.sum + (accsK id k r rest).2.sum = r.sum + rest.sum ∧ (accsK id k r rest).1.length = 8 := by
  induction k with
  | zero => intro r rest hr _; exact ⟨rfl, hr⟩
  | succ k ih =>
    intro r rest hr hlen
    have htake : (rest.take 8).length = 8 := by rw [List.length_take]; omega
    have hz : (List.zipWith (fun a b => id (a + b)) r (rest.take 8)).length = 8 := by
      rw [List.length_zipWith, hr, htake]; rfl
    have hdrop : 8 * k ≤ (rest.drop 8).length := by rw [List.length_drop]; omega
    obtain ⟨h1, h2⟩ := ih _ (rest.drop 8) hz hdrop
    refine ⟨?_, h2⟩
    show (accsK id k _ (rest.drop 8)).1.sum + (accsK id k _ (rest.drop 8)).2.sum = _
    rw [h1, sum_zipWith_add r (rest.take 8) (by rw [hr, htake]), add_assoc, List.sum_take_add_sum_drop]

theorem sum_eight (r : List Rat) (h : r.length = 8) :
    r.sum = ((r.getD 0 0 + r.getD 1 0) + (r.getD 2 0 + r.getD 3 0)) + ((r.getD 4 0 + r.getD 5 0) + (r.getD 6 0 + r.getD 7 0)) := by
  match r, h with
  | [a, b, c, d, e, f, g, i], _ =>
    simp only [List.getD_cons_zero, List.getD_cons_succ, List.sum_cons, List.sum_nil]; ring

/-- **In exact arithmetic numpy's pairwise scheme is the plain sum** (any length). -/
theorem pairSum_id (xs : List Rat) : pairSum id xs = xs.sum := by
  unfold pairSum
  split
  · exact seqSum_id xs
  · rename_i hlen
    have htake : (xs.take 8).length = 8 := by rw [List.length_take]; omega
    have hdrop : 8 * (xs.length / 8 - 1) ≤ (xs.drop 8).length := by rw [List.length_drop]; omega
    obtain ⟨h1, h2⟩ := accsK_sum (xs.length / 8 - 1) (xs.take 8) (xs.drop 8) htake hdrop
    simp only [id]
    rw [foldl_add_eq, ← sum_eight _ h2, h1, List.sum_take_add_sum_drop]

/-- Hence the many-point model in exact arithmetic is the field-generic `normXYK` too. -/
theorem norm_xy_pairwise_is_generic (pts : List (Rat × Rat)) (ds : List Rat) (r : Rat) :
    normXyP id pts ds r = normXyF id pts ds r := by
  unfold normXyP normXyF meanP meanF
  rw [pairSum_id, seqSum_id ds]

example : pairSum id [1, 2, 3, 4, 5, 6, 7, 8, 9, 10, 11] = 66 := by decide +kernel

end OdcGeo.C20
