/-
C13 — theorems about the glue between the public entry points and the modelled core
(`Model/C13Glue.lean`): nodata conversion (`resolve_fill_value` versus what the warp writes), the
`chunks=` argument, `with_yx`, `_xr_reproject_da`'s defaulting + dispatch composed with the core
theorem, `warp_affine`, the keywords that reach GDAL.
-/
import OdcGeo.Model.C13Glue
import OdcGeo.Props.C13
import OdcGeo.Props.C13Kw
import OdcGeo.Lemmas.Py
import OdcGeo.Lemmas.Except
import OdcGeo.Lemmas.Splice
import Mathlib.Tactic.Linarith
import Mathlib.Tactic.Ring
import Mathlib.Algebra.Order.Field.Rat

namespace OdcGeo.C13
open OdcGeo

theorem truncZ_eq_py (q : Rat) : truncZ q = Gen.Py.trunc q := by
  unfold truncZ Gen.Py.trunc
  rw [Rat.ceil_eq_neg_floor_neg]

theorem truncZ_int (n : Int) : truncZ (n : Rat) = n := by rw [truncZ_eq_py, Gen.Py.trunc_intCast]

theorem roundHAZ_in_range (lo hi : Int) (q : Rat) (h : (lo : Rat) ≤ q ∧ q ≤ (hi : Rat)) :
    lo ≤ roundHAZ q ∧ roundHAZ q ≤ hi := by
  have p0 : (0 : Rat) ≤ 1 / 2 := by norm_num
  have p1 : (1 / 2 : Rat) < 1 := by norm_num
  unfold roundHAZ
  split
  · exact ⟨Rat.le_floor_iff.2 (h.1.trans (le_add_of_nonneg_right p0)),
      Int.lt_add_one_iff.1 (Rat.floor_lt_iff.2 (by
        rw [Int.cast_add, Int.cast_one]; exact add_lt_add_of_le_of_lt h.2 p1))⟩
  · exact ⟨Int.le_neg_of_le_neg (Int.lt_add_one_iff.1 (Rat.floor_lt_iff.2 (by
        rw [Int.cast_add, Int.cast_one, Int.cast_neg]
        exact add_lt_add_of_le_of_lt (neg_le_neg h.1) p1))),
      Int.neg_le_of_neg_le (Rat.le_floor_iff.2 (by
        rw [Int.cast_neg]; exact (neg_le_neg h.2).trans (le_add_of_nonneg_right p0)))⟩

theorem roundHAZ_int (n : Int) : roundHAZ (n : Rat) = n :=
  have h := roundHAZ_in_range n n n ⟨le_rfl, le_rfl⟩
  le_antisymm h.2 h.1

/-- **`resolve_fill_value` rounds like the warp** (code of fix2-C13): for an integer dtype the integer it
converts a finite nodata to is `roundHAZ` — whatever the nodata (integral, fractional, negative). -/
theorem fillIntOf_round (q : Rat) : fillIntOf true q = roundHAZ q := by
  simp only [fillIntOf]
  split
  · next hi =>
    have hq0 : q ≠ 0 := by rintro rfl; exact hi (by decide +kernel)
    unfold truncZ roundHAZ
    split
    · next hq => rw [if_pos (by linarith only [hq]), if_pos hq.le]
    · next hq =>
      have hneg : q < 0 := lt_of_le_of_ne (not_lt.1 hq) hq0
      rw [if_neg (by linarith only [hneg]), if_neg (not_le.2 hneg), show -(q - 1 / 2) = -q + 1 / 2 by ring]
  · next hi => rw [← not_not.1 hi, truncZ_int, roundHAZ_int]

/-- the code as found truncates -/
theorem fillIntOf_as_found (q : Rat) : fillIntOf false q = truncZ q := rfl

private theorem fillIntOf_int (b : Bool) (n : Int) : fillIntOf b (n : Rat) = n := by
  cases b
  · exact truncZ_int n
  · rw [fillIntOf_round, roundHAZ_int]

private theorem rioCheck_num (r : IRange) (q : Rat) (h : rioCheckInt r (some (.num q)) = .ok ()) :
    (r.lo : Rat) ≤ q ∧ q ≤ (r.hi : Rat) := by
  simp only [rioCheckInt] at h
  split at h
  · assumption
  · cases h

private theorem wholeFillInt_ok (r : IRange) (d s : Option RawNd) (v : Int)
    (h : wholeFillInt r d s = .ok v) :
    rioCheckInt r s = .ok () ∧ rioCheckInt r d = .ok () ∧ v = warpInitInt d s := by
  unfold wholeFillInt at h
  split at h
  · cases h
  · cases h
  · next h1 h2 =>
    cases h
    exact ⟨h1, h2, rfl⟩

/-- **Constant chunks hold what the warp writes.**  Integer raster, ANY nodata pair the caller can give
(fractional, negative, NaN, out of range): whenever the in-memory path accepts the pair (rasterio's
range test) and fills unreached pixels with `v`, `resolve_fill_value` (fix2-C13) gives the constant
chunks of the dask path the same `v` — without an error. -/
theorem const_fill_eq_warp_fill (r : IRange) (d s : Option RawNd) (v : Int)
    (h : wholeFillInt r d s = .ok v) : resolveFillInt true r d s = .ok v := by
  have cast_ok : ∀ q : Rat, rioCheckInt r (some (.num q)) = .ok () →
      fillCastInt true r (.num q) = .ok (roundHAZ q) := by
    intro q hq
    simp only [fillCastInt, fillIntOf_round]
    rw [if_pos (roundHAZ_in_range r.lo r.hi q (rioCheck_num r q hq))]
  obtain ⟨hs, hd, rfl⟩ := wholeFillInt_ok r d s v h
  rcases d with _ | (_ | qd)
  · rcases s with _ | (_ | qs)
    · rfl
    · cases hs
    · exact cast_ok qs hs
  · cases hd
  · exact cast_ok qd hd

/-- the code **as found** truncates: `uint8`, `dst_nodata = 2.5`: constant chunks get 2, the warp
writes 3 (replayed on the real code: oracle key `fill-not-uniform:fractional-nodata`) -/
theorem const_fill_as_found_cex :
    resolveFillInt false ⟨0, 255⟩ (some (.num (5 / 2))) none = .ok 2 ∧
      wholeFillInt ⟨0, 255⟩ (some (.num (5 / 2))) none = .ok 3 := by
  constructor <;> decide +kernel

/-- a negative half, signed type: as found `int(-0.5) = 0`, the warp writes -1 -/
theorem const_fill_as_found_neg_cex :
    resolveFillInt false ⟨-32768, 32767⟩ none (some (.num (-1 / 2))) = .ok 0 ∧
      wholeFillInt ⟨-32768, 32767⟩ none (some (.num (-1 / 2))) = .ok (-1) := by
  constructor <;> decide +kernel

example : resolveFillInt true ⟨0, 255⟩ (some (.num (5 / 2))) none = .ok 3 := by decide +kernel
example : wholeFillInt ⟨0, 255⟩ (some (.num (5 / 2))) (some (.num 7)) = .ok 3 := by decide +kernel

/-- the converse does not hold: rasterio rejects 255.4 for `uint8` (`ValueError` from the in-memory path
and from every task chunk) while a constant chunk quietly holds 255 -/
theorem const_fill_accepts_more_cex :
    resolveFillInt true ⟨0, 255⟩ (some (.num (1277 / 5))) none = .ok 255 ∧
      wholeFillInt ⟨0, 255⟩ (some (.num (1277 / 5))) none = .error .value := by
  constructor <;> decide +kernel

/-- on integral nodata inside the range the conversion is the `resolveFill` of the core model (either
revision of the code) -/
theorem resolveFillInt_integral (b : Bool) (r : IRange) (d s : Option Int)
    (hd : ∀ n, d = some n → r.lo ≤ n ∧ n ≤ r.hi) (hs : ∀ n, s = some n → r.lo ≤ n ∧ n ≤ r.hi) :
    (resolveFillInt b r (d.map RawNd.ofInt) (s.map RawNd.ofInt)).map Val.num =
      .ok (resolveFill (d.map Val.num) (s.map Val.num) .int) := by
  have cast : ∀ n : Int, r.lo ≤ n ∧ n ≤ r.hi → fillCastInt b r (RawNd.ofInt n) = .ok n := by
    intro n hn
    simp only [RawNd.ofInt, fillCastInt, fillIntOf_int]
    rw [if_pos hn]
  rcases d with _ | n
  · rcases s with _ | m
    · rfl
    · simp only [Option.map_none, Option.map_some, resolveFillInt, resolveFill]
      rw [cast m (hs m rfl)]; rfl
  · simp only [Option.map_some, resolveFillInt, resolveFill]
    rw [cast n (hd n rfl)]; rfl

/-- a fractional source nodata masks no pixel (GDAL compares as doubles) -/
theorem fractional_masks_nothing (q : Rat) (hq : ∀ n : Int, (n : Rat) ≠ q) (p : Int) :
    warpMasks (some (.num q)) p = false := by
  simp only [warpMasks, decide_eq_false_iff_not]
  exact fun h => hq p h.symm

/-- dask's `chunksize` is the largest chunk: an upper bound that is attained -/
theorem chunkSize_spec (ch : List Nat) :
    (∀ c ∈ ch, c ≤ chunkSize ch) ∧ (ch ≠ [] → chunkSize ch ∈ ch) := by
  obtain ⟨hm, hle⟩ : chunkSize ch ∈ 0 :: ch ∧ ∀ c ∈ 0 :: ch, c ≤ chunkSize ch := foldl_max_spec ch 0
  replace hle : ∀ c ∈ ch, c ≤ chunkSize ch := fun c hc => hle c (List.mem_cons_of_mem _ hc)
  rcases List.mem_cons.mp hm with h | h
  · -- the maximum is the initial 0: every chunk is 0
    refine ⟨hle, fun hne => ?_⟩
    obtain ⟨x, hx⟩ := List.exists_mem_of_ne_nil ch hne
    have hx0 := hle x hx
    rw [h, Nat.le_zero] at hx0
    rw [h, ← hx0]
    exact hx
  · exact ⟨hle, fun _ => h⟩

theorem tilesPair_ok {H W : Nat} {cy cx : Int} {dy dx : List Span} (h : tilesPair H W cy cx = .ok (dy, dx)) :
    0 < cy ∧ 0 < cx ∧ dy = regularTiling H cy.toNat ∧ dx = regularTiling W cx.toNat := by
  unfold tilesPair at h
  split at h
  · cases h
  · split at h
    · cases h
    · cases h
      exact ⟨by omega, by omega, rfl, rfl⟩

theorem dstTilings_var_ok {H W : Nat} {sy sx ys xs : List Nat} {dy dx : List Span}
    (h : dstTilings H W sy sx (.var ys xs) = .ok (dy, dx)) :
    ys.sum = H ∧ xs.sum = W ∧ dy = chunksTiling ys ∧ dx = chunksTiling xs := by
  simp only [dstTilings] at h
  split at h
  · cases h
  · split at h
    · next hsum => cases h; exact ⟨hsum.1, hsum.2, rfl, rfl⟩
    · cases h

private theorem tilesPair_chain {H W : Nat} {cy cx : Int} {dy dx : List Span}
    (h : tilesPair H W cy cx = .ok (dy, dx)) : Chain 0 dy H ∧ Chain 0 dx W := by
  obtain ⟨hy, hx, rfl, rfl⟩ := tilesPair_ok h
  exact ⟨regularTiling_isTiling H cy.toNat (by omega), regularTiling_isTiling W cx.toNat (by omega)⟩

/-- **Every accepted `chunks=` argument tiles the destination**: `None` (source chunk size),
`(ny, nx)` (ragged last tile, tiles larger than the raster), tuple of tuples (zero-length chunks
included) — whatever `dstTilings` returns covers `[0, H) × [0, W)` contiguously.  This discharges the
destination-tiling hypotheses of `chunked_eq_whole_nn` for the public entry point. -/
theorem dstTilings_chain {H W : Nat} {sy sx : List Nat} {a : ChunkArg} {dy dx : List Span}
    (h : dstTilings H W sy sx a = .ok (dy, dx)) : Chain 0 dy H ∧ Chain 0 dx W := by
  cases a with
  | var ys xs =>
    obtain ⟨h1, h2, rfl, rfl⟩ := dstTilings_var_ok h
    exact ⟨h1 ▸ chunksTiling_isTiling ys, h2 ▸ chunksTiling_isTiling xs⟩
  | _ => exact tilesPair_chain h

/-- the error branches: a zero tile size is a `ZeroDivisionError`, a negative one is rejected
(`ValueError` or `IndexError`), variable chunks that do not add up to the destination shape are rejected
(`ValueError` or `IndexError`) — never a wrong tiling -/
theorem dstTilings_rejects (H W : Nat) (sy sx : List Nat) :
    (∀ cy cx, (cy = 0 ∨ cx = 0) → dstTilings H W sy sx (.pair cy cx) = .error .zeroDiv) ∧
    (∀ cy cx, cy ≠ 0 → cx ≠ 0 → (cy < 0 ∨ cx < 0) → dstTilings H W sy sx (.pair cy cx) = .error .badChunks) ∧
    (∀ ys xs, (ys.sum ≠ H ∨ xs.sum ≠ W) → dstTilings H W sy sx (.var ys xs) = .error .badChunks) := by
  refine ⟨?_, ?_, ?_⟩
  · intro cy cx h
    simp [dstTilings, tilesPair, h]
  · intro cy cx h1 h2 h
    simp [dstTilings, tilesPair, h1, h2, h]
  · intro ys xs h
    simp only [dstTilings]
    split
    · rfl
    · rw [if_neg (by omega)]

example : dstTilings 5 7 [1, 3] [2, 4] .default = .ok ([(0, 3), (3, 5)], [(0, 4), (4, 7)]) := by decide +kernel
example : dstTilings 5 7 [1, 3] [2, 4] (.var [2, 0, 3] [7]) = .ok ([(0, 2), (2, 2), (2, 5)], [(0, 7)]) := by
  decide +kernel
example : dstTilings 5 7 [1, 3] [2, 4] (.pair 8 8) = .ok ([(0, 5)], [(0, 7)]) := by decide +kernel

/-- `with_yx` keeps the number of axes -/
theorem withYXrepl_length {α : Type} (ydim : Nat) (a : List α) (y x : α) (h : ydim + 2 ≤ a.length) :
    (withYXrepl ydim a y x).length = a.length := by
  simp only [withYXrepl, List.length_append, List.length_take, List.length_drop, List.length_cons, List.length_nil]
  omega

/-- the block index split inverts `with_yx`: `idx[ydim:ydim+2]` of `with_yx(idx, (y, x))` is `(y, x)` —
at the position of the spatial axes, not at the end of the index -/
theorem blockYX_withYXrepl {α : Type} (ydim : Nat) (a : List α) (y x : α) (h : ydim ≤ a.length) :
    blockYX ydim (withYXrepl ydim a y x) = some (y, x) := by
  have hl : (a.take ydim).length = ydim := List.length_take_of_le h
  simp only [blockYX, withYXrepl, splice_fst hl, splice_snd hl]
  rfl

/-- `with_yx` leaves every non-spatial axis alone -/
theorem withYXrepl_other {α : Type} (ydim : Nat) (a : List α) (y x : α) (i : Nat)
    (h : ydim + 2 ≤ a.length) (hi : i < ydim ∨ ydim + 2 ≤ i) :
    (withYXrepl ydim a y x)[i]? = a[i]? := by
  have hl : (a.take ydim).length = ydim := List.length_take_of_le (by omega)
  rcases hi with hi | hi
  · exact (splice_lt hl hi _ _ _).trans (List.getElem?_take_of_lt hi)
  · rw [withYXrepl, splice_ge hl hi, List.getElem?_drop]
    congr 1
    omega

theorem blockYX_map {α β : Type} (f : α → β) (ydim : Nat) (l : List α) :
    blockYX ydim (l.map f) = (blockYX ydim l).map fun p => (f p.1, f p.2) := by
  simp only [blockYX, List.getElem?_map]
  cases l[ydim]? <;> cases l[ydim + 1]? <;> rfl

/-- the array `_dask_rio_reproject` declares has the destination shape on the spatial axes and
destination chunks that add up to it -/
theorem declared_spatial (ydim : Nat) (srcChunks : List (List Int)) (H W : Nat) (dy dx : List Span)
    (h : ydim ≤ srcChunks.length) :
    blockYX ydim (declared ydim srcChunks H W dy dx).shape = some ((H : Int), (W : Int)) ∧
    blockYX ydim (declared ydim srcChunks H W dy dx).chunks = some (spanLens dy, spanLens dx) ∧
    blockYX ydim (declared ydim srcChunks H W dy dx).blocks = some (dy.length, dx.length) := by
  refine ⟨blockYX_withYXrepl ydim _ _ _ (by rw [List.length_map]; exact h), blockYX_withYXrepl ydim _ _ _ h, ?_⟩
  show blockYX ydim ((withYXrepl ydim srcChunks (spanLens dy) (spanLens dx)).map List.length) = _
  rw [blockYX_map, blockYX_withYXrepl ydim _ _ _ h]
  simp only [Option.map_some, spanLens, List.length_map]

theorem xrCfg_ok {a : XrArgs} {deps : List (TIdx × List TIdx)} {c : Cfg} (h : xrCfg a deps = .ok c) :
    ∃ dy dx, dstTilings a.dstH a.dstW a.sy a.sx a.chunks = .ok (dy, dx) ∧
      c = { variant := Variant.repaired, kind := a.kind, srcH := a.srcH, srcW := a.srcW, S := a.S,
            dstH := a.dstH, dstW := a.dstW, D := a.D, sy := chunksTiling a.sy, sx := chunksTiling a.sx,
            dy := dy, dx := dx, deps := deps, srcNd := (xrNodata a.attrNd a.kwSrcNd a.dstNd).1,
            dstNd := (xrNodata a.attrNd a.kwSrcNd a.dstNd).2 } := by
  obtain ⟨t, ht, h⟩ := bind_ok_iff.1 h
  exact ⟨t.1, t.2, ht, (Except.ok.inj h).symm⟩

theorem xrDask_ok_iff {a : XrArgs} {G : Gdal} {deps : List (TIdx × List TIdx)} {src r : Img} :
    xrDask a G deps src = .ok r ↔
      ∃ c, xrCfg a deps = .ok c ∧ emptyTask c = false ∧ r = daskResult c G src := by
  rw [xrDask, bind_ok_iff]
  refine exists_congr fun c => and_congr_right fun _ => ?_
  cases emptyTask c
  · exact ⟨fun h => ⟨rfl, (Except.ok.inj h).symm⟩, fun h => congrArg Except.ok h.2.symm⟩
  · exact ⟨nofun, nofun⟩

/-- **`xr_reproject`: dask-backed equals numpy-backed, from the arguments.**  Same CRS, nearest
neighbour.  For EVERY `nodata` attribute, `src_nodata=`, `dst_nodata=`, EVERY form of `chunks=`
(`None`, pair, tuple of tuples), every source chunking: if the dask path builds its graph (`xrDask … =
.ok r`; the alternative is one of the errors of `dstTilings`), then every pixel of the computed array is
the pixel of the numpy-backed call.  The nodata hypothesis and the four tiling hypotheses of
`chunked_eq_whole_nn` are discharged by the glue (`xrNodata_guarantee`, `chunksTiling_isTiling`,
`dstTilings_chain`); what remains is `deps_complete` (C12; discharged on the linear path in
`Props/C13GlueC12`). -/
theorem xr_entry_chunked_eq_whole (a : XrArgs) (G : Gdal) (deps : List (TIdx × List TIdx))
    (src buf r : Img) (c : Cfg)
    (hc : xrCfg a deps = .ok c)
    (hr : xrDask a G deps src = .ok r)
    (hbuf : WF buf a.dstH a.dstW)
    (hsy : a.sy.sum = a.srcH) (hsx : a.sx.sum = a.srcW)
    (hS : a.S.det ≠ 0)
    (hvalid : DepsValid c) (hcomplete : deps_complete c)
    (hnd1 : NodataOk a.kind (xrNodata a.attrNd a.kwSrcNd a.dstNd).2)
    (hnd2 : NodataOk a.kind (xrNodata a.attrNd a.kwSrcNd a.dstNd).1)
    (d : Int × Int) (hd : 0 ≤ d.1 ∧ d.1 < a.dstH ∧ 0 ≤ d.2 ∧ d.2 < a.dstW) :
    r d = xrNumpy a G src buf d := by
  obtain ⟨c', hc', _, rfl⟩ := xrDask_ok_iff.1 hr
  cases hc.symm.trans hc'
  obtain ⟨dy, dx, ht, rfl⟩ := xrCfg_ok hc
  obtain ⟨hdy, hdx⟩ := dstTilings_chain ht
  exact chunked_eq_whole_nn _ G src buf rfl hbuf (hsy ▸ chunksTiling_isTiling a.sy)
    (hsx ▸ chunksTiling_isTiling a.sx) hdy hdx hS hvalid hcomplete (xrNodata_guarantee _ _ _) hnd1 hnd2 d hd

/-- the dask path fails exactly when the `chunks=` argument is rejected (at graph construction) or an
empty destination chunk is wired to source chunks (GDAL, at compute time).  That `chunks=None` (non-empty source
chunks) and a pair of positive tile sizes hit neither case is `xrDask_default_ok` / `emptyTask_false_of_regular`
(Props/C13GlueC12). -/
theorem xrDask_error_iff (a : XrArgs) (G : Gdal) (deps : List (TIdx × List TIdx)) (src : Img) (e : GErr) :
    xrDask a G deps src = .error e ↔
      dstTilings a.dstH a.dstW a.sy a.sx a.chunks = .error e ∨
        (∃ c, xrCfg a deps = .ok c ∧ emptyTask c = true ∧ e = .gdal) := by
  unfold xrDask xrCfg
  cases dstTilings a.dstH a.dstW a.sy a.sx a.chunks with
  | error e' =>
    show Except.error e' = Except.error e ↔ _
    exact ⟨fun h => Or.inl (Except.error.inj h ▸ rfl),
      fun h => h.elim (fun h => Except.error.inj h ▸ rfl) fun ⟨_, h, _⟩ => (by cases h)⟩
  | ok t =>
    show (if emptyTask _ = true then Except.error GErr.gdal else _) = _ ↔ _
    split
    · next he =>
      exact ⟨fun h => Or.inr ⟨_, rfl, he, (Except.error.inj h).symm⟩,
        fun h => h.elim (fun h => (by cases h)) fun ⟨_, _, _, h⟩ => h ▸ rfl⟩
    · next he =>
      exact ⟨fun h => (by cases h),
        fun h => h.elim (fun h => (by cases h)) fun ⟨c, hc, he', _⟩ => (by cases hc; exact absurd he' he)⟩

/-- **`warp_affine` samples through `A`**: pixel `d` of the destination is the source pixel under
`A * centre(d)` (nearest), the destination nodata / 0 where `A` maps the centre outside the source —
i.e. `warp_affine` is the reference warp with pixel map `A` itself (the two GeoBoxes it constructs add
nothing) -/
theorem warp_affine_is_warp (V : Variant) (G : Gdal) (k : DKind) (src : Img) (sh sw : Int) (buf : Img)
    (A : Aff) (sn dn : Option Val) (d : Int × Int) :
    warpAffine V G k src sh sw buf A sn dn d =
      (gdalNearest G (encImg k src) sh sw (encImg k buf) A (encNodata V k sn) (encNodata V k dn) d).map
        (decVal k) := by
  simp only [warpAffine, rioReprojectPlane, Aff.inv_id, Aff.id_mul]

/-- `is_resampling_nn` accepts exactly the spellings of "nearest" that `resampling_s2rio` maps to the
`nearest` member -/
theorem isResamplingNN_iff (name : String) :
    isResamplingNN name = true ↔ resamplingS2rio name = .ok "nearest" := by
  unfold isResamplingNN resamplingS2rio
  constructor
  · intro h
    have h' : name.toLower = "nearest" := by simpa using h
    rw [h']
    decide
  · intro h
    split at h
    · simp only [Except.ok.injEq] at h
      simp [h]
    · cases h

/-- `rio_reproject` without `ydim` takes the LAST two axes as Y/X; `_dask_rio_reproject`'s own default
is `ydim=0` (`_dask.py:95`; the model has no definition for it, the `0` of the statement is that default
written out): on a `(time, y, x)` array the two low-level defaults name different axes
(`_xr_reproject_da` always passes `ydim`, so `xr_reproject` is not affected) -/
theorem lowlevel_ydim_defaults_differ_cex : rioYdim 3 none = 1 ∧ (1 : Nat) ≠ 0 := by decide

example : rioYdim 2 none = 0 := by decide
example : rioYdim 4 (some 1) = 1 := by decide

/-- after `_rio_reproject`'s injection at least one of `XSCALE` / `YSCALE` is set, and an explicit
value is never overwritten -/
theorem injectScale_spec (kw : List (String × String)) :
    (∀ p ∈ kw, p ∈ injectScale kw) ∧
    ((injectScale kw).any (fun p => p.1 = "XSCALE") ∨ (injectScale kw).any (fun p => p.1 = "YSCALE")) ∧
    (∀ p ∈ injectScale kw, p ∈ kw ∨ (p = ("XSCALE", "1") ∨ p = ("YSCALE", "1")) ∧
        ¬ (kw.any (fun p => p.1 = "XSCALE") ∨ kw.any (fun p => p.1 = "YSCALE"))) := by
  unfold injectScale
  split
  · next h => exact ⟨fun p hp => hp, h, fun p hp => Or.inl hp⟩
  · next h =>
    refine ⟨fun p hp => List.mem_append_left _ hp, Or.inl (by simp), fun p hp => ?_⟩
    simp only [List.mem_append, List.mem_cons, List.not_mem_nil, or_false] at hp
    exact hp.imp_right fun hp => ⟨hp, h⟩

/-- **The same keywords reach GDAL from every chunk task and from the in-memory call** — resampling,
nodata pair, axis, every extra keyword, the injected `XSCALE`/`YSCALE` — and both paths reject the same
resampling names -/
theorem gdal_kw_chunk_eq_whole (r : String) (sn dn : Option Val) (ydim : Nat) (kw : List (String × String))
    (hname : ∀ p ∈ kw, p.1 ≠ "name") :
    gdalKwOfChunk r sn dn ydim kw = gdalKwOfWhole r sn dn ydim kw := by
  unfold gdalKwOfChunk gdalKwOfWhole
  rw [chunk_kw_eq_whole r sn dn ydim kw hname]

example : (gdalKwOfChunk "Cubic" none none 0 [("num_threads", "2")]).toOption =
    some ⟨"cubic", none, none, 0, [("num_threads", "2"), ("XSCALE", "1"), ("YSCALE", "1")]⟩ := by
  decide +kernel

example : (0 : Int) ≤ roundHAZ (5 / 2) ∧ roundHAZ (5 / 2) ≤ 255 :=
  roundHAZ_in_range 0 255 (5 / 2) ⟨by norm_num, by norm_num⟩

example : warpMasks (some (.num (5 / 2))) 3 = false := by decide +kernel

example : (resolveFillInt true ⟨0, 255⟩ ((some (3 : Int)).map RawNd.ofInt) ((none : Option Int).map RawNd.ofInt)).map Val.num =
    .ok (resolveFill ((some (3 : Int)).map Val.num) ((none : Option Int).map Val.num) .int) :=
  resolveFillInt_integral true ⟨0, 255⟩ (some 3) none (by intro n h; cases h; decide) (by intro n h; cases h)

example : blockYX 1 (withYXrepl 1 [7, 8, 9] 1 2) = some (1, 2) := blockYX_withYXrepl 1 [7, 8, 9] 1 2 (by decide)

example : (withYXrepl 1 [7, 8, 9, 10] 1 2)[3]? = [7, 8, 9, 10][3]? :=
  withYXrepl_other 1 [7, 8, 9, 10] 1 2 3 (by decide) (Or.inr (by decide))

example : (declared 1 [[2, 1], [1, 3], [2, 4]] 5 7 (regularTiling 5 2) (regularTiling 7 3)) =
    ⟨[3, 5, 7], [[2, 1], [2, 2, 1], [3, 3, 1]], [2, 3, 3]⟩ := by decide +kernel

theorem wrapInt_id (r : IRange) (v : Int) (h : r.lo ≤ v ∧ v ≤ r.hi) : wrapInt r v = v := by
  unfold wrapInt
  rw [Int.emod_eq_of_lt (by omega) (by omega)]
  omega

private theorem rioCheck_mono (r wr : IRange) (hsub : wr.lo ≤ r.lo ∧ r.hi ≤ wr.hi) (v : Option RawNd)
    (h : rioCheckInt r v = .ok ()) : rioCheckInt wr v = .ok () := by
  rcases v with _ | (_ | q)
  · rfl
  · cases h
  · obtain ⟨h1, h2⟩ := rioCheck_num r q h
    exact if_pos ⟨(Int.cast_le.2 hsub.1).trans h1, h2.trans (Int.cast_le.2 hsub.2)⟩

private theorem warpInit_in_range (r : IRange) (h0 : r.lo ≤ 0 ∧ 0 ≤ r.hi) (d s : Option RawNd)
    (hs : rioCheckInt r s = .ok ()) (hd : rioCheckInt r d = .ok ()) :
    r.lo ≤ warpInitInt d s ∧ warpInitInt d s ≤ r.hi := by
  rcases d with _ | (_ | qd)
  · rcases s with _ | (_ | qs)
    · exact h0
    · exact h0
    · exact roundHAZ_in_range r.lo r.hi qs (rioCheck_num r qs hs)
  · exact h0
  · exact roundHAZ_in_range r.lo r.hi qd (rioCheck_num r qd hd)

/-- **`xr_reproject` treats a nodata the integer type cannot hold the same on both back-ends** (fix3-C13): for every
nodata attribute / `src_nodata=` / `dst_nodata=` (in range, out of range, fractional, NaN), every integer type `r` and
every working type `wr ⊇ r` GDAL warps it in (int8 → int16), the value of an unreached pixel in a constant dask chunk
and in the numpy-backed result are the same `Except` value: the same fill, or the same `ValueError` -/
theorem xr_fill_agree (r wr : IRange) (hsub : wr.lo ≤ r.lo ∧ r.hi ≤ wr.hi) (h0 : r.lo ≤ 0 ∧ 0 ≤ r.hi)
    (a k d : Option RawNd) : xrFillDask true r a k d = xrFillWhole true r wr a k d := by
  unfold xrFillDask xrFillWhole
  generalize xrNodataRaw a k d = nd
  simp only []
  cases hchk : xrEntryCheck true r nd.1 nd.2 with
  | error e => rfl
  | ok u =>
    obtain ⟨hs, hd⟩ : rioCheckInt r nd.1 = .ok () ∧ rioCheckInt r nd.2 = .ok () := by
      simp only [xrEntryCheck] at hchk
      split at hchk
      · cases hchk
      · next hs => exact ⟨hs, hchk⟩
    have hin := warpInit_in_range r h0 nd.2 nd.1 hs hd
    have hwr : wholeFillInt wr nd.2 nd.1 = .ok (warpInitInt nd.2 nd.1) := by
      simp only [wholeFillInt, rioCheck_mono r wr hsub _ hs, rioCheck_mono r wr hsub _ hd]
    have hr : wholeFillInt r nd.2 nd.1 = .ok (warpInitInt nd.2 nd.1) := by
      simp only [wholeFillInt, hs, hd]
    simp only [wholeFillWork, hwr, Except.map, wrapInt_id r _ hin]
    exact const_fill_eq_warp_fill r nd.2 nd.1 _ hr

/-- **as found** (before fix3-C13): an int8 raster with `nodata = -200`: the numpy-backed call wraps it through int16
to 56, the dask-backed call raises `OverflowError` (replayed: oracle key `unrepresentable-nodata-one-path-refuses`) -/
theorem int8_wrap_as_found_cex :
    xrFillWhole false ⟨-128, 127⟩ ⟨-32768, 32767⟩ (some (.num (-200))) none none = .ok 56 ∧
      xrFillDask false ⟨-128, 127⟩ (some (.num (-200))) none none = .error .overflow := by
  constructor <;> decide +kernel

/-- as found, disjoint rasters: uint8 with `nodata = -9999` and an explicit `dst_nodata = 0`: constant chunks answer 0,
the in-memory path refuses -/
theorem unrepresentable_as_found_cex :
    xrFillDask false ⟨0, 255⟩ (some (.num (-9999))) none (some (.num 0)) = .ok 0 ∧
      xrFillWhole false ⟨0, 255⟩ ⟨0, 255⟩ (some (.num (-9999))) none (some (.num 0)) = .error .value := by
  constructor <;> decide +kernel

example : xrFillDask true ⟨-128, 127⟩ (some (.num (-200))) none none = .error .value ∧
    xrFillWhole true ⟨-128, 127⟩ ⟨-32768, 32767⟩ (some (.num (-200))) none none = .error .value := by
  constructor <;> decide +kernel

example : xrFillDask true ⟨-128, 127⟩ (some (.num (5 / 2))) none none = .ok 3 := by decide +kernel

/-- the float conversion is odd: negative nodata round like positive ones -/
theorem roundFloat_neg (p : Nat) (q : Rat) : roundFloat p (-q) = -(roundFloat p q) := by
  unfold roundFloat
  rcases lt_trichotomy q 0 with h | rfl | h
  · rw [if_neg (neg_ne_zero.2 h.ne), if_pos (neg_pos.2 h), if_neg h.ne, if_neg (not_lt.2 h.le), neg_neg]
  · rfl
  · rw [if_neg (neg_ne_zero.2 h.ne'), if_neg (not_lt.2 (neg_nonpos.2 h.le)), if_neg h.ne', if_pos h, neg_neg]

end OdcGeo.C13
