/-
C09 — xarray geo-registration round-trips and survives array operations.

`wrap` / `recover` / `applyOps` / `assemble` are the model of
`wrap_xr`+`xr_coords`, `_locate_geo_info(..).geobox`, the assumed xarray operations and the output
assembly of `_xr_reproject_da/_ds` (Model/C09.lean, code as repaired on branch fix-C09).
`track` (Lemmas/C09.lean) is the specification of "which original pixel is result pixel k":
the composition of numpy slices (`Spec/PySliceStep`, validated against numpy on every run).
-/
import OdcGeo.Model.C09
import OdcGeo.Lemmas.C09
import OdcGeo.Lemmas.C09Inv
import Mathlib.Tactic.Ring

namespace OdcGeo.C09
open OdcGeo OdcGeo.PySliceStep

/-- **roundtrip_axis_aligned** — wrapping an array with an axis-aligned GeoBox (any signs of the
pixel size: north-up, mirrored; any shape ≥ 1×1 including 1×N, N×1, 1×1 when a CRS is attached;
any rank / CRS-coordinate name) and reading `.odc.geobox` returns the same GeoBox. -/
theorem roundtrip_axis_aligned (g : GeoBox) (nt nb : Option Nat) (cn : String) (attrs : List String)
    (a0 : XArr) (hcn : NameOk cn) (hb : g.A.b = 0) (hd : g.A.d = 0) (hny : 1 ≤ g.ny) (hnx : 1 ≤ g.nx)
    (hcrs : g.crs.isSome = true ∨ (2 ≤ g.ny ∧ 2 ≤ g.nx))
    (hw : wrap (.lin g) nt nb cn attrs = .ok a0) :
    recover a0 = .ok (.lin g) := by
  rw [recover_of_inv_ident (inv_wrap hcn hw) hny hnx (hcrs.elim (fun h => Or.inr (Or.inl h)) Or.inl),
    writtenA_of_align fun _ => ⟨hb, hd⟩]

/-- **roundtrip_rotated** — a rotated / sheared GeoBox of *every* shape ≥ 1×1, with or without CRS, round-trips
through `.odc.geobox`.  1×N, N×1 and 1×1 rest on the one-pixel fallback resolution for pixel-space labels
(`fallbackRes`, the code as repaired on fix-C09: finding F12). -/
theorem roundtrip_rotated (g : GeoBox) (nt nb : Option Nat) (cn : String) (attrs : List String)
    (a0 : XArr) (hcn : NameOk cn) (hrot : isAffineST g.A = false) (hny : 1 ≤ g.ny) (hnx : 1 ≤ g.nx)
    (hw : wrap (.lin g) nt nb cn attrs = .ok a0) :
    recover a0 = .ok (.lin g) := by
  rw [recover_of_inv_ident (inv_wrap hcn hw) hny hnx (Or.inr (Or.inr hrot)), writtenA, hrot]
  rfl

/-- In the tolerance band of `is_affine_st` (`0 < |b|,|d| < 1e-10`) the box is written with world
labels that ignore `b`,`d`; what comes back is the box with `b = d = 0` (equal up to that tolerance). -/
theorem roundtrip_tolerance_band (g : GeoBox) (nt nb : Option Nat) (cn : String) (attrs : List String)
    (a0 : XArr) (hcn : NameOk cn) (hst : isAffineST g.A = true) (hny : 1 ≤ g.ny) (hnx : 1 ≤ g.nx)
    (hcrs : g.crs.isSome = true) (hw : wrap (.lin g) nt nb cn attrs = .ok a0) :
    recover a0 = .ok (.lin { g with A := { g.A with b := 0, d := 0 } }) := by
  rw [recover_of_inv_ident (inv_wrap hcn hw) hny hnx (Or.inr (Or.inl hcrs)), writtenA, if_pos hst]

/-- Without a CRS an axis-aligned box with a one-pixel axis cannot be recovered (no GeoTransform to
fall back on): `.odc.geobox` is `None` — the case the statement excludes ("when a CRS is attached"). -/
theorem roundtrip_1px_nocrs_lost :
    (wrap (.lin ⟨1, 5, ⟨2, 0, 10, 0, -2, 20⟩, none⟩) none none "spatial_ref" []).bind recover
      = .ok .nothing := by
  decide +kernel

/-- **roundtrip_assign_crs** — an array wrapped *without* a CRS coordinate (`crs_coord_name=None`) and then
registered with `.odc.assign_crs(crs, name)` (any coordinate name, any rank) gives the GeoBox back — for
rotated / sheared boxes of every shape ≥ 1×1 and for axis-aligned boxes of shape ≥ 2×2 (`assign_crs`
writes no GeoTransform, so a one-pixel axis of world labels has nothing to fall back on: see
`assign_crs_1px_lost`). -/
theorem roundtrip_assign_crs (g : GeoBox) (c : Crs) (nt nb : Option Nat) (cn : String) (attrs : List String)
    (a0 : XArr) (hcn : NameOk cn) (hcrs : g.crs = some c)
    (halign : isAffineST g.A = true → g.A.b = 0 ∧ g.A.d = 0)
    (hshape : (isAffineST g.A = false ∧ 1 ≤ g.ny ∧ 1 ≤ g.nx) ∨ (2 ≤ g.ny ∧ 2 ≤ g.nx))
    (hw : wrapNoName (.lin g) nt nb attrs = .ok a0) :
    recover (assignCrs a0 c cn) = .ok (.lin g) := by
  obtain ⟨pre, post, tb, rfl, htb, htbc⟩ := wrapNoName_lin_ok hw
  have hlk : (axisCoords g ++ tb).lookup cn = none :=
    (lookup_axisPair_ne (hcn.ne_dimsOf g.crs)).trans (hcn.lookup_tb htbc)
  -- no coordinate of that name yet: `assign_crs` appends the fresh CRS coordinate, which is then the located one
  have hC := crsInv_of_coords (occ := some ⟨some c, none, none⟩) (back := []) (gm := some cn) (attrs := attrs)
    (hcn.not_mem_dims g.crs htb) hlk
    (fun kc hm => (List.mem_append.mp hm).elim (crs?_axisPair kc) (fun h => (htbc kc h).2))
    rfl (fun _ hm => by cases hm) (Or.inl rfl)
  have hny : 1 ≤ g.ny := by rcases hshape with h | h <;> omega
  have hnx : 1 ≤ g.nx := by rcases hshape with h | h <;> omega
  have hrec := recover_labels (my := AxMap.ident g.ny) (mx := AxMap.ident g.nx) (guessDims_shape g.crs htb)
    lookup_axisPair_fst (lookup_axisPair_snd (dimsOf_ne g.crs)) hC.locate rfl hny hnx
    (hshape.symm.imp_right fun h => by simp [xfOf, baseX, baseY, fallbackRes, h.1])
  rw [idxAff_ident, Aff.mul_id, writtenA_of_align halign] at hrec
  simp only [assignCrs, hlk]
  refine hrec.trans ?_
  show Except.ok (Recovered.lin ⟨g.ny, g.nx, g.A, some c⟩) = _
  rw [← hcrs]

/-- the excluded corner of `roundtrip_assign_crs`: an axis-aligned 1×5 box registered through `assign_crs`
has no GeoTransform to fall back on — `.odc.geobox` is `None` (replayed on the real code by the harness:
route `assign`, key `…|lost` allowed exactly here). -/
theorem assign_crs_1px_lost :
    ((wrapNoName (.lin ⟨1, 5, ⟨2, 0, 10, 0, -2, 20⟩, some ⟨4326, true⟩⟩) none none []).bind
        (fun a => recover (assignCrs a ⟨4326, true⟩ "crs"))) = .ok .nothing := by
  decide +kernel

/-- **roundtrip_gcp_points** — a GCP-registered array (identity pixel transform, CRS attached, any
shape ≥ 1×1; a single row / column rests on the one-pixel fallback resolution for pixel-space labels of
the code as repaired on fix-C09) gives back a GCPGeoBox with the same shape, CRS, pixel transform and the
*same ground control points*, hence the same pixel→world function (the polynomial fit is a function of
the point set: trusted, not modelled).  `==` on GCPGeoBox compares the mapping object by identity and is
therefore never `True` after a round trip (known finding K2 `gcpgeobox-eq-by-mapping-identity`, owned
by C19). -/
theorem roundtrip_gcp_points (ny nx : Nat) (pts : List Gcp) (c : Crs) (nt nb : Option Nat)
    (attrs : List String) (a0 : XArr) (hny : 1 ≤ ny) (hnx : 1 ≤ nx)
    (hw : wrap (.gcp ⟨ny, nx, pts, Aff.id, some c⟩) nt nb "spatial_ref" attrs = .ok a0) :
    recover a0 = .ok (.gcp ⟨ny, nx, pts, Aff.id, some c⟩) := by
  have hexp : exportGcps ⟨ny, nx, pts, Aff.id, some c⟩ = .ok pts := by
    have hpts : pts.map (fun p => (⟨(Aff.id.inv.apply (p.col, p.row)).1, (Aff.id.inv.apply (p.col, p.row)).2,
        p.x, p.y⟩ : Gcp)) = pts := by
      conv_rhs => rw [← List.map_id pts]
      apply List.map_congr_left
      intro p _
      rw [Aff.inv_id, Aff.apply_id]
      rfl
    simp only [exportGcps, Aff.inv?_of_det_ne (A := Aff.id) (by rw [Aff.det_id]; exact one_ne_zero), bind, Except.bind,
      pure, Except.pure, hpts]
  obtain ⟨pts', hp', hC, hsd, hy, hx⟩ := wrap_gcp_ok nameOk_spatial_ref rfl hw
  cases hexp.symm.trans hp'
  rw [recover_gcp (spatialDims_of_guess hsd) hy hx hC.locate rfl
    (extractTransform_ap hnx hny (fb := (1, 1)) (Or.inr rfl)), ap_length, ap_length, apAff_pixel]
  rfl

/-- **survives** — for every GeoBox `g` (axis-aligned incl. mirrored, or rotated/sheared beyond the tolerance of
`is_affine_st`: `halign`; any shape, rank, CRS-coordinate name), every finite sequence `ops` of positional slices of any axis (any
bounds, any non-zero step: strided, reversed, down to a single pixel), arithmetic, `astype`,
pickling and integer indexing of the `time`/`band` axes that xarray accepts, the GeoBox recovered
from the result has the shape of the result, the CRS of `g`, and maps the centre of every
remaining pixel `(i, j)` to the world position of the centre of the original pixel it came from
(`track` = composition of the numpy slices).  One-pixel results need a fallback resolution
(`HasFallback`: a CRS is attached, or the box is rotated — exactly the statement's side condition). -/
theorem survives (g : GeoBox) (nt nb : Option Nat) (cn : String) (attrs : List String) (ops : List Op)
    (a0 a : XArr) (hcn : NameOk cn) (halign : isAffineST g.A = true → g.A.b = 0 ∧ g.A.d = 0)
    (hw : wrap (.lin g) nt nb cn attrs = .ok a0) (hadm : ∀ op ∈ ops, op.admissible)
    (hops : applyOps a0 ops = .ok a) :
    let m := track (dimsOf g.crs).1 (dimsOf g.crs).2 (AxMap.ident g.ny, AxMap.ident g.nx) ops
    1 ≤ m.1.len → 1 ≤ m.2.len → HasFallback g m.1 m.2 →
      ∃ r : GeoBox, recover a = .ok (.lin r) ∧ r.ny = m.1.len ∧ r.nx = m.2.len ∧ r.crs = g.crs ∧
        ∀ i j : Nat, i < m.1.len → j < m.2.len →
          r.pix2wld (centre i j) = g.pix2wld (centre (m.1.orig i) (m.2.orig j)) := by
  intro m hy hx hfb
  refine ⟨_, inv_recover (inv_history hcn hw hadm hops) hy hx hfb, rfl, rfl, rfl, fun i j hi hj => ?_⟩
  rw [GeoBox.pix2wld, Aff.apply_mul, idxAff_centre hi hj, writtenA_of_align halign]
  rfl

/-- **labels_agree** — under the same hypotheses the coordinates of the recovered GeoBox are the
array's labels: for an axis-aligned box `GeoBox.coordinates` (`k·r + (t + r/2)`) equals the label
vectors of both axes; for a rotated box the labels are the pixel coordinates `original index + ½`
of the kept pixels, which the recovered transform composes with the encoded `_transform`. -/
theorem labels_agree (g : GeoBox) (nt nb : Option Nat) (cn : String) (attrs : List String) (ops : List Op)
    (a0 a : XArr) (hcn : NameOk cn) (hw : wrap (.lin g) nt nb cn attrs = .ok a0)
    (hadm : ∀ op ∈ ops, op.admissible) (hops : applyOps a0 ops = .ok a) :
    let m := track (dimsOf g.crs).1 (dimsOf g.crs).2 (AxMap.ident g.ny, AxMap.ident g.nx) ops
    1 ≤ m.1.len → 1 ≤ m.2.len → HasFallback g m.1 m.2 →
      ∃ (r : GeoBox) (ys xs : List Rat) (xf : Option Aff) (c1 c2 : Option Crs),
        recover a = .ok (.lin r) ∧
        a.coords.lookup (dimsOf g.crs).1 = some (.axis ys xf c1) ∧
        a.coords.lookup (dimsOf g.crs).2 = some (.axis xs xf c2) ∧
        (isAffineST g.A = true →
          axisLabels r.ny r.A.e r.A.f = ys ∧ axisLabels r.nx r.A.a r.A.c = xs) ∧
        (isAffineST g.A = false →
          ys = (List.range m.1.len).map (fun (k : Nat) => ((m.1.orig k : Int) : Rat) + 1 / 2) ∧
          xs = (List.range m.2.len).map (fun (k : Nat) => ((m.2.orig k : Int) : Rat) + 1 / 2)) := by
  intro m hy hx hfb
  have hI := inv_history hcn hw hadm hops
  refine ⟨_, _, _, _, _, _, inv_recover hI hy hx hfb, hI.ylk, hI.xlk, ?_, ?_⟩
  · intro hst
    simp only [writtenA, baseX, baseY, hst, if_true, idxAff, apAff_eq, Aff.mul_def, Aff.mul, zero_mul, zero_add, add_zero]
    exact ⟨axisLabels_kept _ _ hy, axisLabels_kept _ _ hx⟩
  · intro hst
    simp only [labelsFor, baseX, baseY, hst, Bool.false_eq_true, if_false, ap, AxMap.orig]
    constructor <;>
    · apply List.map_congr_left
      intro k _
      push_cast
      ring

theorem assemble_ok_form {src : XArr} {dst : GeoBox} {nd : Bool} {out : XArr} (h : assemble src dst nd = .ok out) :
    ∃ sd cs kept attrs, spatialDims src.dims = some sd ∧ xrCoords (.lin dst) "spatial_ref" = .ok cs ∧
      out = ⟨replaceDims src.dims sd (dimsOf dst.crs), kept ++ cs, some "spatial_ref", attrs⟩ ∧
      (∀ k ∈ cs.map (·.1), kept.lookup k = none) ∧ (∀ kc ∈ kept, kc.2.crs? = none) ∧
      ∀ k ∈ attrs, k ∉ spatialAttributes := by
  unfold assemble at h
  cases hsd : spatialDims src.dims with
  | none => rw [hsd] at h; cases h
  | some sd =>
    simp only [hsd] at h
    split at h
    · split at h
      · cases h
      · split at h
        · cases h
        · rename_i cs hcs
          refine ⟨sd, cs, _, _, rfl, hcs, (Except.ok.inj h).symm, fun k hk => lookup_filter_names_none hk _,
            fun kc hm => crs?_of_shouldKeep (List.mem_filter.mp (List.mem_filter.mp hm).1).2, fun k hk => ?_⟩
          split at hk
          · simp only [List.mem_append, List.mem_filter, List.mem_singleton] at hk
            rcases hk with ⟨⟨_, h2⟩, _⟩ | rfl
            · simpa using h2
            · decide
          · simp only [List.mem_filter] at hk
            simpa using hk.1.2
    · cases h

/-- **reproject_prunes** — the DataArray assembled by `_xr_reproject_da` carries no key of
`SPATIAL_ATTRIBUTES` and its `grid_mapping` encoding names the new `spatial_ref` coordinate,
whatever the source attributes were. -/
theorem reproject_prunes (src : XArr) (dst : GeoBox) (nd : Bool) (out : XArr)
    (h : assemble src dst nd = .ok out) :
    (∀ k ∈ out.attrs, k ∉ spatialAttributes) ∧ out.gridMapping = some "spatial_ref" := by
  obtain ⟨_, _, _, _, _, _, rfl, _, _, ha⟩ := assemble_ok_form h
  exact ⟨ha, rfl⟩

/-- the shape of the dims of a geo-registered array: `(time?) ydim xdim (band?)` -/
def DimsShape (a : XArr) (sc : Option Crs) (pre post : List String) : Prop :=
  a.dims = pre ++ [(dimsOf sc).1, (dimsOf sc).2] ++ post ∧ ∀ d ∈ pre ++ post, d = "time" ∨ d = "band"

/-- **reproject_geobox** — the DataArray assembled at the end of `_xr_reproject_da` (coords of the
source that reference a spatial dim or look like a CRS coordinate dropped, `xr_coords(dst)` added,
dims replaced) gives back **exactly the destination GeoBox** through `.odc.geobox`, CRS included:
for every source array with dims `(time?) y x (band?)` (either dim-name pair) — whatever its
coordinates, CRS-coordinate name, attributes, encoding or history were — and every destination
GeoBox with a CRS and shape ≥ 1×1 (axis-aligned incl. mirrored, or rotated/sheared beyond the tolerance of
`is_affine_st`: `halign`). -/
theorem reproject_geobox (src : XArr) (sc : Option Crs) (pre post : List String) (dst : GeoBox) (c : Crs)
    (nd : Bool) (out : XArr) (hshape : DimsShape src sc pre post)
    (hcrs : dst.crs = some c) (hny : 1 ≤ dst.ny) (hnx : 1 ≤ dst.nx)
    (halign : isAffineST dst.A = true → dst.A.b = 0 ∧ dst.A.d = 0)
    (h : assemble src dst nd = .ok out) :
    recover out = .ok (.lin dst) := by
  obtain ⟨hdims, htb⟩ := hshape
  have hsd := spatialDims_of_guess (hdims ▸ guessDims_shape sc htb)
  obtain ⟨_, cs, kept, attrs, hsd', hcs, rfl, hk1, hk2, _⟩ := assemble_ok_form h
  cases hsd.symm.trans hsd'
  cases (xrCoords_lin dst "spatial_ref").symm.trans hcs
  have hypre : (dimsOf sc).1 ∉ pre := fun hm => (dimsOf_not_tb sc _ (htb _ (List.mem_append_left _ hm))).1 rfl
  have hname := nameOk_spatial_ref
  have hI := inv_of_coords (g := dst) (front := kept) (back := []) (gm := some "spatial_ref") (attrs := attrs)
    (guessDims_shape dst.crs htb) (hname.not_mem_dims dst.crs htb) (hname.ne_dimsOf dst.crs)
    (fun k hk => hk1 k (by rcases hk with rfl | rfl | rfl <;> simp [axisCoords, axisPair, ccOf, hcrs]))
    hk2 rfl (fun _ hm => by cases hm) (Or.inl rfl)
  rw [List.append_nil] at hI
  rw [hdims, replaceDims_shape post _ _ hypre]
  rw [recover_of_inv_ident hI hny hnx (Or.inr (Or.inl (by rw [hcrs]; rfl))), writtenA_of_align halign]

theorem dimsShape_step {a a' : XArr} {sc : Option Crs} {pre post : List String} {op : Op}
    (hs : DimsShape a sc pre post) (hadm : op.admissible) (hop : applyOp a op = .ok a') :
    ∃ pre' post', DimsShape a' sc pre' post' := by
  obtain ⟨hd, htb⟩ := hs
  cases op with
  | isel d ix =>
    cases ix with
    | slc s e st =>
      obtain ⟨_, _, rfl⟩ := applyOp_slc_ok hop
      exact ⟨pre, post, hd, htb⟩
    | int i =>
      -- the indexed axis (`time` or `band`) goes
      obtain ⟨_, rfl⟩ := applyOp_int_ok hop
      obtain ⟨hy, hx⟩ := dimsOf_not_tb sc d hadm
      refine ⟨pre.filter (· ≠ d), post.filter (· ≠ d), ?_, ?_⟩
      · simp only [hd, List.filter_append, List.filter_cons, List.filter_nil]
        simp [hy, hx]
      · intro e he
        rw [← List.filter_append] at he
        exact htb e (List.mem_filter.mp he).1
  | _ => cases hop; exact ⟨pre, post, hd, htb⟩

theorem dimsShape_history {s : Src} {nt nb : Option Nat} {cn : String} {attrs : List String} {ops : List Op}
    {a0 a : XArr} (sc : Option Crs) (hsc : srcDims s = dimsOf sc) (hw : wrap s nt nb cn attrs = .ok a0)
    (hadm : ∀ op ∈ ops, op.admissible) (hops : applyOps a0 ops = .ok a) :
    ∃ pre post, DimsShape a sc pre post := by
  obtain ⟨_, pre0, post0, _, _, rfl, htb0, _⟩ := wrap_ok hw
  exact applyOps_inv (fun a => ∃ pre post, DimsShape a sc pre post) ops
    (fun a a' op ho ⟨pre, post, hs⟩ hop => dimsShape_step hs (hadm op ho) hop) _ a
    ⟨pre0, post0, by rw [hsc], htb0⟩ hops

/-- **reproject_geobox_history** — `reproject_geobox` for the property's quantifier: wrap any
GeoBox, apply any finite history of admissible operations, reproject to any destination GeoBox with
a CRS: the recovered GeoBox is the destination. -/
theorem reproject_geobox_history (g : GeoBox) (nt nb : Option Nat) (cn : String) (attrs : List String)
    (ops : List Op) (a0 a : XArr) (dst : GeoBox) (c : Crs) (nd : Bool) (out : XArr)
    (hw : wrap (.lin g) nt nb cn attrs = .ok a0) (hadm : ∀ op ∈ ops, op.admissible)
    (hops : applyOps a0 ops = .ok a)
    (hcrs : dst.crs = some c) (hny : 1 ≤ dst.ny) (hnx : 1 ≤ dst.nx)
    (halign : isAffineST dst.A = true → dst.A.b = 0 ∧ dst.A.d = 0)
    (h : assemble a dst nd = .ok out) :
    recover out = .ok (.lin dst) := by
  obtain ⟨pre, post, hs⟩ := dimsShape_history g.crs rfl hw hadm hops
  exact reproject_geobox a g.crs pre post dst c nd out hs hcrs hny hnx halign h

/-- a destination that `.odc.geobox` reads back exactly from what `assemble` writes: it has a CRS (whose GeoTransform
is the fallback resolution of a one-pixel axis), at least one pixel per axis, and is not inside the tolerance band of
`is_affine_st` -/
def ReadsBack (dst : GeoBox) (c : Crs) : Prop :=
  dst.crs = some c ∧ 1 ≤ dst.ny ∧ 1 ≤ dst.nx ∧ (isAffineST dst.A = true → dst.A.b = 0 ∧ dst.A.d = 0)

theorem assembled_var {v : XArr} {dst : GeoBox} {c : Crs} {nd : Bool} {o : XArr} (hdst : ReadsBack dst c)
    (has : assemble v dst nd = .ok o) :
    (∀ k ∈ o.attrs, k ∉ spatialAttributes) ∧ o.gridMapping = some "spatial_ref" ∧
      ∀ sc pre post, DimsShape v sc pre post → recover o = .ok (.lin dst) :=
  ⟨(reproject_prunes v dst nd o has).1, (reproject_prunes v dst nd o has).2, fun sc pre post hs =>
    reproject_geobox v sc pre post dst c nd o hs hdst.1 hdst.2.1 hdst.2.2.1 hdst.2.2.2 has⟩

theorem reprojectVar_ok {dst : GeoBox} {c : Crs} {nv : String × XArr} {nm : String} {o : XArr}
    (hdst : ReadsBack dst c) (h : reprojectVar dst nv = .ok (nm, o)) :
    nm = nv.1 ∧
      ((recover nv.2 = .ok .nothing ∧ o.dims = nv.2.dims ∧ o.attrs = nv.2.attrs) ∨
       ((∃ r, recover nv.2 = .ok r ∧ r ≠ .nothing) ∧
         (∀ k ∈ o.attrs, k ∉ spatialAttributes) ∧ o.gridMapping = some "spatial_ref" ∧
         (∀ sc pre post, DimsShape nv.2 sc pre post → recover o = .ok (.lin dst)))) := by
  unfold reprojectVar at h
  split at h
  · cases h
  · rename_i hrec
    cases h
    exact ⟨rfl, Or.inl ⟨hrec, rfl, rfl⟩⟩
  · rename_i r hnot hrec
    obtain ⟨o', has, h⟩ := map_ok_iff.mp h
    cases h
    exact ⟨rfl, Or.inr ⟨⟨r, hrec, hnot⟩, assembled_var hdst has⟩⟩

/-- **reproject_ds** — the Dataset built by `_xr_reproject_ds` (as
repaired by 38c4bb2): its attrs carry no key of `SPATIAL_ATTRIBUTES`; every output variable comes
from the source variable of the same name; every source variable that had a geobox (dims
`(time?) y x (band?)`) yields a variable whose recovered GeoBox is **exactly the destination**,
CRS included, with no `SPATIAL_ATTRIBUTES` key and `grid_mapping = spatial_ref`; a variable without
geobox passes through with its dims and attrs untouched. -/
theorem reproject_ds (attrs : List String) (vars : List (String × XArr)) (dst : GeoBox) (c : Crs)
    (attrs' : List String) (out : List (String × XArr))
    (hcrs : dst.crs = some c) (hny : 1 ≤ dst.ny) (hnx : 1 ≤ dst.nx)
    (halign : isAffineST dst.A = true → dst.A.b = 0 ∧ dst.A.d = 0)
    (h : assembleDs attrs vars dst = .ok (attrs', out)) :
    (∀ k ∈ attrs', k ∉ spatialAttributes) ∧
    ∀ nm o, (nm, o) ∈ out → ∃ v, (nm, v) ∈ vars ∧
      ((recover v = .ok .nothing ∧ o.dims = v.dims ∧ o.attrs = v.attrs) ∨
       ((∃ r, recover v = .ok r ∧ r ≠ .nothing) ∧
         (∀ k ∈ o.attrs, k ∉ spatialAttributes) ∧ o.gridMapping = some "spatial_ref" ∧
         (∀ sc pre post, DimsShape v sc pre post → recover o = .ok (.lin dst)))) := by
  obtain ⟨outs, hm, h⟩ := bind_ok_iff.mp h
  cases h
  refine ⟨fun k hk => by simpa using (List.mem_filter.mp hk).2, fun nm o hmem => ?_⟩
  obtain ⟨⟨nm', v⟩, hx, hfx⟩ := mapM_ok_mem hm (nm, o) hmem
  obtain ⟨rfl, hv⟩ := reprojectVar_ok ⟨hcrs, hny, hnx, halign⟩ hfx
  exact ⟨v, hx, hv⟩

/-- non-vacuity: a mirrored, strided slice of a geographic (time, latitude, longitude) array with a custom
CRS-coordinate name, after arithmetic, reprojected to a rotated 1×3 destination: `assemble` succeeds and
the destination comes back. -/
example :
    ((((wrap (.lin ⟨4, 5, ⟨2, 0, 10, 0, -2, 20⟩, some ⟨4326, true⟩⟩) (some 2) none "crs" ["crs", "keep"]).bind
        (fun a => applyOps a [.isel "longitude" (.slc none none (some (-2))), .arith])).bind
        (fun a => assemble a ⟨1, 3, ⟨3, 4, 100, 4, -3, 200⟩, some ⟨3857, false⟩⟩ false)).bind recover)
      = .ok (.lin ⟨1, 3, ⟨3, 4, 100, 4, -3, 200⟩, some ⟨3857, false⟩⟩) := by
  decide +kernel

/-- **options_forwarded** — `_extract_output_geobox_params` hands every grid option that the caller
gave to `output_geobox`, *whatever its value* (falsy-but-meaningful values such as `tol=0`,
`tight=False`, `anchor=0`, `shape=None` included), forwards nothing else, and leaves every other
keyword of the caller for the warp. -/
theorem options_forwarded {α : Type} (kw : List (String × α)) (k : String) (v : α) (h : (k, v) ∈ kw) :
    (k ∈ gboxKeys → (k, v) ∈ (extractOutputGeoboxParams kw).1 ∧ (k, v) ∉ (extractOutputGeoboxParams kw).2) ∧
    (k ∉ gboxKeys → (k, v) ∈ (extractOutputGeoboxParams kw).2 ∧ (k, v) ∉ (extractOutputGeoboxParams kw).1) ∧
    (∀ kv ∈ (extractOutputGeoboxParams kw).1, kv ∈ kw ∧ kv.1 ∈ gboxKeys) := by
  refine ⟨fun hk => ?_, fun hk => ?_, fun kv hkv => ?_⟩
  · simp [extractOutputGeoboxParams, List.mem_filter, h, hk]
  · simp [extractOutputGeoboxParams, List.mem_filter, h, hk]
  · have := List.mem_filter.mp hkv
    exact ⟨this.1, by simpa using this.2⟩

/-- **axis_aligned_iff** — a GeoBox is treated as axis-aligned (written with world labels, `coordinates`
allowed) exactly when both off-diagonal terms are below the tolerance in absolute value — for **every**
sign combination and size of the pixel scales `a`, `e` and every origin: mirrored (`a < 0`), south-up
(`e > 0`), both, degenerate — and symmetric in the signs of `b`, `d`. -/
theorem axis_aligned_iff (A : Aff) :
    (isAffineST A = true ↔ rabs A.b < tolST ∧ rabs A.d < tolST) ∧
    (∀ a' c' e' f' : Rat, isAffineST ⟨a', A.b, c', A.d, e', f'⟩ = isAffineST A) ∧
    isAffineST ⟨A.a, -A.b, A.c, -A.d, A.e, A.f⟩ = isAffineST A := by
  refine ⟨by simp [isAffineST], fun _ _ _ _ => rfl, ?_⟩
  simp [isAffineST, rabs_eq_abs]

/-- **one_pixel_axis_next_to_strided** — `_extract_transform` with a one-element axis next to an axis of
≥ 2 labels (any stride, reversed or not): the resolution of the long axis is read from its labels and does
**not** depend on the fallback; only the one-element axis takes the fallback resolution (of its own axis),
and both offsets put the pixel centres on the labels. -/
theorem one_pixel_axis_next_to_strided (cx dx cy dy : Rat) (nx : Nat) (hnx : 2 ≤ nx) (xf : Option Aff)
    (cc : Option CrsCoord) (gcp : Bool) (fb : Rat × Rat)
    (hfb : fallbackRes (if gcp then none else xf) cc gcp = .ok (some fb)) :
    extractTransform (ap cx dx nx) (ap cy dy 1) xf cc gcp =
      .ok (some (composeP2W (if gcp then none else xf)
        (Aff.translation (cx - (1 / 2) * dx) (cy - (1 / 2) * fb.2) * Aff.scale dx fb.2))) ∧
    extractTransform (ap cy dy 1) (ap cx dx nx) xf cc gcp =
      .ok (some (composeP2W (if gcp then none else xf)
        (Aff.translation (cy - (1 / 2) * fb.1) (cx - (1 / 2) * dx) * Aff.scale fb.1 dx))) := by
  have hx : 1 ≤ nx := by omega
  constructor
  · rw [extractTransform_ap hx (le_refl 1) (Or.inr hfb), apAff, resOf_ge2 hnx, resOf_one]
  · rw [extractTransform_ap (le_refl 1) hx (Or.inr hfb), apAff, resOf_ge2 hnx, resOf_one]

end OdcGeo.C09
