/-
C13 × C12 — closing the loop on the linear path of `grid_intersect`.

`chunked_eq_whole_nn` (Props/C13) takes dependency completeness as the hypothesis
`deps_complete`.  Here that hypothesis is *derived* from C12's `linear_deps_complete` for the
dependency map that the C12 model of `_grid_intersect_linear` computes, so on the linear path
(scale + translation pixel map, mirrored axes included) chunked = whole holds with no completeness
hypothesis; `DepsValid` stays a hypothesis of `chunked_eq_whole_linear`, and `depsValid_of_linear`
proves it for the same table.

The two models use different vocabularies (C12/C04: `Tiling` = regular / variable tiles with
`getItem : PIdx → Res NSlice`, indices in `Int`; C13: lists of `(start, stop)` spans, indices in
`Nat`).  `TilingRel` is the translation: the C04 tiling has as many tiles as the span list and
`getItem i` returns span `i`.
-/
import OdcGeo.Props.C13
import OdcGeo.Props.C12
import Mathlib.Tactic.Linarith
import Mathlib.Tactic.Ring
import Mathlib.Algebra.Order.Field.Basic
import Mathlib.Algebra.Order.Field.Rat
import Mathlib.Algebra.Order.AbsoluteValue.Basic

namespace OdcGeo.C13
open OdcGeo OdcGeo.C17 OdcGeo.C04

/-- a C04 tiling and a C13 span list describe the same tiles -/
structure TilingRel (t : C04.Tiling) (l : List Span) : Prop where
  count : t.count = (l.length : Int)
  get : ∀ (i : Nat) (s : Span), l[i]? = some s → t.getItem (.idx (i : Int)) = .ok ⟨s.1, s.2⟩

/-- a point of `[j, j+1)` moved a fraction `θ ∈ (0, 1]` of the way to the centre `j + 1/2` lies
strictly inside -/
theorem toward_centre (j p θ : Rat) (h1 : j ≤ p) (h2 : p < j + 1) (h0 : 0 < θ) (hθ : θ ≤ 1) :
    j < p + θ * (j + 1 / 2 - p) ∧ p + θ * (j + 1 / 2 - p) < j + 1 := by
  have e : p + θ * (j + 1 / 2 - p) = j + ((p - j) * (1 - θ) + θ / 2) := by ring
  have e' : p + θ * (j + 1 / 2 - p) = j + 1 - ((j + 1 - p) * (1 - θ) + θ / 2) := by ring
  have hθ' := sub_nonneg.2 hθ
  constructor
  · rw [e]
    exact lt_add_of_pos_right _ (add_pos_of_nonneg_of_pos (mul_nonneg (sub_nonneg.2 h1) hθ') (half_pos h0))
  · rw [e']
    exact sub_lt_self _ (add_pos_of_nonneg_of_pos (mul_nonneg (sub_pos.2 h2).le hθ') (half_pos h0))

/-- Inside every pixel-centre neighbourhood there is a point whose image lies *strictly* inside
the sampled source pixel: for `p = a*u + c ∈ [j, j+1)` (`a ≠ 0`) some `u'` within 1/4 of `u`
has `j < a*u' + c < j+1`.  (`u' = u + a*m/(1+a²)`, `m = j + 1/2 - p`: the image moves a
fraction `a²/(1+a²) ∈ (0,1)` of the way towards the pixel centre, and `|a*m| ≤ |a|/2 ≤ (1+a²)/4`.) -/
theorem strict_point (a c u : Rat) (j : Int) (ha : a ≠ 0)
    (h1 : (j : Rat) ≤ a * u + c) (h2 : a * u + c < (j : Rat) + 1) :
    ∃ u', u - 1 / 4 ≤ u' ∧ u' ≤ u + 1 / 4 ∧ (j : Rat) < a * u' + c ∧ a * u' + c < (j : Rat) + 1 := by
  have ha2 : 0 < a * a := mul_self_pos.2 ha
  have hs : 0 < 1 + a * a := add_pos_of_pos_of_nonneg one_pos ha2.le
  obtain ⟨m, hm⟩ : ∃ m, m = (j : Rat) + 1 / 2 - (a * u + c) := ⟨_, rfl⟩
  have hδ : |a * m / (1 + a * a)| ≤ 1 / 4 := by
    rw [abs_div, abs_of_pos hs, div_le_iff₀ hs, abs_mul]
    have hm' : |m| ≤ 1 / 2 := abs_le.2 ⟨by linarith only [hm, h2], by linarith only [hm, h1]⟩
    have := mul_le_mul_of_nonneg_left hm' (abs_nonneg a)
    linarith only [this, mul_self_nonneg (|a| - 1), abs_mul_abs_self a]
  have himg : a * (u + a * m / (1 + a * a)) + c = a * u + c + a * a / (1 + a * a) * m := by ring
  obtain ⟨q1, q2⟩ := abs_le.1 hδ
  refine ⟨u + a * m / (1 + a * a), by rw [sub_eq_add_neg]; exact add_le_add_right q1 u,
    add_le_add_right q2 u, ?_⟩
  rw [himg, hm]
  exact toward_centre _ _ _ h1 h2 (div_pos ha2 hs) ((div_le_one hs).2 (le_add_of_nonneg_left zero_le_one))

/-- On `[lo, hi]` the axis map `u ↦ a'u + c'` reaches every image point of `u ↦ au + c` from at most a quarter of a
(destination) pixel away. -/
def Reaches (a' c' a c lo hi : Rat) : Prop :=
  ∀ u : Rat, lo ≤ u → u ≤ hi → ∃ q, -(1 / 4) ≤ q ∧ q ≤ 1 / 4 ∧ a' * (u + q) + c' = a * u + c

theorem Reaches.mono {a' c' a c lo hi lo' hi' : Rat} (h : Reaches a' c' a c lo hi) (h1 : lo ≤ lo') (h2 : hi' ≤ hi) :
    Reaches a' c' a c lo' hi' :=
  fun u hu1 hu2 => h u (h1.trans hu1) (hu2.trans h2)

theorem Reaches.refl (a c lo hi : Rat) : Reaches a c a c lo hi :=
  fun _ _ _ => ⟨0, by norm_num, by norm_num, by rw [add_zero]⟩

theorem Reaches.of_chain {a' c' a c : Rat} {t : List Span} {N : Int} (ht : Chain 0 t N)
    (h : Reaches a' c' a c 0 N) : ∀ s ∈ t, Reaches a' c' a c s.1 s.2 :=
  fun s hs => h.mono (by exact_mod_cast (ht.mem hs).1) (by exact_mod_cast (ht.mem hs).2.2)

/-- One axis of `deps_complete_of_linear_drift`: `strict_point` stays a quarter pixel around the centre of
pixel `x`, `hq` moves at most another quarter, so the point found is still in the tile `t`. -/
theorem axis_point (a c a' c' : Rat) (ha : a ≠ 0) (t : Span) (x j : Int) (h1 : t.1 ≤ x) (h2 : x < t.2)
    (hj1 : (j : Rat) ≤ a * ((x : Rat) + 1 / 2) + c) (hj2 : a * ((x : Rat) + 1 / 2) + c < (j : Rat) + 1)
    (hq : Reaches a' c' a c t.1 t.2) :
    ∃ w : Rat, ((t.1 : Rat) ≤ w ∧ w ≤ t.2) ∧ ((j : Rat) < a' * w + c' ∧ a' * w + c' < (j : Rat) + 1) := by
  obtain ⟨u, u1, u2, u3⟩ := strict_point a c _ j ha hj1 hj2
  have c1 : ((t.1 : Int) : Rat) ≤ (x : Rat) := by exact_mod_cast h1
  have c2 : (x : Rat) + 1 ≤ ((t.2 : Int) : Rat) := by exact_mod_cast h2
  obtain ⟨q, q1, q2, e⟩ := hq u (by linarith only [c1, u1]) (by linarith only [c2, u2])
  exact ⟨u + q, ⟨by linarith only [c1, u1, q1], by linarith only [c2, u2, q2]⟩, by rw [e]; exact u3⟩

/-- the tiled geoboxes of the two models describe the same pair of rasters -/
structure GridRel (c : Cfg) (dst src : C12.GBT) : Prop where
  sy : TilingRel src.tiles.y c.sy
  sx : TilingRel src.tiles.x c.sx
  dy : TilingRel dst.tiles.y c.dy
  dx : TilingRel dst.tiles.x c.dx
  ny : src.ny = c.srcH
  nx : src.nx = c.srcW

theorem TilingRel.idx_lt {t : C04.Tiling} {l : List Span} (h : TilingRel t l) {i : Nat} {s : Span}
    (hs : l[i]? = some s) : 0 ≤ (i : Int) ∧ (i : Int) < t.count := by
  rw [h.count]
  exact ⟨Int.natCast_nonneg i, Int.ofNat_lt.2 (List.getElem?_eq_some_iff.1 hs).1⟩

/-- **Completeness of the linear dependency map under drift, in C13's terms.**  GDAL samples with the
pixel map `A = ~S * D`, a scale + translation (no rotation / shear, non-degenerate; mirrored
allowed); the dependencies of every destination tile contain what C12's `linearDeps` (the model of
`_grid_intersect_linear`) returns for it with a scale + translation `A'` that, on every destination
tile, reaches the image of a point from a point at most a quarter of a destination pixel away
(`Reaches`, per axis).  Then `deps_complete` holds: the
source tile holding the pixel sampled by any destination pixel is listed for that pixel's tile.
(The pixel centre may map exactly onto a source pixel edge, where C12's open-square statement does
not apply directly; `axis_point` supplies a point of the same destination tile whose image under
`A'` is strictly inside the sampled pixel.) -/
theorem deps_complete_of_linear_drift (c : Cfg) (dst src : C12.GBT) (hrel : GridRel c dst src)
    (hs : src.WF) (hsy : Chain 0 c.sy c.srcH) (hsx : Chain 0 c.sx c.srcW)
    (hb : (c.S.inv * c.D).b = 0) (hd : (c.S.inv * c.D).d = 0)
    (ha : (c.S.inv * c.D).a ≠ 0) (he : (c.S.inv * c.D).e ≠ 0)
    (A' : Aff) (hb' : A'.b = 0) (hd' : A'.d = 0)
    (hqx : ∀ t ∈ c.dx, Reaches A'.a A'.c (c.S.inv * c.D).a (c.S.inv * c.D).c t.1 t.2)
    (hqy : ∀ t ∈ c.dy, Reaches A'.e A'.f (c.S.inv * c.D).e (c.S.inv * c.D).f t.1 t.2)
    (hdeps : ∀ (iy ix : Nat) (l : List (Int × Int)), iy < c.dy.length → ix < c.dx.length →
      C12.linearDeps dst src A' ((iy : Int), (ix : Int)) = .ok l →
      ∀ i j : Nat, ((i : Int), (j : Int)) ∈ l → (i, j) ∈ lookupDeps c.deps (iy, ix)) :
    deps_complete c := by
  rintro iy ix d ⟨ty, hty, t1, t2⟩ ⟨tx, htx, t3, t4⟩ s hs'
  obtain ⟨⟨jy0, jy1⟩, ⟨jx0, jx1⟩, ⟨fy1, fy2⟩, fx1, fx2⟩ := samplePixM_some hs' rfl
  simp only [Aff.apply, hb, hd, zero_mul, add_zero, zero_add] at fy1 fy2 fx1 fx2
  obtain ⟨i, sp, hsp, a1, a2⟩ := hsy.inTile jy0 jy1
  obtain ⟨j, sq, hsq, a3, a4⟩ := hsx.inTile jx0 jx1
  obtain ⟨u, hu, hx⟩ := axis_point _ _ A'.a A'.c ha tx d.2 s.2 t3 t4 fx1 fx2
    (hqx tx (List.mem_of_getElem? htx))
  obtain ⟨v, hv, hy⟩ := axis_point _ _ A'.e A'.f he ty d.1 s.1 t1 t2 fy1 fy2
    (hqy ty (List.mem_of_getElem? hty))
  obtain ⟨l, hl, hmem⟩ := C12.linear_deps_complete dst src hs A' hb' hd' ((iy : Int), (ix : Int)) _
    (C12.pixBBox_ok (hrel.dy.get iy ty hty) (hrel.dx.get ix tx htx))
    ((i : Int), (j : Int)) (hrel.sy.idx_lt hsp) (hrel.sx.idx_lt hsq)
    ⟨sp.1, sp.2⟩ ⟨sq.1, sq.2⟩ (hrel.sy.get i sp hsp) (hrel.sx.get j sq hsq)
    s.1 s.2 ⟨a1, a2⟩ ⟨a3, a4⟩ ⟨jy0, hrel.ny ▸ jy1⟩ ⟨jx0, hrel.nx ▸ jx1⟩ u v hu hv hx hy
  exact ⟨(i, j), hdeps iy ix l (List.getElem?_eq_some_iff.1 hty).1 (List.getElem?_eq_some_iff.1 htx).1
    hl i j hmem, ⟨sp, hsp, a1, a2⟩, ⟨sq, hsq, a3, a4⟩⟩

def idxToNat (i : Int × Int) : TIdx := (i.1.toNat, i.2.toNat)

/-- `d2s_idx` as C13 reads it: same table, tile indices as naturals -/
def depsOfC12 (g : List ((Int × Int) × List (Int × Int))) : List (TIdx × List TIdx) :=
  g.map fun e => (idxToNat e.1, e.2.map idxToNat)

theorem lookup_depsOfC12_map (f : Int × Int → List (Int × Int)) (iy ix : Nat) :
    ∀ (ts : List (Int × Int)), (∀ t ∈ ts, 0 ≤ t.1 ∧ 0 ≤ t.2) → ((iy : Int), (ix : Int)) ∈ ts →
      lookupDeps (depsOfC12 (ts.map fun d => (d, f d))) (iy, ix) = (f ((iy : Int), (ix : Int))).map idxToNat
  | [], _, hm => by cases hm
  | t :: r, hnn, hm => by
    simp only [depsOfC12, lookupDeps, List.map_cons, List.lookup]
    by_cases hk : t = ((iy : Int), (ix : Int))
    · subst hk
      rw [show idxToNat ((iy : Int), (ix : Int)) = (iy, ix) from rfl, beq_self_eq_true]
    · -- `idxToNat` is injective on non-negative keys
      have h0 := hnn t List.mem_cons_self
      have hb : ((iy, ix) == idxToNat t) = false := by
        simp only [idxToNat, beq_eq_false_iff_ne, ne_eq, Prod.mk.injEq, not_and]
        intro h1 h2
        exact hk (Prod.ext (by simp only []; omega) (by simp only []; omega))
      rw [hb]
      exact lookup_depsOfC12_map f iy ix r (fun x hx => hnn x (List.mem_cons_of_mem _ hx))
        ((List.mem_cons.1 hm).resolve_left (Ne.symm hk))

theorem depsValid_depsOfC12 {g : List ((Int × Int) × List (Int × Int))} {ty tx : C04.Tiling} {sy sx : List Span}
    (hry : TilingRel ty sy) (hrx : TilingRel tx sx)
    (h : ∀ e ∈ g, ∀ p ∈ e.2, (0 ≤ p.1 ∧ p.1 < ty.count) ∧ (0 ≤ p.2 ∧ p.2 < tx.count)) :
    ∀ idx, ∀ i ∈ lookupDeps (depsOfC12 g) idx, i.1 < sy.length ∧ i.2 < sx.length := by
  intro idx i hi
  obtain ⟨e, he, hie⟩ := lookupDeps_mem hi
  obtain ⟨e0, he0, rfl⟩ := List.mem_map.1 he
  obtain ⟨p, hp, rfl⟩ := List.mem_map.1 hie
  have := h e0 he0 p hp
  have cy := hry.count
  have cx := hrx.count
  simp only [idxToNat]
  omega

theorem gridIntersectLinear_ok {dst src : C12.GBT} {A : Aff} {g : List ((Int × Int) × List (Int × Int))}
    (hg : C12.gridIntersectLinear dst src A = .ok g) :
    g = (C12.allTiles dst).map fun t => (t, C12.linDepsOf dst src A t) := by
  refine (List.map_id g).symm.trans (forall₂_map_eq _ id (mapM_ok_iff.1 hg) fun t e h => ?_)
  obtain ⟨l, hl, h⟩ := bind_ok_iff.1 h
  rw [C12.linDepsOf, hl]
  exact (Except.ok.inj h).symm

theorem linearDeps_listed {dst src : C12.GBT} {A : Aff} {g : List ((Int × Int) × List (Int × Int))}
    (hg : C12.gridIntersectLinear dst src A = .ok g) {dy dx : List Span}
    (hy : TilingRel dst.tiles.y dy) (hx : TilingRel dst.tiles.x dx)
    (iy ix : Nat) (l : List (Int × Int)) (hiy : iy < dy.length) (hix : ix < dx.length)
    (hl : C12.linearDeps dst src A ((iy : Int), (ix : Int)) = .ok l)
    (i j : Nat) (hmem : ((i : Int), (j : Int)) ∈ l) : (i, j) ∈ lookupDeps (depsOfC12 g) (iy, ix) := by
  have hkey : ((iy : Int), (ix : Int)) ∈ C12.allTiles dst := by
    rw [C12.mem_allTiles, hy.count, hx.count]
    omega
  rw [gridIntersectLinear_ok hg, lookup_depsOfC12_map _ iy ix _
    (fun t ht => ⟨((C12.mem_allTiles dst t).1 ht).1.1, ((C12.mem_allTiles dst t).1 ht).2.1⟩) hkey, C12.linDepsOf, hl]
  exact List.mem_map.2 ⟨((i : Int), (j : Int)), hmem, rfl⟩

theorem tilesFromPixBBox_in_range (g : C12.GBT) (hg : g.WF) (b : C12.BBox) (l : List (Int × Int))
    (h : C12.tilesFromPixBBox g b = .ok l) :
    ∀ p ∈ l, (0 ≤ p.1 ∧ p.1 < g.tiles.y.count) ∧ (0 ≤ p.2 ∧ p.2 < g.tiles.x.count) := by
  unfold C12.tilesFromPixBBox at h
  split at h
  · cases h
    nofun
  · obtain ⟨hc, hin, _⟩ := C12.candidates_ok g hg b
    cases hc.symm.trans h
    exact hin

/-- **Every source tile the linear dependency table lists exists** — `DepsValid` for the table C12's model of
`_grid_intersect_linear` computes, read by C13 (`depsOfC12`), against any span lists that describe the source
tiling (`TilingRel`) -/
theorem depsValid_of_linear (dst src : C12.GBT) (hs : src.WF) (A : Aff)
    (g : List ((Int × Int) × List (Int × Int)))
    (hg : C12.gridIntersectLinear dst src A = .ok g)
    (sy sx : List Span) (hry : TilingRel src.tiles.y sy) (hrx : TilingRel src.tiles.x sx) :
    ∀ idx, ∀ i ∈ lookupDeps (depsOfC12 g) idx, i.1 < sy.length ∧ i.2 < sx.length := by
  refine depsValid_depsOfC12 hry hrx fun e he => ?_
  rw [gridIntersectLinear_ok hg] at he
  obtain ⟨t, _, rfl⟩ := List.mem_map.1 he
  unfold C12.linDepsOf
  split
  · next l hl =>
    obtain ⟨bb, _, hl⟩ := bind_ok_iff.1 hl
    exact tilesFromPixBBox_in_range src hs _ _ hl
  · nofun

/-- **Chunked equals whole on the linear path — no completeness hypothesis.**  Same CRS, nearest
neighbour, pixel map `~S * D` a (possibly mirrored) scale + translation: if the dependency map is
the one C12's model of `_grid_intersect_linear` computes for the same two tilings and that map
(`gridIntersectLinear dst src (~S * D) = .ok g`, `c.deps = depsOfC12 g`), then every pixel of
the computed dask array equals the pixel of the in-memory result.  `deps_complete` is discharged
by C12's `linear_deps_complete`; `hvalid` is what `depsValid_of_linear` gives for this `g`.
What is assumed about the transform: it is the map the dependencies were computed with, i.e.
`snap_affine` left it unchanged (integer / already snapped translations and scales; the 1e-3
translation snap of the real code is not covered). -/
theorem chunked_eq_whole_linear (c : Cfg) (G : Gdal) (src buf : Img) (dst12 src12 : C12.GBT)
    (g : List ((Int × Int) × List (Int × Int)))
    (hrel : GridRel c dst12 src12) (hs12 : src12.WF)
    (hg : C12.gridIntersectLinear dst12 src12 (c.S.inv * c.D) = .ok g)
    (hdepsEq : c.deps = depsOfC12 g)
    (hb : (c.S.inv * c.D).b = 0) (hd' : (c.S.inv * c.D).d = 0)
    (ha : (c.S.inv * c.D).a ≠ 0) (he : (c.S.inv * c.D).e ≠ 0)
    (hV : c.variant = Variant.repaired)
    (hbuf : WF buf c.dstH c.dstW)
    (hsy : Chain 0 c.sy c.srcH) (hsx : Chain 0 c.sx c.srcW)
    (hdy : Chain 0 c.dy c.dstH) (hdx : Chain 0 c.dx c.dstW)
    (hS : c.S.det ≠ 0) (hvalid : DepsValid c)
    (hnd : c.dstNd = none → c.srcNd = none)
    (hnd1 : NodataOk c.kind c.dstNd) (hnd2 : NodataOk c.kind c.srcNd)
    (d : Int × Int) (hd : 0 ≤ d.1 ∧ d.1 < c.dstH ∧ 0 ≤ d.2 ∧ d.2 < c.dstW) :
    daskResult c G src d = wholeResult c G src buf d := by
  refine chunked_eq_whole_nn c G src buf hV hbuf hsy hsx hdy hdx hS hvalid ?_ hnd hnd1 hnd2 d hd
  refine deps_complete_of_linear_drift c dst12 src12 hrel hs12 hsy hsx hb hd' ha he _ hb hd'
    (fun _ _ => Reaches.refl _ _ _ _) (fun _ _ => Reaches.refl _ _ _ _) ?_
  rw [hdepsEq]
  exact linearDeps_listed hg hrel.dy hrel.dx

example : TilingRel (.var [2]) [(0, 2)] := by
  refine ⟨by decide, ?_⟩
  intro i s h
  cases i with
  | zero => simp at h; subst h; decide
  | succ k => simp at h

/-- C12's `gridIntersectLinear` on the witness grids (1×1 source, 1×2 destination, identity map)
yields exactly the witness dependency map -/
example : ∃ g, C12.gridIntersectLinear ⟨1, 2, ⟨.var [1], .var [2]⟩⟩ ⟨1, 1, ⟨.var [1], .var [1]⟩⟩
      (Aff.id.inv * Aff.id) = .ok g ∧
    depsOfC12 g = (cexCfg Variant.repaired .float none none).deps := by
  refine ⟨[((0, 0), [(0, 0)])], by decide +kernel, by decide⟩

/-- **Completeness with a snapped transform.**  The real `_check_linear` computes the dependencies
with `A' = snap_affine(~S * D)` while GDAL samples with `A = ~S * D`.  If the snap keeps the scales
and moves the translation by at most a quarter of a DESTINATION pixel per axis
(`A'.c = A.c + A.a * qx`, `|qx| ≤ 1/4`, same for `y`), the dependency map computed with `A'`
is complete for sampling with `A`.  With `snap_affine`'s translation tolerance of 1e-3 SOURCE
pixels this covers every zoom-in factor up to 250 (`|A.a| ≥ 1/250`); beyond ~500× the
hypothesis — and the real code — fails: `extreme_zoom_snap_cex` (known finding K17). -/
theorem deps_complete_of_linear_snapped (c : Cfg) (dst src : C12.GBT) (hrel : GridRel c dst src)
    (hs : src.WF) (hsy : Chain 0 c.sy c.srcH) (hsx : Chain 0 c.sx c.srcW)
    (hb : (c.S.inv * c.D).b = 0) (hd : (c.S.inv * c.D).d = 0)
    (ha : (c.S.inv * c.D).a ≠ 0) (he : (c.S.inv * c.D).e ≠ 0)
    (A' : Aff) (hb' : A'.b = 0) (hd' : A'.d = 0)
    (hsa : A'.a = (c.S.inv * c.D).a) (hse : A'.e = (c.S.inv * c.D).e)
    (qx qy : Rat) (hc1 : A'.c = (c.S.inv * c.D).c + (c.S.inv * c.D).a * qx)
    (hc2 : A'.f = (c.S.inv * c.D).f + (c.S.inv * c.D).e * qy)
    (hqx : -(1 / 4) ≤ qx ∧ qx ≤ 1 / 4) (hqy : -(1 / 4) ≤ qy ∧ qy ≤ 1 / 4)
    (hdeps : ∀ (iy ix : Nat) (l : List (Int × Int)), iy < c.dy.length → ix < c.dx.length →
      C12.linearDeps dst src A' ((iy : Int), (ix : Int)) = .ok l →
      ∀ i j : Nat, ((i : Int), (j : Int)) ∈ l → (i, j) ∈ lookupDeps c.deps (iy, ix)) :
    deps_complete c := by
  exact deps_complete_of_linear_drift c dst src hrel hs hsy hsx hb hd ha he A' hb' hd'
    (fun _ _ u _ _ => ⟨-qx, neg_le_neg hqx.2, neg_le.2 hqx.1, by rw [hsa, hc1]; ring⟩)
    (fun _ _ v _ _ => ⟨-qy, neg_le_neg hqy.2, neg_le.2 hqy.1, by rw [hse, hc2]; ring⟩) hdeps

/-- the accumulated drift of a snapped axis map `u ↦ a'u + c'` against the true `u ↦ au + c` over
a raster of `W` destination pixels: if `|a - a'|·W + |c - c'| ≤ |a'|/4` then every image point
is reached from within a quarter of a destination pixel -/
theorem drift_witness (a a' c c' W : Rat) (ha' : a' ≠ 0)
    (hbound : |a - a'| * W + |c - c'| ≤ |a'| / 4) :
    Reaches a' c' a c 0 W := by
  intro u hu0 huW
  have hnum : |(a - a') * u + (c - c')| ≤ |a'| / 4 :=
    calc |(a - a') * u + (c - c')| ≤ |(a - a') * u| + |c - c'| := abs_add_le _ _
      _ = |a - a'| * u + |c - c'| := by rw [abs_mul, abs_of_nonneg hu0]
      _ ≤ |a - a'| * W + |c - c'| := add_le_add_left (mul_le_mul_of_nonneg_left huW (abs_nonneg _)) _
      _ ≤ |a'| / 4 := hbound
  have hq : |((a - a') * u + (c - c')) / a'| ≤ 1 / 4 := by
    rw [abs_div, div_le_iff₀ (abs_pos.2 ha'), one_div_mul_eq_div]
    exact hnum
  obtain ⟨q1, q2⟩ := abs_le.1 hq
  exact ⟨_, q1, q2, by rw [mul_add, mul_div_cancel₀ _ ha']; ring⟩

/-- **Snapped scale and translation, numeric form** (in terms of the raster shape and the
tolerances): if per axis `|a - a'|·(destination size) + |c - c'| ≤ |a'|/4`, the
dependency map computed with the snapped `A'` is complete.  With `snap_affine`'s tolerances
(`|a - a'| < 1e-6` absolute for `|a| ≥ 1`, `|c - c'| < 1e-3`) and unit scale this holds for every
raster of up to 249 000 destination pixels per side; `scale_snap_cex` (K23) shows it failing, on
the model and on the real code, at 2^21 pixels. -/
theorem deps_complete_of_linear_tol (c : Cfg) (dst src : C12.GBT) (hrel : GridRel c dst src)
    (hs : src.WF) (hsy : Chain 0 c.sy c.srcH) (hsx : Chain 0 c.sx c.srcW)
    (hb : (c.S.inv * c.D).b = 0) (hd : (c.S.inv * c.D).d = 0)
    (ha : (c.S.inv * c.D).a ≠ 0) (he : (c.S.inv * c.D).e ≠ 0)
    (A' : Aff) (hb' : A'.b = 0) (hd' : A'.d = 0) (ha' : A'.a ≠ 0) (he' : A'.e ≠ 0)
    (hdy : Chain 0 c.dy c.dstH) (hdx : Chain 0 c.dx c.dstW)
    (hx : |(c.S.inv * c.D).a - A'.a| * (c.dstW : Rat) + |(c.S.inv * c.D).c - A'.c| ≤ |A'.a| / 4)
    (hy : |(c.S.inv * c.D).e - A'.e| * (c.dstH : Rat) + |(c.S.inv * c.D).f - A'.f| ≤ |A'.e| / 4)
    (hdeps : ∀ (iy ix : Nat) (l : List (Int × Int)), iy < c.dy.length → ix < c.dx.length →
      C12.linearDeps dst src A' ((iy : Int), (ix : Int)) = .ok l →
      ∀ i j : Nat, ((i : Int), (j : Int)) ∈ l → (i, j) ∈ lookupDeps c.deps (iy, ix)) :
    deps_complete c :=
  deps_complete_of_linear_drift c dst src hrel hs hsy hsx hb hd ha he A' hb' hd'
    ((drift_witness _ _ _ _ _ ha' hx).of_chain hdx) ((drift_witness _ _ _ _ _ he' hy).of_chain hdy) hdeps

/-- **`_check_linear` rejects shear and rotation.**  If EITHER off-diagonal term of the relative
pixel map `~S * D` exceeds `snap_affine`'s rotation tolerance (`tol`, 1e-8), `snap_affine` returns
the map untouched and `_check_linear` answers `None` — `grid_intersect` then takes the general
(footprint) path; a pure shear (exactly one non-zero off-diagonal term) is never treated as
scale + translation.  (`sttol ≤ tol`: 1e-10 ≤ 1e-8 in the code.) -/
theorem check_linear_rejects_shear (srcT dstT : Aff) (ttol stol tol sttol : Rat)
    (hdet : srcT.det ≠ 0) (hst : sttol ≤ tol)
    (hsh : C12.rabs (srcT.inv * dstT).b > tol ∨ C12.rabs (srcT.inv * dstT).d > tol) :
    C12.checkLinear srcT dstT ttol stol tol sttol = .ok none := by
  simp only [C12.checkLinear, Aff.inv?_of_det_ne hdet, bind, Except.bind, pure, Except.pure, C12.snapAffine, if_pos hsh]
  rw [if_neg]
  rintro ⟨h1, h2⟩
  rcases hsh with h | h <;> linarith

/-- conversely: whenever `_check_linear` accepts, BOTH off-diagonal terms of `~S * D` are within
the tolerance and the returned map has none at all -/
theorem check_linear_accepts_only_st (srcT dstT : Aff) (ttol stol tol sttol : Rat) (A : Aff)
    (hdet : srcT.det ≠ 0) (hst : sttol ≤ tol)
    (h : C12.checkLinear srcT dstT ttol stol tol sttol = .ok (some A)) :
    C12.rabs (srcT.inv * dstT).b ≤ tol ∧ C12.rabs (srcT.inv * dstT).d ≤ tol ∧ A.b = 0 ∧ A.d = 0 := by
  have hsh : ¬(C12.rabs (srcT.inv * dstT).b > tol ∨ C12.rabs (srcT.inv * dstT).d > tol) := fun hsh => by
    rw [check_linear_rejects_shear srcT dstT ttol stol tol sttol hdet hst hsh] at h
    cases h
  exact ⟨le_of_not_gt fun hc => hsh (.inl hc), le_of_not_gt fun hc => hsh (.inr hc),
    C12.check_linear_some_st srcT dstT ttol stol tol sttol hst A h⟩

/-- a pure shear of a quarter pixel per row (`~S * D = ⟨1, 1/4, 0, 0, 1, 0⟩`, exactly one non-zero
off-diagonal term) is rejected with the real tolerances -/
example : C12.checkLinear Aff.id ⟨1, 1 / 4, 0, 0, 1, 0⟩ (1 / 1000) (1 / 1000000) (1 / 100000000)
    (1 / 10000000000) = .ok none := by
  decide +kernel

theorem samplePix_identity (S : Aff) (hS : S.det ≠ 0) (H W : Int) (d : Int × Int)
    (hd : 0 ≤ d.1 ∧ d.1 < H ∧ 0 ≤ d.2 ∧ d.2 < W) :
    samplePix (S.inv * S) H W d = some d := by
  rw [← samplePixM_apply, samplePixM_floor _ _ _ _ (by rw [Aff.inv_mul_self S hS, Aff.apply_id])]
  simp only [floor_add_half]
  exact if_pos ⟨hd.2.2.1, hd.2.2.2, hd.1, hd.2.1⟩

/-- **The identity corner is not a no-op.**  Destination grid == source grid (`D = S`, same shape),
any chunkings, any complete dependency map: a pixel holding the source nodata comes out as
`resolve_fill_value(dst_nodata, src_nodata, dtype)` — i.e. as the DESTINATION nodata when one
is given — in the dask result (and, by `chunked_eq_whole_nn`, in the in-memory result): returning
the source array unchanged would be wrong whenever `dst_nodata ≠ src_nodata`. -/
theorem identity_grid_remarks_nodata (c : Cfg) (G : Gdal) (src buf : Img)
    (hD : c.D = c.S) (hH : c.dstH = c.srcH) (hW : c.dstW = c.srcW)
    (hV : c.variant = Variant.repaired)
    (hbuf : WF buf c.dstH c.dstW)
    (hsy : Chain 0 c.sy c.srcH) (hsx : Chain 0 c.sx c.srcW)
    (hdy : Chain 0 c.dy c.dstH) (hdx : Chain 0 c.dx c.dstW)
    (hS : c.S.det ≠ 0)
    (hvalid : DepsValid c) (hcomplete : deps_complete c)
    (hnd : c.dstNd = none → c.srcNd = none)
    (hnd1 : NodataOk c.kind c.dstNd) (hnd2 : NodataOk c.kind c.srcNd)
    (d : Int × Int) (hd : 0 ≤ d.1 ∧ d.1 < c.dstH ∧ 0 ≤ d.2 ∧ d.2 < c.dstW)
    (v : Val) (hv : src d = some v) (hsn : c.srcNd = some v) :
    daskResult c G src d = some (resolveFill c.dstNd c.srcNd c.kind) ∧
    wholeResult c G src buf d = some (resolveFill c.dstNd c.srcNd c.kind) := by
  have heq := chunked_eq_whole_nn c G src buf hV hbuf hsy hsx hdy hdx hS hvalid hcomplete hnd hnd1 hnd2 d hd
  have hw : wholeResult c G src buf d = some (resolveFill c.dstNd c.srcNd c.kind) := by
    obtain ⟨b, hb⟩ := Option.isSome_iff_exists.1 ((hbuf d).2 hd)
    have hfill := chunk_fill_eq c.kind c.srcNd c.dstNd hnd1 hnd2
    rw [chunkDstNodata_eq_rio rfl c.kind c.srcNd c.dstNd hnd] at hfill
    have henc : encNodata Variant.repaired c.kind c.srcNd = some (encVal c.kind v) := by
      rw [hsn]
      cases c.kind <;> simp [encNodata, encVal, Variant.repaired]
    rw [henc] at hfill
    simp only [wholeResult, rioReproject, rioReprojectPlane, gdalNearest, encImg, hb, hD, hV, hv, henc, hfill,
      samplePix_identity c.S hS c.srcH c.srcW d (by rw [← hH, ← hW]; exact hd), Option.map_some, if_true]
  exact ⟨heq.trans hw, hw⟩

/-! ### known finding K17: the 1e-3 translation snap at extreme zoom (witness replayed on the real
code by `harness/c13.py`, `zoom_stream`) -/

def k17S : Aff := ⟨2048, 0, 0, 0, 2048, 0⟩
def k17D : Aff := ⟨1, 0, 2049, 0, 1, 1024⟩
def k17src : C12.GBT := ⟨4, 4, ⟨.var [4], .var [2, 2]⟩⟩
def k17dst : C12.GBT := ⟨2, 2056, ⟨.reg 2 2, .reg 2056 2048⟩⟩
/-- `snap_affine(~S * D)`: the translation `2049/2048` (a shift of 2^-11 source pixels = one
destination pixel) has been rounded to `1` -/
def k17A' : Aff := ⟨1 / 2048, 0, 1, 0, 1 / 2048, 1 / 2⟩
def k17deps : List ((Int × Int) × List (Int × Int)) := [((0, 0), [(0, 0)]), ((0, 1), [(0, 1)])]

def k17Cfg : Cfg :=
  { variant := Variant.repaired, kind := .int, srcH := 4, srcW := 4, S := k17S, dstH := 2, dstW := 2056,
    D := k17D, sy := chunksTiling [4], sx := chunksTiling [2, 2], dy := regularTiling 2 2,
    dx := regularTiling 2056 2048, deps := depsOfC12 k17deps,
    srcNd := some (.num (-1)), dstNd := some (.num (-1)) }

/-- the C12 model of `_check_linear` (tolerances 1e-3, 1e-6, 1e-8, 1e-10) snaps the map … -/
theorem k17_checkLinear :
    C12.checkLinear k17S k17D (1 / 1000) (1 / 1000000) (1 / 100000000) (1 / 10000000000)
      = .ok (some k17A') := by
  decide +kernel

/-- … and `_grid_intersect_linear` with the snapped map wires destination chunk `(0, 0)` to source
chunk `(0, 0)` only. -/
theorem k17_gridIntersect : C12.gridIntersectLinear k17dst k17src k17A' = .ok k17deps := by
  decide +kernel

/-- **K17 (as found, not repaired).**  Zoom-in 2048×, grids misaligned by 2^-11 source pixels:
destination pixel `(0, 2047)` — the last one of chunk `(0, 0)` — samples source pixel `(0, 2)`,
which lies in source chunk `(0, 1)`; the dependency map computed from the snapped transform does
not list it, so the dask result holds the fill while the in-memory result holds the value, and
`deps_complete` is false.  (The snap moves the translation by a whole destination pixel, outside
the quarter-pixel hypothesis of `deps_complete_of_linear_snapped`.) -/
theorem extreme_zoom_snap_cex :
    samplePix (k17Cfg.S.inv * k17Cfg.D) 4 4 (0, 2047) = some (0, 2) ∧
    daskResult k17Cfg cexGdal (full 4 4 (.num 5)) (0, 2047) = some (.num (-1)) ∧
    wholeResult k17Cfg cexGdal (full 4 4 (.num 5)) (full 2 2056 (.num 77)) (0, 2047) = some (.num 5) ∧
    ¬ deps_complete k17Cfg := by
  have hs : samplePix (k17Cfg.S.inv * k17Cfg.D) 4 4 (0, 2047) = some (0, 2) := by decide +kernel
  refine ⟨hs, by decide +kernel, by decide +kernel, fun h => ?_⟩
  obtain ⟨i, hi, _, sp, e1, _, e3⟩ := h 0 0 (0, 2047) ⟨(0, 2), by decide +kernel, by decide⟩
    ⟨(0, 2048), by decide +kernel, by decide⟩ (0, 2) hs
  rw [show lookupDeps k17Cfg.deps (0, 0) = [(0, 0)] by decide +kernel] at hi
  cases List.mem_singleton.1 hi
  cases e1.symm.trans (show k17Cfg.sx[0]? = some (0, 2) by decide +kernel)
  exact absurd e3 (by decide)

/-! ### known finding K23: the 1e-6 scale snap on a huge raster (witness replayed on the real code by
`harness/c13.py`, `scale_snap_probe`) -/

def k23S : Aff := Aff.id
/-- destination pixels larger than the source pixels by 2^-21 (4.8e-7 < `stol`) -/
def k23D : Aff := ⟨1 + 1 / 2097152, 0, 0, 0, 1, 0⟩
def k23src : C12.GBT := ⟨1, 2097152 + 16, ⟨.var [1], .var [2097152, 16]⟩⟩
def k23dst : C12.GBT := ⟨1, 2097152 + 8, ⟨.reg 1 1, .reg (2097152 + 8) 2097152⟩⟩
def k23deps : List ((Int × Int) × List (Int × Int)) := [((0, 0), [(0, 0)]), ((0, 1), [(0, 1)])]

def k23Cfg : Cfg :=
  { variant := Variant.repaired, kind := .int, srcH := 1, srcW := 2097152 + 16, S := k23S, dstH := 1,
    dstW := 2097152 + 8, D := k23D, sy := chunksTiling [1], sx := chunksTiling [2097152, 16],
    dy := regularTiling 1 1, dx := [(0, 2097152), (2097152, 2097152 + 8)], deps := depsOfC12 k23deps,
    srcNd := some (.num (-1)), dstNd := some (.num (-1)) }

/-- `_check_linear` snaps the scale `1 + 2^-21` to `1` … -/
theorem k23_checkLinear :
    C12.checkLinear k23S k23D (1 / 1000) (1 / 1000000) (1 / 100000000) (1 / 10000000000)
      = .ok (some Aff.id) := by
  decide +kernel

/-- … and `_grid_intersect_linear` with the snapped map wires destination chunk `(0, 0)` (columns
`0 … 2^21 - 1`) to source chunk `(0, 0)` only. -/
theorem k23_gridIntersect : C12.gridIntersectLinear k23dst k23src Aff.id = .ok k23deps := by
  decide +kernel

/-- **K23 (as found).**  The last pixel of destination chunk `(0, 0)`, column `2^21 - 1`, has drifted
by `(2^21 - 1/2)·2^-21 ≈ 1` pixel: it samples source column `2^21`, which lies in source chunk
`(0, 1)`; the dependency map from the snapped transform does not list it: fill in the dask result,
data in the in-memory result.  (`|a - a'|·dstW = 1 > 1/4`: outside the
hypothesis of `deps_complete_of_linear_tol`.) -/
theorem scale_snap_cex :
    samplePix (k23Cfg.S.inv * k23Cfg.D) 1 (2097152 + 16) (0, 2097151) = some (0, 2097152) ∧
    daskResult k23Cfg cexGdal (full 1 (2097152 + 16) (.num 5)) (0, 2097151) = some (.num (-1)) ∧
    wholeResult k23Cfg cexGdal (full 1 (2097152 + 16) (.num 5)) (full 1 (2097152 + 8) (.num 77))
      (0, 2097151) = some (.num 5) := by
  refine ⟨by decide +kernel, by decide +kernel, by decide +kernel⟩

end OdcGeo.C13
