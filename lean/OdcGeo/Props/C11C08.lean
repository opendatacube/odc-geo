/-
C11 ∘ C08 — `compute_output_geobox` **is** `GeoBox.from_bbox` (the C08 model, with `snap_grid` of the C20
model) applied to the footprint bounding box with the chosen resolution.

Model/C11.lean carries its own small copy of `from_bbox` / `snap_grid` (the C11 driver does not depend on the
C08 / C20 files).  The copy and the C08 / C20 models are the same functions on all inputs, error behaviour
included (`snap_grid`: Lemmas/C11.lean; `from_bbox`: here); what C08 proves of a geobox `from_bbox` returns —
minimal cover, the shape-driven branch, axis alignment — is transferred to the output grid of `compute_output_geobox`.
-/
import OdcGeo.Model.C11
import OdcGeo.Model.C08
import OdcGeo.Props.C08
import OdcGeo.Lemmas.C11

namespace OdcGeo.C11
open OdcGeo

def BBox.toC08 (b : BBox) : C08.BBox := ⟨b.left, b.bottom, b.right, b.top⟩

def ShapeReq.toC08 : ShapeReq → C08.ShapeArg
  | .none => .none
  | .side n => .int n
  | .exact ny nx => .yx ny nx

def resToC08 : Option (Rat × Rat) → C08.ResArg
  | none => .none
  | some (rx, ry) => .xy rx ry

/-- the anchor as `compute_output_geobox` hands it on: the literal `"default"` is the name, the others are
already-normalised values -/
def Anchor.toC08 : Anchor → C08.AnchorArg
  | .dflt => .name .default
  | .edge => .val .edge
  | .center => .val .center
  | .floating => .val .floating
  | .xy ax ay => .val (.xy ax ay)

def Grid.toC08 (g : Grid) : C08.GeoBox := ⟨g.ny, g.nx, g.A⟩

theorem snapOf_eq (anchor : Anchor) (tight : Bool) :
    snapOf anchor tight = C08.snapOf tight (C08.normAnchor anchor.toC08) := by
  cases tight <;> cases anchor <;> rfl

theorem fromBboxRes_eq (b : BBox) (rx ry : Rat) (snap : Option (Rat × Rat)) (tol : Rat) :
    (fromBboxRes b rx ry snap tol).map Grid.toC08 =
      (do
        let (offx, nx) ← C20.snapGrid b.left b.right rx (snap.map (·.1)) tol
        let (offy, ny) ← C20.snapGrid b.bottom b.top ry (snap.map (·.2)) tol
        return (⟨ny, nx, Aff.translation offx offy * Aff.scale rx ry⟩ : C08.GeoBox)) := by
  unfold fromBboxRes
  simp only [snapGrid_eq, bind, Except.bind, pure, Except.pure]
  cases C20.snapGrid b.left b.right rx (snap.map (·.1)) tol with
  | error e => rfl
  | ok p => cases C20.snapGrid b.bottom b.top ry (snap.map (·.2)) tol <;> rfl

/-- The copy of `from_bbox` in Model/C11 is the C08 model, for every bounding box, shape
request, resolution, anchor, `tight` and `tol` (valid or not: the error kinds agree too) -/
theorem from_bbox_is_C08 (b : BBox) (shape : ShapeReq) (res : Option (Rat × Rat)) (anchor : Anchor)
    (tight : Bool) (tol : Rat) :
    (fromBbox b shape res anchor tight tol).map Grid.toC08 =
      C08.fromBbox b.toC08 tight shape.toC08 (resToC08 res) anchor.toC08 tol := by
  unfold fromBbox C08.fromBbox
  rw [← snapOf_eq]
  rcases shape with _ | n | ⟨ny, nx⟩
  · rcases res with _ | ⟨rx, ry⟩
    · rfl
    · exact fromBboxRes_eq b rx ry _ tol
  · simp only [ShapeReq.toC08, C08.intShapeToRes, C08.BBox.spanX, C08.BBox.spanY, BBox.toC08, bind, Except.bind]
    by_cases hn : n = 0 <;> by_cases hy : b.top - b.bottom = 0 <;> simp only [hn, hy, if_true, if_false]
    · rfl
    · rfl
    · rfl
    · by_cases ha : (b.right - b.left) / (b.top - b.bottom) > 1 <;> simp only [ha, if_true, if_false] <;>
        exact fromBboxRes_eq b _ _ _ tol
  · rcases res with _ | ⟨rx, ry⟩
    · simp only [ShapeReq.toC08, resToC08, C08.intShapeToRes, C08.ResArg.xy?, C08.BBox.spanX, C08.BBox.spanY,
        BBox.toC08, bind, Except.bind]
      by_cases hx : nx = 0
      · simp [hx, Except.map]
      · by_cases hy : ny = 0
        · simp [hx, hy, Except.map]
        · simp only [hx, hy, or_self, if_false]
          cases hs : snapOf anchor tight with
          | none => rfl
          | some sxy =>
            simp only [snapGrid_eq]
            cases C20.snapGrid b.left b.right ((b.right - b.left) / nx) (some sxy.1) tol <;>
              cases C20.snapGrid b.bottom b.top (-(b.top - b.bottom) / ny) (some sxy.2) tol <;> rfl
    · exact fromBboxRes_eq b rx ry _ tol

theorem fromBbox_ok_C08 {b : BBox} {shape : ShapeReq} {res : Option (Rat × Rat)} {anchor : Anchor} {tight : Bool}
    {tol : Rat} {g : Grid} (h : fromBbox b shape res anchor tight tol = .ok g) :
    C08.fromBbox b.toC08 tight shape.toC08 (resToC08 res) anchor.toC08 tol = .ok g.toC08 := by
  rw [← from_bbox_is_C08, h]
  rfl

theorem fromBbox_ok_aligned {b : BBox} {shape : ShapeReq} {res : Option (Rat × Rat)} {anchor : Anchor} {tight : Bool}
    {tol : Rat} {gr : Grid} (h : fromBbox b shape res anchor tight tol = .ok gr) :
    gr.A.b = 0 ∧ gr.A.d = 0 ∧ gr.ny ≠ 0 ∧ gr.nx ≠ 0 :=
  C08.fromBbox_ok_aligned (fromBbox_ok_C08 h)

/-- Outside the identity fast path
`compute_output_geobox(gbox, crs, …)` is `GeoBox.from_bbox` — the C08 model — applied to the bounding box
of the projected footprint, with the resolution chosen by the mode (`chooseRes`: none when a shape is
given), the caller's `shape`, `tight`, `anchor` and `tol` handed on unchanged; errors included. -/
theorem compute_output_is_from_bbox (c : Captured) (mode : ResMode) (shape : ShapeReq) (tight : Bool)
    (anchor : Anchor) (tol : Rat) (rnd : Rounding)
    (hslow : ¬ (c.sameCrs ∧ (mode = .auto ∨ mode = .same) ∧ shape = .none ∧ anchor = .dflt)) :
    (computeOutput c mode shape tight anchor tol rnd).map (fun o => match o with
        | .source => none
        | .grid g => some g.toC08) =
      match chooseRes c mode shape rnd with
      | .error e => .error e
      | .ok res => (C08.fromBbox c.bbox.toC08 tight shape.toC08 (resToC08 res) anchor.toC08 tol).map some := by
  unfold computeOutput
  rw [if_neg hslow]
  cases hres : chooseRes c mode shape rnd with
  | error e => rfl
  | ok res =>
    simp only
    rw [← from_bbox_is_C08]
    cases fromBbox c.bbox shape res anchor tight tol <;> rfl

/-- Corollary of C08 `from_bbox_res_minimal_le` through `fromBbox_ok_C08`:
the grid computed for a resolution-driven request is not only a cover (C11 `out_contains_bbox_up_to_tol`)
but a *minimal* one: on every side it exceeds the projected footprint's bounding box by at most
`(1 + tol)` output pixels.  For all modes, anchors (fractions in `[0,1)`), `tight`, signs of the pixel
size, `0 ≤ tol < ½`. -/
theorem out_minimal_cover (c : Captured) (mode : ResMode) (tight : Bool) (anchor : Anchor) (tol : Rat)
    (rnd : Rounding) (g : Grid) (rx ry : Rat) (ht : 0 ≤ tol) (ht2 : tol < 1 / 2)
    (hbx : c.bbox.left ≤ c.bbox.right) (hby : c.bbox.bottom ≤ c.bbox.top)
    (hres : chooseRes c mode .none rnd = .ok (some (rx, ry))) (hrx : rx ≠ 0) (hry : ry ≠ 0)
    (hanchor : ∀ s, snapOf anchor tight = some s → (0 ≤ s.1 ∧ s.1 < 1) ∧ (0 ≤ s.2 ∧ s.2 < 1))
    (h : computeOutput c mode .none tight anchor tol rnd = .ok (.grid g)) :
    c.bbox.left - g.toC08.xmin ≤ |rx| * (1 + tol) ∧ g.toC08.xmax - c.bbox.right ≤ |rx| * (1 + tol) ∧
    c.bbox.bottom - g.toC08.ymin ≤ |ry| * (1 + tol) ∧ g.toC08.ymax - c.bbox.top ≤ |ry| * (1 + tol) := by
  obtain ⟨res, hres', hf⟩ := computeOutput_grid h
  cases hres.symm.trans hres'
  have v : C08.ValidRes c.bbox.toC08 rx ry tol (C08.snapOf tight (C08.normAnchor anchor.toC08)) :=
    ⟨hbx, hby, hrx, hry, ht, ht2, by rw [← snapOf_eq]; exact hanchor⟩
  -- applied before the goal is consulted: `bb`, `g` are read off `v` and `hf`, not found by unification
  have := C08.from_bbox_res_minimal_le (shape := .none) (res := .xy rx ry) nofun rfl v (fromBbox_ok_C08 hf)
  exact this

/-- An explicit `(ny, nx)` request (whatever `resolution=` says) yields exactly
that shape and an axis-aligned grid whose pixels are `span / n` (y inverted), and the grid is displaced
from the projected footprint by **less than one pixel**: its left edge lies in
`(left − px, left + tol·px]` and its top edge in `[top − tol·py, top + py)`; with `tight=True` or a
floating anchor it is not displaced at all (`origin = (left, top)`).  For all bounding boxes with
positive spans, all positive shapes, anchors, and `0 ≤ tol < ½`. -/
theorem out_shape_request (c : Captured) (mode : ResMode) (ny nx : Int) (tight : Bool) (anchor : Anchor)
    (tol : Rat) (rnd : Rounding) (g : Grid) (ht : 0 ≤ tol) (ht2 : tol < 1 / 2)
    (hnx : 0 < nx) (hny : 0 < ny) (hbx : c.bbox.left < c.bbox.right) (hby : c.bbox.bottom < c.bbox.top)
    (h : computeOutput c mode (.exact ny nx) tight anchor tol rnd = .ok (.grid g)) :
    g.ny = ny ∧ g.nx = nx ∧ g.A.b = 0 ∧ g.A.d = 0 ∧
      g.A.a = (c.bbox.right - c.bbox.left) / nx ∧ g.A.e = -(c.bbox.top - c.bbox.bottom) / ny ∧
      (c.bbox.left - g.A.a < g.A.c ∧ g.A.c ≤ c.bbox.left + tol * g.A.a) ∧
      (c.bbox.top - tol * (-g.A.e) ≤ g.A.f ∧ g.A.f < c.bbox.top + (-g.A.e)) ∧
      (snapOf anchor tight = none → g.A.c = c.bbox.left ∧ g.A.f = c.bbox.top) := by
  obtain ⟨res, hres, hf⟩ := computeOutput_grid h
  cases hres
  have h8 := fromBbox_ok_C08 hf
  obtain ⟨e1, e2, ea, ee, eb, ed⟩ := C08.from_bbox_shape_exact_shape hnx.ne' hny.ne' h8
  obtain ⟨⟨x1, x2⟩, ⟨y1, y2⟩, hfl, _⟩ :=
    C08.from_bbox_shape_origin hnx hny (bb := c.bbox.toC08) hbx hby ht (ht2.trans one_half_lt_one) h8
  rw [← snapOf_eq] at hfl
  have ea : g.A.a = (c.bbox.right - c.bbox.left) / nx := ea
  have ee : g.A.e = -(c.bbox.top - c.bbox.bottom) / ny := ee
  refine ⟨e1, e2, eb, ed, ea, ee, ?_, ?_, hfl⟩
  · rw [ea]
    exact ⟨sub_lt_comm.1 x2, neg_le_sub_iff_le_add.1 x1⟩
  · rw [ee, neg_div, neg_neg]
    exact ⟨sub_le_iff_le_add.2 (neg_le_sub_iff_le_add.1 y1), sub_lt_iff_lt_add'.1 y2⟩

/-- non-vacuity of `out_shape_request`: a 3×5 request with the centre anchor on the bbox `[1/3, 16/3] × [0, 3]` -/
example :
    computeOutput ⟨false, false, (30, -30), ⟨1 / 3, 0, 16 / 3, 3⟩, (1, -1), (1, 1)⟩ .fit (.exact 3 5) false .center
      (1 / 100) .none = .ok (.grid ⟨3, 5, ⟨1, 0, -1 / 2, 0, -1, 7 / 2⟩⟩) := by
  decide +kernel

end OdcGeo.C11
