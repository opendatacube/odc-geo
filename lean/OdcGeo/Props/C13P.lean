/-
C13, cross-CRS half — property theorems with the coordinate transformation as a parameter.

`proj` is ANY function (no continuity, injectivity or accuracy assumed): the theorems hold for the
exact PROJ transformation, for a wrong one, for a discontinuous one.  What is NOT covered is GDAL's
approximate transformer (the chunk and the whole array would have to use the *same* `proj`; with
linear interpolation per scan line they do so only up to 0.125 px — the harness compares
unambiguous pixels only, see `cross_one`).

The hypotheses about dependencies are `DepsValid` and `deps_complete_P`, both named; `deps_complete_P_of_general`
reduces the second, through C12's model of the general path of `grid_intersect`, to
`FootprintsSuperset` — the statement that shapely/pyproj footprints over-approximate true overlap.
-/
import OdcGeo.Model.C13P
import OdcGeo.Lemmas.C13P
import OdcGeo.Props.C13C12

namespace OdcGeo.C13
open OdcGeo

/-- **Chunked equals whole, cross-CRS** (nearest neighbour, exact transformer `proj` as a parameter): for every source chunking, every
destination chunking, every *complete* dependency map (C12), every nodata pair that
`xr_reproject` can hand down, every dtype kind, every content of the uninitialised in-memory
buffer: each pixel of the computed dask array equals the pixel of the in-memory result. -/
theorem chunked_eq_whole_cross (c : Cfg) (proj : Proj) (G : Gdal) (src buf : Img)
    (hV : c.variant = Variant.repaired)
    (hbuf : WF buf c.dstH c.dstW)
    (hsy : Chain 0 c.sy c.srcH) (hsx : Chain 0 c.sx c.srcW)
    (hdy : Chain 0 c.dy c.dstH) (hdx : Chain 0 c.dx c.dstW)
    (hS : c.S.det ≠ 0)
    (hvalid : DepsValid c) (hcomplete : deps_complete_P c proj)
    (hnd : c.dstNd = none → c.srcNd = none)
    (hnd1 : NodataOk c.kind c.dstNd) (hnd2 : NodataOk c.kind c.srcNd)
    (d : Int × Int) (hd : 0 ≤ d.1 ∧ d.1 < c.dstH ∧ 0 ≤ d.2 ∧ d.2 < c.dstW) :
    daskResultP c proj G src d = wholeResultP c proj G src buf d := by
  rw [daskP_pixel c proj G src hV hsy hsx hdy hdx hS hvalid hnd1 hnd2 d hd (fun iy ix => hcomplete iy ix d)
    buf ((hbuf d).2 hd), chunkDstNodata_eq_rio hV c.kind c.srcNd c.dstNd hnd]
  rfl

/-- **Uniform fill, cross-CRS**: disjoint rasters in different CRSs give an all-fill array (every unreached pixel holds
`resolve_fill_value(dst_nodata, src_nodata, dtype)`, for EVERY dependency map that names existing source blocks), not an
error -/
theorem disjoint_all_fill_cross (c : Cfg) (proj : Proj) (G : Gdal) (src : Img)
    (hV : c.variant = Variant.repaired)
    (hsy : Chain 0 c.sy c.srcH) (hsx : Chain 0 c.sx c.srcW)
    (hdy : Chain 0 c.dy c.dstH) (hdx : Chain 0 c.dx c.dstW)
    (hS : c.S.det ≠ 0) (hvalid : DepsValid c)
    (hnd1 : NodataOk c.kind c.dstNd) (hnd2 : NodataOk c.kind c.srcNd)
    (hdisj : ∀ d, samplePixM (pixMapP proj c.S c.D) c.srcH c.srcW d = none) :
    ∀ d : Int × Int, 0 ≤ d.1 ∧ d.1 < c.dstH ∧ 0 ≤ d.2 ∧ d.2 < c.dstW →
      daskResultP c proj G src d = some (resolveFill c.dstNd c.srcNd c.kind) :=
  fun d hd => by
    rw [daskP_pixel c proj G src hV hsy hsx hdy hdx hS hvalid hnd1 hnd2 d hd
      (fun _ _ _ _ s hs => by rw [hdisj d] at hs; cases hs) (fun _ => some .nan) rfl,
      rioPlaneP_unreached rfl (hdisj d), hV]
    exact congrArg some (chunk_fill_eq c.kind c.srcNd c.dstNd hnd1 hnd2)

/-- **Named residual assumption of the cross-CRS path.**  The footprints that the general path of
`grid_intersect` hands to shapely over-approximate true overlap: whenever a pixel of destination
tile `(iy, ix)` samples (through `proj`) a pixel of source tile `(i, j)`, then `(iy, ix)` is a
candidate for the source footprint that shapely does not call disjoint, and `(i, j)` is a candidate
for the extent of `(iy, ix)` that shapely does not call disjoint.  (pyproj accuracy, densification
of the footprint, the 2-pixel buffer, the 4326 round trip — sampled by the oracle, not proved.) -/
def FootprintsSuperset (c : Cfg) (proj : Proj) (dstCand : List (Int × Int))
    (dstDisjoint : Int × Int → Bool) (srcCand : Int × Int → List (Int × Int))
    (srcDisjoint : Int × Int → Int × Int → Bool) : Prop :=
  ∀ (iy ix : Nat) (d : Int × Int), InTile c.dy iy d.1 → InTile c.dx ix d.2 →
    ∀ s, samplePixM (pixMapP proj c.S c.D) c.srcH c.srcW d = some s →
      ∀ (i j : Nat), InTile c.sy i s.1 → InTile c.sx j s.2 →
        ((iy : Int), (ix : Int)) ∈ dstCand ∧ dstDisjoint ((iy : Int), (ix : Int)) = false ∧
        ((i : Int), (j : Int)) ∈ srcCand ((iy : Int), (ix : Int)) ∧
        srcDisjoint ((iy : Int), (ix : Int)) ((i : Int), (j : Int)) = false

/-- **The cross-CRS dependency hypothesis follows from C12's general path** (`gridIntersectGeneral`,
the model of `grid_intersect`'s footprint branch) under `FootprintsSuperset`. -/
theorem deps_complete_P_of_general (c : Cfg) (proj : Proj)
    (dstCand : List (Int × Int)) (dstDisjoint : Int × Int → Bool)
    (srcCand : Int × Int → List (Int × Int)) (srcDisjoint : Int × Int → Int × Int → Bool)
    (hsy : Chain 0 c.sy c.srcH) (hsx : Chain 0 c.sx c.srcW)
    (hnn : ∀ t ∈ dstCand, 0 ≤ t.1 ∧ 0 ≤ t.2)
    (hfoot : FootprintsSuperset c proj dstCand dstDisjoint srcCand srcDisjoint)
    (hdeps : c.deps = depsOfC12 (C12.gridIntersectGeneral dstCand dstDisjoint srcCand srcDisjoint)) :
    deps_complete_P c proj := by
  rintro iy ix d hiy hix s hs
  -- the sampled pixel lies inside the source image, hence in a source tile
  obtain ⟨hy, hx, _⟩ := samplePixM_some hs rfl
  obtain ⟨i, hi⟩ := hsy.inTile hy.1 hy.2
  obtain ⟨j, hj⟩ := hsx.inTile hx.1 hx.2
  obtain ⟨m1, m2, m3, m4⟩ := hfoot iy ix d hiy hix s hs i j hi hj
  refine ⟨(i, j), ?_, hi, hj⟩
  rw [hdeps]
  unfold C12.gridIntersectGeneral
  rw [lookup_depsOfC12_map (fun d => (srcCand d).filter fun s => !srcDisjoint d s) iy ix _
    (fun t ht => hnn t (List.mem_filter.1 ht).1) (List.mem_filter.2 ⟨m1, by simp [m2]⟩)]
  exact List.mem_map.2 ⟨((i : Int), (j : Int)), List.mem_filter.2 ⟨m3, by simp [m4]⟩, by simp [idxToNat]⟩

/-- **End to end, cross-CRS**: chunked == whole for the dependency map that C12's general path
computes, with `FootprintsSuperset` as the only ingredient that is sampled and not proved; `DepsValid` and non-negative
candidate indices (`hnn`) stay hypotheses. -/
theorem chunked_eq_whole_cross_general (c : Cfg) (proj : Proj) (G : Gdal) (src buf : Img)
    (dstCand : List (Int × Int)) (dstDisjoint : Int × Int → Bool)
    (srcCand : Int × Int → List (Int × Int)) (srcDisjoint : Int × Int → Int × Int → Bool)
    (hnn : ∀ t ∈ dstCand, 0 ≤ t.1 ∧ 0 ≤ t.2)
    (hfoot : FootprintsSuperset c proj dstCand dstDisjoint srcCand srcDisjoint)
    (hdeps : c.deps = depsOfC12 (C12.gridIntersectGeneral dstCand dstDisjoint srcCand srcDisjoint))
    (hV : c.variant = Variant.repaired)
    (hbuf : WF buf c.dstH c.dstW)
    (hsy : Chain 0 c.sy c.srcH) (hsx : Chain 0 c.sx c.srcW)
    (hdy : Chain 0 c.dy c.dstH) (hdx : Chain 0 c.dx c.dstW)
    (hS : c.S.det ≠ 0) (hvalid : DepsValid c)
    (hnd : c.dstNd = none → c.srcNd = none)
    (hnd1 : NodataOk c.kind c.dstNd) (hnd2 : NodataOk c.kind c.srcNd)
    (d : Int × Int) (hd : 0 ≤ d.1 ∧ d.1 < c.dstH ∧ 0 ≤ d.2 ∧ d.2 < c.dstW) :
    daskResultP c proj G src d = wholeResultP c proj G src buf d :=
  chunked_eq_whole_cross c proj G src buf hV hbuf hsy hsx hdy hdx hS hvalid
    (deps_complete_P_of_general c proj dstCand dstDisjoint srcCand srcDisjoint hsy hsx hnn hfoot hdeps)
    hnd hnd1 hnd2 d hd

/-- non-vacuity: a non-affine transformation (`(x, y) ↦ (x + y² - 1/4, y)`) on the witness grids -/
example : daskResultP (cexCfg Variant.repaired .float none none) (fun w => (w.1 + w.2 * w.2 - 1 / 4, w.2)) cexGdal
    (full 1 1 (.num 5)) (0, 0) = some (.num 5) := by
  decide +kernel

end OdcGeo.C13
