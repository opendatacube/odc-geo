/-
C04 — behaviour at the edge of the property, decided against the property text.

* chunk tuples that do not add up to the GeoBox (`GeoboxTiles(GeoBox((4,7)), ((3,3),(2,9)))`): the
  tiles did not cover the GeoBox they claim to partition – a defect, **repaired** (`gbtInitR`):
  the constructor raises; a constructed tiled GeoBox always has its GeoBox as base, so the
  `base = shape` hypotheses of C12's `GBT.WF` are facts about every object the public constructor
  returns.
* negative tile sizes, block keys that name one tile twice, over-long index tuples: outside the
  property's quantifier (tile sizes are sizes, keys are tile positions, indices are pairs);
  behaviour **pinned** as it is (the over-long tuple in Props/C04Args, `long_tuple_inconsistent_cex`)
  and replayed on the real code by the correspondence.
-/
import OdcGeo.Model.C04Args
import Mathlib.Tactic.Linarith
namespace OdcGeo.C04
open OdcGeo OdcGeo.C17 OdcGeo.NpArray

/-- **a constructed tiled GeoBox is tiled exactly** (as repaired): whatever form `tile_shape` has –
regular or chunk tuples – success means the tiling's base is the GeoBox shape -/
theorem gbtInitR_covers (box : GBox) (how : Option HowArg) (g : GeoboxTiles)
    (h : gbtInitR box how none = .ok g) :
    g.base = box ∧ g.tiles.y.base = box.ny ∧ g.tiles.x.base = box.nx := by
  cases how with
  | none => cases h
  | some hw =>
    cases hr : roiTiles (.shape2d box.nx box.ny) hw with
    | error e =>
      simp only [gbtInitR, gbtInit, hr, bind, Except.bind] at h
      cases h
    | ok t =>
      simp only [gbtInitR, gbtInit, hr, bind, Except.bind, pure, Except.pure] at h
      split at h
      · next hc =>
        cases h
        exact ⟨rfl, hc⟩
      · cases h

/-- chunk tuples that do not add up to the GeoBox are refused -/
theorem gbtInitR_mismatch_raises (box : GBox) (chy chx : List Int)
    (h : vbase chy ≠ box.ny ∨ vbase chx ≠ box.nx) :
    gbtInitR box (some (.chunks chy [chx])) none = .error .valueError :=
  if_neg fun hc => h.elim (· hc.1) (· hc.2)

/-- matching chunk tuples, and every successful regular form, construct what the constructor as
found constructed -/
theorem gbtInitR_eq_of_base (box : GBox) (how : Option HowArg) (g : GeoboxTiles)
    (hg : gbtInit box how none = .ok g) (hb : g.tiles.y.base = box.ny ∧ g.tiles.x.base = box.nx) :
    gbtInitR box how none = .ok g := by
  simp only [gbtInitR, hg, bind, Except.bind]
  rw [if_pos hb]

/-- a given `_tiles` is used as is (what `_crop` / `clip` rely on) -/
theorem gbtInitR_given (box : GBox) (how : Option HowArg) (t : Tiling2) :
    gbtInitR box how (some t) = .ok ⟨box, t⟩ := rfl

/-- the witness `gbt_variable_exceeds_geobox_cex` (Props/C04Args, the constructor as found) on the
repaired constructor: refused -/
theorem gbt_variable_exceeds_geobox_refused :
    gbtInitR ⟨4, 7, Aff.id⟩ (some (.chunks [3, 3] [[2, 9]])) none = .error .valueError := by
  apply gbtInitR_mismatch_raises
  left; decide

example : gbtInitR ⟨4, 7, Aff.id⟩ (some (.chunks [3, 1] [[2, 5]])) none = .ok ⟨⟨4, 7, Aff.id⟩, ⟨.var [3, 1], .var [2, 5]⟩⟩ :=
  gbtInitR_eq_of_base _ _ _ rfl ⟨by decide, by decide⟩

/-- a *negative* tile size is not refused: the tile count is negative and "tile 0" is an empty
region that ends before it starts; `0` raises `ZeroDivisionError`.  (The theorems of `Props/C04`
carry `0 < n`.) -/
theorem negative_tile_size_pinned_cex :
    mkCount 10 (-3) = .ok (-3) ∧ getItem 10 (-3) (.idx 0) = .ok ⟨0, -3⟩ ∧
    mkCount 10 0 = .error .zeroDiv := by decide

/-- block keys are looked up like tuple indices: `(-1, 0)` and `(1, 0)` name the same tile of a
two-row layout; both are pasted, in mapping order, so the *later* block is what the mosaic shows -/
theorem negative_key_later_block_wins_cex :
    let a : Assembler Int := { chy := [1, 1], chx := [1], present := [(-1, 0), (1, 0)],
                               blk := fun k _ _ _ _ => if k = (-1, 0) then 7 else 9, lead := [], trail := [] }
    (extract a 0 [] (.slc none none) (.slc none none) []).map (fun r => r.2 [] 1 0 []) = .ok 9 ∧
    let b : Assembler Int := { a with present := [(1, 0), (-1, 0)] }
    (extract b 0 [] (.slc none none) (.slc none none) []).map (fun r => r.2 [] 1 0 []) = .ok 7 := by
  decide

end OdcGeo.C04
