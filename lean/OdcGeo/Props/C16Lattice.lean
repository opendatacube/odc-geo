/-
C16 — the algebra of `|` and `&` on the GeoBoxes of one pixel grid, packaged.

On a common grid `|` and `&` are the images of `Rect.union` (bounding hull) and `Rect.inter` (shared pixels,
normalised when empty).  They are idempotent, commutative, associative, `a & (a | b) = a`, and
`a | (a & b) = a` whenever `a` and `b` share a pixel.  They do NOT form a distributive lattice, and the
second absorption law fails for disjoint operands (the empty `a & b` is a zero-width box at the later of the
two starts, which the hull then reaches for): both are shown by concrete witnesses.
-/
import OdcGeo.Props.C16Core

namespace OdcGeo.C16
open OdcGeo

/-- **The lattice-like laws of `|` and `&` on one pixel grid** (any invertible grid; `r`, `s`, `t` pixel
rectangles of non-negative shape, empty ones included): closure, idempotence, commutativity,
associativity, absorption `a & (a | b) = a`, and `a | (a & b) = a` when a pixel is shared. -/
theorem geobox_lattice_laws (g0 : GeoBox) (hdet : g0.aff.det ≠ 0) (r s t : Rect) (hr : r.Valid) :
    (onGrid g0 r).or (onGrid g0 s) = .ok (onGrid g0 (r.union s)) ∧
    (onGrid g0 r).and (onGrid g0 s) = .ok (onGrid g0 (r.inter s)) ∧
    (onGrid g0 r).or (onGrid g0 r) = .ok (onGrid g0 r) ∧ (onGrid g0 r).and (onGrid g0 r) = .ok (onGrid g0 r) ∧
    (onGrid g0 r).or (onGrid g0 s) = (onGrid g0 s).or (onGrid g0 r) ∧
    (onGrid g0 r).and (onGrid g0 s) = (onGrid g0 s).and (onGrid g0 r) ∧
    -- associativity is stated on the rectangles the results stand on (closure carries it to the GeoBoxes)
    (r.union s).union t = r.union (s.union t) ∧ (r.inter s).inter t = r.inter (s.inter t) ∧
    (onGrid g0 r).and (onGrid g0 (r.union s)) = .ok (onGrid g0 r) ∧
    ((r.inter s).NonEmpty → (onGrid g0 r).or (onGrid g0 (r.inter s)) = .ok (onGrid g0 r)) := by
  refine ⟨or_onGrid g0 hdet r s, and_onGrid g0 hdet r s, ?_, ?_, union_comm_world g0 hdet r s,
    inter_comm_world g0 hdet r s, Rect.union_assoc r s t, Rect.inter_assoc r s t, ?_, fun hne => ?_⟩
  · rw [or_onGrid g0 hdet, Rect.union_self]
  · rw [and_onGrid g0 hdet, Rect.inter_self hr]
  · rw [and_onGrid g0 hdet, Rect.inter_union_self hr]
  · rw [or_onGrid g0 hdet, Rect.union_inter_self r s hne]

/-- **Not a distributive lattice**: with `a` between two boxes `b`, `c` it does not touch,
`a & (b | c) = a` (the hull of `b` and `c` covers `a`) but `(a & b) | (a & c)` is the hull of two empty boxes, one
at the start of `a` and one at the start of `c`: a pixel wider than `a`. -/
theorem geobox_not_distributive_cex :
    (⟨2, 0, 3, 1⟩ : Rect).inter ((⟨0, 0, 1, 1⟩ : Rect).union ⟨4, 0, 5, 1⟩) = ⟨2, 0, 3, 1⟩ ∧
    (((⟨2, 0, 3, 1⟩ : Rect).inter ⟨0, 0, 1, 1⟩).union ((⟨2, 0, 3, 1⟩ : Rect).inter ⟨4, 0, 5, 1⟩)) = ⟨2, 0, 4, 1⟩ ∧
    (⟨2, 0, 3, 1⟩ : Rect) ≠ ⟨2, 0, 4, 1⟩ := by decide

/-- **`a | (a & b) = a` fails for disjoint operands** (in odc-geo as in the model): the empty `a & b` is a zero-width box at
the start of `b`, and the union's hull reaches for it -/
theorem geobox_absorption_disjoint_cex :
    (⟨0, 0, 1, 1⟩ : Rect).inter ⟨5, 0, 6, 1⟩ = ⟨5, 0, 5, 1⟩ ∧
    (⟨0, 0, 1, 1⟩ : Rect).union ((⟨0, 0, 1, 1⟩ : Rect).inter ⟨5, 0, 6, 1⟩) = ⟨0, 0, 5, 1⟩ ∧
    (⟨0, 0, 1, 1⟩ : Rect) ≠ ⟨0, 0, 5, 1⟩ := by decide

/-- non-vacuity: an invertible grid and a rectangle of non-negative (here zero-width) shape -/
example : ∃ (g0 : GeoBox) (r : Rect), g0.aff.det ≠ 0 ∧ r.Valid :=
  ⟨⟨4, 5, ⟨3, -4, 100, 4, 3, 200⟩, some 1⟩, ⟨0, 0, 0, 3⟩, by simp [Aff.det]; norm_num, ⟨by decide, by decide⟩⟩
example : (Rect.inter ⟨0, 0, 4, 4⟩ ⟨2, 1, 6, 3⟩).NonEmpty := ⟨by decide, by decide⟩

end OdcGeo.C16
