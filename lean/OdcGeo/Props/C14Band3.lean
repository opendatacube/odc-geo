/-
C14 — bounding-box queries under binary64 with an explicit exclusion band (no representability hypothesis):
if the four probe coordinates `left+tol`, `bottom+tol`, `right−tol`, `top−tol` of `idx_bounds` keep clear of the tile edges by the
explicit margins of `OutsideBand`, the binary64 model returns exactly the index range and the tile list of the exact model — so
`bbox_query_exact` describes what the rounded query returns.
-/
import OdcGeo.Props.C14Band2
import OdcGeo.Lemmas.C14Band3

namespace OdcGeo.C14

/-- 1-D: a probe outside the band is looked up, after BOTH roundings (of the coordinate and inside `bin`), as the exact bin -/
theorem probe_band_fl64 {b : Bin1D} (w : b.WF) (p : Rat) (h : OutsideBand b p) : b.bin fl64 (fl64 p) = b.bin id p := by
  obtain ⟨⟨a1, a2⟩, c1, c2⟩ := h
  have hs := w.sz_pos
  rw [(bin_transfer_band_fl64 (Bin1D.new_of_wf b w) (fl64 p) c1 c2).1]
  -- the exact lookup of the rounded coordinate is the exact lookup of the coordinate
  have he : |(fl64 p - b.origin) / b.sz - (p - b.origin) / b.sz| ≤ (1 / 2 ^ 53 * |p| + pow2 (-1074) / 2) / b.sz := by
    rw [← sub_div, abs_div, abs_of_pos hs, sub_sub_sub_cancel_right]
    exact div_le_div_of_nonneg_right (fl64_rounding_error p) hs.le
  rw [Bin1D.bin_id, Bin1D.bin_id, floor_eq_of_abs_sub_le he a1 a2]

section
variable {ny nx : Int} {rx ry ox oy : Rat} {fx fy : Bool} {g : GridSpec}

/-- 2-D, BINARY64, UNCONDITIONAL outside the band: `idx_bounds` and `tiles` of the rounded model equal those of the exact model, and
    therefore the rounded bounding-box query returns exactly the tiles overlapping the query shrunk by the tolerance. -/
theorem idx_bounds_band_fl64 (hg : GridSpec.new id ny nx rx ry ox oy fx fy = .ok g) (tol : Rat) (q : BBox)
    (h1 : OutsideBand g.xbin (q.left + tol)) (h2 : OutsideBand g.ybin (q.bottom + tol))
    (h3 : OutsideBand g.xbin (q.right - tol)) (h4 : OutsideBand g.ybin (q.top - tol)) :
    g.idxBounds fl64 tol q = g.idxBounds id tol q ∧ g.tiles fl64 tol q = g.tiles id tol q ∧
    (q.left + tol ≤ q.right - tol → q.bottom + tol ≤ q.top - tol → ∀ k : Int × Int,
      k ∈ g.tiles fl64 tol q ↔
        ∃ p : Rat × Rat, q.left + tol ≤ p.1 ∧ p.1 ≤ q.right - tol ∧ q.bottom + tol ≤ p.2 ∧ p.2 ≤ q.top - tol ∧
          (g.footprint k).memHalfOpen p) := by
  obtain ⟨_, w⟩ := GridSpec.new_ok hg
  obtain ⟨hb, ht⟩ := GridSpec.idxBounds_congr (tol := tol) (q := q)
    (congrArg₂ Prod.mk (probe_band_fl64 w.x _ h1) (probe_band_fl64 w.y _ h2))
    (congrArg₂ Prod.mk (probe_band_fl64 w.x _ h3) (probe_band_fl64 w.y _ h4))
  refine ⟨hb, ht, fun hx hy k => ?_⟩
  rw [ht]
  exact bbox_query_exact hg tol q hx hy k

end

/-- non-vacuity: the probe at the centre of a DEA tile (96 km tiles from -4416000) is outside the band -/
example : OutsideBand ⟨96000, -4416000, 1⟩ (-816000) := by
  unfold OutsideBand
  decide +kernel

end OdcGeo.C14
