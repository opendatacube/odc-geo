/-
C05 — corollaries for the falsy-but-meaningful option values of `save_cog_with_dask` (`stats=0`, level `0`, `predictor=False` / `0`):
values are tested with `is None` / `is False` / `is True`, never for truth.
-/
import OdcGeo.Props.C05Opts

namespace OdcGeo.C05

/-- `stats_zero_means_level_zero`: `stats=0` is "statistics from the full-resolution level", not "no statistics": the
GDAL_METADATA placeholder is reserved and level 0 is used, for every pyramid; `stats=False` alone switches statistics off -/
theorem stats_zero_means_level_zero (n : Nat) (hn : 0 < n) :
    statsTag (.int 0) = true ∧ statsLayer (.int 0) n = .ok (some 0) ∧
    statsTag (.bool false) = false ∧ statsLayer (.bool false) n = .ok none ∧
    statsTag (.bool true) = true ∧ statsLayer (.bool true) n = .ok (some (n / 2)) := by
  refine ⟨rfl, ?_, rfl, rfl, rfl, rfl⟩
  simp [statsLayer, hn]

/-- every level NUMBER reserves the tag and selects that level when it exists -/
theorem stats_number_selects_level (k n : Nat) (hk : k < n) :
    statsTag (.int k) = true ∧ statsLayer (.int k) n = .ok (some k) := by
  refine ⟨rfl, ?_⟩
  simp [statsLayer, hk]

example : statsLayer (.int 0) 1 = .ok (some 0) ∧ statsLayer (.int 2) 2 = .error .indexError := by decide

/-- `level_zero_is_a_level`: `level=0` (e.g. "store, do not compress" for deflate) ends up as `compressionargs["level"] = 0` for
every codec — instance of `explicit_level_wins` at the falsy value -/
theorem level_zero_is_a_level (dt : DType) (pred : PredOpt) (comp : Option String) (cargs : Option CArgs) (kw : Kw) :
    CArgs.get (normCompressionTifffile dt pred comp cargs (some "0") kw).cargs "level" = some (.tok "0") :=
  explicit_level_wins dt pred comp cargs "0" kw

/-- the GDAL-style spelling of a zero level (`ZLEVEL=0`, `zstd_level=0`) is honoured as well -/
theorem gdal_level_zero_is_a_level (dt : DType) (pred : PredOpt) :
    CArgs.get (normCompressionTifffile dt pred (some "deflate") none none [("ZLEVEL", "0")]).cargs "level" = some (.tok "0") ∧
    CArgs.get (normCompressionTifffile dt pred (some "zstd") none none [("zstd_level", "0")]).cargs "level" = some (.tok "0") := by
  constructor
  · exact gdal_level_used dt pred (some "deflate") [("ZLEVEL", "0")] "0" (by decide +kernel)
  · exact gdal_level_used dt pred (some "zstd") [("zstd_level", "0")] "0" (by decide +kernel)

/-- `predictor_false_switches_off`: `predictor=False` (and `None`) give TIFF predictor 1 = none for every dtype and codec, also
for the codecs whose default (`Unset`) would switch it on; the NUMBER `0` is not `False` in Python and is passed through as is -/
theorem predictor_false_switches_off (dt : DType) (comp : Option String) (cargs : Option CArgs) (level : Option String) (kw : Kw) :
    (normCompressionTifffile dt (.given (.bool false)) comp cargs level kw).predictor = 1 ∧
    (normCompressionTifffile dt (.given .none) comp cargs level kw).predictor = 1 ∧
    (normCompressionTifffile dt (.given (.int 0)) comp cargs level kw).predictor = 0 ∧
    (∀ k, (normCompressionTifffile dt (.given (.int k)) comp cargs level kw).predictor = k) := by
  refine ⟨rfl, rfl, rfl, fun _ => rfl⟩

/-- and the default really differs: a float image compressed with deflate gets predictor 3 when nothing is said -/
example : (normCompressionTifffile ⟨'f', 4⟩ .unset (some "deflate") none none []).predictor = 3 ∧
    (normCompressionTifffile ⟨'f', 4⟩ (.given (.bool false)) (some "deflate") none none []).predictor = 1 := by decide +kernel

/-- the choice of encoder / predictor FUNCTIONS in `_mk_tile_compressor` tests the numbers against 1 (= none), not for truth -/
theorem tile_compressor_parts_spec (c p : Nat) :
    ((tileCompressorParts c p).1 = true ↔ c ≠ 1) ∧ ((tileCompressorParts c p).2 = true ↔ p ≠ 1) := by
  simp [tileCompressorParts]

/-- `spill_sz=0` / `writes_per_chunk` given as keywords are forwarded as given (tokens are never tested for truth) -/
example : (uploadParams [("spill_sz", "0"), ("writes_per_chunk", "1")] []).1 = [("writes_per_chunk", "1"), ("spill_sz", "0")] ∧
    (uploadParams [("spill_sz", "0")] [("spill_sz", "5")]).1 = [("spill_sz", "5")] := by decide +kernel

end OdcGeo.C05
