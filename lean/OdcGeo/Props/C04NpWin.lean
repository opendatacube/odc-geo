/-
C04 — numpy integer scalars inside `BlockAssembler` windows and at the `GeoboxTiles` entry points
(model: `normRoiNp`, `gbtRegionI`, `gbtChunkShapeI` in `Model/C04Np.lean`).
-/
import OdcGeo.Props.C04Np
import Mathlib.Tactic.SplitIfs
namespace OdcGeo.C04
open OdcGeo OdcGeo.C17 OdcGeo.NpArray

/-- **a window holding a numpy scalar is refused** – after the length test, before anything is
computed from it: never a window computed in a fixed-width type -/
theorem normRoiNp_np_refused (shape : List Int) (axis : Nat) (roi : List WinEl) (h : roi.any WinEl.isNp = true) :
    normRoiNp shape axis roi = .error .attribute ∨ normRoiNp shape axis roi = .error (.std .indexError) := by
  unfold normRoiNp
  cases hp : padRoi shape axis (.tuple (roi.map WinEl.toPIdx)) with
  | error e =>
    -- `_norm_roi` raises nothing but `IndexError`
    unfold padRoi at hp
    dsimp only at hp
    split_ifs at hp
    cases hp
    exact .inr rfl
  | ok r => exact .inl (if_pos h)

/-- a window of Python ints and slices is the window of `Model/C04Roi.normRoi` -/
theorem normRoiNp_py (shape : List Int) (axis : Nat) (roi : List WinEl) (h : roi.any WinEl.isNp = false) :
    normRoiNp shape axis roi = liftN (normRoi shape axis (.tuple (roi.map WinEl.toPIdx))) := by
  simp only [normRoiNp, normRoi]
  cases hp : padRoi shape axis (.tuple (roi.map WinEl.toPIdx)) with
  | error e => rfl
  | ok r => exact if_neg (h ▸ Bool.false_ne_true)

/-- **`GeoboxTiles[...]`, `.roi[...]`, `pix_bbox`: Python-int region or refusal** -/
theorem gbtRegionI_py_or_error (t : Tiling2) (iy ix : IntArg) :
    gbtRegionI t iy ix = gbtRegionI t iy.toPy ix.toPy ∨ ∃ e, gbtRegionI t iy ix = .error e := by
  cases iy with
  | np ty v => right; exact ⟨_, rfl⟩
  | py vy =>
    cases ix with
    | py vx => left; rfl
    | np tx v => right; exact ⟨_, rfl⟩

/-- **`GeoboxTiles.chunk_shape`: the Python-int answer for every integer type** (as repaired) -/
theorem gbtChunkShapeI_eq_py (t : Tiling2) (iy ix : IntArg) :
    gbtChunkShapeI t iy ix = gbtChunkShapeI t iy.toPy ix.toPy := rfl

example : normRoiNp [3, 300, 60] 1 [.int (.np ⟨false, 8⟩ 255), .slc (some 0) (some 60)] = .error .attribute := by decide
example : ([WinEl.int (.py 2), .slc none none] : List WinEl).any WinEl.isNp = false := by decide

end OdcGeo.C04
