/-
C06 — the public entry point `mpu_write`, from its bags to the writer calls, with the task-graph shape derived
inside the model (`Model/C06Dask.lean`: dask's `Bag.fold(split_every)` tree per bag, `_mpu_collate_op` over the
bags) instead of being a parameter.  `Props/C06.lean::main` quantifies over EVERY merge tree; the theorems here
instantiate it at the tree the code really builds, so that nothing named stands between the arguments of
`mpu_write` and its result: no tree, no "dask built a tree with these leaves" hypothesis.
-/
import OdcGeo.Props.C06
import OdcGeo.Lemmas.C06Dask


namespace OdcGeo.C06
variable {α : Type}

/-- all payload bytes of a list of bags (bag → partition → `(bytes, chunk id)`), in stream order -/
def bagsBytes (bags : List (List (List (List α × Int)))) : List α := (bags.flatten.map chunksBytes).flatten
/-- the `(size, chunk id)` log of a list of bags, in stream order -/
def bagsObs (bags : List (List (List (List α × Int)))) : List (Nat × Int) := (bags.flatten.map chunksObs).flatten

/-- **dask's fold keeps the stream.**  For every `split_every ≥ 2` and every non-empty list of sub-results the
reduction loop of `Bag.fold` terminates, and the tree of merges it performs has exactly the given sub-results as
its leaves, in order: same bytes, same observed list, same number of partitions, every partition still non-empty. -/
theorem dask_fold_keeps_stream (s : Nat) (hs : 2 ≤ s) (ts : List (Tree α)) (hne : ts ≠ []) :
    ∃ t, daskFold s ts = some t ∧ t.bytes = (ts.map Tree.bytes).flatten ∧ t.obs = (ts.map Tree.obs).flatten ∧
      t.leaves = (ts.map Tree.leaves).sum ∧ ((∀ x ∈ ts, x.NonEmpty) → t.NonEmpty) := by
  obtain ⟨t, ht, hl⟩ := daskFold_spec s hs ts hne
  obtain ⟨h1, h2, h3, h4⟩ := Tree.of_leafListL hl
  exact ⟨t, ht, h2, h3, h1, h4⟩

/-- **dask's fold with `split_every = 1` does not finish building the graph for two partitions** (witness of why the
theorems ask `2 ≤ s`: `while k > split_every` does not make progress, `partition_all(1, …)` keeps `k`); the model returns
`none`.  `mpu_write` always uses 4. -/
theorem dask_fold_split_every_one_diverges :
    daskFold 1 [(.leaf [([1], 0)] : Tree Nat), .leaf [([2], 1)]] = none := by decide

/-- the tree `mpu_write` builds: it exists and its leaves are the partitions of the bags in stream order -/
theorem mpu_write_tree_leaves (s : Nat) (hs : 2 ≤ s) (bags : List (List (List (List α × Int))))
    (hb : bags ≠ []) (hp : ∀ b ∈ bags, b ≠ []) :
    ∃ t, mpuWriteTree s bags = some t ∧ t.leafList = bags.flatten ∧ t.bytes = bagsBytes bags ∧ t.obs = bagsObs bags ∧
      t.leaves = bags.flatten.length ∧ ((∀ b ∈ bags, ∀ p ∈ b, p ≠ []) → t.NonEmpty) := by
  obtain ⟨t, ht, hl⟩ := mpuWriteTree_spec s hs bags hb hp
  refine ⟨t, ht, hl, by rw [Tree.bytes_leafList, hl, bagsBytes], by rw [Tree.obs_leafList, hl, bagsObs],
    by rw [Tree.leaves_leafList, hl], ?_⟩
  intro hc
  rw [Tree.nonEmpty_leafList, hl]
  intro p hpm
  obtain ⟨b, hbm, hpb⟩ := List.mem_flatten.mp hpm
  exact hc b hbm p hpb

/-- **C06 for the public entry point, writer present.**  `mpu_write(bags, write, mk_header=, mk_footer=,
writes_per_chunk=wpc, spill_sz=spill).compute()`: for EVERY non-empty list of bags, every bag with ≥ 1 partition,
every partition with ≥ 1 chunk (sizes arbitrary, 0 included), every writer limits with enough part numbers for all
partitions of all bags, every spill size, writes-per-chunk and header / footer callback, the run — with the graph
shape the code builds (dask fold, `split_every = 4`, then collate) — does not fail, shows both callbacks the complete
`(size, id)` list, and hands the writer parts that concatenate, in increasing part number, to
header ++ all chunks of all bags in order ++ footer; numbers strictly increasing, within `[min_part, max_part]`,
every part but the last ≥ `min_write_sz`, `finalise` gets exactly the written parts. -/
theorem mpu_write_end_to_end (W : Writer) (spill wpc : Nat) (bags : List (List (List (List α × Int))))
    (mkHdr mkFtr : Option (List (Nat × Int) → List α))
    (hb : bags ≠ []) (hp : ∀ b ∈ bags, b ≠ []) (hc : ∀ b ∈ bags, ∀ p ∈ b, p ≠ [])
    (hcap : W.minPart + 1 + bags.flatten.length * wpc ≤ W.maxPart + 1) :
    ∃ wsF fp wsAll,
      mpuWrite (some W) spill wpc bags mkHdr mkFtr = some (.ok (.written wsF fp, wsAll, bagsObs bags)) ∧
      partsBytes fp = optBytes (mkHdr.map (fun f => f (bagsObs bags))) ++ bagsBytes bags ++
                      optBytes (mkFtr.map (fun f => f (bagsObs bags))) ∧
      fp.Pairwise (fun a b => a.id < b.id) ∧
      (∀ p ∈ fp, W.minPart ≤ p.id ∧ p.id ≤ W.maxPart) ∧
      (∀ p ∈ fp.dropLast, W.minWrite ≤ p.data.length) ∧
      List.Perm wsAll fp := by
  obtain ⟨t, ht, _, hbytes, hobs, hleaves, hne⟩ :=
    mpu_write_tree_leaves mpuWriteSplitEvery (by decide) bags hb hp
  obtain ⟨wsF, fp, wsAll, hrun, h1, h2, h3, h4, h5⟩ :=
    main W spill wpc t mkHdr mkFtr (hne hc) (by rw [hleaves]; exact hcap)
  refine ⟨wsF, fp, wsAll, ?_, ?_, h2, h3, h4, h5⟩
  · rw [mpuWrite_eq_run hb ht, hrun, hobs]
  · rw [h1, hobs, hbytes]

/-- **C06 for the public entry point, `write=None`**: nothing is written, the chunk the Delayed evaluates to holds
header ++ all chunks ++ footer. -/
theorem mpu_write_end_to_end_no_writer (spill wpc : Nat) (bags : List (List (List (List α × Int))))
    (mkHdr mkFtr : Option (List (Nat × Int) → List α))
    (hb : bags ≠ []) (hp : ∀ b ∈ bags, b ≠ []) (hc : ∀ b ∈ bags, ∀ p ∈ b, p ≠ []) :
    ∃ c, mpuWrite none spill wpc bags mkHdr mkFtr = some (.ok (.chunk c, [], bagsObs bags)) ∧
      c.parts = [] ∧ c.left = [] ∧
      c.data = optBytes (mkHdr.map (fun f => f (bagsObs bags))) ++ bagsBytes bags ++
               optBytes (mkFtr.map (fun f => f (bagsObs bags))) := by
  obtain ⟨t, ht, _, hbytes, hobs, hleaves, hne⟩ :=
    mpu_write_tree_leaves mpuWriteSplitEvery (by decide) bags hb hp
  obtain ⟨c, hrun, h1, h2, h3⟩ := main_no_writer spill wpc t mkHdr mkFtr (hne hc)
  refine ⟨c, ?_, h1, h2, ?_⟩
  · rw [mpuWrite_eq_run hb ht, hrun, hobs]
  · rw [h3, hobs, hbytes]

/-- **The object does not depend on `split_every`**: for any two fold widths ≥ 2 over the same bags the parts handed to
`finalise` concatenate to the same bytes.  (`from_dask_bag` exposes `split_every`; `mpu_write` fixes it to 4.) -/
theorem object_independent_of_split_every (W : Writer) (spill wpc s1 s2 : Nat) (hs1 : 2 ≤ s1) (hs2 : 2 ≤ s2)
    (bags : List (List (List (List α × Int)))) (mkHdr mkFtr : Option (List (Nat × Int) → List α))
    (hb : bags ≠ []) (hp : ∀ b ∈ bags, b ≠ []) (hc : ∀ b ∈ bags, ∀ p ∈ b, p ≠ [])
    (hcap : W.minPart + 1 + bags.flatten.length * wpc ≤ W.maxPart + 1) :
    ∃ t1 t2 w1 fp1 a1 w2 fp2 a2,
      mpuWriteTree s1 bags = some t1 ∧ mpuWriteTree s2 bags = some t2 ∧
      run ⟨some W, spill, wpc, mkFtr.isNone⟩ t1 mkHdr mkFtr = .ok (.written w1 fp1, a1, bagsObs bags) ∧
      run ⟨some W, spill, wpc, mkFtr.isNone⟩ t2 mkHdr mkFtr = .ok (.written w2 fp2, a2, bagsObs bags) ∧
      partsBytes fp1 = partsBytes fp2 := by
  obtain ⟨t1, ht1, _, hb1, ho1, hl1, hn1⟩ := mpu_write_tree_leaves s1 hs1 bags hb hp
  obtain ⟨t2, ht2, _, hb2, ho2, hl2, hn2⟩ := mpu_write_tree_leaves s2 hs2 bags hb hp
  obtain ⟨w1, fp1, a1, hr1, hx1, _⟩ := main W spill wpc t1 mkHdr mkFtr (hn1 hc) (by rw [hl1]; exact hcap)
  obtain ⟨w2, fp2, a2, hr2, hx2, _⟩ := main W spill wpc t2 mkHdr mkFtr (hn2 hc) (by rw [hl2]; exact hcap)
  refine ⟨t1, t2, w1, fp1, a1, w2, fp2, a2, ht1, ht2, by rw [hr1, ho1], by rw [hr2, ho2], ?_⟩
  rw [hx1, hx2, ho1, ho2, hb1, hb2]

/-- no bag at all: `mpu_write([])` fails while building the graph (`assert len(substreams) > 0`) -/
theorem mpu_write_no_bags (w : Option Writer) (spill wpc : Nat) (mkHdr mkFtr : Option (List (Nat × Int) → List α)) :
    mpuWrite w spill wpc [] mkHdr mkFtr = some (.error .assertion) := rfl

/-- nine partitions, `split_every = 4`: two full groups and a lone ninth, then one final reduction -/
example : ((fromDaskBag 4 ((List.range 9).map fun i => [([i], (i : Int))])).map Tree.skel)
    = some "(((((0 1) 2) 3) (((4 5) 6) 7)) 8)" := by decide

/-- two bags (3 and 2 partitions): per-bag folds, then collate -/
example : ((mpuWriteTree 4 [[[([1], 0)], [([2], 1)], [([3], 2)]], [[([4], 3)], [([5], 4)]]]).map Tree.skel)
    = some "(((0 1) 2) (3 4))" := by decide

/-- the hypotheses of `mpu_write_end_to_end` are satisfiable -/
example : let bags : List (List (List (List Nat × Int))) := [[[([1, 2, 3], 0)], [([4], 1), ([], 2)]], [[([5, 6], 3)]]]
    bags ≠ [] ∧ (∀ b ∈ bags, b ≠ []) ∧ (∀ b ∈ bags, ∀ p ∈ b, p ≠ []) ∧
      (1 + 1 + bags.flatten.length * 2 ≤ 100 + 1) := by decide

end OdcGeo.C06
