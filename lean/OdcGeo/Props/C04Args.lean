/-
C04 — argument normalisation / glue around the tiling core (`Model/C04Args.lean`).

1. `BlockAssembler.__init__` / `_verify_shape`: success is exactly "every block fits the layout with
   the extra axes of the first block" – the well-formedness `assemble_window` (Props/C04Asm.lean)
   presupposes; which error is raised is decided by the first block that is refused; the final
   `assert` cannot fire for chunk tuples whose sums fit `int32`; `init_assemble_window` goes from a
   successful constructor to the mosaic.
2. index spellings: every accepted spelling of `(r, c)` is answered like the tuple `(r, c)` (no axis
   swap), refused forms never yield a tile, a tuple longer than two is silently truncated by `[]`
   but refused by `tile_shape` / `locate`.
3. `shape_` / `roi_tiles` / `GeoboxTiles.__init__`: which tiling the rest of the model is handed.
4. `planes_yx(yx_roi)`, `WindowFromSlice`, `roi_shape`.
-/
import OdcGeo.Model.C04Args
import OdcGeo.Model.C04Spec
import OdcGeo.Lemmas.C04
import OdcGeo.Lemmas.C04Args
import OdcGeo.Lemmas.Except
import OdcGeo.Lemmas.Unpack
import OdcGeo.Props.C04Asm
namespace OdcGeo.C04
open OdcGeo OdcGeo.C17 OdcGeo.NpArray

/-- **`_verify_shape` succeeds exactly for fitting blocks.**  Without blocks the shape is
`(ny, nx)`; otherwise the first block has at least `axis + 2` dimensions, EVERY block (the first
included) has the shape `lead ++ [chy[iy'], chx[ix']] ++ trail` – `lead` / `trail` the extra
dimensions of the first block, `(iy', ix')` the key with negative members counted from the end –
and the result is `lead ++ [sum(chy), sum(chx)] ++ trail`. -/
theorem verifyShape_ok_iff (chy chx : List Int) (axis : Nat) (blocks : List BlockDesc) (s : List Int) :
    verifyShape chy chx axis blocks = .ok s ↔
      (blocks = [] ∧ s = [total chy, total chx]) ∨
      (∃ b0 rest, blocks = b0 :: rest ∧ axis + 2 ≤ b0.shape.length ∧
        (∀ b ∈ blocks, BlockFits chy chx (b0.shape.take axis) (b0.shape.drop (axis + 2)) b) ∧
        s = b0.shape.take axis ++ [total chy, total chx] ++ b0.shape.drop (axis + 2)) := by
  cases blocks with
  | nil =>
    rw [verifyShape_nil]
    exact ⟨fun h => by cases h; exact .inl ⟨rfl, rfl⟩,
      fun h => by rcases h with ⟨_, rfl⟩ | ⟨_, _, h, _⟩ <;> [rfl; cases h]⟩
  | cons b0 rest =>
    rw [exists_cons_iff, or_iff_right fun h => nomatch h.1]
    by_cases hfew : b0.shape.length < axis + 2
    · rw [verifyShape_few _ _ _ _ _ hfew]
      exact ⟨nofun, fun h => absurd h.1 (Nat.not_le.2 hfew)⟩
    · rw [verifyShape_cons_ok_iff _ _ _ _ _ (Nat.not_lt.1 hfew)]
      exact (and_iff_right (Nat.not_lt.1 hfew)).symm

/-- **which error `_verify_shape` raises** (exact): there is a first block; either it has fewer than
`axis + 2` dimensions (`ValueError`), or some block is the FIRST one that does not fit – all blocks
before it fit – and the error is `IndexError` when that block has the rank and extra dimensions of
the first block but a key outside the layout (`chy[iy]` on a tuple), `ValueError` otherwise (extra
dimensions differ – tested before the key is looked at – or the `Y, X` size is wrong). -/
theorem verifyShape_error_iff (chy chx : List Int) (axis : Nat) (blocks : List BlockDesc) (e : ErrKind) :
    verifyShape chy chx axis blocks = .error e ↔
      ∃ b0 rest, blocks = b0 :: rest ∧
        ((b0.shape.length < axis + 2 ∧ e = .valueError) ∨
         (axis + 2 ≤ b0.shape.length ∧ ∃ pre b post, blocks = pre ++ b :: post ∧
            (∀ b' ∈ pre, BlockFits chy chx (b0.shape.take axis) (b0.shape.drop (axis + 2)) b') ∧
            ¬ BlockFits chy chx (b0.shape.take axis) (b0.shape.drop (axis + 2)) b ∧
            e = if SameDims axis b0 b ∧ ¬ KeyInLayout chy chx b then .indexError else .valueError)) := by
  cases blocks with
  | nil => exact ⟨nofun, fun ⟨_, _, h, _⟩ => nomatch h⟩
  | cons b0 rest =>
    rw [exists_cons_iff]
    by_cases hfew : b0.shape.length < axis + 2
    · rw [verifyShape_few _ _ _ _ _ hfew]
      exact ⟨fun h => by cases h; exact .inl ⟨hfew, rfl⟩,
        fun h => h.elim (fun h => by rw [h.2]) fun h => absurd h.1 (Nat.not_le.2 hfew)⟩
    · rw [verifyShape_cons_error_iff _ _ _ _ _ (Nat.not_lt.1 hfew)]
      exact ⟨fun h => .inr ⟨Nat.not_lt.1 hfew, h⟩, fun h => h.elim (fun h => absurd h.1 hfew) (·.2)⟩

/-- `_verify_shape` raises nothing but `ValueError` and `IndexError`. -/
theorem verifyShape_error_kinds (chy chx : List Int) (axis : Nat) (blocks : List BlockDesc) (e : ErrKind)
    (h : verifyShape chy chx axis blocks = .error e) : e = .valueError ∨ e = .indexError := by
  obtain ⟨b0, rest, _, (⟨_, rfl⟩ | ⟨_, pre, b, post, _, _, _, rfl⟩)⟩ := (verifyShape_error_iff _ _ _ _ _).1 h
  · exact .inl rfl
  · split
    · exact .inr rfl
    · exact .inl rfl

/-- the `Y, X` entries of the verified shape sit at `axis` (with blocks; without blocks only for
`axis = 0`, see `assert_fires_no_blocks_axis_cex`) -/
theorem verifyShape_yx (chy chx : List Int) (axis : Nat) (blocks : List BlockDesc) (s : List Int)
    (h : verifyShape chy chx axis blocks = .ok s) (hb : blocks ≠ [] ∨ axis = 0) :
    (s.drop axis).take 2 = [total chy, total chx] := by
  rcases (verifyShape_ok_iff _ _ _ _ _).1 h with ⟨rfl, rfl⟩ | ⟨b0, rest, rfl, hge, _, rfl⟩
  · rcases hb with hb | rfl
    · exact absurd rfl hb
    · rfl
  · exact splice_mid (vstate_of_wf axis _ hge).1 _ _ _

theorem assemblerInit_eq {chy chx : List Int} {axis : Nat} {blocks : List BlockDesc}
    (hb : blocks ≠ [] ∨ axis = 0) :
    assemblerInit chy chx axis blocks =
      match verifyShape chy chx axis blocks with
      | .error e => .error e
      | .ok s => if vbase chy = total chy ∧ vbase chx = total chx then .ok ⟨s, blocks.isEmpty⟩
          else .error .assertion := by
  unfold assemblerInit
  cases hv : verifyShape chy chx axis blocks with
  | error e => rfl
  | ok s =>
    simp only [bind, Except.bind]
    rw [verifyShape_yx _ _ _ _ _ hv hb]
    simp only [List.cons.injEq, and_true]

/-- **every way `BlockAssembler(...)` can fail** (with blocks, or `axis = 0`): the errors of
`_verify_shape`, or – only after it succeeded – `AssertionError` exactly when the `int32` cumulative
sum of a chunk tuple differs from its Python sum. -/
theorem assemblerInit_error_iff (chy chx : List Int) (axis : Nat) (blocks : List BlockDesc)
    (hb : blocks ≠ [] ∨ axis = 0) (e : ErrKind) :
    assemblerInit chy chx axis blocks = .error e ↔
      verifyShape chy chx axis blocks = .error e ∨
      (e = .assertion ∧ (∃ s, verifyShape chy chx axis blocks = .ok s) ∧
        (vbase chy ≠ total chy ∨ vbase chx ≠ total chx)) := by
  rw [assemblerInit_eq hb]
  cases verifyShape chy chx axis blocks with
  | error e' =>
    dsimp only
    exact ⟨fun h => by cases h; exact .inl rfl,
      fun h => h.elim (fun h => by cases h; rfl) fun h => nomatch h.2.1.choose_spec⟩
  | ok s =>
    dsimp only
    by_cases hc : vbase chy = total chy ∧ vbase chx = total chx
    · rw [if_pos hc]
      exact ⟨nofun, fun h => h.elim nofun fun h => h.2.2.elim (absurd hc.1) (absurd hc.2)⟩
    · rw [if_neg hc]
      exact ⟨fun h => by cases h; exact .inr ⟨rfl, ⟨s, rfl⟩, not_and_or.1 hc⟩,
        fun h => h.elim nofun fun h => by rw [h.1]⟩

/-- for chunk tuples whose sums fit `int32` (`ChunksOK`; with blocks, or `axis = 0`) the constructor is
`_verify_shape` plus the dtype flag -/
theorem assemblerInit_of_chunksOK (chy chx : List Int) (axis : Nat) (blocks : List BlockDesc)
    (hy : ChunksOK chy) (hx : ChunksOK chx) (hb : blocks ≠ [] ∨ axis = 0) :
    assemblerInit chy chx axis blocks =
      (verifyShape chy chx axis blocks).map fun s => ⟨s, blocks.isEmpty⟩ := by
  rw [assemblerInit_eq hb]
  cases verifyShape chy chx axis blocks with
  | error e => rfl
  | ok s => exact if_pos ⟨vbase_eq_total chy hy, vbase_eq_total chx hx⟩

/-- **the `assert` of `__init__` never fires** under the same hypotheses -/
theorem assert_never_fires (chy chx : List Int) (axis : Nat) (blocks : List BlockDesc)
    (hy : ChunksOK chy) (hx : ChunksOK chx) (hb : blocks ≠ [] ∨ axis = 0) :
    assemblerInit chy chx axis blocks ≠ .error .assertion := by
  rw [assemblerInit_of_chunksOK _ _ _ _ hy hx hb]
  cases hv : verifyShape chy chx axis blocks with
  | error e =>
    intro h
    cases h
    rcases verifyShape_error_kinds _ _ _ _ _ hv with h | h <;> cases h
  | ok s => exact nofun

example : ChunksOK [2, 0, 3] ∧ ChunksOK [4] ∧ (([] : List BlockDesc) ≠ [] ∨ (0 : Nat) = 0) :=
  ⟨⟨by decide, by decide⟩, ⟨by decide, by decide⟩, .inr rfl⟩

/-- the `int32` hypothesis is needed: `BlockAssembler({}, ((2**30, 2**30), (1,)))` raises
`AssertionError` (replayed on the real code by the harness, signature `verify|int32|…`). -/
theorem assert_fires_int32_cex :
    assemblerInit [1073741824, 1073741824] [1] 0 [] = .error .assertion := by decide

/-- the hypothesis `blocks ≠ [] ∨ axis = 0` is needed: an empty mapping with `axis = 1` compares
`(ny, nx)[1:3] = (nx,)` with `(ny, nx)` and raises `AssertionError` whatever the chunks are
(the real code does the same). -/
theorem assert_fires_no_blocks_axis_cex : assemblerInit [2, 3] [4] 1 [] = .error .assertion := by decide

/-- **an assembler constructed from at least one block is well formed** (what `assemble_window`
presupposes): the shape is `lead ++ [sum(chy), sum(chx)] ++ trail`, `lead` / `trail` the extra axes of
the first block, `axis = len(lead)`, the dtype is derived from the blocks, `.base` of the tiling equals
the Python sums, and EVERY block has the shape `lead ++ [chy[iy'], chx[ix']] ++ trail`. -/
theorem init_ok_wellformed (chy chx : List Int) (axis : Nat) (b0 : BlockDesc) (rest : List BlockDesc)
    (info : AsmInfo) (h : assemblerInit chy chx axis (b0 :: rest) = .ok info) :
    (b0.shape.take axis).length = axis ∧
    info.shape = b0.shape.take axis ++ [total chy, total chx] ++ b0.shape.drop (axis + 2) ∧
    info.defaultDtype = false ∧ vbase chy = total chy ∧ vbase chx = total chx ∧
    ∀ b ∈ b0 :: rest, BlockFits chy chx (b0.shape.take axis) (b0.shape.drop (axis + 2)) b := by
  rw [assemblerInit_eq (.inl (List.cons_ne_nil _ _))] at h
  cases hv : verifyShape chy chx axis (b0 :: rest) with
  | error e => rw [hv] at h; cases h
  | ok s =>
    rw [hv] at h
    dsimp only at h
    split at h
    · next hc =>
      cases h
      rcases (verifyShape_ok_iff _ _ _ _ _).1 hv with ⟨h0, _⟩ | ⟨_, _, h0, hge, hall, rfl⟩ <;> cases h0
      exact ⟨(vstate_of_wf axis _ hge).1, rfl, rfl, hc.1, hc.2, hall⟩
    · cases h

example : assemblerInit [2, 3] [4] 1 [⟨(0, 0), [5, 2, 4, 1]⟩, ⟨(-1, 0), [5, 3, 4, 1]⟩] =
    .ok ⟨[5, 5, 4, 1], false⟩ := by decide

/-- without blocks the constructor succeeds exactly for `axis = 0` and `int32`-summable chunks -/
theorem init_ok_no_blocks_iff (chy chx : List Int) (axis : Nat) (info : AsmInfo) :
    assemblerInit chy chx axis [] = .ok info ↔
      axis = 0 ∧ vbase chy = total chy ∧ vbase chx = total chx ∧ info = ⟨[total chy, total chx], true⟩ := by
  cases axis with
  | zero =>
    rw [assemblerInit_eq (.inr rfl), verifyShape_nil]
    dsimp only
    by_cases hc : vbase chy = total chy ∧ vbase chx = total chx
    · rw [if_pos hc]
      exact ⟨fun h => by cases h; exact ⟨rfl, hc.1, hc.2, rfl⟩, fun h => by rw [h.2.2.2]; rfl⟩
    · rw [if_neg hc]
      exact ⟨nofun, fun h => absurd ⟨h.2.1, h.2.2.1⟩ hc⟩
  | succ n =>
    -- `(ny, nx)[n + 1 :]` has fewer than two members
    have : ¬ [vbase chy, vbase chx] = (([total chy, total chx] : List Int).drop (n + 1)).take 2 := by
      cases n <;> simp
    rw [assemblerInit, verifyShape_nil]
    simp only [bind, Except.bind, if_neg this]
    exact ⟨nofun, fun h => nomatch h.1⟩

/-- **link to the core model**: the `.shape` a successful constructor reports is `Assembler.shape`
of the `Assembler` (Model/C04) built from the same arguments – the shape `_norm_roi` / `extractND`
pad and normalise windows against – and its `axis` is the number of leading axes. -/
theorem init_shape_eq_assembler_shape {Val : Type} (chy chx : List Int) (axis : Nat) (blocks : List BlockDesc)
    (info : AsmInfo) (blk : Int × Int → Arr Val) (h : assemblerInit chy chx axis blocks = .ok info) :
    (toAssembler chy chx axis blocks blk).shape = info.shape ∧
      (toAssembler chy chx axis blocks blk).lead.length = axis := by
  cases blocks with
  | nil =>
    obtain ⟨rfl, _, _, rfl⟩ := (init_ok_no_blocks_iff _ _ _ _).1 h
    exact ⟨rfl, rfl⟩
  | cons b0 rest =>
    obtain ⟨hl, hs, _⟩ := init_ok_wellformed _ _ _ _ _ _ h
    exact ⟨by rw [hs]; rfl, hl⟩

/-- **a successfully constructed `BlockAssembler` reassembles the mosaic.**  If `BlockAssembler(blocks,
(chy, chx), axis)` succeeds, the chunk sums fit `int32`, the keys are written with non-negative
members and no block shape has a negative entry, then the hypotheses of `assemble_window_two_tuple`
(Props/C04Asm) hold for the assembler it is – every key addresses a tile (`KeyOK`), `.shape` is
`Assembler.shape` – and therefore `assembler[ry, rx]` returns, for every window that normalises to
`0 ≤ start ≤ stop`, the block cell of the tile owning each mosaic pixel, else the fill value.  (Keys
with a negative member are accepted by the constructor as well – `init_ok_wellformed` – and name the
tile counted from the end; two keys may then name one tile.) -/
theorem init_assemble_window {Val : Type} (chy chx : List Int) (axis : Nat) (blocks : List BlockDesc)
    (info : AsmInfo) (blk : Int × Int → Arr Val)
    (h : assemblerInit chy chx axis blocks = .ok info)
    (hy : ChunksOK chy) (hx : ChunksOK chx)
    (hkeys : ∀ b ∈ blocks, 0 ≤ b.key.1 ∧ 0 ≤ b.key.2)
    (hdims : ∀ b ∈ blocks, ∀ n ∈ b.shape, 0 ≤ n)
    (fill : Val) (ry rx : PIdx)
    (hwy : 0 ≤ (normSlice ry (total chy)).start ∧ (normSlice ry (total chy)).start ≤ (normSlice ry (total chy)).stop)
    (hwx : 0 ≤ (normSlice rx (total chx)).start ∧ (normSlice rx (total chx)).start ≤ (normSlice rx (total chx)).stop) :
    let a := toAssembler chy chx axis blocks blk
    let wy := normSlice ry (total chy)
    let wx := normSlice rx (total chx)
    let wl := ((a.lead.map fullIdx).zip a.lead).map fun p => normSlice p.1 p.2
    let wt := ((a.trail.map fullIdx).zip a.trail).map fun p => normSlice p.1 p.2
    a.shape = info.shape ∧ (∀ k ∈ a.present, KeyOK a k) ∧
    ∃ arr, extractND a fill (.tuple [ry, rx]) =
        .ok (a.lead ++ [wy.stop - wy.start, wx.stop - wx.start] ++ a.trail,
             (a.lead, wy.stop - wy.start, wx.stop - wx.start, a.trail), arr) ∧
      ∀ l y x t, InBox l a.lead → (0 ≤ y ∧ y < wy.stop - wy.start) →
        (0 ≤ x ∧ x < wx.stop - wx.start) → InBox t a.trail →
        (∀ k ∈ a.present, Owns a k (wy.start + y) (wx.start + x) →
          arr l y x t = a.blk k (shift wl l) (wy.start + y - (tileReg a.chy k.1).start)
            (wx.start + x - (tileReg a.chx k.2).start) (shift wt t)) ∧
        ((∀ k ∈ a.present, ¬ Owns a k (wy.start + y) (wx.start + x)) → arr l y x t = fill) := by
  intro a wy wx wl wt
  have wf : (∀ k ∈ a.present, KeyOK a k) ∧ (∀ n ∈ a.lead, 0 ≤ n) ∧ ∀ n ∈ a.trail, 0 ≤ n := by
    cases blocks with
    | nil => exact ⟨nofun, nofun, nofun⟩
    | cons b0 rest =>
      obtain ⟨_, _, _, _, _, hall⟩ := init_ok_wellformed _ _ _ _ _ _ h
      refine ⟨fun k hk => ?_, fun n hn => hdims b0 List.mem_cons_self n (List.mem_of_mem_take hn),
        fun n hn => hdims b0 List.mem_cons_self n (List.mem_of_mem_drop hn)⟩
      obtain ⟨b, hb, rfl⟩ := List.mem_map.1 hk
      obtain ⟨⟨ky, kx⟩, _⟩ := hall b hb
      obtain ⟨p1, p2⟩ := hkeys b hb
      simp only [wrapKey, if_neg (not_lt.2 p1), if_neg (not_lt.2 p2)] at ky kx
      exact ⟨ky, kx⟩
  exact ⟨(init_shape_eq_assembler_shape chy chx axis blocks info blk h).1, wf.1,
    assemble_window_two_tuple a hy hx wf.1 wf.2.1 wf.2.2 fill ry rx hwy hwx⟩

example : assemblerInit [2, 3] [4] 0 [⟨(1, 0), [3, 4, 2]⟩] = .ok ⟨[5, 4, 2], false⟩ ∧
    ChunksOK [2, 3] ∧ ChunksOK [4] := ⟨by decide, ⟨by decide, by decide⟩, ⟨by decide, by decide⟩⟩

/-- **one index, six spellings**: `iyx_(r, c)`, `ixy_(c, r)`, the tuple `(r, c)` through `iyx_`, the
tuple `(c, r)` through `ixy_`, `Index2d(x=c, y=r)` and `XY(x=c, y=r)` through either all are the
index with row `r` and column `c` – no spelling swaps the axes. -/
theorem index_spellings_agree (r c : Int) :
    ixy2 c r = iyx2 r c ∧
    iyx (.tuple [.idx r, .idx c]) = .ok (iyx2 r c) ∧ ixy (.tuple [.idx c, .idx r]) = .ok (iyx2 r c) ∧
    iyx (.index2d c r) = .ok (iyx2 r c) ∧ ixy (.index2d c r) = .ok (iyx2 r c) ∧
    iyx (.xy c r) = .ok (iyx2 r c) ∧ ixy (.xy c r) = .ok (iyx2 r c) ∧
    (iyx2 r c).y = .idx r ∧ (iyx2 r c).x = .idx c :=
  ⟨rfl, rfl, rfl, rfl, rfl, rfl, rfl, rfl, rfl⟩

theorem iyx_not_pair (l : List PIdx) (h : l.length ≠ 2) :
    iyx (.tuple l) = .error .valueError ∧ ixy (.tuple l) = .error .valueError :=
  ne_pair_cases l h ⟨rfl, rfl⟩ (fun _ => ⟨rfl, rfl⟩) fun _ _ _ _ => ⟨rfl, rfl⟩

theorem iyx_accepted (a : IdxArg) (h : ¬ (a = .other ∨ ∃ l, a = .tuple l ∧ l.length ≠ 2)) :
    (∃ b, iyx a = .ok b) ∧ ∃ b, ixy a = .ok b := by
  match a, h with
  | .other, h => exact absurd (.inl rfl) h
  | .index2d x y, _ => exact ⟨⟨_, rfl⟩, _, rfl⟩
  | .xy x y, _ => exact ⟨⟨_, rfl⟩, _, rfl⟩
  | .tuple l, h =>
    obtain ⟨x, y, rfl⟩ := List.length_eq_two.1 (not_not.1 fun hl => h (.inr ⟨l, rfl, hl⟩))
    exact ⟨⟨_, rfl⟩, _, rfl⟩

/-- `iyx_` / `ixy_` refuse exactly: anything that is not a tuple / `Index2d` / `XY`, and tuples whose
length is not two – always with `ValueError`. -/
theorem iyx_error_iff (a : IdxArg) (e : ErrKind) :
    iyx a = .error e ↔ e = .valueError ∧ (a = .other ∨ ∃ l, a = .tuple l ∧ l.length ≠ 2) := by
  refine error_iff_of_refused ?_ fun h => (iyx_accepted a h).1
  rintro (rfl | ⟨l, rfl, hl⟩)
  · rfl
  · exact (iyx_not_pair l hl).1

theorem ixy_error_iff (a : IdxArg) (e : ErrKind) :
    ixy a = .error e ↔ e = .valueError ∧ (a = .other ∨ ∃ l, a = .tuple l ∧ l.length ≠ 2) := by
  refine error_iff_of_refused ?_ fun h => (iyx_accepted a h).2
  rintro (rfl | ⟨l, rfl, hl⟩)
  · rfl
  · exact (iyx_not_pair l hl).2

/-- **`tiles[idx]` – every accepted spelling of `(r, c)` is the tuple spelling**, for every tiling
(regular or variable, rows and columns different): `Index2d` / `XY` (however constructed) are looked
up as row `y`, column `x`. -/
theorem getItemArg_spellings (t : Tiling2) (r c : Int) :
    getItemArg t (.tuple [.idx r, .idx c]) = getItem2 t (.idx r) (.idx c) ∧
    getItemArg t (.index2d c r) = getItem2 t (.idx r) (.idx c) ∧
    getItemArg t (.xy c r) = getItem2 t (.idx r) (.idx c) :=
  ⟨rfl, rfl, rfl⟩

theorem getItemArg_pair (t : Tiling2) (iy ix : PIdx) :
    getItemArg t (.tuple [iy, ix]) = getItem2 t iy ix := rfl

/-- **refused forms never yield a tile**: a list / bare int / slice / `None`, the empty tuple and a
1-tuple are never answered with a region; the first two raise `ValueError`, the 1-tuple raises the
row's `IndexError` if the row is out of range and `ValueError` (unpacking) otherwise. -/
theorem getItemArg_rejected (t : Tiling2) :
    getItemArg t .other = .error .valueError ∧ getItemArg t (.tuple []) = .error .valueError ∧
    ∀ iy, (∀ s, getItemArg t (.tuple [iy]) ≠ .ok s) ∧
      (getItemArg t (.tuple [iy]) = .error .valueError ↔ (∃ s, t.y.getItem iy = .ok s) ∨
        t.y.getItem iy = .error .valueError) := by
  refine ⟨rfl, rfl, fun iy => ⟨fun s hs => ?_, ?_⟩⟩
  · obtain ⟨_, _, h⟩ := bind_ok_iff.1 (show (t.y.getItem iy >>= fun _ => .error .valueError) = .ok s from hs)
    cases h
  · show (t.y.getItem iy >>= fun _ => .error .valueError) = .error .valueError ↔ _
    rw [bind_eq_error_iff, or_comm]
    exact or_congr_left ⟨fun ⟨s, hs, _⟩ => ⟨s, hs⟩, fun ⟨s, hs⟩ => ⟨s, hs, rfl⟩⟩

/-- **a tuple longer than two is silently truncated by `[]`**: `roi_normalise` zips the index with
the 2-D shape, so members beyond the second are never looked at (not even validated) … -/
theorem getItemArg_long_tuple_truncated (t : Tiling2) (iy ix extra : PIdx) (more : List PIdx) :
    getItemArg t (.tuple (iy :: ix :: extra :: more)) = getItem2 t iy ix := rfl

/-- … while `tile_shape` / `locate` (which unpack through `iyx_`) refuse the same index:
`Tiles((10, 7), (3, 2))[1, 0, 99]` is tile `(1, 0)`, `tile_shape((1, 0, 99))` is a `ValueError`
(both replayed on the real code by the harness, signature `spelling|tuple3|…`). -/
theorem long_tuple_inconsistent_cex :
    getItemArg ⟨.reg 10 3, .reg 7 2⟩ (.tuple [.idx 1, .idx 0, .idx 99]) = .ok (⟨3, 6⟩, ⟨0, 2⟩) ∧
    tileShapeArg ⟨.reg 10 3, .reg 7 2⟩ (.tuple [.idx 1, .idx 0, .idx 99]) = .error (.std .valueError) ∧
    locateArg ⟨.reg 10 3, .reg 7 2⟩ (.tuple [.idx 1, .idx 0, .idx 99]) = .error (.std .valueError) := by
  decide

theorem liftA_zip2 {α : Type} (a b : Res α) :
    liftA (zip2 a b) = (do let x ← liftA a; let y ← liftA b; return (x, y) : ResA (α × α)) := by
  cases a <;> cases b <;> rfl

/-- **`tile_shape(idx)` / `locate(pix)` – every accepted spelling of `(r, c)` is the core lookup**
`tileShape2` / `locate2` at row `r`, column `c`. -/
theorem tileShapeArg_spellings (t : Tiling2) (r c : Int) :
    tileShapeArg t (.tuple [.idx r, .idx c]) = liftA (tileShape2 t r c) ∧
    tileShapeArg t (.index2d c r) = liftA (tileShape2 t r c) ∧
    tileShapeArg t (.xy c r) = liftA (tileShape2 t r c) := by
  have h : ∀ a, iyx a = .ok (iyx2 r c) → tileShapeArg t a = liftA (tileShape2 t r c) := by
    intro a ha
    rw [tileShape2, liftA_zip2]
    simp only [tileShapeArg, ha, liftA, iyx2, tileShapeP, bind, Except.bind]
  exact ⟨h _ rfl, h _ rfl, h _ rfl⟩

theorem locateArg_spellings (t : Tiling2) (py px : Int) :
    locateArg t (.tuple [.idx py, .idx px]) = liftA (locate2 t py px) ∧
    locateArg t (.index2d px py) = liftA (locate2 t py px) ∧
    locateArg t (.xy px py) = liftA (locate2 t py px) := by
  have h : ∀ a, iyx a = .ok (iyx2 py px) → locateArg t a = liftA (locate2 t py px) := by
    intro a ha
    rw [locate2, liftA_zip2]
    simp only [locateArg, ha, liftA, iyx2, locateP, bind, Except.bind]
  exact ⟨h _ rfl, h _ rfl, h _ rfl⟩

/-- `tile_shape` / `locate` refuse (with `ValueError`, before anything is looked up) every form
`iyx_` refuses – including every tuple that is not a pair. -/
theorem tileShapeArg_rejected (t : Tiling2) (a : IdxArg)
    (h : a = .other ∨ ∃ l, a = .tuple l ∧ l.length ≠ 2) :
    tileShapeArg t a = .error (.std .valueError) ∧ locateArg t a = .error (.std .valueError) := by
  have := (iyx_error_iff a .valueError).2 ⟨rfl, h⟩
  simp [tileShapeArg, locateArg, this, liftA, bind, Except.bind]

example : (IdxArg.tuple [.idx 1]) = .other ∨ ∃ l, IdxArg.tuple [.idx 1] = .tuple l ∧ l.length ≠ 2 :=
  .inr ⟨_, rfl, by decide⟩

/-- a slice where `tile_shape` / `locate` expect an int is a `TypeError` (row first) -/
theorem tileShapeArg_slice_row (t : Tiling2) (a b : Option Int) (ix : PIdx) :
    tileShapeArg t (.tuple [.slc a b, ix]) = .error .typeError ∧
    locateArg t (.tuple [.slc a b, ix]) = .error .typeError := ⟨rfl, rfl⟩

/-- **`GeoboxTiles[idx]`, `chunk_shape(idx)`, `pix_bbox(idx)` – every accepted spelling of `(r, c)`**
gives the tile GeoBox / shape / pixel box of the tuple spelling: with `gbt_tile_is_crop`
(Props/C04) tile `(r, c)` of the parent, never `(c, r)`. -/
theorem gbt_spellings (g : GeoboxTiles) (r c : Int) :
    (g.getItemArg (.tuple [.idx r, .idx c]) = g.getItem (.idx r) (.idx c) ∧
     g.getItemArg (.index2d c r) = g.getItem (.idx r) (.idx c) ∧
     g.getItemArg (.xy c r) = g.getItem (.idx r) (.idx c)) ∧
    (g.pixBBox (.index2d c r) = g.pixBBox (.tuple [.idx r, .idx c]) ∧
     g.pixBBox (.xy c r) = g.pixBBox (.tuple [.idx r, .idx c])) ∧
    (g.chunkShape (.tuple [.idx r, .idx c]) = liftA (tileShape2 g.tiles r c) ∧
     g.chunkShape (.index2d c r) = liftA (tileShape2 g.tiles r c) ∧
     g.chunkShape (.xy c r) = liftA (tileShape2 g.tiles r c)) :=
  ⟨⟨rfl, rfl, rfl⟩, ⟨rfl, rfl⟩, tileShapeArg_spellings g.tiles r c⟩

/-- `pix_bbox` is the region of `[]` in `(left, bottom, right, top) = (x0, y0, x1, y1)` order -/
theorem pixBBox_eq_region (g : GeoboxTiles) (a : IdxArg) (ry rx : NSlice)
    (h : getItemArg g.tiles a = .ok (ry, rx)) :
    g.pixBBox a = .ok (rx.start, ry.start, rx.stop, ry.stop) := by
  simp only [GeoboxTiles.pixBBox, h, bind, Except.bind]
  rfl

example : getItemArg ⟨.reg 10 3, .reg 7 2⟩ (.xy 0 1) = .ok (⟨3, 6⟩, ⟨0, 2⟩) := by decide

/-- every spelling of the shape `(ny, nx)` – `Shape2d(x=nx, y=ny)`, `XY(x=nx, y=ny)`, the sequence
`(ny, nx)` – is `(ny, nx)`: rows first, never swapped. -/
theorem shapeOf_spellings (ny nx : Int) :
    shapeOf (.shape2d nx ny) = .ok (ny, nx) ∧ shapeOf (.xy nx ny) = .ok (ny, nx) ∧
    shapeOf (.seq [ny, nx]) = .ok (ny, nx) := ⟨rfl, rfl, rfl⟩

theorem shapeOf_error_iff (s : ShapeArg) (e : ErrKind) :
    shapeOf s = .error e ↔ e = .valueError ∧ (s = .other ∨ ∃ l, s = .seq l ∧ l.length ≠ 2) := by
  refine error_iff_of_refused ?_ ?_
  · rintro (rfl | ⟨l, rfl, hl⟩)
    · rfl
    · exact ne_pair_cases l hl rfl (fun _ => rfl) fun _ _ _ _ => rfl
  · intro h
    match s, h with
    | .other, h => exact absurd (.inl rfl) h
    | .shape2d x y, _ => exact ⟨_, rfl⟩
    | .xy x y, _ => exact ⟨_, rfl⟩
    | .seq l, h =>
      obtain ⟨x, y, rfl⟩ := List.length_eq_two.1 (not_not.1 fun hl => h (.inr ⟨l, rfl, hl⟩))
      exact ⟨_, rfl⟩

theorem roiTiles_shape (s h : ShapeArg) (he : h ≠ .seq []) : roiTiles s (.shape h) = mkTiles s h := by
  cases h with
  | seq l => cases l with
    | nil => exact absurd rfl he
    | cons a l => rfl
  | _ => rfl

theorem mkTiles_of_shapes (s h : ShapeArg) (Ny Nx ny nx : Int)
    (hs : shapeOf s = .ok (Ny, Nx)) (hh : shapeOf h = .ok (ny, nx)) :
    mkTiles s h = if ny = 0 ∨ nx = 0 then .error .zeroDiv else .ok ⟨.reg Ny ny, .reg Nx nx⟩ := by
  simp only [mkTiles, hs, hh, mkCount, bind, Except.bind]
  by_cases hy : ny = 0
  · rw [if_pos hy, if_pos (Or.inl hy : ny = 0 ∨ nx = 0)]
  · rw [if_neg hy]
    by_cases hx : nx = 0
    · rw [if_pos hx, if_pos (Or.inr hx : ny = 0 ∨ nx = 0)]
    · rw [if_neg hx, if_neg (not_or.2 ⟨hy, hx⟩ : ¬ (ny = 0 ∨ nx = 0))]
      rfl

/-- **the regular dispatch hands the core model the tiling it assumes**: for every spelling of the
image shape `(Ny, Nx)` and of the tile shape `(ny, nx)` (non-zero; negative sizes are accepted by the
code as they are by this theorem) `roi_tiles` is `Tiles` with `Tiling.reg Ny ny` on the rows and
`Tiling.reg Nx nx` on the columns – `y` / `x` never exchanged. -/
theorem roiTiles_regular (s h : ShapeArg) (Ny Nx ny nx : Int)
    (hs : shapeOf s = .ok (Ny, Nx)) (hh : shapeOf h = .ok (ny, nx)) (hy : ny ≠ 0) (hx : nx ≠ 0) :
    roiTiles s (.shape h) = .ok ⟨.reg Ny ny, .reg Nx nx⟩ := by
  rw [roiTiles_shape s h (by rintro rfl; cases hh), mkTiles_of_shapes s h Ny Nx ny nx hs hh,
    if_neg (not_or.2 ⟨hy, hx⟩)]

example : shapeOf (.xy 7 10) = .ok (10, 7) ∧ shapeOf (.seq [3, 2]) = .ok (3, 2) ∧ (3 : Int) ≠ 0 ∧ (2 : Int) ≠ 0 :=
  ⟨rfl, rfl, by decide, by decide⟩

/-- **the chunk form ignores `shape`**: whatever is passed as the image shape (even something
`shape_` would refuse) the result is `VariableSizedTiles((y, x))` – rows from the first chunk tuple. -/
theorem roiTiles_variable_ignores_shape (s : ShapeArg) (y x : List Int) :
    roiTiles s (.chunks y [x]) = .ok ⟨.var y, .var x⟩ := rfl

/-- how `Tiles(base, tile)` fails: `ValueError` for a shape `shape_` refuses (the tile shape is read
first), `ZeroDivisionError` for a zero tile size -/
theorem mkTiles_error_iff (s h : ShapeArg) (e : ErrKind) :
    mkTiles s h = .error e ↔
      ((∃ e', shapeOf h = .error e') ∨ (∃ e', shapeOf s = .error e')) ∧ e = .valueError ∨
      (∃ Ny Nx ny nx, shapeOf s = .ok (Ny, Nx) ∧ shapeOf h = .ok (ny, nx) ∧ (ny = 0 ∨ nx = 0) ∧
        e = .zeroDiv) := by
  constructor
  · intro hm
    cases hh : shapeOf h with
    | error eh =>
      simp only [mkTiles, hh, bind, Except.bind] at hm
      cases hm
      exact .inl ⟨.inl ⟨_, rfl⟩, ((shapeOf_error_iff h _).1 hh).1⟩
    | ok p =>
      cases hs : shapeOf s with
      | error es =>
        simp only [mkTiles, hh, hs, bind, Except.bind] at hm
        cases hm
        exact .inl ⟨.inr ⟨_, rfl⟩, ((shapeOf_error_iff s _).1 hs).1⟩
      | ok q =>
        rw [mkTiles_of_shapes s h q.1 q.2 p.1 p.2 hs hh] at hm
        split at hm
        · next hz =>
          cases hm
          exact .inr ⟨_, _, _, _, rfl, rfl, hz, rfl⟩
        · cases hm
  · rintro (⟨⟨e', hh⟩ | ⟨e', hs⟩, rfl⟩ | ⟨Ny, Nx, ny, nx, hs, hh, hz, rfl⟩)
    · obtain rfl := ((shapeOf_error_iff h e').1 hh).1
      simp only [mkTiles, hh, bind, Except.bind]
    · obtain rfl := ((shapeOf_error_iff s e').1 hs).1
      cases hh : shapeOf h with
      | error eh =>
        obtain rfl := ((shapeOf_error_iff h eh).1 hh).1
        simp only [mkTiles, hh, bind, Except.bind]
      | ok p => simp only [mkTiles, hh, hs, bind, Except.bind]
    · rw [mkTiles_of_shapes s h Ny Nx ny nx hs hh, if_pos hz]

/-- **every way `roi_tiles` can fail** (exact): `IndexError` for the empty tuple / list (`how[0]`);
`ZeroDivisionError` for a zero tile size (both shapes understood); `ValueError` for a sequence of
chunk tuples that is not a pair, or a shape / tile shape `shape_` refuses. -/
theorem roiTiles_error_iff (s : ShapeArg) (how : HowArg) (e : ErrKind) :
    roiTiles s how = .error e ↔
      (how = .shape (.seq []) ∧ e = .indexError) ∨
      (∃ c0 rest, how = .chunks c0 rest ∧ rest.length ≠ 1 ∧ e = .valueError) ∨
      (∃ h, how = .shape h ∧ h ≠ .seq [] ∧
        (((∃ e', shapeOf h = .error e') ∨ (∃ e', shapeOf s = .error e')) ∧ e = .valueError ∨
         (∃ Ny Nx ny nx, shapeOf s = .ok (Ny, Nx) ∧ shapeOf h = .ok (ny, nx) ∧ (ny = 0 ∨ nx = 0) ∧
           e = .zeroDiv))) := by
  constructor
  · intro hr
    cases how with
    | chunks c0 rest =>
      match rest, hr with
      | [], hr => cases hr; exact .inr (.inl ⟨_, _, rfl, nofun, rfl⟩)
      | _ :: _ :: _, hr => cases hr; exact .inr (.inl ⟨_, _, rfl, nofun, rfl⟩)
    | shape h =>
      by_cases he : h = .seq []
      · subst he
        cases hr
        exact .inl ⟨rfl, rfl⟩
      · rw [roiTiles_shape s h he] at hr
        exact .inr (.inr ⟨h, rfl, he, (mkTiles_error_iff s h e).1 hr⟩)
  · rintro (⟨rfl, rfl⟩ | ⟨c0, rest, rfl, hl, rfl⟩ | ⟨h, rfl, he, hm⟩)
    · rfl
    · exact ne_single_cases rest hl rfl fun _ _ _ => rfl
    · rw [roiTiles_shape s h he]
      exact (mkTiles_error_iff s h e).2 hm

/-- a given `_tiles` is used as is, whatever `tile_shape` says (`_crop` passes `(0, 0)`, `clip` `None`) -/
theorem gbtInit_given (box : GBox) (how : Option HowArg) (t : Tiling2) :
    gbtInit box how (some t) = .ok ⟨box, t⟩ := rfl

/-- **a regular `GeoboxTiles` always tiles exactly its GeoBox**: the base of the tiling is the
GeoBox shape, rows / columns in place. -/
theorem gbtInit_regular_base (box : GBox) (h : ShapeArg) (g : GeoboxTiles)
    (hg : gbtInit box (some (.shape h)) none = .ok g) :
    g.base = box ∧ ∃ ny nx, shapeOf h = .ok (ny, nx) ∧ g.tiles = ⟨.reg box.ny ny, .reg box.nx nx⟩ ∧
      g.tiles.y.base = box.ny ∧ g.tiles.x.base = box.nx := by
  simp only [gbtInit, bind, Except.bind] at hg
  cases hr : roiTiles (.shape2d box.nx box.ny) (.shape h) with
  | error e => rw [hr] at hg; cases hg
  | ok t =>
    rw [hr] at hg
    cases hg
    refine ⟨rfl, ?_⟩
    have hne : h ≠ .seq [] := by rintro rfl; cases hr
    rw [roiTiles_shape _ h hne] at hr
    cases hh : shapeOf h with
    | error e =>
      simp only [mkTiles, hh, bind, Except.bind] at hr
      cases hr
    | ok p =>
      obtain ⟨ny, nx⟩ := p
      rw [mkTiles_of_shapes _ h box.ny box.nx ny nx rfl hh] at hr
      split at hr
      · cases hr
      · cases hr; exact ⟨ny, nx, rfl, rfl, rfl, rfl⟩

example : gbtInit ⟨10, 7, Aff.translation 0 0⟩ (some (.shape (.seq [3, 2]))) none =
    .ok ⟨⟨10, 7, Aff.translation 0 0⟩, ⟨.reg 10 3, .reg 7 2⟩⟩ := rfl

/-- **the constructor as found (`gbtInit`) does not tie a variable `GeoboxTiles` to its GeoBox**: the
chunk tuples are taken as they are (`box.shape` is never consulted), so the tiling covers the GeoBox
exactly iff the (`int32`) chunk sums happen to equal its shape.  The repaired constructor (`gbtInitR`,
Model/C04Args; theorems in Props/C04Pin) refuses the other case. -/
theorem gbtInit_variable_covers_iff (box : GBox) (chy chx : List Int) :
    gbtInit box (some (.chunks chy [chx])) none = .ok ⟨box, ⟨.var chy, .var chx⟩⟩ ∧
    (((⟨.var chy, .var chx⟩ : Tiling2).y.base = box.ny ∧ (⟨.var chy, .var chx⟩ : Tiling2).x.base = box.nx) ↔
      vbase chy = box.ny ∧ vbase chx = box.nx) := ⟨rfl, Iff.rfl⟩

/-- … and when they do not, nothing is raised: `GeoboxTiles(GeoBox((4, 7), …), ((3, 3), (2, 9)))`
constructs, and tile `(1, 1)` is the pixel region `3:6, 2:11` – outside the 4 x 7 GeoBox it claims to
partition.  `gbt_variable_exceeds_geobox_refused` (Props/C04Pin) is the same call on the repaired
constructor. -/
theorem gbt_variable_exceeds_geobox_cex :
    (∀ box, gbtInit box (some (.chunks [3, 3] [[2, 9]])) none = .ok ⟨box, ⟨.var [3, 3], .var [2, 9]⟩⟩) ∧
    getItemArg ⟨.var [3, 3], .var [2, 9]⟩ (.tuple [.idx 1, .idx 1]) = .ok (⟨3, 6⟩, ⟨2, 11⟩) ∧
    ¬ ((6 : Int) ≤ 4) ∧ ¬ ((11 : Int) ≤ 7) := by
  refine ⟨fun _ => rfl, by decide, by decide, by decide⟩

theorem splicePlanes_erase (lead trail : List Nat) (a b : PIdx) :
    (splicePlanes lead trail [.win a, .win b]).map (·.map eraseWin) = planesYX lead trail := by
  simp only [splicePlanes, planesYX, List.map_map]
  apply List.map_congr_left
  intro idx _
  simp [eraseWin, Function.comp_def]

/-- `planes_yx(yx_roi)` raises exactly for a `yx_roi` that is not a pair (`ValueError`, unpacking) -/
theorem planesYXWith_error_iff (lead trail : List Nat) (yx : Option (List PIdx)) (e : ErrKind) :
    planesYXWith lead trail yx = .error e ↔ e = .valueError ∧ ∃ l, yx = some l ∧ l.length ≠ 2 := by
  refine error_iff_of_refused ?_ ?_
  · rintro ⟨l, rfl, hl⟩
    exact ne_pair_cases l hl rfl (fun _ => rfl) fun _ _ _ _ => rfl
  · intro h
    match yx, h with
    | none, _ => exact ⟨_, rfl⟩
    | some l, h =>
      obtain ⟨x, y, rfl⟩ := List.length_eq_two.1 (not_not.1 fun hl => h ⟨l, rfl, hl⟩)
      exact ⟨_, rfl⟩

/-- **`planes_yx` with a given `Y, X` window is still one-to-one**: forgetting the window gives
exactly the planes of `planes_yx()` (`planesYX`, one per index vector of the other axes:
`planesYX_mem`), so no plane is produced twice (`planesYX_nodup`); and every plane carries the given
pair – not `:` – at positions `axis`, `axis + 1`. -/
theorem planesYXWith_spec (lead trail : List Nat) (yx : Option (List PIdx)) (ps : List (List PlaneEl))
    (h : planesYXWith lead trail yx = .ok ps) :
    ps.map (·.map eraseWin) = planesYX lead trail ∧ ps.Nodup ∧
    ∀ p ∈ ps, p.length = lead.length + 2 + trail.length ∧
      match yx with
      | none => p[lead.length]? = some (.win (.slc none none)) ∧ p[lead.length + 1]? = some (.win (.slc none none))
      | some l => p[lead.length]? = (l[0]?).map .win ∧ p[lead.length + 1]? = (l[1]?).map .win := by
  have key : ∀ a b, ps = splicePlanes lead trail [.win a, .win b] →
      ps.map (·.map eraseWin) = planesYX lead trail ∧ ps.Nodup ∧
      ∀ p ∈ ps, p.length = lead.length + 2 + trail.length ∧
        p[lead.length]? = some (.win a) ∧ p[lead.length + 1]? = some (.win b) := by
    rintro a b rfl
    have he := splicePlanes_erase lead trail a b
    refine ⟨he, List.Nodup.of_map _ (he ▸ planesYX_nodup lead trail), ?_⟩
    intro p hp
    obtain ⟨idx, hidx, rfl⟩ := List.mem_map.1 hp
    have hl := ndindex_length _ _ hidx
    rw [List.length_append] at hl
    have l1 : ((idx.take lead.length).map PlaneEl.ax).length = lead.length := by
      rw [List.length_map, List.length_take, hl]
      exact Nat.min_eq_left (Nat.le_add_right _ _)
    refine ⟨?_, splice_fst l1 _ _ _, splice_snd l1 _ _ _⟩
    rw [splice_length l1, List.length_map, List.length_drop, hl, Nat.add_sub_cancel_left]
  cases yx with
  | none =>
    cases h
    exact key _ _ rfl
  | some l =>
    match l, h with
    | [ry, rx], h =>
      cases h
      exact key _ _ rfl

example : planesYXWith [2] [3] (some [.slc (some 0) (some 1), .idx 1]) =
    .ok (splicePlanes [2] [3] [.win (.slc (some 0) (some 1)), .win (.idx 1)]) := rfl

/-- **`w_[roi]` of a normalised pair is the rasterio window of the same extent**: the window rows /
columns are `(start, stop)` of the slices, and `stop - start` is what `roi_shape` reports. -/
theorem window_of_normalised (sy sx : NSlice) :
    windowFromSlice (.seq [sy.toPIdx, sx.toPIdx]) =
      .ok (some ((sy.start, some sy.stop), (sx.start, some sx.stop))) ∧
    roiShape (.tuple [sy.toPIdx, sx.toPIdx]) = .ok [sy.stop - sy.start, sx.stop - sx.start] :=
  ⟨rfl, rfl⟩

/-- `w_[…]`: `None` passes through; an open start is `0`, an open stop stays `None`; anything that
is not a 2-sequence is a `ValueError`; an int member has no `.start` (`AttributeError`). -/
theorem windowFromSlice_cases (a b c d : Option Int) (i : Int) (p : PIdx) :
    windowFromSlice .none = .ok none ∧ windowFromSlice .other = .error (.std .valueError) ∧
    windowFromSlice (.seq [.slc a b, .slc c d]) = .ok (some ((a.getD 0, b), (c.getD 0, d))) ∧
    windowFromSlice (.seq [.idx i, p]) = .error .attributeError ∧
    windowFromSlice (.seq [.slc a b, .idx i]) = .error .attributeError ∧
    (∀ l : List PIdx, l.length ≠ 2 → windowFromSlice (.seq l) = .error (.std .valueError)) := by
  refine ⟨rfl, rfl, ?_, rfl, rfl, ?_⟩
  · cases a <;> cases c <;> rfl
  · exact fun l hl => ne_pair_cases l hl rfl (fun _ => rfl) fun _ _ _ _ => rfl

end OdcGeo.C04
