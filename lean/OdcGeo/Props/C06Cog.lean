/-
C05 ∘ C06 ∘ C18 — `save_cog_with_dask(..., dst=<file>)` from the tile stream to the bytes on disk, in one statement:

* C05 (`Model/C05.lean`, read-only): the tiles are streamed in `writeOrder`, `_patch_hdr` turns the observed
  `(size, id)` list into the offset / byte-count tables of the header;
* C06 (`Model/C06Dask.lean`): `mpu_write` over ANY cutting of that stream into bags and partitions, with the graph
  shape the code builds (dask fold `split_every = 4`, collate), any spill size and writes-per-chunk;
* C18 (`Model/C18.lean`, read-only): the writer calls performed on `MPUFileSink`, finalised with the list C06 hands over.

No tree, no schedule, no "the parts concatenate to the stream" hypothesis: only the arguments.
-/
import OdcGeo.Props.C06Dask
import OdcGeo.Props.C05
import OdcGeo.Props.C18C06


namespace OdcGeo.C06
open OdcGeo

/-- payloads of all chunks of a list of bags, in stream order -/
def bagsChunks {α : Type} (bags : List (List (List (List α × Int)))) : List (List α) :=
  (bags.flatten.map fun p => p.map (·.1)).flatten

theorem bagsBytes_eq_flatten {α : Type} (bags : List (List (List (List α × Int)))) :
    bagsBytes bags = (bagsChunks bags).flatten := by
  rw [bagsBytes, bagsChunks, List.flatten_flatten, List.map_map]
  rfl

/-- **The header table addresses the tiles inside the assembled parts**, for ANY writer limits: the part common to the
file-sink and the S3 variant.  `mpu_write` over any cutting of the `writeOrder` stream into bags / partitions (graph shape
derived in the model) succeeds, `_patch_hdr` succeeds on the observed stream, the parts handed to `finalise` concatenate to
header ++ tiles, and every tile with data sits at the `(off, size)` its patched header entry names. -/
theorem cog_header_addresses_assembled_parts (W : Writer) (spill wpc : Nat) (bags : List (List (List (List Nat × Int))))
    (mkHdr : Option (List (Nat × Int) → List Nat))
    (hb : bags ≠ []) (hp : ∀ b ∈ bags, b ≠ []) (hc : ∀ b ∈ bags, ∀ p ∈ b, p ≠ [])
    (hcap : W.minPart + 1 + bags.flatten.length * wpc ≤ W.maxPart + 1)
    (hdrSz : Nat) (hH : (optBytes (mkHdr.map (fun f => f (bagsObs bags)))).length = hdrSz)
    (m0 : C05.Meta) (rest : List C05.Meta) (hpl : ∀ m ∈ rest, m.planes = m0.planes)
    (hcount : (bagsChunks bags).length = (C05.writeOrder (m0 :: rest)).length) :
    let ms := m0 :: rest
    let tiles := List.zipWith C05.obsOf (C05.writeOrder ms) ((bagsChunks bags).map List.length)
    ∃ t wsF fp wsAll info,
      mpuWriteTree mpuWriteSplitEvery bags = some t ∧ t.NonEmpty ∧ t.leaves = bags.flatten.length ∧
      t.obs = bagsObs bags ∧ t.bytes = bagsBytes bags ∧
      run ⟨some W, spill, wpc, true⟩ t mkHdr none = .ok (.written wsF fp, wsAll, bagsObs bags) ∧
      C05.patchHdr ms tiles hdrSz = .ok info ∧
      partsBytes fp = optBytes (mkHdr.map (fun f => f (bagsObs bags))) ++ bagsBytes bags ∧
      ∀ i (hi : i < tiles.length) (hci : i < (bagsChunks bags).length), tiles[i].sz ≠ 0 →
        ∃ l f off, C05.obsKey ms tiles[i] = .ok (l, f) ∧ C05.look info l f = some (off, tiles[i].sz) ∧
          ((partsBytes fp).drop off).take tiles[i].sz = (bagsChunks bags)[i] := by
  intro ms tiles
  obtain ⟨t, ht, _, hbytes, hobs, hleaves, hne⟩ := mpu_write_tree_leaves mpuWriteSplitEvery (by decide) bags hb hp
  replace hne := hne hc
  obtain ⟨wsF, fp, wsAll, hrun, hx, _⟩ := main W spill wpc t mkHdr none hne (by rw [hleaves]; exact hcap)
  rw [hobs, hbytes] at hx
  have hszs : tiles.map (·.sz) = (bagsChunks bags).map List.length :=
    C05.zipWith_obsOf_sz _ _ (by simp only [List.length_map, hcount, ms])
  obtain ⟨info, hpatch, hlook⟩ := C05.write_order_patched m0 rest hpl ((bagsChunks bags).map List.length) hdrSz
  refine ⟨t, wsF, fp, wsAll, info, ht, hne, hleaves, hobs, hbytes, hobs ▸ hrun, hpatch, hx.trans (List.append_nil _), ?_⟩
  intro i hi hci hnz
  obtain ⟨l, f, hkey, hlookP⟩ := hlook i hi hnz
  refine ⟨l, f, C05.streamOff 0 tiles i + hdrSz, hkey, hlookP, ?_⟩
  rw [Nat.add_comm, C05.streamOff_of_sizes hszs, Nat.zero_add, C05.sz_of_sizes hszs i hi hci, hx, bagsBytes_eq_flatten,
    ← hH]
  exact slice_flatten _ _ _ i hci

/-- **A COG written through `mpu_write` to a file: every header entry addresses exactly its tile's bytes ON DISK.**

For every pyramid `ms = m0 :: rest` (same plane count on every level), every cutting of the tile stream into bags and
partitions (≥ 1 partition per bag, ≥ 1 tile per partition, as many tiles as `writeOrder ms` lists, tile sizes arbitrary
incl. 0), every writer limits with enough part numbers, spill size, writes-per-chunk, and a header callback whose
result has the fixed length `hdrSz`:

* `mpu_write` (graph shape derived in the model) succeeds and shows the callback the complete `(size, id)` list;
* `_patch_hdr` succeeds on the observed stream;
* the writer calls, performed on the file sink and finalised with C06's list, leave the destination file
  = header ++ all tiles in stream order, no parts directory, no error;
* for every tile with data the patched header holds `(off, size)` and the FILE holds exactly that tile's bytes at
  `[off, off + size)`. -/
theorem cog_file_end_to_end (W : Writer) (spill wpc : Nat) (bags : List (List (List (List Nat × Int))))
    (mkHdr : Option (List (Nat × Int) → List Nat))
    (hb : bags ≠ []) (hp : ∀ b ∈ bags, b ≠ []) (hc : ∀ b ∈ bags, ∀ p ∈ b, p ≠ [])
    (hcap : W.minPart + 1 + bags.flatten.length * wpc ≤ W.maxPart + 1)
    (hdrSz : Nat) (hH : (optBytes (mkHdr.map (fun f => f (bagsObs bags)))).length = hdrSz)
    (m0 : C05.Meta) (rest : List C05.Meta) (hpl : ∀ m ∈ rest, m.planes = m0.planes)
    (hcount : (bagsChunks bags).length = (C05.writeOrder (m0 :: rest)).length) :
    let ms := m0 :: rest
    let tiles := List.zipWith C05.obsOf (C05.writeOrder ms) ((bagsChunks bags).map List.length)
    ∃ wsF fp wsAll info,
      mpuWrite (some W) spill wpc bags mkHdr none = some (.ok (.written wsF fp, wsAll, bagsObs bags)) ∧
      C05.patchHdr ms tiles hdrSz = .ok info ∧
      (C18.Sink.finalise true (C18.sinkAfter wsAll) (fp.map (·.id)) false).2 = none ∧
      (C18.Sink.finalise true (C18.sinkAfter wsAll) (fp.map (·.id)) false).1.dirExists = false ∧
      (C18.Sink.finalise true (C18.sinkAfter wsAll) (fp.map (·.id)) false).1.dst =
        some (optBytes (mkHdr.map (fun f => f (bagsObs bags))) ++ bagsBytes bags) ∧
      ∀ file, (C18.Sink.finalise true (C18.sinkAfter wsAll) (fp.map (·.id)) false).1.dst = some file →
        ∀ i (hi : i < tiles.length) (hci : i < (bagsChunks bags).length), tiles[i].sz ≠ 0 →
          ∃ l f off, C05.obsKey ms tiles[i] = .ok (l, f) ∧ C05.look info l f = some (off, tiles[i].sz) ∧
            (file.drop off).take tiles[i].sz = (bagsChunks bags)[i] := by
  intro ms tiles
  obtain ⟨t, wsF, fp, wsAll, info, ht, hne, hleaves, hobs, hbytes, hrun, hpatch, hx, haddr⟩ :=
    cog_header_addresses_assembled_parts W spill wpc bags mkHdr hb hp hc hcap hdrSz hH m0 rest hpl hcount
  obtain ⟨wsF', fp', wsAll', hrun', _, hs2, hs3, hs4, _⟩ :=
    C18.mpu_write_to_file_sink W spill wpc t mkHdr none hne (by rw [hleaves]; exact hcap)
  have hsame := hrun.symm.trans hrun'
  simp only [Except.ok.injEq, Prod.mk.injEq, Out.written.injEq] at hsame
  obtain ⟨⟨-, rfl⟩, rfl, -⟩ := hsame
  have hdst : (C18.Sink.finalise true (C18.sinkAfter wsAll) (fp.map (·.id)) false).1.dst =
      some (optBytes (mkHdr.map (fun f => f (bagsObs bags))) ++ bagsBytes bags) := by
    rw [hs3, hobs, hbytes]
    exact congrArg some (List.append_nil _)
  refine ⟨wsF, fp, wsAll, info, by rw [mpuWrite_eq_run hb ht]; exact congrArg some hrun, hpatch, hs2, hs4, hdst, ?_⟩
  intro file hfile i hi hci hnz
  obtain rfl : partsBytes fp = file := hx.trans (Option.some.inj (hdst.symm.trans hfile))
  exact haddr i hi hci hnz

/-- non-vacuity: a two-level single-band pyramid (1×3 and 1×2 tiles), streamed as two bags -/
example :
    let ms : List C05.Meta := [⟨1, ⟨8, 40⟩, ⟨16, 16⟩⟩, ⟨1, ⟨4, 20⟩, ⟨16, 16⟩⟩]
    let bags : List (List (List (List Nat × Int))) := [[[([1, 2], 0), ([3], 1)]], [[([4], 2)], [([], 3), ([5, 6], 4)]]]
    bags ≠ [] ∧ (∀ b ∈ bags, b ≠ []) ∧ (∀ b ∈ bags, ∀ p ∈ b, p ≠ []) ∧
      (bagsChunks bags).length = (C05.writeOrder ms).length ∧ (1 + 1 + bags.flatten.length * 1 ≤ 10000 + 1) := by
  decide

end OdcGeo.C06
