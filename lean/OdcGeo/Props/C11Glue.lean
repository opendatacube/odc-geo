/-
C11 — the glue around `compute_output_geobox` (Model/C11Glue.lean): argument forms of `resolution=`,
GCP sources, the centre-pixel estimate computed from the projected centre-pixel box, keyword defaults of
`GeoBox.to_crs` / `.odc.output_geobox`, argument dispatch of `CRS.utm` and `norm_crs`.
-/
import OdcGeo.Model.C11Glue
import OdcGeo.Props.C11

namespace OdcGeo.C11
open OdcGeo

/-- A plain number `r` (int or float) as `resolution=` means pixels
`(r, -r)`; a `Resolution` object is used as given. -/
theorem resolution_number_is_square_inverted (r rx ry : Rat) :
    resModeOf (.num r) = .explicit r (-r) ∧ resModeOf (.res rx ry) = .explicit rx ry := ⟨rfl, rfl⟩

/-- Only the exact lower-case words select a mode: every other string, and every
value that is neither a number nor a `Resolution`, ends in the `ValueError` branch. -/
theorem resolution_words_exact (s : String) :
    (resModeOf (.str s) = .auto ↔ s = "auto") ∧ (resModeOf (.str s) = .same ↔ s = "same") ∧
    (resModeOf (.str s) = .fit ↔ s = "fit") ∧
    (s ≠ "auto" → s ≠ "same" → s ≠ "fit" → resModeOf (.str s) = .badString) ∧ resModeOf .other = .badString := by
  refine ⟨?_, ?_, ?_, ?_, rfl⟩ <;> unfold resModeOf <;> split <;> simp_all

/-- a bad `resolution=` raises `ValueError` exactly when the resolution is needed: never with a shape request,
never on the identity fast path (which it cannot take), always otherwise. -/
theorem bad_resolution_raises (g : Bool) (c : Captured) (shape : ShapeReq) (tight : Bool) (anchor : Anchor) (tol : Rat)
    (rnd : Rounding) :
    (shape = .none → computeOutputAny g c .badString shape tight anchor tol rnd = .error .valueError) ∧
    (shape ≠ .none → computeOutputAny g c .badString shape tight anchor tol rnd
        = (fromBbox c.bbox shape none anchor tight tol).map Out.grid) := by
  constructor
  · rintro rfl
    cases g <;> simp [computeOutputAny, computeOutput, chooseRes]
  · intro hs
    cases g <;> simp [computeOutputAny, computeOutput, chooseRes, hs]

/-- either kind of source is `computeOutput` with the CRS-equality flag masked by `isinstance(gbox, GeoBox)` -/
theorem computeOutputAny_eq (g : Bool) (c : Captured) (mode : ResMode) (shape : ShapeReq) (tight : Bool)
    (anchor : Anchor) (tol : Rat) (rnd : Rounding) :
    computeOutputAny g c mode shape tight anchor tol rnd
      = computeOutput { c with sameCrs := g && c.sameCrs } mode shape tight anchor tol rnd := by
  cases g with
  | true => rfl
  | false =>
    have : chooseRes { c with sameCrs := false } mode shape rnd = chooseRes c mode shape rnd := by
      cases mode <;> rfl
    simp only [computeOutputAny, computeOutput, Bool.false_and, Bool.false_eq_true, if_false, false_and, this]
    rfl

/-- For a `GCPGeoBox` source `compute_output_geobox` behaves exactly like for a
`GeoBox` source whose CRS differs from the destination: the identity fast path is never taken, everything
else is the same computation.  All C11 theorems about `computeOutput` therefore hold for GCP sources. -/
theorem gcp_source_as_other_crs (c : Captured) (mode : ResMode) (shape : ShapeReq) (tight : Bool) (anchor : Anchor)
    (tol : Rat) (rnd : Rounding) :
    computeOutputAny false c mode shape tight anchor tol rnd
      = computeOutput { c with sameCrs := false } mode shape tight anchor tol rnd ∧
    computeOutputAny false c mode shape tight anchor tol rnd ≠ .ok .source ∧
    computeOutputAny true c mode shape tight anchor tol rnd = computeOutput c mode shape tight anchor tol rnd := by
  refine ⟨computeOutputAny_eq false c mode shape tight anchor tol rnd, ?_, computeOutputAny_eq true c _ _ _ _ _ _⟩
  rw [computeOutputAny_eq]
  exact computeOutput_ne_source _ _ _ _ _ _ _ fun h => Bool.false_ne_true h.1

/-- `GeoBox.from_bbox(cp_bbox, shape=(1, 1), tight=True).resolution` never fails and is the
span of the projected centre-pixel box, y inverted. -/
theorem cp_res_is_span (cp : BBox) :
    cpResOf cp = .ok (cp.right - cp.left, -(cp.top - cp.bottom)) := by
  simp [cpResOf, fromBbox, snapOf, Except.map, Aff.mul_def, Aff.mul, Aff.translation, Aff.scale]

/-- the centre-pixel resolution is read on the fit path only -/
theorem computeOutput_cpRes_irrelevant (g : Bool) (c : Captured) (cp' : Rat × Rat) (mode : ResMode) (shape : ShapeReq)
    (tight : Bool) (anchor : Anchor) (tol : Rat) (rnd : Rounding)
    (hnf : ¬ (shape = .none ∧ (mode = .fit ∨ (mode = .auto ∧ c.sameUnits = false)))) :
    computeOutputAny g { c with cpRes := cp' } mode shape tight anchor tol rnd
      = computeOutputAny g c mode shape tight anchor tol rnd := by
  have hch : chooseRes { c with cpRes := cp' } mode shape rnd = chooseRes c mode shape rnd := by
    unfold chooseRes
    split
    · rfl
    · rename_i hs
      cases mode with
      | fit => exact absurd ⟨not_not.1 hs, .inl rfl⟩ hnf
      | auto =>
        cases hu : c.sameUnits with
        | true => simp
        | false => exact absurd ⟨not_not.1 hs, .inr ⟨rfl, hu⟩⟩ hnf
      | _ => rfl
  cases g <;> simp only [computeOutputAny, computeOutput, hch, Bool.false_eq_true, if_false, if_true]

/-- `resolution="fit"` (and `"auto"` across different units) for either kind of
source, without custom rounding, **from the projected centre-pixel box**: whenever that box has a positive span
on at least one axis the output pixels are square, positive in x, inverted in y, and their size is the average
of `span_x / sx` and `span_y / sy`.  (The hypothesis `cpRes ≠ 0` of `out_resolution_positive_square` follows
from the span hypothesis through `cp_res_is_span`.) -/
theorem fit_from_centre_pixel_box (g : Bool) (c : CapturedCp) (mode : ResMode) (tight : Bool) (anchor : Anchor)
    (tol : Rat) (gr : Grid) (hm : mode = .fit ∨ (mode = .auto ∧ c.sameUnits = false))
    (hspan : c.cpBBox.left < c.cpBBox.right ∨ c.cpBBox.bottom < c.cpBBox.top)
    (h : computeOutputCp g c mode .none tight anchor tol .none = .ok (.grid gr)) :
    0 < gr.A.a ∧ gr.A.e = -gr.A.a ∧
      gr.A.a = (rabs ((c.cpBBox.right - c.cpBBox.left) / c.fitScale.1)
                + rabs ((c.cpBBox.top - c.cpBBox.bottom) / c.fitScale.2)) / 2 := by
  have hnf : needsFit c mode .none = true := by
    rcases hm with rfl | ⟨rfl, hu⟩ <;> simp [needsFit, *]
  unfold computeOutputCp at h
  split at h
  · cases h
  · simp only [cp_res_is_span, computeOutputAny_eq] at h
    have hne : c.cpBBox.right - c.cpBBox.left ≠ 0 ∨ -(c.cpBBox.top - c.cpBBox.bottom) ≠ 0 :=
      hspan.imp (fun hx => (sub_pos.2 hx).ne') (fun hy => neg_ne_zero.2 (sub_pos.2 hy).ne')
    obtain ⟨p1, p2, p3⟩ := out_resolution_positive_square _ mode tight anchor tol gr hm hne h
    refine ⟨p1, p2, ?_⟩
    rw [p3]
    simp only [neg_div, rabs_eq_abs, abs_neg]

/-- non-vacuity: a fit request with the centre-pixel box `[0, 32] × [0, 16]` and scales `(2, 1)` gives 16-unit pixels -/
example :
    computeOutputCp true ⟨false, false, (1 / 4, -1 / 4), ⟨100, 200, 1000, 900⟩, ⟨0, 0, 32, 16⟩, (2, 1)⟩ .fit .none false
      .dflt (1 / 100) .none = .ok (.grid ⟨45, 57, ⟨16, 0, 96, 0, -16, 912⟩⟩) := by
  decide +kernel

/-- `GeoBox.to_crs(crs)` / `.odc.output_geobox(crs)` / `xr_reproject(src, crs)` without
options is `compute_output_geobox(gbox, crs, resolution="auto", shape=None, tight=False, anchor="default",
tol=0.01, round_resolution=None)`; every option that is passed replaces exactly its own default. -/
theorem to_crs_defaults (g : Bool) (c : Captured) :
    toCrs g c {} = computeOutputAny g c .auto .none false .dflt tolDefault .none ∧
    (∀ t, toCrs g c { tol := some t } = computeOutputAny g c .auto .none false .dflt t .none) ∧
    (∀ b, toCrs g c { tight := some b } = computeOutputAny g c .auto .none b .dflt tolDefault .none) ∧
    (∀ a, toCrs g c { anchor := some a } = computeOutputAny g c .auto .none false a tolDefault .none) ∧
    (∀ s, toCrs g c { shape := some s } = computeOutputAny g c .auto s false .dflt tolDefault .none) ∧
    (∀ r, toCrs g c { resolution := some r } = computeOutputAny g c (resModeOf r) .none false .dflt tolDefault .none) ∧
    (∀ r, toCrs g c { rnd := some r } = computeOutputAny g c .auto .none false .dflt tolDefault r) :=
  ⟨rfl, fun _ => rfl, fun _ => rfl, fun _ => rfl, fun _ => rfl, fun _ => rfl, fun _ => rfl⟩

/-- `gbox.to_crs(<own CRS>)` / `xx.odc.output_geobox(<own CRS>)` with no option
(or only `tight=` / `tol=` / `round_resolution=`, also with `resolution="same"`) returns the source GeoBox itself;
a `GCPGeoBox` never does. -/
theorem own_crs_defaults_identity (c : Captured) (hc : c.sameCrs = true) (t : Option Bool) (tol : Option Rat)
    (r : Option Rounding) :
    toCrs true c { tight := t, tol := tol, rnd := r } = .ok .source ∧
    toCrs true c { resolution := some (.str "same"), tight := t, tol := tol, rnd := r } = .ok .source ∧
    toCrs false c { tight := t, tol := tol, rnd := r } ≠ .ok .source :=
  ⟨out_same_crs_identity c .auto _ _ _ hc (.inl rfl),
    out_same_crs_identity c .same (t.getD false) (tol.getD tolDefault) (r.getD .none) hc (.inr rfl),
    (gcp_source_as_other_crs c _ _ _ _ _ _).2.1⟩

/-- `.odc.output_geobox` on an object without geobox raises `ValueError`, whatever the options -/
theorem output_geobox_needs_geobox (g : Bool) (c : Captured) (a : GridArgs) :
    outputGeobox false g c a = .error .valueError ∧ outputGeobox true g c a = toCrs g c a := ⟨rfl, rfl⟩

/-- `to_crs(crs, resolution=r)` with a plain number: the grid (never the
source object) has pixel size exactly `(r, -r)`. -/
theorem number_resolution_used_as_given (c : Captured) (r : Rat) (a : GridArgs) (o : Out)
    (ha : a.resolution = some (.num r)) (hs : a.shape = none ∨ a.shape = some .none)
    (h : toCrs true c a = .ok o) :
    ∃ gr, o = .grid gr ∧ gr.A.a = r ∧ gr.A.e = -r ∧ gr.A.b = 0 ∧ gr.A.d = 0 := by
  have hshape : a.shape.getD .none = .none := by rcases hs with h' | h' <;> simp [h']
  simp only [toCrs, ha, Option.getD_some, resModeOf, hshape, computeOutputAny, if_true] at h
  cases o with
  | source => exact absurd h (computeOutput_ne_source _ _ _ _ _ _ _ fun hf => by simpa using hf.2.1)
  | grid gr =>
    obtain ⟨h1, h2⟩ := out_explicit_resolution c r (-r) _ _ _ _ gr h
    obtain ⟨h3, h4, _⟩ := out_axis_aligned c _ _ _ _ _ gr h
    exact ⟨gr, rfl, h1, h2, h3, h4⟩

/-- `CRS.utm(x)`, `CRS.utm(x, y)` and `CRS.utm(xy_(x, y))` query a degenerate box at that
point (`y` defaulting to 0); a `BoundingBox` is used as is; a `Geometry` with a CRS through its lon/lat box. -/
theorem utm_point_forms (x y : Rat) (b ll : BBox) :
    utmBBox (.num x none) = ⟨x, 0, x, 0⟩ ∧ utmBBox (.num x (some y)) = ⟨x, y, x, y⟩ ∧
    utmBBox (.xy x y) = utmBBox (.num x (some y)) ∧ utmBBox (.bbox b) = b ∧
    utmBBox (.geom true b ll) = ll ∧ utmBBox (.geom false b ll) = b := ⟨rfl, rfl, rfl, rfl, rfl, rfl⟩

/-- A `CRS` object is returned as is; `None` / `Unset` give `None` (`ValueError` from
`norm_crs_or_error`); a string is a UTM request exactly when its lower-cased text starts with `utm` (then a
context is required: `AssertionError` without), otherwise — like any other value — it is what `CRS(...)` makes
of it (`CRSError`, a `RuntimeError`, when that fails). -/
theorem norm_crs_dispatch (i : Nat) (raw : String) (parsed : Option Nat) (ctx : Bool) :
    normCrsArg (.obj i) ctx = .ok (.crs i) ∧
    normCrsArg .none ctx = .ok .none ∧ normCrsArg .unset ctx = .ok .none ∧
    normCrsOrError .none ctx = .error .valueError ∧ normCrsOrError .unset ctx = .error .valueError ∧
    (∀ req, parseUtm raw = some req → normCrsArg (.str raw parsed) true = .ok (.utm req) ∧
        normCrsArg (.str raw parsed) false = .error .assertion) ∧
    (parseUtm raw = none → normCrsArg (.str raw parsed) ctx = normCrsArg (.other parsed) ctx) ∧
    normCrsArg (.other none) ctx = .error .runtimeError := by
  refine ⟨rfl, rfl, rfl, rfl, rfl, ?_, ?_, rfl⟩
  · intro req hr
    simp [normCrsArg, hr]
  · intro hr
    simp [normCrsArg, hr]

/-- `norm_crs_or_error` never returns `None` -/
theorem norm_crs_or_error_some (a : CrsArg) (ctx : Bool) (r : NormCrs) (h : normCrsOrError a ctx = .ok r) :
    r ≠ .none := by
  unfold normCrsOrError at h
  split at h
  · cases h
  · rename_i hne
    intro hr
    subst hr
    exact hne h

end OdcGeo.C11
