/-
C02 — GeoBox views agree with its pixel-to-world mapping.

Everything is over exact rationals (DESIGN §3.1); `g` ranges over *all* geoboxes (any
integer shape incl. 1×N / N×1, any affine: mirrored, non-square, rotated, sheared; any CRS
tag incl. `0 = None`), parameters over all values.  A hypothesis is present only where the
code itself needs it (`det ≠ 0` for the inverse, `0 < factor` for "covers", …).
-/
import OdcGeo.Model.C02
import OdcGeo.Spec.PySlice
import OdcGeo.Lemmas.Affine
import OdcGeo.Lemmas.C02
import OdcGeo.Lemmas.C17
import Mathlib.Tactic.Linarith
import Mathlib.Tactic.Ring
import Mathlib.Tactic.LinearCombination
import Mathlib.Algebra.Order.Field.Rat
import OdcGeo.Lemmas.Except

namespace OdcGeo.C02
open OdcGeo OdcGeo.C17 OdcGeo.PySlice

theorem wld2pix_pix2wld (g : GeoBox) (h : g.A.det ≠ 0) (p : Pt) :
    wld2pix g (pix2wld g p) = .ok p :=
  Aff.inv?_bind_ok_iff.mpr ⟨h, congrArg Except.ok (Aff.inv_apply_apply g.A h p)⟩

theorem pix2wld_wld2pix (g : GeoBox) (w p : Pt) (h : wld2pix g w = .ok p) :
    pix2wld g p = w := by
  obtain ⟨hd, h⟩ := Aff.inv?_bind_ok_iff.mp h
  rw [← Except.ok.inj h, pix2wld, Aff.apply_inv_apply g.A hd]

theorem wld2pix_error_iff (g : GeoBox) (w : Pt) :
    wld2pix g w = .error .valueError ↔ g.A.det = 0 := by
  unfold wld2pix Aff.inv?
  by_cases hd : g.A.det = 0 <;> simp [hd, bind, Except.bind, pure, Except.pure]

/-- The footprint ring is the image of the four pixel-rectangle corners, in the order
`(0,0), (0,ny), (nx,ny), (nx,0)`, closed. -/
theorem extent_is_image (g : GeoBox) :
    extent g = [pix2wld g (0, 0), pix2wld g (0, g.ny), pix2wld g (g.nx, g.ny),
                pix2wld g (g.nx, 0), pix2wld g (0, 0)] := by
  simp [extent, corners, pix2wld]

/-- Every point `(u·nx, v·ny)` (inside the pixel rectangle `[0,nx]×[0,ny]` for barycentric
weights `u, v ∈ [0,1]`) is mapped to the combination of the four footprint vertices with the
same weights: the image of the rectangle is the set of these convex combinations. -/
theorem extent_covers_rectangle (g : GeoBox) (u v : Rat) :
    pix2wld g (u * g.nx, v * g.ny) =
      let P0 := pix2wld g (0, 0); let P1 := pix2wld g (0, g.ny)
      let P2 := pix2wld g (g.nx, g.ny); let P3 := pix2wld g (g.nx, 0)
      ((1 - u) * (1 - v) * P0.1 + (1 - u) * v * P1.1 + u * v * P2.1 + u * (1 - v) * P3.1,
       (1 - u) * (1 - v) * P0.2 + (1 - u) * v * P1.2 + u * v * P2.2 + u * (1 - v) * P3.2) := by
  refine (congrArg g.A.apply (Prod.ext ?_ ?_)).trans
    (Aff.apply_combo4 g.A _ _ _ _ (0, 0) (0, g.ny) (g.nx, g.ny) (g.nx, 0) (by ring)) <;> simp only <;> ring

/-- The bounding box is the coordinate-wise min / max of the four corner images. -/
theorem bbox_is_image_hull (g : GeoBox) :
    let P0 := pix2wld g (0, 0); let P1 := pix2wld g (0, g.ny)
    let P2 := pix2wld g (g.nx, g.ny); let P3 := pix2wld g (g.nx, 0)
    boundingbox g = ⟨min4 P0.1 P1.1 P2.1 P3.1, min4 P0.2 P1.2 P2.2 P3.2,
                     max4 P0.1 P1.1 P2.1 P3.1, max4 P0.2 P1.2 P2.2 P3.2⟩ := by
  simp [boundingbox, pix2wld]

/-- … and it contains the image of every point of the pixel rectangle (any affine:
rotated, sheared, mirrored). -/
theorem bbox_contains_image (g : GeoBox) (x y : Rat)
    (hx0 : 0 ≤ x) (hx1 : x ≤ g.nx) (hy0 : 0 ≤ y) (hy1 : y ≤ g.ny) :
    (boundingbox g).left ≤ (pix2wld g (x, y)).1 ∧ (pix2wld g (x, y)).1 ≤ (boundingbox g).right ∧
    (boundingbox g).bottom ≤ (pix2wld g (x, y)).2 ∧ (pix2wld g (x, y)).2 ≤ (boundingbox g).top := by
  obtain ⟨x00, x01, x11, x10⟩ := min4_max4_mem (g.A.apply (0, 0)).1 (g.A.apply (0, g.ny)).1
    (g.A.apply (g.nx, g.ny)).1 (g.A.apply (g.nx, 0)).1
  obtain ⟨y00, y01, y11, y10⟩ := min4_max4_mem (g.A.apply (0, 0)).2 (g.A.apply (0, g.ny)).2
    (g.A.apply (g.nx, g.ny)).2 (g.A.apply (g.nx, 0)).2
  exact g.A.apply_mem_box ⟨hx0, hx1⟩ ⟨hy0, hy1⟩ ⟨x00.1, x00.2, y00⟩ ⟨x10.1, x10.2, y10⟩ ⟨x11.1, x11.2, y11⟩
    ⟨x01.1, x01.2, y01⟩

/-- … and it is tight: every side passes through a footprint vertex. -/
theorem bbox_tight (g : GeoBox) :
    (∃ p ∈ corners g, (boundingbox g).left = (pix2wld g p).1) ∧
    (∃ p ∈ corners g, (boundingbox g).right = (pix2wld g p).1) ∧
    (∃ p ∈ corners g, (boundingbox g).bottom = (pix2wld g p).2) ∧
    (∃ p ∈ corners g, (boundingbox g).top = (pix2wld g p).2) := by
  exact ⟨choice4_attained min min_choice (fun p => (pix2wld g p).1),
    choice4_attained max max_choice (fun p => (pix2wld g p).1),
    choice4_attained min min_choice (fun p => (pix2wld g p).2),
    choice4_attained max max_choice (fun p => (pix2wld g p).2)⟩

/-- The code before `fix: BoundingBox.from_transform …` used only the images of `(0,0)`
and `(nx,ny)`. -/
def boundingboxOld (g : GeoBox) : BBox :=
  let p1 := g.A.apply (0, 0)
  let p2 := g.A.apply ((g.nx : Rat), (g.ny : Rat))
  ⟨min p1.1 p2.1, min p1.2 p2.2, max p1.1 p2.1, max p1.2 p2.2⟩

/-- Witness that the old two-corner box does not contain the footprint of a rotated grid:
2×2 pixels, `A = [[3,-4],[4,3]]` (a 3-4-5 rotation): corner `(0,2) ↦ (-8, 6)` lies left of
the old box `[-2, 0] × [0, 14]`.  Replayed on the real (unfixed) code by the harness. -/
theorem bbox_two_corners_cex :
    let g : GeoBox := ⟨2, 2, ⟨3, -4, 0, 4, 3, 0⟩, 0⟩
    ¬ ((boundingboxOld g).left ≤ (pix2wld g (0, 2)).1) := by
  decide +kernel

/-- `coordinates` answers exactly for axis-aligned grids (`|b|,|d| < 1e-10`) and then has
one label per pixel. -/
theorem coords_defined_iff (g : GeoBox) :
    (∃ ys xs, coordinates g = .ok (ys, xs) ∧ ys.length = g.ny.toNat ∧ xs.length = g.nx.toNat) ↔
      isAffineST g.A = true := by
  by_cases h : isAffineST g.A = true <;> simp [coordinates, h, labels]

theorem labels_get {n : Int} (r t : Rat) {i : Nat} (hi : i < n.toNat) :
    (labels n r t)[i]? = some ((i : Rat) * r + (t + r / 2)) := by
  simp only [labels, List.getElem?_map, List.getElem?_range hi, Option.map_some]

theorem coordinates_ok {g : GeoBox} {ys xs : List Rat} (h : coordinates g = .ok (ys, xs)) :
    ys = labels g.ny g.A.e g.A.f ∧ xs = labels g.nx g.A.a g.A.c := by
  unfold coordinates at h
  split at h
  · exact ⟨(Prod.mk.inj (Except.ok.inj h)).1.symm, (Prod.mk.inj (Except.ok.inj h)).2.symm⟩
  · cases h

/-- The `i`-th x label is the x coordinate of the centre `(i+½, ·)` of pixel column `i`,
the `j`-th y label the y coordinate of the centre of row `j` — for **every** pixel of a
grid without rotation / shear terms. -/
theorem coords_are_centres (g : GeoBox) (hb : g.A.b = 0) (hd : g.A.d = 0)
    (ys xs : List Rat) (h : coordinates g = .ok (ys, xs)) :
    (∀ i : Nat, i < g.nx.toNat → ∀ y : Rat,
        xs[i]? = some (pix2wld g ((i : Rat) + 1 / 2, y)).1) ∧
    (∀ j : Nat, j < g.ny.toNat → ∀ x : Rat,
        ys[j]? = some (pix2wld g (x, (j : Rat) + 1 / 2)).2) := by
  obtain ⟨rfl, rfl⟩ := coordinates_ok h
  refine ⟨fun i hi y => ?_, fun j hj x => ?_⟩
  · rw [labels_get _ _ hi, pix2wld, Aff.apply, hb]; congr 1; ring
  · rw [labels_get _ _ hj, pix2wld, Aff.apply, hd]; congr 1; ring

/-- With a sub-tolerance shear term (accepted by `is_affine_st`) the label is still the
centre's image up to that term: `label i = (pix2wld (i+½, y)).x − b·y`. -/
theorem coords_centres_upto_shear (g : GeoBox) (ys xs : List Rat)
    (h : coordinates g = .ok (ys, xs)) (i : Nat) (hi : i < g.nx.toNat) (y : Rat) :
    xs[i]? = some ((pix2wld g ((i : Rat) + 1 / 2, y)).1 - g.A.b * y) := by
  obtain ⟨rfl, rfl⟩ := coordinates_ok h
  rw [labels_get _ _ hi, pix2wld, Aff.apply]; congr 1; ring

/-- the Cholesky factor of `AᵀA` has the determinant of `A` up to sign: with `n² = a² + d²`, `w = (ab + de) / n`
and `m² = b² + e² − w²`, `(n m)² = (ae − bd)²` (Lagrange's identity) -/
theorem chol_diag_sq {a b d e n m : Rat} (hn : n ≠ 0) (hn2 : n * n = a * a + d * d)
    (hm2 : m * m = b * b + e * e - ((a * b + d * e) / n) * ((a * b + d * e) / n)) :
    (n * m) * (n * m) = (a * e - b * d) * (a * e - b * d) := by
  have hw : (a * b + d * e) / n * n = a * b + d * e := div_mul_cancel₀ _ hn
  generalize (a * b + d * e) / n = w at hm2 hw
  linear_combination (n * n) * hm2 + (b * b + e * e) * hn2 - (w * n + (a * b + d * e)) * hw

/-- Axis-aligned resolution: the signed pixel sizes, i.e. one pixel step in x / y moves
the world point by `(rx, 0)` / `(0, ry)`. -/
theorem resolution_st (g : GeoBox) (hb : g.A.b = 0) (hd : g.A.d = 0) (n m : Rat) (p : Pt) :
    ∃ rx ry, resolution g n m = .ok (rx, ry) ∧
      pix2wld g (p.1 + 1, p.2) = ((pix2wld g p).1 + rx, (pix2wld g p).2) ∧
      pix2wld g (p.1, p.2 + 1) = ((pix2wld g p).1, (pix2wld g p).2 + ry) := by
  refine ⟨g.A.a, g.A.e, resolution_of_st g n m (isAffineST_of_zero hb hd), ?_, ?_⟩
  · simp only [pix2wld, Aff.apply, hb, hd, Prod.mk.injEq]; constructor <;> ring
  · simp only [pix2wld, Aff.apply, hb, hd, Prod.mk.injEq]; constructor <;> ring

theorem resolution_rot_spec {g : GeoBox} (hns : isAffineST g.A = false) (hdet : g.A.det ≠ 0)
    {n m : Rat} (hn : 0 < n) (hn2 : n * n = g.A.a * g.A.a + g.A.d * g.A.d) (hm : 0 < m)
    (hm2 : m * m = g.A.b * g.A.b + g.A.e * g.A.e
              - ((g.A.a * g.A.b + g.A.d * g.A.e) / n) * ((g.A.a * g.A.b + g.A.d * g.A.e) / n)) :
    ∃ ry, resolution g n m = .ok (n, ry) ∧ n * ry = g.A.det ∧ ry * ry = m * m := by
  have hnm : 0 < n * m := mul_pos hn hm
  rcases mul_self_eq_mul_self_iff.mp (chol_diag_sq hn.ne' hn2 hm2) with h | h
  · have hneg : ¬ g.A.det / (n * m) < 0 := by
      rw [div_lt_iff₀ hnm, zero_mul, Aff.det, ← h]; exact not_lt.mpr hnm.le
    exact ⟨m, by rw [resolution_of_not_st g n m hns hdet, if_neg hneg], h, rfl⟩
  · have hD : -(n * m) = g.A.det := neg_eq_iff_eq_neg.mpr h
    have hneg : g.A.det / (n * m) < 0 := by
      rw [div_lt_iff₀ hnm, zero_mul, ← hD]; exact neg_neg_of_pos hnm
    exact ⟨-m, by rw [resolution_of_not_st g n m hns hdet, if_pos hneg], by rw [mul_neg, hD], neg_mul_neg m m⟩

/-- Rotated / sheared resolution (`decompose_rws`): with `n = √(a²+d²)` and
`m = √(b²+e²-w²)`, `w = (ab+de)/n` supplied as witnesses, `rx = n` is the length of one
pixel step in x, and `rx·ry = det A` is the signed area of a pixel (so `|ry|` is the
pixel height measured perpendicular to the x step, negative for a mirrored grid). -/
theorem resolution_rotated (g : GeoBox) (hns : isAffineST g.A = false) (hdet : g.A.det ≠ 0)
    (n m : Rat) (hn : 0 < n) (hn2 : n * n = g.A.a * g.A.a + g.A.d * g.A.d)
    (hm : 0 < m)
    (hm2 : m * m = g.A.b * g.A.b + g.A.e * g.A.e
              - ((g.A.a * g.A.b + g.A.d * g.A.e) / n) * ((g.A.a * g.A.b + g.A.d * g.A.e) / n)) :
    ∃ rx ry, resolution g n m = .ok (rx, ry) ∧ rx = n ∧ rx * rx = g.A.a ^ 2 + g.A.d ^ 2 ∧
      rx * ry = g.A.det := by
  obtain ⟨ry, h, hp, -⟩ := resolution_rot_spec hns hdet hn hn2 hm hm2
  exact ⟨n, ry, h, rfl, by rw [hn2, sq, sq], hp⟩

/-- the hypotheses of `resolution_rotated` are satisfiable: the 3-4-5 rotation scaled by 2 -/
example : ∃ rx ry, resolution ⟨5, 7, ⟨6, -8, 1, 8, 6, 2⟩, 1⟩ 10 10 = .ok (rx, ry) ∧ rx = 10 ∧
    rx * ry = 100 := ⟨10, 10, by decide +kernel, rfl, by norm_num⟩

/-- For a rotated / sheared grid `resolution.y` is the signed distance between consecutive
pixel rows (`det / |column 0|`), never longer than the slanted pixel edge `(b, e)`, and equal
to it in length exactly when the pixel edges are orthogonal; `|rx · ry|` is the pixel area. -/
theorem resolution_sheared_row_distance (g : GeoBox) (hns : isAffineST g.A = false) (hdet : g.A.det ≠ 0)
    (n m : Rat) (hn : 0 < n) (hn2 : n * n = g.A.a * g.A.a + g.A.d * g.A.d) (hm : 0 < m)
    (hm2 : m * m = g.A.b * g.A.b + g.A.e * g.A.e
              - ((g.A.a * g.A.b + g.A.d * g.A.e) / n) * ((g.A.a * g.A.b + g.A.d * g.A.e) / n)) :
    ∃ rx ry, resolution g n m = .ok (rx, ry) ∧ ry = g.A.det / rx ∧ |rx * ry| = |g.A.det| ∧
      ry * ry ≤ g.A.b * g.A.b + g.A.e * g.A.e ∧
      (ry * ry = g.A.b * g.A.b + g.A.e * g.A.e ↔ g.A.a * g.A.b + g.A.d * g.A.e = 0) := by
  obtain ⟨ry, h, hp, hsq⟩ := resolution_rot_spec hns hdet hn hn2 hm hm2
  refine ⟨n, ry, h, eq_div_of_mul_eq hn.ne' (mul_comm ry n ▸ hp), by rw [hp], ?_, ?_⟩
  · rw [hsq, hm2]; exact sub_le_self _ (mul_self_nonneg _)
  · rw [hsq, hm2, sub_eq_self, mul_self_eq_zero, div_eq_zero_iff, or_iff_left hn.ne']

/-- The slanted-edge length is *not* the resolution of a sheared grid: for the unit shear
`[[1, 1], [0, 1]]` the row distance is 1 while the edge `(1, 1)` has squared length 2. -/
theorem resolution_sheared_not_edge_length_cex :
    resolution ⟨3, 3, ⟨1, 1, 0, 0, 1, 0⟩, 0⟩ 1 1 = .ok (1, 1) ∧ ((1 : Rat) * 1 ≠ 1 * 1 + 1 * 1) := by
  decide +kernel

/-! Pixel contracts of the view operations.  For a view `g' = op g` the contract has the form
`pix2wld g' p = pix2wld g (T p)` for **all** (also fractional) pixel positions `p`,
together with the shape law and `g'.crs = g.crs`. -/

theorem pix2wld_translated (g : GeoBox) {ny nx : Int} {crs : Nat} {tx ty : Rat} (q : Pt) :
    pix2wld ⟨ny, nx, g.A * Aff.translation tx ty, crs⟩ q = pix2wld g (q.1 + tx, q.2 + ty) := by
  simp only [pix2wld, Aff.apply_mul, Aff.apply_translation]

theorem pix2wld_scaled (g : GeoBox) {ny nx : Int} {crs : Nat} {sx sy : Rat} (q : Pt) :
    pix2wld ⟨ny, nx, g.A * Aff.scale sx sy, crs⟩ q = pix2wld g (sx * q.1, sy * q.2) := by
  simp only [pix2wld, Aff.apply_mul, Aff.apply_scale]

/-- `gbox * T` (pixel-side composition): `X_old = T · X_new`. -/
theorem mul_pixel (g : GeoBox) (T : Aff) (p : Pt) :
    pix2wld (mulPix g T) p = pix2wld g (T.apply p) ∧
    (mulPix g T).ny = g.ny ∧ (mulPix g T).nx = g.nx ∧ (mulPix g T).crs = g.crs := by
  simp [mulPix, pix2wld, Aff.apply_mul]

/-- `T * gbox` (world-side composition): the footprint is transformed by `T`. -/
theorem rmul_pixel (T : Aff) (g : GeoBox) (p : Pt) :
    pix2wld (mulWld T g) p = T.apply (pix2wld g p) ∧
    (mulWld T g).ny = g.ny ∧ (mulWld T g).nx = g.nx ∧ (mulWld T g).crs = g.crs := by
  simp [mulWld, pix2wld, Aff.apply_mul]

/-- Cropping / indexing with any pair of index expressions (ints, negative, open or closed
slices): pixel `(i,j)` of the view is pixel `(i + x0, j + y0)` of the parent, where
`x0, y0` are the normalised starts; the shape is the normalised ROI shape. -/
theorem crop_pixel (g : GeoBox) (sy sx : PIdx) (p : Pt) :
    pix2wld (crop g (.two sy sx)) p
      = pix2wld g (p.1 + ((normSlice sx g.nx).start : Rat), p.2 + ((normSlice sy g.ny).start : Rat)) ∧
    (crop g (.two sy sx)).ny = (normSlice sy g.ny).stop - (normSlice sy g.ny).start ∧
    (crop g (.two sy sx)).nx = (normSlice sx g.nx).stop - (normSlice sx g.nx).start ∧
    (crop g (.two sy sx)).crs = g.crs :=
  ⟨pix2wld_translated g p, rfl, rfl, rfl⟩

/-- A bare index `gbox[s]` (int or slice) is `gbox[s, :]` — in particular `gbox[-1]` is the
last row (this is what `fix: GeoBox[-1] …` repairs). -/
theorem crop_one_eq_two (g : GeoBox) (s : PIdx) :
    crop g (.one s) = crop g (.two s (.slc none none)) := rfl

/-- One axis of a slice crop against numpy: numpy's bounds are the normalised ones clamped to `n` (`C17.bounds_eq`);
`hstop` rules the clamp out at the stop, and at the start it cannot matter. -/
theorem normSlice_sel (n : Int) (a b : Option Int) (hn : 0 ≤ n)
    (hstop : (normSlice (.slc a b) n).stop ≤ n) (i : Int) :
    (0 ≤ i ∧ i < (normSlice (.slc a b) n).stop - (normSlice (.slc a b) n).start) ↔
      (0 ≤ i ∧ Sel n (.slc a b) ((normSlice (.slc a b) n).start + i)) := by
  simp only [Sel, bounds_eq n hn a b, min_eq_left hstop]
  omega

/-- Tie to numpy semantics (`Spec/PySlice`): for a slice whose normalised stop does not
exceed the axis length, column `i` of the view exists iff numpy selects column
`start + i` of the parent — the view has exactly the selected columns, in order. -/
theorem crop_selects_numpy (g : GeoBox) (sy : PIdx) (a b : Option Int) (hn : 0 ≤ g.nx)
    (hstop : (normSlice (.slc a b) g.nx).stop ≤ g.nx) (i : Int) :
    (0 ≤ i ∧ i < (crop g (.two sy (.slc a b))).nx) ↔
      (0 ≤ i ∧ Sel g.nx (.slc a b) ((normSlice (.slc a b) g.nx).start + i)) :=
  normSlice_sel g.nx a b hn hstop i

/-- An in-range integer index (also negative) gives a one-row view at numpy's row. -/
theorem crop_int_index (g : GeoBox) (k : Int) (hk : -g.ny ≤ k ∧ k < g.ny) (sx : PIdx) :
    (crop g (.two (.idx k) sx)).ny = 1 ∧
    Sel g.ny (.idx k) (normSlice (.idx k) g.ny).start := by
  simp only [crop, normSlice, add_sub_cancel_left, Int.cast_ite, Int.cast_add, Sel, true_and]; omega

/-- The code does **not** clamp positive bounds to the parent shape (numpy does):
`gbox[5:30]` of a 10-row geobox has 25 rows.  Recorded behaviour, replayed by the harness. -/
theorem crop_beyond_parent_not_clamped_cex :
    (crop ⟨10, 20, Aff.id, 0⟩ (.one (.slc (some 5) (some 30)))).ny = 25 := by decide +kernel

/-- The code before `fix: GeoBox[-1] …`: a bare int `k` became `slice(k, k+1)`. -/
def cropIntOld (g : GeoBox) (k : Int) : GeoBox := crop g (.one (.slc (some k) (some (k + 1))))

/-- … which for `k = -1` gives a negative number of rows (`1 - ny`). -/
theorem crop_int_minus_one_old_cex : (cropIntOld ⟨10, 20, Aff.id, 0⟩ (-1)).ny = -9 := by
  decide +kernel

theorem crop_window (g : GeoBox) {y0 y1 x0 x1 : Int} (hy0 : 0 ≤ y0) (hy1 : 0 ≤ y1) (hx0 : 0 ≤ x0) (hx1 : 0 ≤ x1) :
    crop g (.two (.slc (some y0) (some y1)) (.slc (some x0) (some x1)))
      = ⟨y1 - y0, x1 - x0, g.A * Aff.translation (x0 : Rat) (y0 : Rat), g.crs⟩ := by
  simp only [crop, normSlice_of_nonneg _ hy0 hy1, normSlice_of_nonneg _ hx0 hx1]

theorem hull_mem {pts : List Pt} {p : Pt} (hp : p ∈ pts) :
    minL 0 (pts.map (·.1)) ≤ p.1 ∧ p.1 ≤ maxL 0 (pts.map (·.1)) ∧
    minL 0 (pts.map (·.2)) ≤ p.2 ∧ p.2 ≤ maxL 0 (pts.map (·.2)) :=
  ⟨minL_le 0 _ _ (List.mem_map_of_mem hp), le_maxL 0 _ _ (List.mem_map_of_mem hp),
    minL_le 0 _ _ (List.mem_map_of_mem hp), le_maxL 0 _ _ (List.mem_map_of_mem hp)⟩

theorem floor_clip_spec (m : Rat) :
    ((max m.floor 0 : Int) : Rat) ≤ max m 0 ∧ max m 0 < ((max m.floor 0 : Int) : Rat) + 1 := by
  rw [Int.cast_max, Int.cast_zero]
  obtain ⟨h0, h⟩ := floor_bounds m
  exact ⟨max_le_max h0 le_rfl,
    max_lt (h.trans_le (add_le_add_left (le_max_left _ _) 1))
      (lt_of_lt_of_le zero_lt_one (le_add_of_nonneg_left (le_max_right _ _)))⟩

theorem ceil_clip_spec (M : Rat) (n : Int) :
    min M n ≤ ((min M.ceil n : Int) : Rat) ∧ ((min M.ceil n : Int) : Rat) - 1 < min M n := by
  rw [Int.cast_min]
  have h : (M.ceil : Rat) - 1 < M := sub_lt_iff_lt_add.mpr Rat.ceil_lt
  exact ⟨min_le_min Rat.le_ceil le_rfl,
    lt_min ((sub_le_sub_right (min_le_left _ _) 1).trans_lt h)
      ((sub_le_sub_right (min_le_right _ _) 1).trans_lt (sub_one_lt _))⟩

theorem le_add_max_one_sub {L R : Int} : (R : Rat) ≤ (L : Rat) + ((max 1 (R - L) : Int) : Rat) := by
  have : R ≤ L + max 1 (R - L) := by omega
  exact_mod_cast this

theorem cropRegionPix_cons (g : GeoBox) (p0 : Pt) (ps : List Pt) :
    let xs := (p0 :: ps).map (·.1); let ys := (p0 :: ps).map (·.2)
    let L := max (C17.minL 0 xs).floor 0; let R := min (C17.maxL 0 xs).ceil g.nx
    let B := max (C17.minL 0 ys).floor 0; let T := min (C17.maxL 0 ys).ceil g.ny
    cropRegionPix g (p0 :: ps) = .ok ⟨max 1 (T - B), max 1 (R - L), g.A * Aff.translation L B, g.crs⟩ := by
  intro xs ys L R B T
  have hL : (0 : Int) ≤ L := le_max_right _ _
  have hB : (0 : Int) ≤ B := le_max_right _ _
  have hL' : 0 ≤ L + max 1 (R - L) := Int.add_nonneg hL (le_trans Int.one_nonneg (le_max_left _ _))
  have hB' : 0 ≤ B + max 1 (T - B) := Int.add_nonneg hB (le_trans Int.one_nonneg (le_max_left _ _))
  refine congrArg Except.ok ((crop_window g hB hB' hL hL').trans ?_)
  rw [add_sub_cancel_left, add_sub_cancel_left]

/-- Exact description of `gbox[region]` for a non-empty vertex list (already in pixel
coordinates): with `mx, Mx` the extreme x of the region, the window starts at column
`L = max ⌊mx⌋ 0`, i.e. `L ≤ max mx 0 < L + 1`, and ends at `R = min ⌈Mx⌉ nx`, i.e.
`R − 1 < min Mx nx ≤ R` (same for rows): the smallest whole-pixel window containing the part
of the region's bounding box inside the image; its width is `max 1 (R − L)` (one pixel for a
degenerate or outside region), and the part cut off at the left / top does **not** widen it. -/
theorem crop_region_tight (g : GeoBox) (p0 : Pt) (ps : List Pt) :
    let xs := (p0 :: ps).map (·.1); let ys := (p0 :: ps).map (·.2)
    let mx := C17.minL 0 xs; let Mx := C17.maxL 0 xs; let my := C17.minL 0 ys; let My := C17.maxL 0 ys
    let L := max mx.floor 0; let R := min Mx.ceil g.nx; let B := max my.floor 0; let T := min My.ceil g.ny
    ∃ g', cropRegionPix g (p0 :: ps) = .ok g' ∧ g'.nx = max 1 (R - L) ∧ g'.ny = max 1 (T - B) ∧
      g'.crs = g.crs ∧ (∀ q : Pt, pix2wld g' q = pix2wld g (q.1 + L, q.2 + B)) ∧
      (L : Rat) ≤ max mx 0 ∧ max mx 0 < (L : Rat) + 1 ∧ min Mx g.nx ≤ (R : Rat) ∧ (R : Rat) - 1 < min Mx g.nx ∧
      (B : Rat) ≤ max my 0 ∧ max my 0 < (B : Rat) + 1 ∧ min My g.ny ≤ (T : Rat) ∧ (T : Rat) - 1 < min My g.ny := by
  intro xs ys mx Mx my My L R B T
  exact ⟨_, cropRegionPix_cons g p0 ps, rfl, rfl, rfl, pix2wld_translated g,
    (floor_clip_spec mx).1, (floor_clip_spec mx).2, (ceil_clip_spec Mx g.nx).1, (ceil_clip_spec Mx g.nx).2,
    (floor_clip_spec my).1, (floor_clip_spec my).2, (ceil_clip_spec My g.ny).1, (ceil_clip_spec My g.ny).2⟩

/-- the hypotheses are satisfiable, and the overhang over the left edge does not widen the window:
a region spanning columns `[-6, 5.5]` of a 20-column image gives columns `0:6` (not `0:12`). -/
theorem crop_region_left_overhang_example :
    cropRegionPix ⟨10, 20, Aff.id, 1⟩ [(-6, 2), (11 / 2, 3)] = .ok ⟨1, 6, ⟨1, 0, 0, 0, 1, 2⟩, 1⟩ := by
  decide +kernel

/-- `gbox[region]` is a whole-pixel window of the parent (pixel `(i,j)` of the view is pixel
`(i+L, j+B)` of the parent, `L, B ≥ 0`, same crs) that contains every region vertex lying inside
the parent's pixel rectangle. -/
theorem crop_region_covers (g g' : GeoBox) (pts : List Pt) (h : cropRegionPix g pts = .ok g')
    (p : Pt) (hp : p ∈ pts) (hx : 0 ≤ p.1 ∧ p.1 ≤ g.nx) (hy : 0 ≤ p.2 ∧ p.2 ≤ g.ny) :
    ∃ L B : Int, 0 ≤ L ∧ 0 ≤ B ∧ g'.crs = g.crs ∧ 1 ≤ g'.nx ∧ 1 ≤ g'.ny ∧
      (∀ q : Pt, pix2wld g' q = pix2wld g (q.1 + L, q.2 + B)) ∧
      (L : Rat) ≤ p.1 ∧ p.1 ≤ (L : Rat) + g'.nx ∧ (B : Rat) ≤ p.2 ∧ p.2 ≤ (B : Rat) + g'.ny := by
  cases pts with
  | nil => cases hp
  | cons p0 ps =>
    obtain ⟨g'', h', hnx, hny, hcrs, hpix, a1, -, a3, -, b1, -, b3, -⟩ := crop_region_tight g p0 ps
    obtain rfl : g'' = g' := Except.ok.inj (h'.symm.trans h)
    obtain ⟨mx, Mx, my, My⟩ := hull_mem hp
    refine ⟨_, _, le_max_right _ _, le_max_right _ _, hcrs, hnx ▸ le_max_left _ _, hny ▸ le_max_left _ _, hpix,
      a1.trans (max_le mx hx.1), ?_, b1.trans (max_le my hy.1), ?_⟩
    · rw [hnx]; exact ((le_min Mx hx.2).trans a3).trans le_add_max_one_sub
    · rw [hny]; exact ((le_min My hy.2).trans b3).trans le_add_max_one_sub

/-- `g[g[roi]] = g[roi]`: indexing a geobox with one of its own (non-empty, in-range) windows
returns that window — for **every** invertible affine (rotated, sheared, mirrored) and every
CRS.  True in exact arithmetic; in doubles the projected corners land at `k ± 1e-12` pixels
and the outward rounding adds a pixel on most arbitrary float grids (the harness' float stream
counts these cases as `window-of-self:grown-by-float-noise`; no registered finding).  For a CRS-less
parent the code takes the window's (CRS-less) footprint for *pixel* coordinates, hence
`g.crs ≠ 0`. -/
theorem crop_window_of_self (g : GeoBox) (hdet : g.A.det ≠ 0) (hcrs : g.crs ≠ 0)
    (x0 x1 y0 y1 : Int) (hx : 0 ≤ x0 ∧ x0 < x1 ∧ x1 ≤ g.nx) (hy : 0 ≤ y0 ∧ y0 < y1 ∧ y1 ≤ g.ny) :
    cropGeoBox g (crop g (.two (.slc (some y0) (some y1)) (.slc (some x0) (some x1))))
      = .ok (crop g (.two (.slc (some y0) (some y1)) (.slc (some x0) (some x1)))) := by
  rw [crop_window g hy.1 (by omega) hx.1 (by omega)]
  have hc : ((g.crs == 0) = false) := beq_false_of_ne hcrs
  have hxr : (x0 : Rat) ≤ x1 := Int.cast_le.mpr hx.2.1.le
  have hyr : (y0 : Rat) ≤ y1 := Int.cast_le.mpr hy.2.1.le
  simp only [cropGeoBox, cropRegion, hc, Aff.inv?_of_det_ne hdet, bind, Except.bind, extent, corners,
    List.map_cons, List.map_nil, List.cons_append, List.nil_append, Aff.apply_mul, Aff.inv_apply_apply g.A hdet,
    Aff.apply_translation, Bool.false_eq_true, if_false,
    Int.cast_sub, zero_add, sub_add_cancel]
  rw [cropRegionPix_cons]
  simp only [List.map_cons, List.map_nil, C17.minL, C17.maxL, List.foldl_cons, List.foldl_nil, min_self, max_self,
    min_eq_left hxr, max_eq_right hxr, min_eq_left hyr, max_eq_right hyr, max_eq_left hyr, max_eq_left hxr,
    Rat.floor_intCast, Rat.ceil_intCast,
    max_eq_left hx.1, max_eq_left hy.1, min_eq_left hx.2.2, min_eq_left hy.2.2,
    max_eq_right (show 1 ≤ x1 - x0 by omega), max_eq_right (show 1 ≤ y1 - y0 by omega)]

theorem pad_eq (g : GeoBox) (padx : Int) (pady : Option Int) :
    pad g padx pady = ⟨g.ny + pady.getD padx * 2, g.nx + padx * 2,
      g.A * Aff.translation (-(padx : Rat)) (-((pady.getD padx : Int) : Rat)), g.crs⟩ := by
  cases pady <;> rfl

theorem pad_pixel (g : GeoBox) (padx : Int) (pady : Option Int) (p : Pt) :
    pix2wld (pad g padx pady) p = pix2wld g (p.1 - padx, p.2 - ((pady.getD padx : Int) : Rat)) ∧
    (pad g padx pady).ny = g.ny + 2 * pady.getD padx ∧ (pad g padx pady).nx = g.nx + 2 * padx ∧
    (pad g padx pady).crs = g.crs := by
  rw [pad_eq, pix2wld_translated, ← sub_eq_add_neg, ← sub_eq_add_neg]
  exact ⟨rfl, congrArg (g.ny + ·) (Int.mul_comm _ 2), congrArg (g.nx + ·) (Int.mul_comm _ 2), rfl⟩

/-- `pad` covers the original: the parent is the view's `[pad : pad+n]` crop. -/
theorem pad_covers (g : GeoBox) (padx pady : Int) (hx : 0 ≤ padx) (hy : 0 ≤ pady)
    (hny : 0 ≤ g.ny) (hnx : 0 ≤ g.nx) :
    crop (pad g padx (some pady))
        (.two (.slc (some pady) (some (pady + g.ny))) (.slc (some padx) (some (padx + g.nx)))) = g := by
  rw [pad_eq, crop_window _ hy (by omega) hx (by omega)]
  simp only [Option.getD_some, add_sub_cancel_left, Aff.mul_assoc', Aff.translation_neg_mul, Aff.mul_id]

theorem alignUp_eq (x a : Int) :
    alignUp x a = if a = 0 then .error .zeroDiv else .ok (x + (a - 1) - Int.fmod (x + (a - 1)) a) := by
  unfold alignUp pyMod; split <;> rfl

theorem padWh_eq (g : GeoBox) (ax : Int) (ay : Option Int) :
    padWh g ax ay = (alignUp g.ny (ay.getD ax)).bind fun ny => (alignUp g.nx ax).bind fun nx =>
      .ok ⟨ny, nx, g.A, g.crs⟩ := by
  cases ay <;> rfl

theorem alignUp_spec {x a r : Int} (hr : alignUp x a = .ok r) (ha : 0 < a) : x ≤ r ∧ r < x + a ∧ r % a = 0 := by
  rw [alignUp_eq, if_neg ha.ne', Int.fmod_eq_emod_of_nonneg _ ha.le] at hr
  obtain rfl := Except.ok.inj hr
  have h1 := Int.emod_nonneg (x + (a - 1)) ha.ne'
  have h2 := Int.emod_lt_of_pos (x + (a - 1)) ha
  exact ⟨by omega, by omega, by rw [Int.sub_emod, Int.emod_emod, Int.sub_self, Int.zero_emod]⟩

/-- `pad_wh`: same affine and crs (so pixel `(i,j)` stays where it was), each side is the
least multiple of the alignment that is not smaller (for positive alignments). -/
theorem pad_wh_contract (g : GeoBox) (ax : Int) (ay : Option Int) (g' : GeoBox)
    (h : padWh g ax ay = .ok g') :
    g'.A = g.A ∧ g'.crs = g.crs ∧
    (0 < ax → g.nx ≤ g'.nx ∧ g'.nx < g.nx + ax ∧ g'.nx % ax = 0) ∧
    (0 < ay.getD ax → g.ny ≤ g'.ny ∧ g'.ny < g.ny + ay.getD ax ∧ g'.ny % ay.getD ax = 0) := by
  rw [padWh_eq] at h
  obtain ⟨ny, hy, h⟩ := bind_ok_iff.mp h
  obtain ⟨nx, hx, h⟩ := bind_ok_iff.mp h
  obtain rfl := Except.ok.inj h
  exact ⟨rfl, rfl, alignUp_spec hx, alignUp_spec hy⟩

theorem pad_wh_error_iff (g : GeoBox) (ax : Int) (ay : Option Int) :
    padWh g ax ay = .error .zeroDiv ↔ (ax = 0 ∨ ay.getD ax = 0) := by
  rw [padWh_eq, alignUp_eq, alignUp_eq]
  generalize ay.getD ax = v
  by_cases hx : ax = 0 <;> by_cases hy : v = 0 <;> simp [hx, hy, Except.bind]

theorem resize_contract (g : GeoBox) (ny nx : Int) (p : Pt) :
    pix2wld (resize g ny nx) p = pix2wld g p ∧ (resize g ny nx).ny = ny ∧
    (resize g ny nx).nx = nx ∧ (resize g ny nx).crs = g.crs := by
  simp [resize, pix2wld]

theorem translate_pixel (g : GeoBox) (tx ty : Rat) (p : Pt) :
    pix2wld (translatePix g tx ty) p = pix2wld g (p.1 + tx, p.2 + ty) ∧
    (translatePix g tx ty).ny = g.ny ∧ (translatePix g tx ty).nx = g.nx ∧
    (translatePix g tx ty).crs = g.crs :=
  ⟨pix2wld_translated g p, rfl, rfl, rfl⟩

/-- Neighbours abut: pixel `(i,j)` of `left g` is pixel `(i - nx, j)` of `g` etc., so e.g.
the right edge `x = nx` of `left g` is the left edge `x = 0` of `g`, same shape, same crs. -/
theorem neighbours_abut (g : GeoBox) (p : Pt) :
    pix2wld (left g) p = pix2wld g (p.1 - g.nx, p.2) ∧
    pix2wld (right g) p = pix2wld g (p.1 + g.nx, p.2) ∧
    pix2wld (top g) p = pix2wld g (p.1, p.2 - g.ny) ∧
    pix2wld (bottom g) p = pix2wld g (p.1, p.2 + g.ny) ∧
    (∀ y : Rat, pix2wld (left g) (g.nx, y) = pix2wld g (0, y)) ∧
    (∀ y : Rat, pix2wld (right g) (0, y) = pix2wld g (g.nx, y)) ∧
    (∀ x : Rat, pix2wld (top g) (x, g.ny) = pix2wld g (x, 0)) ∧
    (∀ x : Rat, pix2wld (bottom g) (x, 0) = pix2wld g (x, g.ny)) := by
  simp only [left, right, top, bottom, translatePix, mulPix, pix2wld_translated, sub_eq_add_neg, add_zero,
    zero_add, add_neg_cancel, implies_true, and_self]

theorem neighbours_shape_crs (g : GeoBox) :
    ∀ h ∈ [left g, right g, top g, bottom g], h.ny = g.ny ∧ h.nx = g.nx ∧ h.crs = g.crs := by
  simp only [left, translatePix, mulPix, right, top, bottom, List.mem_cons, List.not_mem_nil, or_false,
    forall_eq_or_imp, and_self, forall_eq]

/-- `flipx`: pixel `(i,j)` of the view is pixel `(nx − i, j)` of the parent. -/
theorem flipx_pixel (g : GeoBox) (p : Pt) :
    pix2wld (flipx g) p = pix2wld g ((g.nx : Rat) - p.1, p.2) ∧
    (flipx g).ny = g.ny ∧ (flipx g).nx = g.nx ∧ (flipx g).crs = g.crs := by
  simp [flipx, mulPix, pix2wld, Aff.apply_mul, Aff.apply_translation, Aff.apply_scale]
  ring_nf

theorem flipy_pixel (g : GeoBox) (p : Pt) :
    pix2wld (flipy g) p = pix2wld g (p.1, (g.ny : Rat) - p.2) ∧
    (flipy g).ny = g.ny ∧ (flipy g).nx = g.nx ∧ (flipy g).crs = g.crs := by
  simp [flipy, mulPix, pix2wld, Aff.apply_mul, Aff.apply_translation, Aff.apply_scale]
  ring_nf

/-- Flips keep the footprint: the corner images of `flipx` are the same four points in reverse
order, and neither flip changes the bounding box. -/
theorem flip_same_footprint (g : GeoBox) :
    (corners (flipx g)).map (pix2wld (flipx g)) = ((corners g).map (pix2wld g)).reverse ∧
    boundingbox (flipx g) = boundingbox g ∧ boundingbox (flipy g) = boundingbox g := by
  refine ⟨?_, ?_, ?_⟩
  · simp [corners, flipx, mulPix, pix2wld, Aff.apply_mul, Aff.apply_translation, Aff.apply_scale]
  · simp only [boundingbox, flipx, mulPix, Aff.apply_mul, Aff.apply_scale, Aff.apply_translation, mul_zero, zero_add,
      add_zero, neg_mul, one_mul, neg_add_cancel, BBox.mk.injEq]
    exact ⟨op4_rev min_comm, op4_rev min_comm, op4_rev max_comm, op4_rev max_comm⟩
  · simp only [boundingbox, flipy, mulPix, Aff.apply_mul, Aff.apply_scale, Aff.apply_translation, mul_zero, zero_add,
      add_zero, neg_mul, one_mul, neg_add_cancel, BBox.mk.injEq]
    exact ⟨op4_swap min_comm, op4_swap min_comm, op4_swap max_comm, op4_swap max_comm⟩

/-- `rotate`: world-side rotation matrix about `c0 = pix2wld (nx/2, ny/2)`. -/
theorem rotate_pixel (g : GeoBox) (c s : Rat) (p : Pt) :
    pix2wld (rotate g c s) p
      = (rotationAbout c s (pix2wld g ((g.nx : Rat) * (1 / 2), (g.ny : Rat) * (1 / 2)))).apply (pix2wld g p) ∧
    (rotate g c s).ny = g.ny ∧ (rotate g c s).nx = g.nx ∧ (rotate g c s).crs = g.crs := by
  simp [rotate, mulWld, pix2wld, Aff.apply_mul]

theorem rotationAbout_apply_pivot (c s : Rat) (p : Pt) : (rotationAbout c s p).apply p = p := by
  simp only [rotationAbout, Aff.apply]; ext <;> ring

theorem rotationAbout_mul (c1 s1 c2 s2 : Rat) (p : Pt) :
    rotationAbout c2 s2 p * rotationAbout c1 s1 p = rotationAbout (c2 * c1 - s2 * s1) (s2 * c1 + c2 * s1) p := by
  apply Aff.ext_apply; intro q
  rw [Aff.apply_mul]
  simp only [rotationAbout, Aff.apply, Prod.mk.injEq]
  constructor <;> ring

theorem rotationAbout_one_zero (p : Pt) : rotationAbout 1 0 p = Aff.id := by
  simp only [rotationAbout, Aff.id]; ext <;> ring

theorem rotate_one_zero (g : GeoBox) : rotate g 1 0 = g := by
  simp only [rotate, mulWld, rotationAbout_one_zero, Aff.id_mul]

/-- The centre of the footprint stays where it is (any `c`, `s`). -/
theorem rotate_fixes_centre (g : GeoBox) (c s : Rat) :
    pix2wld (rotate g c s) ((g.nx : Rat) / 2, (g.ny : Rat) / 2)
      = pix2wld g ((g.nx : Rat) / 2, (g.ny : Rat) / 2) := by
  rw [div_eq_mul_one_div (g.nx : Rat), div_eq_mul_one_div (g.ny : Rat)]
  simp only [rotate, mulWld, pix2wld, Aff.apply_mul, rotationAbout_apply_pivot]

theorem rotationAbout_apply_sub (c s : Rat) (p q : Pt) :
    ((rotationAbout c s p).apply q).1 - p.1 = c * (q.1 - p.1) - s * (q.2 - p.2) ∧
    ((rotationAbout c s p).apply q).2 - p.2 = s * (q.1 - p.1) + c * (q.2 - p.2) := by
  simp only [rotationAbout, Aff.apply]; constructor <;> ring

theorem det_rotationAbout (c s : Rat) (p : Pt) : (rotationAbout c s p).det = c * c + s * s := by
  simp only [rotationAbout, Aff.det]; ring

/-- With `c² + s² = 1` the view is the parent rotated counter-clockwise by the angle
`(cos, sin) = (c, s)` about the centre: displacement vectors from the centre are rotated,
distances to the centre and the pixel area (determinant) are preserved. -/
theorem rotate_is_rotation (g : GeoBox) (c s : Rat) (hcs : c * c + s * s = 1) (p : Pt) :
    let c0 := pix2wld g ((g.nx : Rat) / 2, (g.ny : Rat) / 2)
    let w := pix2wld g p
    let w' := pix2wld (rotate g c s) p
    w'.1 - c0.1 = c * (w.1 - c0.1) - s * (w.2 - c0.2) ∧
    w'.2 - c0.2 = s * (w.1 - c0.1) + c * (w.2 - c0.2) ∧
    (w'.1 - c0.1) ^ 2 + (w'.2 - c0.2) ^ 2 = (w.1 - c0.1) ^ 2 + (w.2 - c0.2) ^ 2 ∧
    (rotate g c s).A.det = g.A.det := by
  intro c0 w w'
  have hw' : w' = (rotationAbout c s c0).apply w := by
    simp only [w', w, c0, rotate, mulWld, pix2wld, Aff.apply_mul, div_eq_mul_one_div (g.nx : Rat),
      div_eq_mul_one_div (g.ny : Rat)]
  obtain ⟨e1, e2⟩ := rotationAbout_apply_sub c s c0 w
  rw [← hw'] at e1 e2
  refine ⟨e1, e2, ?_, ?_⟩
  · rw [e1, e2]
    linear_combination ((w.1 - c0.1) ^ 2 + (w.2 - c0.2) ^ 2) * hcs
  · simp only [rotate, mulWld, Aff.det_mul, det_rotationAbout, hcs, one_mul]

/-- hypotheses satisfiable: the 3-4-5 rotation -/
example : ((3 : Rat) / 5) * (3 / 5) + (4 / 5) * (4 / 5) = 1 := by norm_num

theorem translatePix_translatePix (g : GeoBox) (a b c d : Rat) :
    translatePix (translatePix g a b) c d = translatePix g (a + c) (b + d) := by
  simp only [translatePix, mulPix, Aff.mul_assoc', Aff.translation_mul_translation]

theorem translatePix_zero (g : GeoBox) : translatePix g 0 0 = g := by
  simp only [translatePix, mulPix, Aff.translation_zero, Aff.mul_id]

theorem flipx_flipx (g : GeoBox) : flipx (flipx g) = g :=
  GeoBox.ext_pix2wld rfl rfl rfl fun p => by
    rw [(flipx_pixel _ p).1, (flipx_pixel g _).1]
    exact congrArg _ (Prod.ext (sub_sub_cancel _ _) rfl)

theorem flipy_flipy (g : GeoBox) : flipy (flipy g) = g :=
  GeoBox.ext_pix2wld rfl rfl rfl fun p => by
    rw [(flipy_pixel _ p).1, (flipy_pixel g _).1]
    exact congrArg _ (Prod.ext rfl (sub_sub_cancel _ _))

theorem pad_zero (g : GeoBox) (py : Option Int) (h : py.getD 0 = 0) : pad g 0 py = g := by
  simp only [pad_eq, h, Int.zero_mul, Int.add_zero, Int.cast_zero, neg_zero, Aff.translation_zero, Aff.mul_id]

/-- Flips are involutions, pixel translations add up, neighbours cancel, a rotation by the
zero angle and a pad by zero are the identity. -/
theorem view_algebra (g : GeoBox) :
    flipx (flipx g) = g ∧ flipy (flipy g) = g ∧
    (∀ a b c d : Rat, translatePix (translatePix g a b) c d = translatePix g (a + c) (b + d)) ∧
    left (right g) = g ∧ right (left g) = g ∧ top (bottom g) = g ∧ bottom (top g) = g ∧
    rotate g 1 0 = g ∧ pad g 0 (some 0) = g ∧ pad g 0 none = g ∧ translatePix g 0 0 = g := by
  have tr : ∀ a b c d : Rat, a + c = 0 → b + d = 0 → translatePix (translatePix g a b) c d = g :=
    fun a b c d h1 h2 => by rw [translatePix_translatePix, h1, h2, translatePix_zero]
  exact ⟨flipx_flipx g, flipy_flipy g, translatePix_translatePix g, tr _ _ _ _ (add_neg_cancel _) (add_zero _),
    tr _ _ _ _ (neg_add_cancel _) (add_zero _), tr _ _ _ _ (add_zero _) (add_neg_cancel _),
    tr _ _ _ _ (add_zero _) (neg_add_cancel _), rotate_one_zero g, pad_zero g _ rfl, pad_zero g _ rfl,
    translatePix_zero g⟩

theorem normSlice_idx_nonneg (n : Int) {i : Int} (hi : 0 ≤ i) : normSlice (.idx i) n = ⟨i, i + 1⟩ := by
  simp only [normSlice, if_neg (not_lt.mpr hi)]

theorem center_pixel_contract (g : GeoBox) (hny : 0 ≤ g.ny) (hnx : 0 ≤ g.nx) (p : Pt) :
    (centerPixel g).ny = 1 ∧ (centerPixel g).nx = 1 ∧ (centerPixel g).crs = g.crs ∧
    pix2wld (centerPixel g) p = pix2wld g (p.1 + ((g.nx / 2 : Int) : Rat), p.2 + ((g.ny / 2 : Int) : Rat)) := by
  have hy : 0 ≤ g.ny / 2 := Int.ediv_nonneg hny (by decide)
  have hx : 0 ≤ g.nx / 2 := Int.ediv_nonneg hnx (by decide)
  simp only [centerPixel, crop, normSlice_idx_nonneg g.ny hy, normSlice_idx_nonneg g.nx hx, add_sub_cancel_left, true_and]
  exact pix2wld_translated g p

theorem half_frac (n : Int) : 0 ≤ (n : Rat) / 2 - ((n / 2 : Int) : Rat) ∧ (n : Rat) / 2 - ((n / 2 : Int) : Rat) < 1 := by
  have h1 : ((n / 2 : Int) : Rat) * 2 ≤ n := by exact_mod_cast Int.ediv_mul_le n (by decide : (2 : Int) ≠ 0)
  have h2 : (n : Rat) < (((n / 2 : Int) : Rat) + 1) * 2 := by
    exact_mod_cast Int.lt_ediv_add_one_mul_self n (by decide : (0 : Int) < 2)
  exact ⟨sub_nonneg.mpr ((le_div_iff₀ two_pos).mpr h1), sub_lt_iff_lt_add'.mpr ((div_lt_iff₀ two_pos).mpr h2)⟩

/-- The centre pixel contains the centre of the footprint: the (rational) centre
`(nx/2, ny/2)` is the point `(u, v)` of the one-pixel view with `0 ≤ u, v < 1`. -/
theorem center_pixel_contains_centre (g : GeoBox) (hny : 0 ≤ g.ny) (hnx : 0 ≤ g.nx) :
    ∃ u v : Rat, 0 ≤ u ∧ u < 1 ∧ 0 ≤ v ∧ v < 1 ∧
      pix2wld (centerPixel g) (u, v) = pix2wld g ((g.nx : Rat) / 2, (g.ny : Rat) / 2) := by
  refine ⟨_, _, (half_frac g.nx).1, (half_frac g.nx).2, (half_frac g.ny).1, (half_frac g.ny).2, ?_⟩
  rw [(center_pixel_contract g hny hnx _).2.2.2, sub_add_cancel, sub_add_cancel]

theorem ceil1_intCast (z : Int) (hz : 1 ≤ z) : ceil1 (z : Rat) = z := by
  rw [ceil1, Rat.ceil_intCast, max_eq_right hz]

theorem ceil1_mul_div (k m : Int) (hk : k ≠ 0) (hm : 1 ≤ m) : ceil1 (((k * m : Int) : Rat) / k) = m := by
  rw [Int.cast_mul, mul_div_cancel_left₀ _ (Int.cast_ne_zero.mpr hk), ceil1_intCast m hm]

theorem zoom_out_error_iff (g : GeoBox) (f : Rat) : zoomOut g f = .error .zeroDiv ↔ f = 0 := by
  by_cases h : f = 0 <;> simp [zoomOut, h]

theorem zoomOut_ok_iff (g g' : GeoBox) (f : Rat) :
    zoomOut g f = .ok g' ↔ f ≠ 0 ∧
      g' = ⟨ceil1 ((g.ny : Rat) / f), ceil1 ((g.nx : Rat) / f), g.A * Aff.scale f f, g.crs⟩ := by
  rw [zoomOut, ite_error_eq_ok_iff, Except.ok.injEq, @eq_comm _ _ g']

/-- `zoom_out(f)`: pixel `(i,j)` of the view is at pixel `(f·i, f·j)` of the parent; each
side is `max(1, ⌈N/f⌉)`. -/
theorem zoom_out_pixel (g g' : GeoBox) (f : Rat) (h : zoomOut g f = .ok g') (p : Pt) :
    pix2wld g' p = pix2wld g (f * p.1, f * p.2) ∧ g'.crs = g.crs ∧
    g'.ny = max 1 ((g.ny : Rat) / f).ceil ∧ g'.nx = max 1 ((g.nx : Rat) / f).ceil := by
  obtain ⟨-, rfl⟩ := (zoomOut_ok_iff g g' f).mp h
  exact ⟨pix2wld_scaled g p, rfl, rfl, rfl⟩

/-- `zoom_out` covers the original: in parent pixels the view spans `N'·f ≥ N` on each
axis, and it is tight (`N'·f < N + f`) unless the `max(1, ·)` floor of one pixel engaged. -/
theorem zoom_out_covers (g g' : GeoBox) (f : Rat) (hf : 0 < f) (h : zoomOut g f = .ok g') :
    (g.ny : Rat) ≤ (g'.ny : Rat) * f ∧ (g.nx : Rat) ≤ (g'.nx : Rat) * f ∧
    (1 ≤ ((g.ny : Rat) / f).ceil → (g'.ny : Rat) * f < g.ny + f) ∧
    (1 ≤ ((g.nx : Rat) / f).ceil → (g'.nx : Rat) * f < g.nx + f) := by
  obtain ⟨-, rfl⟩ := (zoomOut_ok_iff g g' f).mp h
  have cov : ∀ N : Rat, N ≤ (ceil1 (N / f) : Rat) * f := fun N =>
    (le_ceil_div_mul hf).trans (mul_le_mul_of_nonneg_right (Int.cast_le.mpr (le_max_right _ _)) hf.le)
  have tight : ∀ N : Rat, 1 ≤ (N / f).ceil → (ceil1 (N / f) : Rat) * f < N + f := fun N h1 => by
    rw [ceil1, max_eq_right h1]; exact ceil_div_mul_lt hf
  exact ⟨cov _, cov _, tight _, tight _⟩

theorem zoomToShape_ok_iff (g g' : GeoBox) (ny nx : Int) :
    zoomToShape g ny nx = .ok g' ↔ (ny ≠ 0 ∧ nx ≠ 0) ∧
      g' = ⟨ny, nx, g.A * Aff.scale ((g.nx : Rat) / (nx : Rat)) ((g.ny : Rat) / (ny : Rat)), g.crs⟩ := by
  rw [zoomToShape, ite_error_eq_ok_iff, not_or, Except.ok.injEq, @eq_comm _ _ g']

/-- `zoom_to(shape)`: requested shape, same crs, and the **same footprint**: the point at
relative position `(u, v)` of the new pixel rectangle is the point at relative position
`(u, v)` of the old one (corners: `u, v ∈ {0,1}`). -/
theorem zoom_to_shape_same_footprint (g g' : GeoBox) (ny nx : Int)
    (h : zoomToShape g ny nx = .ok g') (u v : Rat) :
    g'.ny = ny ∧ g'.nx = nx ∧ g'.crs = g.crs ∧
    pix2wld g' (u * nx, v * ny) = pix2wld g (u * g.nx, v * g.ny) := by
  obtain ⟨⟨hy, hx⟩, rfl⟩ := (zoomToShape_ok_iff g g' ny nx).mp h
  refine ⟨rfl, rfl, rfl, ?_⟩
  rw [pix2wld_scaled, mul_left_comm, div_mul_cancel₀ _ (Int.cast_ne_zero.mpr hx), mul_left_comm,
    div_mul_cancel₀ _ (Int.cast_ne_zero.mpr hy)]

theorem zoom_to_shape_error_iff (g : GeoBox) (ny nx : Int) (e : ErrKind) :
    zoomToShape g ny nx = .error e ↔ e = .zeroDiv ∧ (ny = 0 ∨ nx = 0) := by
  unfold zoomToShape; split <;> simp [*, eq_comm]

theorem zoom_num_sides {a b n : Int} (hn : 1 ≤ n) (hab : a ≤ b) (hb : 1 ≤ b) :
    max (ceil1 ((a : Rat) * n / b)) (ceil1 ((b : Rat) * n / b)) = n := by
  have hb' : (0 : Rat) < b := Int.cast_pos.mpr (by omega)
  have hn' : (0 : Rat) ≤ n := Int.cast_nonneg (by omega)
  rw [mul_div_cancel_left₀ _ hb'.ne', ceil1_intCast n hn]
  refine max_eq_right (max_le hn (Rat.ceil_le_iff.mpr ?_))
  rw [div_le_iff₀ hb']
  exact mul_comm (n : Rat) b ▸ mul_le_mul_of_nonneg_right (Int.cast_le.mpr hab) hn'

theorem zoomToNum_ok_iff (g g' : GeoBox) (n : Rat) :
    zoomToNum g n = .ok g' ↔ (n ≠ 0 ∧ max g.ny g.nx ≠ 0) ∧
      g' = ⟨ceil1 ((g.ny : Rat) * n / ((max g.ny g.nx : Int) : Rat)),
        ceil1 ((g.nx : Rat) * n / ((max g.ny g.nx : Int) : Rat)),
        g.A * Aff.scale (((max g.ny g.nx : Int) : Rat) / n) (((max g.ny g.nx : Int) : Rat) / n), g.crs⟩ := by
  simp only [zoomToNum, ite_error_eq_ok_iff, and_assoc, Except.ok.injEq, @eq_comm _ _ g', ne_eq]

/-- `zoom_to(n)`: **the longest side is exactly `n`** (every shape with a positive longest
side, every `n ≥ 1`), pixel `(i,j)` of the view is at `(nmax/n)·(i,j)` of the parent.  True in
exact arithmetic; the pre-fix code computed `⌈N / (N/n)⌉` in doubles and returned `n+1` for ≈4 %
of `(N, n)` (finding F13): that lives in IEEE rounding and is judged by the harness' float stream. -/
theorem zoom_to_int_longest (g : GeoBox) (n : Int) (hn : 1 ≤ n) (hny : 0 ≤ g.ny) (hnx : 0 ≤ g.nx)
    (hmax : 1 ≤ max g.ny g.nx) :
    ∃ g', zoomToNum g n = .ok g' ∧ max g'.ny g'.nx = n ∧ g'.crs = g.crs ∧
      ∀ p : Pt, pix2wld g' p
        = pix2wld g (((max g.ny g.nx : Int) : Rat) / n * p.1, ((max g.ny g.nx : Int) : Rat) / n * p.2) := by
  have hn0 : (n : Rat) ≠ 0 := Int.cast_ne_zero.mpr (by omega)
  refine ⟨_, (zoomToNum_ok_iff g _ n).mpr ⟨⟨hn0, by omega⟩, rfl⟩, ?_, rfl, pix2wld_scaled g⟩
  rcases le_total g.ny g.nx with hle | hle
  · rw [max_eq_right hle] at hmax ⊢
    exact zoom_num_sides hn hle hmax
  · rw [max_eq_left hle] at hmax ⊢
    exact (max_comm _ _).trans (zoom_num_sides hn hle hmax)

/-- The repair of F13 is a pure refactoring in exact arithmetic: `s / (nmax / n)` (old) and
`s · n / nmax` (new) are the same rational, hence the same `max(1, ⌈·⌉)`. -/
theorem zoom_to_int_fix_is_exact_refactor (s nmax : Int) (n : Rat) (hn : n ≠ 0) (hm : nmax ≠ 0) :
    ceil1 ((s : Rat) / ((nmax : Rat) / n)) = ceil1 ((s : Rat) * n / (nmax : Rat)) := by
  rw [div_div_eq_mul_div]

theorem zoom_to_num_error_iff (g : GeoBox) (n : Rat) (e : ErrKind) :
    zoomToNum g n = .error e ↔ e = .zeroDiv ∧ (n = 0 ∨ max g.ny g.nx = 0) := by
  simp only [zoomToNum]
  split_ifs with h1 h2
  · exact ⟨fun h => ⟨(Except.error.inj h).symm, .inl h1⟩, fun h => h.1 ▸ rfl⟩
  · exact ⟨fun h => ⟨(Except.error.inj h).symm, .inr h2⟩, fun h => h.1 ▸ rfl⟩
  · exact ⟨nofun, fun h => h.2.elim (absurd · h1) (absurd · h2)⟩

theorem scaledDown_ok_iff (g g' : GeoBox) (k : Int) :
    scaledDown g k = .ok g' ↔ 1 < k ∧
      g' = ⟨g.ny / k + (if g.ny % k ≠ 0 then 1 else 0), g.nx / k + (if g.nx % k ≠ 0 then 1 else 0),
        g.A * Aff.scale (k : Rat) (k : Rat), g.crs⟩ := by
  rw [scaledDown, ite_error_eq_ok_iff, not_not, Except.ok.injEq, @eq_comm _ _ g']

theorem int_ceil_div_spec (X k : Int) (hk : 0 < k) :
    X ≤ (X / k + (if X % k ≠ 0 then 1 else 0)) * k ∧ (X / k + (if X % k ≠ 0 then 1 else 0)) * k < X + k := by
  have h1 := Int.emod_add_mul_ediv X k
  have h2 := Int.emod_nonneg X hk.ne'
  have h3 := Int.emod_lt_of_pos X hk
  split_ifs with h <;> simp only [Int.add_mul, Int.mul_comm (X / k) k, Int.one_mul, Int.zero_mul] <;> omega

/-- `scaled_down_geobox(g, k)`: defined only for `k > 1` (and always then: `scaled_down_error_iff`);
pixel `(i,j)` of the view is at `(k·i, k·j)` of the parent; every side is `⌈N/k⌉`, i.e. the view
covers the parent (`N ≤ N'·k`) with less than one coarse pixel of padding (`N'·k < N + k`). -/
theorem scaled_down_covers (g g' : GeoBox) (k : Int) (h : scaledDown g k = .ok g') (p : Pt) :
    1 < k ∧ pix2wld g' p = pix2wld g ((k : Rat) * p.1, (k : Rat) * p.2) ∧ g'.crs = g.crs ∧
    g.ny ≤ g'.ny * k ∧ g'.ny * k < g.ny + k ∧ g.nx ≤ g'.nx * k ∧ g'.nx * k < g.nx + k := by
  obtain ⟨hk, rfl⟩ := (scaledDown_ok_iff g g' k).mp h
  obtain ⟨y1, y2⟩ := int_ceil_div_spec g.ny k (by omega)
  obtain ⟨x1, x2⟩ := int_ceil_div_spec g.nx k (by omega)
  exact ⟨hk, pix2wld_scaled g p, rfl, y1, y2, x1, x2⟩

theorem scaled_down_error_iff (g : GeoBox) (k : Int) :
    scaledDown g k = .error .assertion ↔ k ≤ 1 := by
  by_cases hk : k > 1
  · simp [scaledDown, hk]
  · simp [scaledDown, hk]; omega

/-- `_round_to_res(value, res)` is the least integer `b` with `b·|res| ≥ value − 0.1·|res|`
(`0.1` = the double, `tenth`). -/
theorem round_to_res_spec (value res : Rat) (b : Int) (h : roundToRes value res = .ok b) :
    res ≠ 0 ∧ value - tenth * |res| ≤ (b : Rat) * |res| ∧ ((b : Rat) - 1) * |res| < value - tenth * |res| := by
  simp only [roundToRes, rabs_eq_abs, abs_eq_zero, ite_error_eq_ok_iff, Except.ok.injEq] at h
  obtain ⟨h0, rfl⟩ := h
  have hpos : 0 < |res| := abs_pos.mpr h0
  exact ⟨h0, le_ceil_div_mul hpos, by rw [sub_one_mul]; exact sub_lt_iff_lt_add.mpr (ceil_div_mul_lt hpos)⟩

theorem buffered_ok {g g' : GeoBox} {n m xb : Rat} {yb : Option Rat} (h : buffered g n m xb yb = .ok g') :
    ∃ (rx ry : Rat) (bx by_ : Int), resolution g n m = .ok (rx, ry) ∧ roundToRes xb rx = .ok bx ∧
      roundToRes (yb.getD xb) ry = .ok by_ ∧ g' = pad g bx (some by_) := by
  have e : buffered g n m xb yb = bufferedCore g n m xb (yb.getD xb) := by cases yb <;> rfl
  simp only [e, bufferedCore, bind_ok_iff, pure_ok, Except.ok.injEq, Prod.exists] at h
  obtain ⟨rx, ry, hr, by_, hy, bx, hx, rfl⟩ := h
  exact ⟨rx, ry, bx, by_, hr, hx, hy, by simp only [pad, Int.mul_comm]⟩

/-- `buffered(xbuff, ybuff)`: the view is the parent padded by `bx`, `by` whole pixels on
every side — pixel `(i,j)` of the view is pixel `(i − bx, j − by)` of the parent, shape
`(ny + 2by, nx + 2bx)`, same crs — and on each axis the pad is the least number of pixels
that leaves at most 0.1 pixel of the requested buffer uncovered:
`buffer − 0.1·|res| ≤ b·|res| < buffer + 0.9·|res|`. -/
theorem buffered_covers (g g' : GeoBox) (n m xb : Rat) (yb : Option Rat)
    (h : buffered g n m xb yb = .ok g') :
    ∃ (rx ry : Rat) (bx by_ : Int), resolution g n m = .ok (rx, ry) ∧
      g'.ny = g.ny + 2 * by_ ∧ g'.nx = g.nx + 2 * bx ∧ g'.crs = g.crs ∧
      (∀ p : Pt, pix2wld g' p = pix2wld g (p.1 - bx, p.2 - by_)) ∧
      xb - tenth * |rx| ≤ (bx : Rat) * |rx| ∧ ((bx : Rat) - 1) * |rx| < xb - tenth * |rx| ∧
      yb.getD xb - tenth * |ry| ≤ (by_ : Rat) * |ry| ∧
      ((by_ : Rat) - 1) * |ry| < yb.getD xb - tenth * |ry| := by
  obtain ⟨rx, ry, bx, by_, hr, hx, hy, rfl⟩ := buffered_ok h
  obtain ⟨hp, h1, h2, h3⟩ := pad_pixel g bx (some by_) (0, 0)
  obtain ⟨-, sx1, sx2⟩ := round_to_res_spec _ _ _ hx
  obtain ⟨-, sy1, sy2⟩ := round_to_res_spec _ _ _ hy
  exact ⟨rx, ry, bx, by_, hr, h1, h2, h3, fun p => (pad_pixel g bx (some by_) p).1, sx1, sx2, sy1, sy2⟩

/-- `buffered` with non-negative pads contains the parent: the parent is the window
`[by : by+ny, bx : bx+nx]` of the buffered box. -/
theorem buffered_contains_parent (g g' : GeoBox) (n m xb : Rat) (yb : Option Rat)
    (h : buffered g n m xb yb = .ok g') (hny : 0 ≤ g.ny) (hnx : 0 ≤ g.nx)
    (hgx : g.nx ≤ g'.nx) (hgy : g.ny ≤ g'.ny) :
    ∃ bx by_ : Int, 0 ≤ bx ∧ 0 ≤ by_ ∧
      crop g' (.two (.slc (some by_) (some (by_ + g.ny))) (.slc (some bx) (some (bx + g.nx)))) = g := by
  obtain ⟨rx, ry, bx, by_, -, -, -, rfl⟩ := buffered_ok h
  simp only [pad_eq, Option.getD_some] at hgx hgy
  have hbx : 0 ≤ bx := by omega
  have hby : 0 ≤ by_ := by omega
  exact ⟨bx, by_, hbx, hby, pad_covers g bx by_ hbx hby hny hnx⟩

theorem snapCeil_ge (q tol : Rat) (htol : 0 ≤ tol) : q - tol ≤ (snapCeil q tol : Rat) := by
  unfold snapCeil
  split
  · exact sub_le_comm.mpr (le_of_lt ‹_›)
  · exact (sub_le_self q htol).trans Rat.le_ceil

theorem snap_cover (x0 x1 r tol : Rat) (hr : 0 < r) (htol : 0 ≤ tol) (n : Int)
    (hn : snapCeil ((x1 - x0) / r) tol ≤ n) : x1 - tol * r ≤ x0 + (n : Rat) * r := by
  have h := mul_le_mul_of_nonneg_right ((snapCeil_ge _ tol htol).trans (Int.cast_le.mpr hn)) hr.le
  rwa [sub_mul, div_mul_cancel₀ _ hr.ne', sub_right_comm, sub_le_iff_le_add'] at h

/-- One axis of the tight grid snap: the `n ≥ 1` cells of signed size `res` starting at the
returned offset reach from the near end of `[x0, x1]` to within `tol` cells of its far end
(and beyond). -/
theorem snap_grid_tight_covers (x0 x1 res tol off : Rat) (n : Int) (htol : 0 ≤ tol)
    (h : snapGridTight x0 x1 res tol = .ok (off, n)) :
    1 ≤ n ∧ res ≠ 0 ∧
    (0 < res → off = x0 ∧ x1 - tol * res ≤ off + (n : Rat) * res) ∧
    (res < 0 → off = x1 ∧ off + (n : Rat) * res ≤ x0 + tol * (-res)) := by
  rcases lt_trichotomy res 0 with hr | rfl | hr
  · rw [snapGridTight_neg hr] at h
    obtain ⟨rfl, rfl⟩ := Prod.mk.inj (Except.ok.inj h)
    refine ⟨le_max_right _ _, hr.ne, fun h' => absurd h' (not_lt.mpr hr.le), fun _ => ⟨rfl, ?_⟩⟩
    have := snap_cover x0 x1 (-res) tol (neg_pos.mpr hr) htol _ (le_max_left _ 1)
    linarith
  · rw [snapGridTight_zero] at h; cases h
  · rw [snapGridTight_pos hr] at h
    obtain ⟨rfl, rfl⟩ := Prod.mk.inj (Except.ok.inj h)
    refine ⟨le_max_left _ _, hr.ne', fun _ => ⟨rfl, ?_⟩, fun h' => absurd h' (not_lt.mpr hr.le)⟩
    exact snap_cover x0 x1 res tol hr htol _ (le_max_right 1 _)

theorem snapGridTight_error_iff (x0 x1 res tol : Rat) : (∃ e, snapGridTight x0 x1 res tol = .error e) ↔ res = 0 := by
  rcases lt_trichotomy res 0 with hr | rfl | hr
  · simp only [snapGridTight_neg hr, reduceCtorEq, exists_false, hr.ne]
  · simp only [snapGridTight_zero, Except.error.injEq, exists_eq']
  · simp only [snapGridTight_pos hr, reduceCtorEq, exists_false, hr.ne']

/-- `zoom_to(resolution=(rx, ry))`: an axis-aligned view with exactly that resolution and
the parent's crs whose pixel rectangle covers the parent's bounding box up to the
documented 1/100 pixel on the far side, on both axes and for either sign of the resolution.
When it fails is `zoom_to_res_error_iff`: exactly for a zero resolution. -/
theorem zoom_to_res_covers (g g' : GeoBox) (rx ry : Rat) (h : zoomToRes g rx ry = .ok g') :
    g'.crs = g.crs ∧ g'.A.a = rx ∧ g'.A.b = 0 ∧ g'.A.d = 0 ∧ g'.A.e = ry ∧ 1 ≤ g'.nx ∧ 1 ≤ g'.ny ∧
    (0 < rx → g'.A.c = (boundingbox g).left ∧
        (boundingbox g).right - tolSnap * rx ≤ (pix2wld g' (g'.nx, 0)).1) ∧
    (rx < 0 → g'.A.c = (boundingbox g).right ∧
        (pix2wld g' (g'.nx, 0)).1 ≤ (boundingbox g).left + tolSnap * (-rx)) ∧
    (0 < ry → g'.A.f = (boundingbox g).bottom ∧
        (boundingbox g).top - tolSnap * ry ≤ (pix2wld g' (0, g'.ny)).2) ∧
    (ry < 0 → g'.A.f = (boundingbox g).top ∧
        (pix2wld g' (0, g'.ny)).2 ≤ (boundingbox g).bottom + tolSnap * (-ry)) := by
  have htol : (0 : Rat) ≤ tolSnap := by decide +kernel
  simp only [zoomToRes, bind_ok_iff, pure_ok, Except.ok.injEq, Prod.exists] at h
  obtain ⟨offx, nx, hx, offy, ny, hy, rfl⟩ := h
  rw [Aff.translation_mul_scale]
  obtain ⟨x1, -, x3, x4⟩ := snap_grid_tight_covers _ _ _ _ _ _ htol hx
  obtain ⟨y1, -, y3, y4⟩ := snap_grid_tight_covers _ _ _ _ _ _ htol hy
  refine ⟨rfl, rfl, rfl, rfl, rfl, x1, y1, fun h => ⟨(x3 h).1, ?_⟩, fun h => ⟨(x4 h).1, ?_⟩,
    fun h => ⟨(y3 h).1, ?_⟩, fun h => ⟨(y4 h).1, ?_⟩⟩
  all_goals simp only [pix2wld, Aff.apply, mul_zero, add_zero, zero_add, mul_comm rx, mul_comm ry, add_comm _ offx,
    add_comm _ offy]
  exacts [(x3 h).2, (x4 h).2, (y3 h).2, (y4 h).2]

theorem zoom_to_res_error_iff (g : GeoBox) (rx ry : Rat) :
    (∃ e, zoomToRes g rx ry = .error e) ↔ (rx = 0 ∨ ry = 0) := by
  rw [← snapGridTight_error_iff (boundingbox g).left (boundingbox g).right rx tolSnap,
    ← snapGridTight_error_iff (boundingbox g).bottom (boundingbox g).top ry tolSnap]
  simp only [zoomToRes]
  generalize snapGridTight _ _ rx _ = X
  generalize snapGridTight _ _ ry _ = Y
  rcases X with e | r1
  · simp only [bind, Except.bind, Except.error.injEq, exists_eq', true_or]
  rcases Y with e | r2
  · simp only [bind, Except.bind, Except.error.injEq, exists_eq', reduceCtorEq, exists_false, or_true]
  · simp only [bind, Except.bind, pure, Except.pure, reduceCtorEq, exists_false, or_self]

theorem crs_preserved (g : GeoBox) :
    (∀ roi, (crop g roi).crs = g.crs) ∧
    (∀ px py, (pad g px py).crs = g.crs) ∧
    (∀ ny nx, (resize g ny nx).crs = g.crs) ∧
    (∀ tx ty, (translatePix g tx ty).crs = g.crs) ∧
    (left g).crs = g.crs ∧ (right g).crs = g.crs ∧ (top g).crs = g.crs ∧ (bottom g).crs = g.crs ∧
    (flipx g).crs = g.crs ∧ (flipy g).crs = g.crs ∧
    (∀ c s, (rotate g c s).crs = g.crs) ∧ (centerPixel g).crs = g.crs ∧
    (∀ T, (mulPix g T).crs = g.crs ∧ (mulWld T g).crs = g.crs) ∧
    (∀ ax ay g', padWh g ax ay = .ok g' → g'.crs = g.crs) ∧
    (∀ f g', zoomOut g f = .ok g' → g'.crs = g.crs) ∧
    (∀ ny nx g', zoomToShape g ny nx = .ok g' → g'.crs = g.crs) ∧
    (∀ n g', zoomToNum g n = .ok g' → g'.crs = g.crs) ∧
    (∀ rx ry g', zoomToRes g rx ry = .ok g' → g'.crs = g.crs) ∧
    (∀ k g', scaledDown g k = .ok g' → g'.crs = g.crs) ∧
    (∀ n m xb yb g', buffered g n m xb yb = .ok g' → g'.crs = g.crs) :=
  ⟨fun roi => by cases roi <;> rfl, fun _ _ => rfl, fun _ _ => rfl, fun _ _ => rfl,
    rfl, rfl, rfl, rfl, rfl, rfl, fun _ _ => rfl, rfl, fun _ => ⟨rfl, rfl⟩,
    fun ax ay g' h => (pad_wh_contract g ax ay g' h).2.1,
    fun f g' h => ((zoomOut_ok_iff g g' f).mp h).2 ▸ rfl,
    fun ny nx g' h => ((zoomToShape_ok_iff g g' ny nx).mp h).2 ▸ rfl,
    fun n g' h => ((zoomToNum_ok_iff g g' n).mp h).2 ▸ rfl,
    fun rx ry g' h => (zoom_to_res_covers g g' rx ry h).1,
    fun k g' h => ((scaledDown_ok_iff g g' k).mp h).2 ▸ rfl,
    fun n m xb yb g' h => by obtain ⟨_, _, _, _, _, _, _, rfl⟩ := buffered_ok h; rfl⟩

theorem det_mulPix (g : GeoBox) (T : Aff) : (mulPix g T).A.det = g.A.det * T.det := by
  simp [mulPix, Aff.det_mul]

/-- The determinant of the pixel-side affine under every view: crops, pads, translations, centre
pixel and buffers keep it, flips negate it, zooms multiply it by the zoom factors (non-zero for
`zoom_out` and `scaled_down`; for `zoom_to(shape)` the factors are `nx/nx'`, `ny/ny'` with only
the new shape known to be non-zero). -/
theorem views_det (g : GeoBox) :
    (∀ roi, (crop g roi).A.det = g.A.det) ∧
    (∀ px py, (pad g px py).A.det = g.A.det) ∧
    (∀ tx ty, (translatePix g tx ty).A.det = g.A.det) ∧
    (flipx g).A.det = -g.A.det ∧ (flipy g).A.det = -g.A.det ∧
    (centerPixel g).A.det = g.A.det ∧
    (∀ f g', zoomOut g f = .ok g' → g'.A.det = g.A.det * (f * f) ∧ f ≠ 0) ∧
    (∀ ny nx g', zoomToShape g ny nx = .ok g' →
        g'.A.det = g.A.det * (((g.nx : Rat) / nx) * ((g.ny : Rat) / ny)) ∧ ny ≠ 0 ∧ nx ≠ 0) ∧
    (∀ k g', scaledDown g k = .ok g' → g'.A.det = g.A.det * ((k : Rat) * k) ∧ 1 < k) ∧
    (∀ n m xb yb g', buffered g n m xb yb = .ok g' → g'.A.det = g.A.det) := by
  refine ⟨fun roi => by cases roi <;> exact Aff.det_mul_translation _ _ _,
    fun px py => by cases py <;> exact Aff.det_mul_translation _ _ _, fun _ _ => Aff.det_mul_translation _ _ _,
    ?_, ?_, Aff.det_mul_translation _ _ _, ?_, ?_, ?_, ?_⟩
  · simp only [flipx, mulPix, Aff.det_mul, Aff.det_translation, Aff.det_scale]; ring
  · simp only [flipy, mulPix, Aff.det_mul, Aff.det_translation, Aff.det_scale]; ring
  · intro f g' h
    obtain ⟨hf, rfl⟩ := (zoomOut_ok_iff g g' f).mp h
    exact ⟨by rw [Aff.det_mul, Aff.det_scale], hf⟩
  · intro ny nx g' h
    obtain ⟨⟨hy, hx⟩, rfl⟩ := (zoomToShape_ok_iff g g' ny nx).mp h
    exact ⟨by rw [Aff.det_mul, Aff.det_scale], hy, hx⟩
  · intro k g' h
    obtain ⟨hk, rfl⟩ := (scaledDown_ok_iff g g' k).mp h
    exact ⟨by rw [Aff.det_mul, Aff.det_scale], hk⟩
  · intro n m xb yb g' h
    obtain ⟨_, _, _, _, _, _, _, rfl⟩ := buffered_ok h
    exact Aff.det_mul_translation _ _ _

/-- Model selection of the GCP fit: the largest of the three families (3, 4, 9 terms) whose
number of unknowns does not exceed the number of control points — in particular exactly nine
points (a 3×3 grid) get the bi-quadratic (that it then interpolates them is C20's
`poly_fit_exact_biquadratic`). -/
theorem fit_kind_spec (n : Nat) :
    (fitKind n = .error .valueError ↔ n < 3) ∧
    (∀ k, fitKind n = .ok k → k ≤ n ∧ (k = 3 ∨ k = 4 ∨ k = 9) ∧
      ∀ k', (k' = 3 ∨ k' = 4 ∨ k' = 9) → k' ≤ n → k' ≤ k) := by
  unfold fitKind
  split_ifs with h1 h2 h3
  · exact ⟨iff_of_true rfl h1, nofun⟩
  all_goals
    refine ⟨iff_of_false nofun h1, fun k hk => ?_⟩
    obtain rfl := Except.ok.inj hk
    exact ⟨by omega, by omega, fun k' _ _ => by omega⟩

/-- Every pixel contract above lifts through the GCP mapping `P` (any function): if a view
operation relates the affine triples by `pix2wld g' p = pix2wld g (T p)`, the GCP geoboxes
built on the same mapping satisfy the same relation.  (`GCPGeoBox.__getitem__/pad/pad_wh/
zoom_out/zoom_to/center_pixel` act on the triple only.) -/
theorem gcp_views_compose (P : Pt → Pt) (g g' : GeoBox) (T : Pt → Pt)
    (h : ∀ p, pix2wld g' p = pix2wld g (T p)) (p : Pt) :
    gcpPix2wld P g' p = gcpPix2wld P g (T p) :=
  congrArg P (h p)

theorem gcp_crop_pixel (P : Pt → Pt) (g : GeoBox) (sy sx : PIdx) (p : Pt) :
    gcpPix2wld P (crop g (.two sy sx)) p
      = gcpPix2wld P g (p.1 + ((normSlice sx g.nx).start : Rat), p.2 + ((normSlice sy g.ny).start : Rat)) :=
  gcp_views_compose P g _ _ (fun q => (crop_pixel g sy sx q).1) p

theorem gcp_zoom_out_pixel (P : Pt → Pt) (g g' : GeoBox) (f : Rat) (h : zoomOut g f = .ok g') (p : Pt) :
    gcpPix2wld P g' p = gcpPix2wld P g (f * p.1, f * p.2) :=
  gcp_views_compose P g g' _ (fun q => (zoom_out_pixel g g' f h q).1) p

/-- If world→pixel `Q` inverts pixel→world `P` (as fitted polynomials do only up to the
fit error — here assumed exactly), the GCP geobox has mutually inverse mappings too. -/
theorem gcp_wld2pix_pix2wld (P Q : Pt → Pt) (hQP : ∀ q, Q (P q) = q) (g : GeoBox)
    (hd : g.A.det ≠ 0) (p : Pt) :
    gcpWld2pix Q g (gcpPix2wld P g p) = .ok p :=
  (congrArg (wld2pix g) (hQP _)).trans (wld2pix_pix2wld g hd p)

/-- When the control points are affinely related (`P = B`), the GCP geobox *is* its linear
approximation `GeoBox(shape, B * affine, crs)`; that the least-squares fit then returns `B`
exactly is C20's `affine_fit_exact`, not re-proved here. -/
theorem gcp_exact_when_affine (P : Pt → Pt) (B : Aff) (hP : ∀ q, P q = B.apply q) (g : GeoBox) (p : Pt) :
    gcpPix2wld P g p = pix2wld (gcpApprox B g) p ∧
    (gcpApprox B g).ny = g.ny ∧ (gcpApprox B g).nx = g.nx ∧ (gcpApprox B g).crs = g.crs := by
  simp [gcpPix2wld, gcpApprox, mulWld, pix2wld, hP, Aff.apply_mul]

/-- GCP geobox, **zoom then crop then pad** (any factor, any index expressions, any pads):
world→pixel inverts pixel→world through the composed pixel-side affine, for every mapping
whose `w2p` inverts its `p2w`.  (Single operations keep either unit scale or zero offset; the
composition has neither.) -/
theorem gcp_chain_inverse (P Q : Pt → Pt) (hQP : ∀ q, Q (P q) = q) (g g1 : GeoBox)
    (hd : g.A.det ≠ 0) (f : Rat) (hz : zoomOut g f = .ok g1) (sy sx : PIdx) (px : Int)
    (py : Option Int) (p : Pt) :
    gcpWld2pix Q (pad (crop g1 (.two sy sx)) px py) (gcpPix2wld P (pad (crop g1 (.two sy sx)) px py) p)
      = .ok p := by
  apply gcp_wld2pix_pix2wld P Q hQP
  obtain ⟨hdet, hf⟩ := (views_det g).2.2.2.2.2.2.1 f g1 hz
  rw [(views_det (crop g1 (.two sy sx))).2.1, (views_det g1).1, hdet]
  exact mul_ne_zero hd (mul_ne_zero hf hf)

/-- … and pixel `p` of that composed view is pixel `f·(p + (x0−px, y0−py))` of the original. -/
theorem gcp_chain_pixel (P : Pt → Pt) (g g1 : GeoBox) (f : Rat) (hz : zoomOut g f = .ok g1)
    (sy sx : PIdx) (px py : Int) (p : Pt) :
    gcpPix2wld P (pad (crop g1 (.two sy sx)) px (some py)) p
      = gcpPix2wld P g (f * (p.1 - px + ((normSlice sx g1.nx).start : Rat)),
                        f * (p.2 - py + ((normSlice sy g1.ny).start : Rat))) :=
  congrArg P (((pad_pixel (crop g1 (.two sy sx)) px (some py) p).1.trans (crop_pixel g1 sy sx _).1).trans
    (zoom_out_pixel g g1 f hz _).1)

/-- `gcps()` of a view: every returned `(col, row)` is the place where the view's own
pixel→world function takes the value of the mapping at the original control-point pixel,
and the world coordinates are untouched. -/
theorem gcps_consistent (P : Pt → Pt) (g : GeoBox) (cps out : List (Pt × Pt)) (h : gcpGcps g cps = .ok out) :
    g.A.det ≠ 0 ∧ out.map (fun cp => gcpPix2wld P g cp.1) = cps.map (fun cp => P cp.1) ∧
    out.map (·.2) = cps.map (·.2) := by
  obtain ⟨hd, h⟩ := Aff.inv?_bind_ok_iff.mp h
  obtain rfl := Except.ok.inj h
  exact ⟨hd, by simp [gcpPix2wld, Function.comp_def, Aff.apply_inv_apply g.A hd], by simp [Function.comp_def]⟩

theorem fmod_bounds (x m : Rat) (hm : 0 < m) :
    0 ≤ x - ((x / m).floor : Rat) * m ∧ x - ((x / m).floor : Rat) * m < m := by
  have h3 := (div_lt_iff₀ hm).mp (floor_bounds (x / m)).2
  rw [add_mul, one_mul, add_comm] at h3
  exact ⟨sub_nonneg.mpr ((le_div_iff₀ hm).mp (Rat.floor_le _)), sub_lt_iff_lt_add.mpr h3⟩

theorem alignment_of_ne (g : GeoBox) (ha : g.A.a ≠ 0) (he : g.A.e ≠ 0) :
    alignment g = .ok (g.A.c - ((g.A.c / |g.A.a|).floor : Rat) * |g.A.a|,
                       g.A.f - ((g.A.f / |g.A.e|).floor : Rat) * |g.A.e|) := by
  simp only [alignment, pyFMod, rabs_eq_abs, abs_eq_zero, ha, he, if_false]; rfl

theorem alignment_of_eq (g : GeoBox) (h : g.A.a = 0 ∨ g.A.e = 0) : alignment g = .error .zeroDiv := by
  by_cases ha : g.A.a = 0
  · simp only [alignment, pyFMod, rabs_eq_abs, abs_eq_zero, ha, if_true]; rfl
  · simp only [alignment, pyFMod, rabs_eq_abs, abs_eq_zero, ha, h.resolve_left ha, if_true, if_false]; rfl

/-- `alignment`: the offset of the pixel edges from the grid through the CRS origin,
`0 ≤ al < |pixel size|` with `translation − al` a whole number of pixels; it needs non-zero
diagonal terms (an error otherwise, e.g. for a grid rotated by 90°: `ZeroDivisionError`,
`alignment_of_eq`). -/
theorem alignment_spec (g : GeoBox) :
    (∀ ax ay, alignment g = .ok (ax, ay) →
      g.A.a ≠ 0 ∧ g.A.e ≠ 0 ∧ 0 ≤ ax ∧ ax < |g.A.a| ∧ 0 ≤ ay ∧ ay < |g.A.e| ∧
      (∃ k : Int, g.A.c = ax + k * |g.A.a|) ∧ (∃ k : Int, g.A.f = ay + k * |g.A.e|)) ∧
    ((∃ e, alignment g = .error e) ↔ (g.A.a = 0 ∨ g.A.e = 0)) := by
  by_cases h : g.A.a = 0 ∨ g.A.e = 0
  · simp only [alignment_of_eq g h, reduceCtorEq, false_imp_iff, implies_true, Except.error.injEq, exists_eq', h, and_self]
  · obtain ⟨ha, he⟩ := not_or.mp h
    simp only [alignment_of_ne g ha he, Except.ok.injEq, Prod.mk.injEq, reduceCtorEq, exists_false, h, iff_self,
      and_true]
    rintro ax ay ⟨rfl, rfl⟩
    obtain ⟨a1, a2⟩ := fmod_bounds g.A.c |g.A.a| (abs_pos.mpr ha)
    obtain ⟨b1, b2⟩ := fmod_bounds g.A.f |g.A.e| (abs_pos.mpr he)
    exact ⟨ha, he, a1, a2, b1, b2, ⟨_, (sub_add_cancel _ _).symm⟩, ⟨_, (sub_add_cancel _ _).symm⟩⟩

/-- `enclosing(region)`: a geobox on the **same pixel grid** (integer pixel offset `(l, b)`,
same crs) that contains every vertex of the region — no clipping to the parent. -/
theorem enclosing_covers (g g' : GeoBox) (pts : List Pt) (h : enclosing g pts = .ok g') (w : Pt) (hw : w ∈ pts) :
    g.A.det ≠ 0 ∧ g'.crs = g.crs ∧ 1 ≤ g'.nx ∧ 1 ≤ g'.ny ∧
    ∃ (l b : Int) (q : Pt), (∀ r : Pt, pix2wld g' r = pix2wld g (r.1 + l, r.2 + b)) ∧
      pix2wld g' q = w ∧ 0 ≤ q.1 ∧ q.1 ≤ g'.nx ∧ 0 ≤ q.2 ∧ q.2 ≤ g'.ny := by
  obtain ⟨hd, h⟩ := Aff.inv?_bind_ok_iff.mp h
  have hmem : g.A.inv.apply w ∈ pts.map g.A.inv.apply := List.mem_map_of_mem hw
  generalize pts.map g.A.inv.apply = L at h hmem
  rcases L with _ | ⟨p0, ps⟩
  · cases hmem
  obtain rfl := Except.ok.inj h
  obtain ⟨mx, Mx, my, My⟩ := hull_mem hmem
  refine ⟨hd, rfl, le_max_left _ _, le_max_left _ _, _, _,
    ((g.A.inv.apply w).1 - _, (g.A.inv.apply w).2 - _), pix2wld_translated g, ?_,
    sub_nonneg.mpr ((Rat.floor_le _).trans mx), sub_le_iff_le_add'.mpr ((Mx.trans Rat.le_ceil).trans le_add_max_one_sub),
    sub_nonneg.mpr ((Rat.floor_le _).trans my), sub_le_iff_le_add'.mpr ((My.trans Rat.le_ceil).trans le_add_max_one_sub)⟩
  rw [pix2wld_translated, sub_add_cancel, sub_add_cancel]
  exact Aff.apply_inv_apply g.A hd w

example : enclosing ⟨10, 20, ⟨2, 0, 100, 0, -2, 50⟩, 1⟩ [(90, 60), (107, 41)]
    = .ok ⟨10, 9, ⟨2, 0, 90, 0, -2, 60⟩, 1⟩ := by decide +kernel

theorem map_bounds_corners (g : GeoBox) :
    mapBounds g = (((pix2wld g (0, 0)).2, (pix2wld g (0, 0)).1),
                   ((pix2wld g (g.nx, g.ny)).2, (pix2wld g (g.nx, g.ny)).1)) ∧
    (extent g)[0]? = some (pix2wld g (0, 0)) ∧ (extent g)[2]? = some (pix2wld g (g.nx, g.ny)) := by
  simp [mapBounds, extent, corners, pix2wld]

theorem linspace_get (N : Int) (n i : Nat) (hn : 2 ≤ n) (hi : i < n) :
    (linspace N n)[i]? = some ((i : Rat) * ((N : Rat) / ((n : Rat) - 1))) := by
  have h1 : n ≠ 1 := by omega
  simp [linspace, h1, hi]

theorem edgeIndex_mem (n : Nat) (hn : 2 ≤ n) (ij : Nat × Nat) (h : ij ∈ edgeIndex n) :
    ij.1 < n ∧ ij.2 < n ∧ (ij.1 = 0 ∨ ij.1 = n - 1 ∨ ij.2 = 0 ∨ ij.2 = n - 1) := by
  simp only [edgeIndex, List.mem_append, List.mem_map, List.mem_range, List.mem_reverse] at h
  rcases h with ((⟨i, hi, rfl⟩ | ⟨j, hj, rfl⟩) | ⟨i, hi, rfl⟩) | ⟨j, hj, rfl⟩ <;> dsimp only <;> omega

theorem linspace_first {N : Int} {n : Nat} (hn : 2 ≤ n) : (linspace N n)[0]? = some 0 := by
  rw [linspace_get N n 0 hn (by omega), Nat.cast_zero, zero_mul]

theorem linspace_last {N : Int} {n : Nat} (hn : 2 ≤ n) : (linspace N n)[n - 1]? = some (N : Rat) := by
  have hd : (n : Rat) - 1 ≠ 0 := (sub_pos.mpr (Nat.one_lt_cast.mpr hn)).ne'
  rw [linspace_get N n _ hn (by omega), Nat.cast_sub (by omega), Nat.cast_one, mul_div_cancel₀ _ hd]

theorem linspace_bounds {N : Int} {n i : Nat} (hn : 2 ≤ n) (hN : 0 ≤ N) (hi : i < n) :
    ∃ v : Rat, (linspace N n)[i]? = some v ∧ 0 ≤ v ∧ v ≤ N ∧ (i = 0 → v = 0) ∧ (i = n - 1 → v = N) := by
  have hd : (0 : Rat) < (n : Rat) - 1 := sub_pos.mpr (Nat.one_lt_cast.mpr hn)
  have hi1 : (i : Rat) ≤ (n : Rat) - 1 := le_sub_iff_add_le.mpr (by exact_mod_cast Nat.succ_le_of_lt hi)
  have hq : 0 ≤ (N : Rat) / ((n : Rat) - 1) := div_nonneg (by exact_mod_cast hN) hd.le
  refine ⟨_, linspace_get N n i hn hi, mul_nonneg (Nat.cast_nonneg i) hq,
    (mul_le_mul_of_nonneg_right hi1 hq).trans_eq (mul_div_cancel₀ _ hd.ne'), fun h => ?_, fun h => ?_⟩
  · rw [h, Nat.cast_zero, zero_mul]
  · rw [h, Nat.cast_sub (by omega), Nat.cast_one, mul_div_cancel₀ _ hd.ne']

theorem edgeIndex_corners (n : Nat) (hn : 2 ≤ n) :
    (0, 0) ∈ edgeIndex n ∧ (n - 1, 0) ∈ edgeIndex n ∧ (n - 1, n - 1) ∈ edgeIndex n ∧ (0, n - 1) ∈ edgeIndex n := by
  simp only [edgeIndex, List.mem_append, List.mem_map, List.mem_range, List.mem_reverse, Prod.mk.injEq]
  exact ⟨Or.inl (Or.inl (Or.inl ⟨0, by omega, rfl, trivial⟩)), Or.inl (Or.inl (Or.inl ⟨n - 1, by omega, rfl, trivial⟩)),
    Or.inl (Or.inl (Or.inr ⟨n - 2, by omega, trivial, by omega⟩)), Or.inl (Or.inr ⟨0, by omega, rfl, trivial⟩)⟩

theorem boundary_mem (g : GeoBox) {n i j : Nat} {x y : Rat} (hij : (i, j) ∈ edgeIndex n)
    (hx : (linspace g.nx n)[i]? = some x) (hy : (linspace g.ny n)[j]? = some y) : (x, y) ∈ boundary g n := by
  simp only [boundary, List.mem_filterMap]
  exact ⟨(i, j), hij, by simp only [hx, hy]⟩

/-- `boundary(n)` (`n ≥ 2` points per side): every sample lies on the edge of the pixel
rectangle `[0, nx] × [0, ny]`, and the four corners are among the samples — so the footprint
of a GCP geobox (`gcpExtent`: these samples pushed through pix2wld) passes through the images
of the corners. -/
theorem boundary_on_edge (g : GeoBox) (n : Nat) (hn : 2 ≤ n) (hny : 0 ≤ g.ny) (hnx : 0 ≤ g.nx) :
    (∀ p ∈ boundary g n, 0 ≤ p.1 ∧ p.1 ≤ g.nx ∧ 0 ≤ p.2 ∧ p.2 ≤ g.ny ∧
        (p.1 = 0 ∨ p.1 = g.nx ∨ p.2 = 0 ∨ p.2 = g.ny)) ∧
    ((0 : Rat), (0 : Rat)) ∈ boundary g n ∧ ((g.nx : Rat), (0 : Rat)) ∈ boundary g n ∧
    ((g.nx : Rat), (g.ny : Rat)) ∈ boundary g n ∧ ((0 : Rat), (g.ny : Rat)) ∈ boundary g n := by
  obtain ⟨c00, c10, c11, c01⟩ := edgeIndex_corners n hn
  refine ⟨?_, boundary_mem g c00 (linspace_first hn) (linspace_first hn),
    boundary_mem g c10 (linspace_last hn) (linspace_first hn),
    boundary_mem g c11 (linspace_last hn) (linspace_last hn),
    boundary_mem g c01 (linspace_first hn) (linspace_last hn)⟩
  intro p hp
  simp only [boundary, List.mem_filterMap] at hp
  obtain ⟨ij, hij, hf⟩ := hp
  obtain ⟨h1, h2, h3⟩ := edgeIndex_mem n hn ij hij
  obtain ⟨vx, ex, a1, a2, a3, a4⟩ := linspace_bounds hn hnx h1
  obtain ⟨vy, ey, b1, b2, b3, b4⟩ := linspace_bounds hn hny h2
  rw [ex, ey] at hf
  obtain rfl : (vx, vy) = p := Option.some.inj hf
  exact ⟨a1, a2, b1, b2, h3.imp a3 (Or.imp a4 (Or.imp b3 b4))⟩

end OdcGeo.C02
