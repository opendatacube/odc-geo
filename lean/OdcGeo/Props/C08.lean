/-
C08 — a GeoBox built from a region covers it and is snapped as requested.

The one-axis results are those of `OdcGeo.Props.C20` (`snap_grid_*`), restated under the names of
DESIGN.md §4 C08 and then lifted to `GeoBox.from_bbox` / `from_geopolygon` (also the `crs="utm"` shortcut, the
cross-CRS polygon variant, and C02's `zoom_to(resolution=)`, which is `from_bbox` of the bounding box).
Standing hypotheses ("valid input", `ValidRes`): `left ≤ right`, `bottom ≤ top`, resolution components `≠ 0`,
anchor fractions in `[0, 1)`, `0 ≤ tol < 1/2`.  What is said of a result that is there is read off
`C20.snapGrid_ok` and uses less of it (`0 ≤ tol` for the cover, also the ordered region for the excess).
`g.xmin … g.ymax` is the world extent of the result.
-/
import OdcGeo.Model.C08
import OdcGeo.Lemmas.C08
import OdcGeo.Lemmas.C08C02
import OdcGeo.Props.C20

namespace OdcGeo.C08
open OdcGeo.C20 (snapGrid gridLo gridHi)

theorem snap_n_pos {x0 x1 res tol : Rat} (off : Option Rat) (hr : res ≠ 0) (hx : x0 ≤ x1)
    (hop : ∀ op, off = some op → 0 ≤ op ∧ op < 1) (ht : 0 ≤ tol) (ht2 : tol < 1 / 2) :
    ∃ tx nx, snapGrid x0 x1 res off tol = .ok (tx, nx) ∧ 1 ≤ nx :=
  C20.snap_grid_n_pos off hr hx hop ht ht2

theorem snap_cover {x0 x1 res tol tx : Rat} {nx : Int} (off : Option Rat) (hr : res ≠ 0)
    (hx : x0 ≤ x1) (hop : ∀ op, off = some op → 0 ≤ op ∧ op < 1) (ht : 0 ≤ tol) (ht2 : tol < 1 / 2)
    (h : snapGrid x0 x1 res off tol = .ok (tx, nx)) :
    gridLo res tx nx ≤ x0 + tol * |res| ∧ x1 - tol * |res| ≤ gridHi res tx nx :=
  C20.snap_grid_cover off hr hx hop ht ht2 h

/-- Strict bound; the side condition excludes only the zero-width interval with `tol = 0`
(`C20.snap_grid_minimal_degenerate` shows equality there; `snap_minimal_le` has no condition). -/
theorem snap_minimal {x0 x1 res tol tx : Rat} {nx : Int} (off : Option Rat) (hr : res ≠ 0)
    (hx : x0 ≤ x1) (hop : ∀ op, off = some op → 0 ≤ op ∧ op < 1) (ht : 0 ≤ tol) (ht2 : tol < 1 / 2)
    (hs : 0 < tol ∨ x0 < x1) (h : snapGrid x0 x1 res off tol = .ok (tx, nx)) :
    x0 - gridLo res tx nx < |res| * (1 + tol) ∧ gridHi res tx nx - x1 < |res| * (1 + tol) :=
  C20.snap_grid_minimal off hr hx hop ht ht2 hs h

theorem snap_minimal_le {x0 x1 res tol tx : Rat} {nx : Int} (off : Option Rat) (hr : res ≠ 0)
    (hx : x0 ≤ x1) (hop : ∀ op, off = some op → 0 ≤ op ∧ op < 1) (ht : 0 ≤ tol) (ht2 : tol < 1 / 2)
    (h : snapGrid x0 x1 res off tol = .ok (tx, nx)) :
    x0 - gridLo res tx nx ≤ |res| * (1 + tol) ∧ gridHi res tx nx - x1 ≤ |res| * (1 + tol) :=
  C20.snap_grid_minimal_le off hr hx hop ht ht2 h

theorem snap_aligned {x0 x1 res tol tx op : Rat} {nx : Int} (hr : res ≠ 0)
    (hx : x0 ≤ x1) (hop : 0 ≤ op ∧ op < 1) (ht : 0 ≤ tol) (ht2 : tol < 1 / 2)
    (h : snapGrid x0 x1 res (some op) tol = .ok (tx, nx)) :
    ∃ i : Int, (gridLo res tx nx - op * |res|) / |res| = i ∧
      (gridHi res tx nx - op * |res|) / |res| = ((i + nx : Int) : Rat) :=
  C20.snap_grid_aligned hr hx hop ht ht2 h

theorem snap_none_exact {x0 x1 res tol tx : Rat} {nx : Int} (hr : res ≠ 0) (hx : x0 ≤ x1)
    (ht : 0 ≤ tol) (h : snapGrid x0 x1 res none tol = .ok (tx, nx)) :
    tx = if 0 < res then x0 else x1 :=
  C20.snap_grid_none_exact hr hx ht h

/-- `_norm_anchor` followed by the choice of snap offsets: edge ↦ 0, centre ↦ ½, a number `v`
↦ `(v, v)` (also for `0` and `0.5`, which go through the enum), an `XY` ↦ itself (per axis),
floating / tight ↦ no snapping; `"default"` is edge, `"centre"` is `"center"`. -/
theorem anchor_table (v x y : Rat) :
    snapOf false (normAnchor (.val .edge)) = some (0, 0) ∧
    snapOf false (normAnchor (.val .center)) = some (1 / 2, 1 / 2) ∧
    snapOf false (normAnchor (.num v)) = some (v, v) ∧
    snapOf false (normAnchor (.val (.xy x y))) = some (x, y) ∧
    snapOf false (normAnchor (.val .floating)) = none ∧
    snapOf false (normAnchor (.name .default)) = some (0, 0) ∧
    snapOf false (normAnchor (.name .edge)) = some (0, 0) ∧
    snapOf false (normAnchor (.name .center)) = some (1 / 2, 1 / 2) ∧
    snapOf false (normAnchor (.name .centre)) = some (1 / 2, 1 / 2) ∧
    snapOf false (normAnchor (.name .floating)) = none := by
  refine ⟨rfl, rfl, ?_, rfl, rfl, rfl, rfl, rfl, rfl, rfl⟩
  show snapOf false (if v = 0 then Anchor.edge else if v = 1 / 2 then Anchor.center else Anchor.xy v v) = some (v, v)
  split_ifs with h0 h1
  exacts [by rw [h0]; rfl, by rw [h1]; rfl, rfl]

/-- `tight=True` turns snapping off whatever the anchor. -/
theorem tight_is_floating (a : AnchorArg) : snapOf true (normAnchor a) = none := rfl

section res
variable {bb : BBox} {tight : Bool} {shape : ShapeArg} {res : ResArg} {anchor : AnchorArg}
  {tol rx ry : Rat} {g : GeoBox}

/-- On valid input the construction succeeds, with at least one pixel per axis. -/
theorem from_bbox_res_total (hs : ∀ n, shape ≠ .int n) (hres : res.xy? = some (rx, ry))
    (v : ValidRes bb rx ry tol (snapOf tight (normAnchor anchor))) :
    ∃ g, fromBbox bb tight shape res anchor tol = .ok g ∧ 1 ≤ g.nx ∧ 1 ≤ g.ny := by
  obtain ⟨tx, nx, h1, hn1⟩ := C20.snap_grid_n_pos _ v.hrx v.hx v.hopx v.ht v.ht2
  obtain ⟨ty, ny, h2, hn2⟩ := C20.snap_grid_n_pos _ v.hry v.hy v.hopy v.ht v.ht2
  refine ⟨⟨ny, nx, Aff.translation tx ty * Aff.scale rx ry⟩, ?_, hn1, hn2⟩
  rw [fromBbox_res_eq hs hres, h1, h2]
  rfl

/-- **Pixel size and orientation**: `affine = T(offx, offy)·S(rx, ry)`, exactly the requested
size and sign per axis, no rotation. -/
theorem from_bbox_res_pixel_size (hs : ∀ n, shape ≠ .int n) (hres : res.xy? = some (rx, ry))
    (h : fromBbox bb tight shape res anchor tol = .ok g) :
    g.affine = Aff.translation g.affine.c g.affine.f * Aff.scale rx ry ∧
      g.affine.a = rx ∧ g.affine.e = ry ∧ g.affine.b = 0 ∧ g.affine.d = 0 := by
  rw [Aff.translation_mul_scale, (fromBbox_res_inv hs hres h).2.2]
  exact ⟨rfl, rfl, rfl, rfl, rfl⟩

theorem from_bbox_res_n_pos (hs : ∀ n, shape ≠ .int n) (hres : res.xy? = some (rx, ry))
    (h : fromBbox bb tight shape res anchor tol = .ok g) : 1 ≤ g.nx ∧ 1 ≤ g.ny := by
  obtain ⟨h1, h2, _⟩ := fromBbox_res_inv hs hres h
  exact ⟨(C20.snapGrid_ok h1).2.1, (C20.snapGrid_ok h2).2.1⟩

/-- one-axis facts transported to the geobox extent -/
theorem from_bbox_res_axes (hs : ∀ n, shape ≠ .int n) (hres : res.xy? = some (rx, ry))
    (h : fromBbox bb tight shape res anchor tol = .ok g) :
    snapGrid bb.left bb.right rx ((snapOf tight (normAnchor anchor)).map (·.1)) tol = .ok (g.affine.c, g.nx) ∧
    snapGrid bb.bottom bb.top ry ((snapOf tight (normAnchor anchor)).map (·.2)) tol = .ok (g.affine.f, g.ny) ∧
    g.xmin = gridLo rx g.affine.c g.nx ∧ g.xmax = gridHi rx g.affine.c g.nx ∧
    g.ymin = gridLo ry g.affine.f g.ny ∧ g.ymax = gridHi ry g.affine.f g.ny := by
  obtain ⟨h1, h2, ha⟩ := fromBbox_res_inv hs hres h
  obtain ⟨hn1, hn2⟩ := from_bbox_res_n_pos hs hres h
  have he := extent_eq g (by omega) (by omega)
  rw [ha] at he
  exact ⟨h1, h2, he⟩

/-- **Covers** the whole region except at most `tol` of a pixel per side. -/
theorem from_bbox_res_covers (hs : ∀ n, shape ≠ .int n) (hres : res.xy? = some (rx, ry))
    (v : ValidRes bb rx ry tol (snapOf tight (normAnchor anchor)))
    (h : fromBbox bb tight shape res anchor tol = .ok g) :
    g.xmin ≤ bb.left + tol * |rx| ∧ bb.right - tol * |rx| ≤ g.xmax ∧
    g.ymin ≤ bb.bottom + tol * |ry| ∧ bb.top - tol * |ry| ≤ g.ymax := by
  obtain ⟨h1, h2, e1, e2, e3, e4⟩ := from_bbox_res_axes hs hres h
  have cx := C20.snapGrid_ok_cover v.ht h1
  have cy := C20.snapGrid_ok_cover v.ht h2
  rw [e1, e2, e3, e4]
  exact ⟨cx.1, cx.2, cy⟩

/-- **Minimal**: less than one pixel (plus `tol`) larger than necessary on any side. -/
theorem from_bbox_res_minimal (hs : ∀ n, shape ≠ .int n) (hres : res.xy? = some (rx, ry))
    (v : ValidRes bb rx ry tol (snapOf tight (normAnchor anchor)))
    (hsx : 0 < tol ∨ bb.left < bb.right) (hsy : 0 < tol ∨ bb.bottom < bb.top)
    (h : fromBbox bb tight shape res anchor tol = .ok g) :
    bb.left - g.xmin < |rx| * (1 + tol) ∧ g.xmax - bb.right < |rx| * (1 + tol) ∧
    bb.bottom - g.ymin < |ry| * (1 + tol) ∧ g.ymax - bb.top < |ry| * (1 + tol) := by
  obtain ⟨h1, h2, e1, e2, e3, e4⟩ := from_bbox_res_axes hs hres h
  have cx := (C20.snapGrid_ok_excess v.ht v.hx h1).2.2.1 hsx
  have cy := (C20.snapGrid_ok_excess v.ht v.hy h2).2.2.1 hsy
  rw [e1, e2, e3, e4]
  exact ⟨cx.1, cx.2, cy⟩

/-- Non-strict version without side condition (covers zero-width regions with `tol = 0`). -/
theorem from_bbox_res_minimal_le (hs : ∀ n, shape ≠ .int n) (hres : res.xy? = some (rx, ry))
    (v : ValidRes bb rx ry tol (snapOf tight (normAnchor anchor)))
    (h : fromBbox bb tight shape res anchor tol = .ok g) :
    bb.left - g.xmin ≤ |rx| * (1 + tol) ∧ g.xmax - bb.right ≤ |rx| * (1 + tol) ∧
    bb.bottom - g.ymin ≤ |ry| * (1 + tol) ∧ g.ymax - bb.top ≤ |ry| * (1 + tol) := by
  obtain ⟨h1, h2, e1, e2, e3, e4⟩ := from_bbox_res_axes hs hres h
  have cx := C20.snapGrid_ok_excess v.ht v.hx h1
  have cy := C20.snapGrid_ok_excess v.ht v.hy h2
  rw [e1, e2, e3, e4]
  exact ⟨cx.1, cx.2.1, cy.1, cy.2.1⟩

/-- **Aligned**: pixel edges are offset from the CRS origin by exactly the anchor fraction of a
pixel, per axis (`sx = sy = 0` edge, `½` centre, anything in `[0,1)` otherwise). -/
theorem from_bbox_res_aligned (hs : ∀ n, shape ≠ .int n) (hres : res.xy? = some (rx, ry))
    (v : ValidRes bb rx ry tol (snapOf tight (normAnchor anchor))) {sx sy : Rat}
    (hsn : snapOf tight (normAnchor anchor) = some (sx, sy))
    (h : fromBbox bb tight shape res anchor tol = .ok g) :
    ∃ i j : Int, (g.xmin - sx * |rx|) / |rx| = i ∧ (g.xmax - sx * |rx|) / |rx| = ((i + g.nx : Int) : Rat) ∧
      (g.ymin - sy * |ry|) / |ry| = j ∧ (g.ymax - sy * |ry|) / |ry| = ((j + g.ny : Int) : Rat) := by
  obtain ⟨h1, h2, e1, e2, e3, e4⟩ := from_bbox_res_axes hs hres h
  have hs' := v.hsnap (sx, sy) hsn
  rw [hsn] at h1 h2
  obtain ⟨i, hi1, hi2⟩ := C20.snap_grid_aligned v.hrx v.hx hs'.1 v.ht v.ht2 h1
  obtain ⟨j, hj1, hj2⟩ := C20.snap_grid_aligned v.hry v.hy hs'.2 v.ht v.ht2 h2
  rw [e1, e2, e3, e4]
  exact ⟨i, j, hi1, hi2, hj1, hj2⟩

/-- **Floating / tight**: the origin is the region's corner on the side the axis starts from. -/
theorem from_bbox_res_floating_exact (hs : ∀ n, shape ≠ .int n) (hres : res.xy? = some (rx, ry))
    (v : ValidRes bb rx ry tol (snapOf tight (normAnchor anchor)))
    (hsn : snapOf tight (normAnchor anchor) = none)
    (h : fromBbox bb tight shape res anchor tol = .ok g) :
    g.affine.c = (if 0 < rx then bb.left else bb.right) ∧
      g.affine.f = (if 0 < ry then bb.bottom else bb.top) := by
  obtain ⟨h1, h2, _⟩ := from_bbox_res_axes hs hres h
  rw [hsn] at h1 h2
  exact ⟨C20.snap_grid_none_exact v.hrx v.hx v.ht h1, C20.snap_grid_none_exact v.hry v.hy v.ht h2⟩

end res

/-- A single-number `shape=n` is the resolution branch with the square pixel
`longest side / n` (and north-up orientation); it overrides `resolution=`.  A region without height (`bbox.aspect`)
and `n = 0` divide by zero. -/
theorem from_bbox_int_shape_reduces (bb : BBox) (tight : Bool) (n : Int) (res : ResArg)
    (anchor : AnchorArg) (tol : Rat) :
    fromBbox bb tight (.int n) res anchor tol =
      if bb.spanY = 0 ∨ n = 0 then .error .zeroDiv
      else fromBbox bb tight .none
        (.scalar (if bb.spanX / bb.spanY > 1 then bb.spanX / n else bb.spanY / n)) anchor tol := by
  unfold fromBbox
  simp only [intShapeToRes]
  by_cases hy : bb.spanY = 0
  · rw [if_pos hy, if_pos (.inl hy)]
    rfl
  · by_cases hn : n = 0
    · rw [if_neg hy, if_pos hn, if_pos (.inr hn)]
      rfl
    · rw [if_neg hy, if_neg hn, if_neg (not_or.2 ⟨hy, hn⟩)]
      split <;> rfl

/-- **Single-number shape, floating / tight: the longest side gets exactly `n` pixels**, pixels are
square (`span_long / n`, north-up), the grid starts at the region's top-left corner.  (With an
anchor the longest side can get one pixel more: `C11.int_shape_plus_one_cex`.) -/
theorem from_bbox_int_shape_floating_longest (bb : BBox) (tight : Bool) (n : Int) (res : ResArg)
    (anchor : AnchorArg) (tol : Rat) (hn : 0 < n) (hx : bb.left < bb.right) (hy : bb.bottom < bb.top)
    (hsn : snapOf tight (normAnchor anchor) = none) :
    ∃ g, fromBbox bb tight (.int n) res anchor tol = .ok g ∧
      (bb.spanX / bb.spanY > 1 → g.nx = n ∧ g.affine.a = bb.spanX / n ∧ g.affine.e = -(bb.spanX / n)) ∧
      (¬ bb.spanX / bb.spanY > 1 → g.ny = n ∧ g.affine.a = bb.spanY / n ∧ g.affine.e = -(bb.spanY / n)) ∧
      g.affine.c = bb.left ∧ g.affine.f = bb.top ∧ g.affine.b = 0 ∧ g.affine.d = 0 ∧ 1 ≤ g.nx ∧ 1 ≤ g.ny := by
  have hn' : (0 : Rat) < n := Int.cast_pos.mpr hn
  have hsx : 0 < bb.spanX := sub_pos.mpr hx
  have hsy : 0 < bb.spanY := sub_pos.mpr hy
  rw [from_bbox_int_shape_reduces, if_neg (not_or.2 ⟨hsy.ne', hn.ne'⟩)]
  generalize hr : (if bb.spanX / bb.spanY > 1 then bb.spanX / (n : Rat) else bb.spanY / (n : Rat)) = r
  have hrpos : 0 < r := by
    rw [← hr]; split
    · exact div_pos hsx hn'
    · exact div_pos hsy hn'
  rw [fromBbox_res_eq (rx := r) (ry := -r) none_not_int rfl, hsn, Option.map_none, Option.map_none,
    C20.snapGrid_none_eq hrpos.ne', C20.snapGrid_none_eq (neg_ne_zero.mpr hrpos.ne'), abs_neg, abs_of_pos hrpos,
    if_pos hrpos, if_neg (not_lt.mpr (neg_nonpos.mpr hrpos.le))]
  -- the side whose length is `n` pixels gets exactly `n` of them
  have hcount : ∀ w : Rat, w ≠ 0 → w / n = r → max 1 (C20.maybeInt (w / r) tol).ceil = n := by
    intro w hw e
    rw [← e, div_div_cancel₀ hw, C20.maybeInt_intCast, Rat.ceil_intCast, max_eq_right hn]
  refine ⟨_, rfl, ?_⟩
  rw [Aff.translation_mul_scale]
  refine ⟨fun hlong => ?_, fun hshort => ?_, rfl, rfl, rfl, rfl, le_max_left _ _, le_max_left _ _⟩
  · rw [if_pos hlong] at hr
    exact ⟨hcount _ hsx.ne' hr, hr.symm, by rw [hr]⟩
  · rw [if_neg hshort] at hr
    exact ⟨hcount _ hsy.ne' hr, hr.symm, by rw [hr]⟩

section shape
variable {bb : BBox} {tight : Bool} {anchor : AnchorArg} {tol : Rat} {ny nx : Int} {g : GeoBox}

/-- **Exact shape** and **pixel size = span / shape** (north-up), snapping or not. -/
theorem from_bbox_shape_exact_shape (hnx : nx ≠ 0) (hny : ny ≠ 0)
    (h : fromBbox bb tight (.yx ny nx) .none anchor tol = .ok g) :
    g.ny = ny ∧ g.nx = nx ∧ g.affine.a = bb.spanX / nx ∧ g.affine.e = -bb.spanY / ny ∧
      g.affine.b = 0 ∧ g.affine.d = 0 := by
  rw [(fromBbox_shape_inv hnx hny h).1]
  exact ⟨rfl, rfl, rfl, rfl, rfl, rfl⟩

theorem from_bbox_shape_pixel_size (hnx : nx ≠ 0) (hny : ny ≠ 0)
    (h : fromBbox bb tight (.yx ny nx) .none anchor tol = .ok g) :
    g.affine = Aff.translation g.affine.c g.affine.f * Aff.scale (bb.spanX / nx) (-bb.spanY / ny) := by
  obtain ⟨_, _, h1, h2, h3, h4⟩ := from_bbox_shape_exact_shape hnx hny h
  rw [Aff.translation_mul_scale, ← h1, ← h2]
  exact (Aff.eta_of_st h3 h4).symm

/-- **Floating / tight**: the result is exactly the region. -/
theorem from_bbox_shape_floating_exact (hnx : 0 < nx) (hny : 0 < ny)
    (hx : bb.left ≤ bb.right) (hy : bb.bottom ≤ bb.top)
    (hsn : snapOf tight (normAnchor anchor) = none)
    (h : fromBbox bb tight (.yx ny nx) .none anchor tol = .ok g) :
    g.xmin = bb.left ∧ g.xmax = bb.right ∧ g.ymin = bb.bottom ∧ g.ymax = bb.top := by
  obtain ⟨hg, hfl, _⟩ := fromBbox_shape_inv hnx.ne' hny.ne' h
  obtain ⟨e1, e2, e3, e4⟩ := shape_extent hnx.ne' hny.ne' (sub_nonneg.mpr hx) (sub_nonneg.mpr hy) hg
  rw [e1, e2, e3, e4, (hfl hsn).1, (hfl hsn).2]
  exact ⟨rfl, add_sub_cancel _ _, sub_sub_cancel _ _, rfl⟩

/-- Where the shape-driven construction puts the origin, snapping or not: within a pixel of the region's top-left
corner (at most `tol` of a pixel inwards, less than a pixel outwards), on it when floating / tight, on the anchor
lattice when snapping. -/
theorem from_bbox_shape_origin (hnx : 0 < nx) (hny : 0 < ny) (hx : bb.left < bb.right) (hy : bb.bottom < bb.top)
    (ht : 0 ≤ tol) (ht1 : tol < 1) (h : fromBbox bb tight (.yx ny nx) .none anchor tol = .ok g) :
    (-(tol * (bb.spanX / nx)) ≤ bb.left - g.affine.c ∧ bb.left - g.affine.c < bb.spanX / nx) ∧
    (-(tol * (bb.spanY / ny)) ≤ g.affine.f - bb.top ∧ g.affine.f - bb.top < bb.spanY / ny) ∧
    (snapOf tight (normAnchor anchor) = none → g.affine.c = bb.left ∧ g.affine.f = bb.top) ∧
    ∀ sx sy, snapOf tight (normAnchor anchor) = some (sx, sy) →
      ∃ i j : Int, (g.affine.c - sx * (bb.spanX / nx)) / (bb.spanX / nx) = i ∧
        (g.affine.f - sy * (bb.spanY / ny)) / (bb.spanY / ny) = j := by
  have hspy : 0 < bb.spanY := sub_pos.mpr hy
  have hrx : 0 < bb.spanX / nx := div_pos (sub_pos.mpr hx) (Int.cast_pos.mpr hnx)
  have hry : 0 < bb.spanY / ny := div_pos hspy (Int.cast_pos.mpr hny)
  obtain ⟨_, hfl, hsnp⟩ := fromBbox_shape_inv hnx.ne' hny.ne' h
  cases hsn : snapOf tight (normAnchor anchor) with
  | none =>
    obtain ⟨hc, hf⟩ := hfl hsn
    rw [hc, hf, sub_self, sub_self]
    exact ⟨⟨neg_nonpos.mpr (mul_nonneg ht hrx.le), hrx⟩, ⟨neg_nonpos.mpr (mul_nonneg ht hry.le), hry⟩,
      fun _ => ⟨rfl, rfl⟩, nofun⟩
  | some s =>
    obtain ⟨n1, n2, h1, h2⟩ := hsnp s.1 s.2 hsn
    rw [neg_div] at h2
    -- the y axis runs downwards from the origin; the region is `ny ≥ 1` pixels high
    have hwide : bb.spanY / ny ≤ bb.top - bb.bottom := div_le_self hspy.le (by exact_mod_cast hny)
    obtain ⟨i, hi⟩ := snapGrid_origin_lattice h1
    obtain ⟨j, hj⟩ := snapGrid_origin_lattice h2
    obtain ⟨dx, _⟩ := snapGrid_origin ht ht1 h1
    obtain ⟨_, dy⟩ := snapGrid_origin ht ht1 h2
    rw [abs_of_pos hrx] at hi dx
    rw [abs_neg, abs_of_pos hry] at hj dy
    refine ⟨dx hrx, dy (neg_neg_of_pos hry) hwide, nofun, fun sx sy e => ?_⟩
    cases e
    exact ⟨i, j, hi, hj⟩

/-- **Snapped**: the result is the region translated by less than one pixel per axis
(at most `tol` of a pixel inwards), and its pixel edges sit at the anchor fraction.
`rx`, `ry` are the (positive) pixel sizes `span / shape`. -/
theorem from_bbox_shape_displacement (hnx : 0 < nx) (hny : 0 < ny)
    (hx : bb.left < bb.right) (hy : bb.bottom < bb.top) (ht : 0 ≤ tol) (ht2 : tol < 1 / 2)
    {sx sy : Rat} (hsn : snapOf tight (normAnchor anchor) = some (sx, sy))
    (hsx : 0 ≤ sx ∧ sx < 1) (hsy : 0 ≤ sy ∧ sy < 1)
    (rx ry : Rat) (hrxd : rx = bb.spanX / nx) (hryd : ry = bb.spanY / ny)
    (h : fromBbox bb tight (.yx ny nx) .none anchor tol = .ok g) :
    (g.xmin = g.affine.c ∧ g.xmax = g.affine.c + bb.spanX ∧
      g.ymax = g.affine.f ∧ g.ymin = g.affine.f - bb.spanY) ∧
    (-(tol * rx) ≤ bb.left - g.affine.c ∧ bb.left - g.affine.c < rx) ∧
    (-(tol * ry) ≤ g.affine.f - bb.top ∧ g.affine.f - bb.top < ry) ∧
    (∃ i j : Int, (g.affine.c - sx * rx) / rx = i ∧ (g.affine.f - sy * ry) / ry = j) := by
  subst hrxd hryd
  obtain ⟨dx, dy, _, lat⟩ := from_bbox_shape_origin hnx hny hx hy ht (ht2.trans one_half_lt_one) h
  exact ⟨shape_extent hnx.ne' hny.ne' (sub_pos.mpr hx).le (sub_pos.mpr hy).le (fromBbox_shape_inv hnx.ne' hny.ne' h).1,
    dx, dy, lat sx sy hsn⟩

end shape

/-- Whatever the arguments, a geobox that `from_bbox` returns is axis-aligned and has no empty axis. -/
theorem fromBbox_ok_aligned {bb : BBox} {tight : Bool} {shape : ShapeArg} {res : ResArg} {anchor : AnchorArg}
    {tol : Rat} {g : GeoBox} (h : fromBbox bb tight shape res anchor tol = .ok g) :
    g.affine.b = 0 ∧ g.affine.d = 0 ∧ g.ny ≠ 0 ∧ g.nx ≠ 0 := by
  have hres : ∀ {shape res} {r : Rat × Rat}, (∀ n, shape ≠ .int n) → res.xy? = some r →
      fromBbox bb tight shape res anchor tol = .ok g → g.affine.b = 0 ∧ g.affine.d = 0 ∧ g.ny ≠ 0 ∧ g.nx ≠ 0 :=
    fun hs hxy h => by
      obtain ⟨_, _, _, hb, hd⟩ := from_bbox_res_pixel_size hs hxy h
      obtain ⟨h1, h2⟩ := from_bbox_res_n_pos hs hxy h
      exact ⟨hb, hd, by omega, by omega⟩
  cases shape with
  | int n =>
    rw [from_bbox_int_shape_reduces] at h
    split at h
    · cases h
    · exact hres none_not_int rfl h
  | none =>
    cases hxy : res.xy? with
    | some r => exact hres none_not_int hxy h
    | none =>
      simp only [fromBbox, intShapeToRes, bind, Except.bind, hxy] at h
      cases h
  | yx ny nx =>
    cases hxy : res.xy? with
    | some r => exact hres (shape := .yx ny nx) (fun _ h => nomatch h) hxy h
    | none =>
      cases res with
      | none =>
        by_cases hnx : nx = 0
        · simp only [fromBbox, intShapeToRes, bind, Except.bind, ResArg.xy?, if_pos hnx] at h
          cases h
        · by_cases hny : ny = 0
          · simp only [fromBbox, intShapeToRes, bind, Except.bind, ResArg.xy?, if_neg hnx, if_pos hny] at h
            cases h
          · obtain ⟨rfl, rfl, _, _, hb, hd⟩ := from_bbox_shape_exact_shape hnx hny h
            exact ⟨hb, hd, hny, hnx⟩
      | scalar r => cases hxy
      | xy rx ry => cases hxy

theorem bbox_of_pts_contains (p : Rat × Rat) (ps : List (Rat × Rat)) :
    ∀ q ∈ p :: ps, (bboxOfPts p ps).left ≤ q.1 ∧ q.1 ≤ (bboxOfPts p ps).right ∧
      (bboxOfPts p ps).bottom ≤ q.2 ∧ q.2 ≤ (bboxOfPts p ps).top := by
  intro q hq
  have lo (f : Rat × Rat → Rat) : ps.foldl (fun m r => min m (f r)) (f p) ≤ f q := by
    rw [← List.foldl_map]
    exact (foldl_min_spec (ps.map f) (f p)).2 (f q) (List.mem_map_of_mem (f := f) hq)
  have hi (f : Rat × Rat → Rat) : f q ≤ ps.foldl (fun m r => max m (f r)) (f p) := by
    rw [← List.foldl_map]
    exact (foldl_max_spec (ps.map f) (f p)).2 (f q) (List.mem_map_of_mem (f := f) hq)
  exact ⟨lo (·.1), hi (·.1), lo (·.2), hi (·.2)⟩

/-- `from_geopolygon` is `from_bbox` of the polygon's bounding box; the deprecated `align=`
(in CRS units) becomes the per-axis anchor `align / |resolution|`, `(0,0)` becomes edge. -/
theorem from_geopolygon_reduces_to_bbox (p : Rat × Rat) (ps : List (Rat × Rat)) (res : ResArg)
    (shape : ShapeArg) (tight : Bool) (anchor : AnchorArg) (tol : Rat) :
    fromGeopolygon p ps res none shape tight anchor tol =
        fromBbox (bboxOfPts p ps) tight shape res anchor tol ∧
    fromGeopolygon p ps res (some (0, 0)) shape tight anchor tol =
        fromBbox (bboxOfPts p ps) tight shape res (.val .edge) tol ∧
    (∀ ax ay rx ry, ¬ (ax = 0 ∧ ay = 0) → res.xy? = some (rx, ry) → rx ≠ 0 → ry ≠ 0 →
      fromGeopolygon p ps res (some (ax, ay)) shape tight anchor tol =
        fromBbox (bboxOfPts p ps) tight shape (.xy rx ry) (.val (.xy (ax / |rx|) (ay / |ry|))) tol) := by
  refine ⟨rfl, ?_, ?_⟩
  · simp [fromGeopolygon, alignToAnchor, bind, Except.bind]
  · intro ax ay rx ry h0 hres hrx hry
    have : ¬ (rx = 0 ∨ ry = 0) := by tauto
    simp only [fromGeopolygon, alignToAnchor, if_neg h0, hres, if_neg this, bind, Except.bind,
      C20.rabs_eq_abs]

/-- Every vertex of the polygon lies within the resulting geobox up to `tol` of a pixel. -/
theorem from_geopolygon_covers_vertices (p : Rat × Rat) (ps : List (Rat × Rat)) {res : ResArg}
    {shape : ShapeArg} {tight : Bool} {anchor : AnchorArg} {tol rx ry : Rat} {g : GeoBox}
    (hs : ∀ n, shape ≠ .int n) (hres : res.xy? = some (rx, ry))
    (v : ValidRes (bboxOfPts p ps) rx ry tol (snapOf tight (normAnchor anchor)))
    (h : fromGeopolygon p ps res none shape tight anchor tol = .ok g) :
    ∀ q ∈ p :: ps, g.xmin - tol * |rx| ≤ q.1 ∧ q.1 ≤ g.xmax + tol * |rx| ∧
      g.ymin - tol * |ry| ≤ q.2 ∧ q.2 ≤ g.ymax + tol * |ry| := by
  rw [(from_geopolygon_reduces_to_bbox p ps res shape tight anchor tol).1] at h
  obtain ⟨c1, c2, c3, c4⟩ := from_bbox_res_covers hs hres v h
  intro q hq
  obtain ⟨b1, b2, b3, b4⟩ := bbox_of_pts_contains p ps q hq
  exact ⟨(sub_le_iff_le_add.mpr c1).trans b1, b2.trans (sub_le_iff_le_add.mp c2),
    (sub_le_iff_le_add.mpr c3).trans b3, b4.trans (sub_le_iff_le_add.mp c4)⟩

/-- **With `tight=True` an explicit anchor is ignored** — also an explicit
per-axis `XY` anchor (`if tight: anchor = FLOATING` runs before the anchor is looked at).  The result
depends on the region, shape/resolution and `tol` only. -/
theorem from_bbox_tight_ignores_anchor (bb : BBox) (shape : ShapeArg) (res : ResArg) (a a' : AnchorArg)
    (tol : Rat) : fromBbox bb true shape res a tol = fromBbox bb true shape res a' tol := by
  unfold fromBbox
  simp only [tight_is_floating]

/-- The `crs="utm"` shortcut is `from_bbox` of the envelope of the four projected corners, i.e. the
polygon variant on the projected corner ring (whatever the projection is). -/
theorem from_bbox_utm_is_polygon_of_corners (proj : Rat × Rat → Rat × Rat) (bb : BBox) (tight : Bool)
    (shape : ShapeArg) (res : ResArg) (anchor : AnchorArg) (tol : Rat) :
    fromBboxUtm proj bb tight shape res anchor tol =
      fromGeopolygon (proj (bb.left, bb.bottom)) [proj (bb.left, bb.top), proj (bb.right, bb.top), proj (bb.right, bb.bottom)]
        res none shape tight anchor tol := by
  rw [(from_geopolygon_reduces_to_bbox _ _ res shape tight anchor tol).1]
  rfl

/-- **utm shortcut covers the projected corners**: every corner of the lon/lat box, projected, lies
within the resulting geobox up to `tol` of a pixel.  (Only the corners: the sides of a lon/lat box
are not straight in UTM and are not sampled by the code.) -/
theorem from_bbox_utm_covers_corners (proj : Rat × Rat → Rat × Rat) (bb : BBox) {res : ResArg}
    {shape : ShapeArg} {tight : Bool} {anchor : AnchorArg} {tol rx ry : Rat} {g : GeoBox}
    (hs : ∀ n, shape ≠ .int n) (hres : res.xy? = some (rx, ry))
    (v : ValidRes (normBboxUtm proj bb) rx ry tol (snapOf tight (normAnchor anchor)))
    (h : fromBboxUtm proj bb tight shape res anchor tol = .ok g) :
    ∀ c ∈ bb.corners, g.xmin - tol * |rx| ≤ (proj c).1 ∧ (proj c).1 ≤ g.xmax + tol * |rx| ∧
      g.ymin - tol * |ry| ≤ (proj c).2 ∧ (proj c).2 ≤ g.ymax + tol * |ry| := by
  rw [from_bbox_utm_is_polygon_of_corners] at h
  have hv := from_geopolygon_covers_vertices _ _ hs hres v h
  exact fun c hc => hv (proj c) (List.mem_map_of_mem (f := proj) hc)

/-- **Cross-CRS polygon variant covers every projected vertex** up to `tol` of a pixel: it is the
same-CRS construction on the projected vertices (the vertices, not the bounding box, are projected —
for a non-rectangular polygon and a non-separable projection the two differ). -/
theorem from_geopolygon_crs_covers_vertices (proj : Rat × Rat → Rat × Rat) (p : Rat × Rat)
    (ps : List (Rat × Rat)) {res : ResArg} {shape : ShapeArg} {tight : Bool} {anchor : AnchorArg}
    {tol rx ry : Rat} {g : GeoBox} (hs : ∀ n, shape ≠ .int n) (hres : res.xy? = some (rx, ry))
    (v : ValidRes (bboxOfPts (proj p) (ps.map proj)) rx ry tol (snapOf tight (normAnchor anchor)))
    (h : fromGeopolygonCrs proj p ps res none shape tight anchor tol = .ok g) :
    ∀ q ∈ p :: ps, g.xmin - tol * |rx| ≤ (proj q).1 ∧ (proj q).1 ≤ g.xmax + tol * |rx| ∧
      g.ymin - tol * |ry| ≤ (proj q).2 ∧ (proj q).2 ≤ g.ymax + tol * |ry| :=
  fun q hq => from_geopolygon_covers_vertices (proj p) (ps.map proj) hs hres v h (proj q)
    (List.mem_map_of_mem (f := proj) hq)

/-- Projecting the bounding box instead of the polygon is **not** the same thing: a triangle under a
shear-like map.  Envelope of projected vertices vs envelope of the projected corners of the envelope. -/
theorem project_vertices_ne_project_bbox :
    let proj : Rat × Rat → Rat × Rat := fun q => (q.1 + q.2, q.2)
    bboxOfPts (proj (0, 0)) ([(4, 0), (0, 4)].map proj) ≠
      normBboxUtm proj (bboxOfPts (0, 0) [(4, 0), (0, 4)]) := by
  decide +kernel

/-- Through `zoom_to_resolution_is_from_bbox` (Lemmas/C08C02) `zoom_to(resolution=)` inherits C08 guarantees: it
succeeds for any non-zero resolution, with exactly the requested pixel size, at least one pixel per axis, and the
bounding box covered up to 1 % of a pixel per side. -/
theorem zoom_to_resolution_covers (g : C02.GeoBox) (rx ry : Rat) (hrx : rx ≠ 0) (hry : ry ≠ 0) :
    ∃ z : C02.GeoBox, C02.zoomToRes g rx ry = .ok z ∧ 1 ≤ z.nx ∧ 1 ≤ z.ny ∧
      z.A.a = rx ∧ z.A.e = ry ∧ z.A.b = 0 ∧ z.A.d = 0 ∧
      (let h : GeoBox := ⟨z.ny, z.nx, z.A⟩
       h.xmin ≤ (C02.boundingbox g).left + C02.tolSnap * |rx| ∧
       (C02.boundingbox g).right - C02.tolSnap * |rx| ≤ h.xmax ∧
       h.ymin ≤ (C02.boundingbox g).bottom + C02.tolSnap * |ry| ∧
       (C02.boundingbox g).top - C02.tolSnap * |ry| ≤ h.ymax) := by
  obtain ⟨hx, hy⟩ := boundingbox_valid g
  let bb : BBox := ⟨(C02.boundingbox g).left, (C02.boundingbox g).bottom, (C02.boundingbox g).right,
    (C02.boundingbox g).top⟩
  have v : ValidRes bb rx ry C02.tolSnap (snapOf true (normAnchor (.name .default))) :=
    ⟨hx, hy, hrx, hry, tolSnap_bounds.1.le, tolSnap_bounds.2, fun _ hs => nomatch hs⟩
  obtain ⟨h, hh, hn1, hn2⟩ := from_bbox_res_total (shape := .none) (res := .xy rx ry) none_not_int rfl v
  obtain ⟨_, ha, he, hb, hd⟩ := from_bbox_res_pixel_size none_not_int rfl hh
  have hc := from_bbox_res_covers none_not_int rfl v hh
  refine ⟨⟨h.ny, h.nx, h.affine, g.crs⟩, ?_, hn1, hn2, ha, he, hb, hd, hc⟩
  rw [zoom_to_resolution_is_from_bbox g rx ry (.name .default), hh]; rfl

example : fromBbox ⟨0, 0, 10, 7⟩ false .none (.scalar 3) (.name .default) (1 / 100) =
    .ok ⟨3, 4, ⟨3, 0, 0, 0, -3, 9⟩⟩ := by decide +kernel
example : ValidRes ⟨0, 0, 10, 7⟩ 3 (-3) (1 / 100) (snapOf false (normAnchor (.name .default))) :=
  ⟨by norm_num, by norm_num, by norm_num, by norm_num, by norm_num, by norm_num,
   by intro s hs; cases hs; norm_num⟩
example : fromBbox ⟨0, 0, 10, 7⟩ false (.yx 7 5) .none (.val .center) (1 / 100) =
    .ok ⟨7, 5, ⟨2, 0, -1, 0, -1, 15 / 2⟩⟩ := by decide +kernel

end OdcGeo.C08
