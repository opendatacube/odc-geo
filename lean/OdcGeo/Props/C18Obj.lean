/-
C18 — several objects at once (the per-object reading of "exactly one upload is initiated for the object" when one job
writes several COGs): what is proved for ANY number of objects.

* file sinks: `sinks_never_interfere` (Props/C18.lean) is already stated for a LIST of sinks of any length; here the
  contract of every sink of the list at once, and a three-sink instance.
* cluster protocol with explicit names (`DistN`): the threads of other objects - any number of them, any schedule -
  never touch this object's shared variable, its lock, its workers' copies or its threads (state-level
  non-interference).  Not proved: the per-object `Once` for the joint run (the model numbers upload ids globally, so
  the joint run is a product of single-object runs only up to a renaming of ids).
-/
import OdcGeo.Props.C18


namespace OdcGeo.C18

/-- **all_sinks_honour_contract**: ANY number of sinks alive at once (the list `cfgs`, of any length) with pairwise
different parts directories and destinations, ANY interleaving `ops` of their operations: EVERY sink that started with
nothing of its own, wrote parts with distinct numbers and finalised them in that order ends with its destination equal
to the concatenation of its own data and its parts directory removed. -/
theorem all_sinks_honour_contract (cfgs : List SinkCfg)
    (hdist : ∀ (i j : Nat) (ci cj : SinkCfg), cfgs[i]? = some ci → cfgs[j]? = some cj → i ≠ j →
      ci.pkey ≠ cj.pkey ∧ ci.dkey ≠ cj.dkey)
    (ops : List (Nat × SinkOp)) (fs : FS) :
    ∀ (i : Nat) (c : SinkCfg) (ws : List (Nat × Bytes)), cfgs[i]? = some c → fs.view c = {} → ws ≠ [] →
      (ws.map (·.1)).Nodup →
      ownOps i ops = ws.map SinkOp.write ++ [SinkOp.finalise (ws.map (·.1)) false] →
      ((FS.run cfgs fs ops).1.view c).dst = some (ws.flatMap (·.2)) ∧
        ((FS.run cfgs fs ops).1.view c).dirExists = false ∧ ((FS.run cfgs fs ops).1.view c).parts = [] :=
  fun i c ws hc hfresh hne hnd hown =>
    sink_contract_among_others cfgs hdist i c hc ops fs hfresh ws hne hnd hown

/-- non-vacuity with THREE sinks (`dem.tif`, `dem.msk`, and `dem.tif` of another directory), interleaved: pairwise
distinct keys, and each destination holds its own bytes -/
example :
    let a : SinkCfg := { dir := "d", name := "dem.tif" }
    let b : SinkCfg := { dir := "d", name := "dem.msk" }
    let c : SinkCfg := { dir := "e", name := "dem.tif" }
    let r := FS.run [a, b, c] {} [(0, .write (1, [1])), (2, .write (1, [3])), (1, .write (1, [2])), (2, .write (2, [3, 3])),
                                   (1, .finalise [1] false), (0, .finalise [1] false), (2, .finalise [1, 2] false)]
    a.pkey ≠ b.pkey ∧ a.pkey ≠ c.pkey ∧ b.pkey ≠ c.pkey ∧ a.dkey ≠ b.dkey ∧ a.dkey ≠ c.dkey ∧ b.dkey ≠ c.dkey ∧
      (r.1.view a).dst = some [1] ∧ (r.1.view b).dst = some [2] ∧ (r.1.view c).dst = some [3, 3, 3] ∧
      r.2 = [none, none, none, none, none, none, none] := by decide +kernel

/-- **other_objects_never_touch_this_one**: an object whose writers use the Variable name `V` and the Lock name `L`.
Threads of OTHER objects - their workers' copies compute other names - in any number and any schedule `sched`: the
shared variable `V`, the lock `L`, every thread that is not in `sched` and the copy of every worker that hosts none of
the scheduled threads are exactly as before.  (A "worker" of the model is a writer copy: one per process and object.) -/
theorem other_objects_never_touch_this_one (cfg : DistN.Cfg) (L V : Nat) (sched : List Nat)
    (hforeign : ∀ t ∈ sched, cfg.varName (cfg.worker t) ≠ V ∧ cfg.lockName (cfg.worker t) ≠ L) :
    ∀ s : DistN.State,
      (DistN.runFrom cfg s sched).vars V = s.vars V ∧ (DistN.runFrom cfg s sched).locks L = s.locks L ∧
      (∀ t', t' ∉ sched → (DistN.runFrom cfg s sched).pc t' = s.pc t') ∧
      (∀ w, (∀ t ∈ sched, cfg.worker t ≠ w) → (DistN.runFrom cfg s sched).wid w = s.wid w) := by
  intro s
  refine List.foldlRecOn (motive := fun s' => s'.vars V = s.vars V ∧ s'.locks L = s.locks L ∧
      (∀ t', t' ∉ sched → s'.pc t' = s.pc t') ∧ ∀ w, (∀ t ∈ sched, cfg.worker t ≠ w) → s'.wid w = s.wid w)
    sched (DistN.step cfg) ⟨rfl, rfl, fun _ _ => rfl, fun _ _ => rfl⟩ fun s' ⟨g1, g2, g3, g4⟩ t ht => ?_
  have f := DistN.step_frame cfg s' t
  have hf := hforeign t ht
  exact ⟨(f.vars V hf.1.symm).trans g1, (f.locks L hf.2.symm).trans g2,
    fun t' hn => (f.pc t' fun e => hn (e ▸ ht)).trans (g3 t' hn),
    fun w hw => (f.wid w fun e => hw t ht e.symm).trans (g4 w hw)⟩

/-- non-vacuity: object A (copy 0, names 0/0) has published its id; object B's two threads (copies 1 and 2, names
1/1) run to the end: A's variable, lock, copy and thread are untouched, B has initiated its own upload -/
example :
    let cfg : DistN.Cfg := { kind := fun t => .write (t + 1), worker := fun t => t,
                             varName := fun w => if w = 0 then 0 else 1, lockName := fun w => if w = 0 then 0 else 1 }
    let s := DistN.run cfg (List.replicate 11 0)
    let s' := DistN.runFrom cfg s (List.replicate 16 1 ++ List.replicate 12 2)
    s.vars 0 = some 1 ∧ s'.vars 0 = some 1 ∧ s'.locks 0 = s.locks 0 ∧ s'.pc 0 = s.pc 0 ∧ s'.wid 0 = 1 ∧
      s'.vars 1 = some 2 ∧ s'.pc 1 = .done ∧ s'.pc 2 = .done ∧ s'.creates = 2 := by decide +kernel

/-- … and the converse direction of the same frame: this object's own threads leave every OTHER name alone -/
theorem this_object_never_touches_other_names (cfg : DistN.Cfg) (L V : Nat) (sched : List Nat)
    (hown : ∀ t ∈ sched, cfg.varName (cfg.worker t) = V ∧ cfg.lockName (cfg.worker t) = L)
    (L' V' : Nat) (hV : V' ≠ V) (hL : L' ≠ L) (s : DistN.State) :
    (DistN.runFrom cfg s sched).vars V' = s.vars V' ∧ (DistN.runFrom cfg s sched).locks L' = s.locks L' :=
  let h := other_objects_never_touch_this_one cfg L' V' sched
    (fun t ht => ⟨by rw [(hown t ht).1]; exact fun e => hV e.symm, by rw [(hown t ht).2]; exact fun e => hL e.symm⟩) s
  ⟨h.1, h.2.1⟩

end OdcGeo.C18
