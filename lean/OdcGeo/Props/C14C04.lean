/-
C14 × C04/C12/C08 — compositions with the tiling models of properties C04 / C12 and the `GeoBox.from_bbox` model of C08
(all imported read-only).

* `GeoboxTiles(gs[k], …)`: a GridSpec tile GeoBox as the base of a GeoboxTiles (the `GBT` of C12 shares this tiling): every
  pixel of the tile belongs to exactly one sub-tile, the sub-tile's GeoBox addresses that pixel at the same world location, and
  that location lies in the footprint of tile `k` — together with `tiles_partition_plane`: tiles of tiles partition.
* `GeoBox.from_bbox(gs[k].boundingbox, shape=gs.tile_shape, tight=True)` rebuilds the tile GeoBox of a north-up grid exactly.
-/
import OdcGeo.Props.C14
import OdcGeo.Lemmas.C14C04
import OdcGeo.Props.C04
import OdcGeo.Model.C08

namespace OdcGeo.C14
open OdcGeo.C17 OdcGeo.C04

theorem cell_in_span {p n : Int} (hp : 0 ≤ p ∧ p < n) {u : Rat} (h0 : 0 ≤ u) (h1 : u ≤ 1) :
    0 ≤ (p : Rat) + u ∧ (p : Rat) + u ≤ n :=
  ⟨add_nonneg (Int.cast_nonneg_iff.mpr hp.1) h0,
    (add_le_add le_rfl h1).trans (by exact_mod_cast Int.add_one_le_iff.mpr hp.2)⟩

section
variable {ny nx : Int} {rx ry ox oy : Rat} {fx fy : Bool} {g : GridSpec}

/-- TILES OF TILES: tile `k` of a grid, re-tiled by any well-formed `GeoboxTiles` tiling `t` of its `ny × nx` pixels (regular or
    variable chunks): every pixel `(py, px)` of the tile lies in exactly one sub-tile `(r, c)`; the GeoBox of that sub-tile maps the
    pixel's position inside the sub-tile to the SAME world point as the tile's own affine does, and every point of that pixel cell
    lies in the footprint of tile `k`. -/
theorem gridspec_tile_subtiles_partition (hg : GridSpec.new id ny nx rx ry ox oy fx fy = .ok g) (k : Int × Int)
    (t : Tiling2) (hy : t.y.WF) (hx : t.x.WF) (hby : t.y.base = ny) (hbx : t.x.base = nx)
    (py px : Int) (hpy : 0 ≤ py ∧ py < ny) (hpx : 0 ≤ px ∧ px < nx) :
    ∃! rc : Int × Int, ((0 ≤ rc.1 ∧ rc.1 < t.y.count) ∧ (0 ≤ rc.2 ∧ rc.2 < t.x.count)) ∧
      ∃ sy sx sub, getItem2 t (.idx rc.1) (.idx rc.2) = .ok (sy, sx) ∧ sy.Has py ∧ sx.Has px ∧
        (⟨toC04 (g.tileGeobox id k), t⟩ : GeoboxTiles).getItem (.idx rc.1) (.idx rc.2) = .ok sub ∧
        sub.ny = sy.stop - sy.start ∧ sub.nx = sx.stop - sx.start ∧
        (∀ u v : Rat, sub.A.apply (u, v) = (g.tileGeobox id k).aff.apply (u + sx.start, v + sy.start)) ∧
        (∀ u v : Rat, 0 ≤ u → u ≤ 1 → 0 ≤ v → v ≤ 1 →
          (g.footprint k).memClosed (sub.A.apply ((px : Rat) - sx.start + u, (py : Rat) - sy.start + v))) := by
  obtain ⟨rc, ⟨hr, sy, sx, hgi, hyy, hxx⟩, uniq⟩ :=
    tiles2_partition t hy hx py px (by rw [hby]; exact hpy) (by rw [hbx]; exact hpx)
  obtain ⟨sub, hs⟩ : ∃ sub, (⟨toC04 (g.tileGeobox id k), t⟩ : GeoboxTiles).getItem (.idx rc.1) (.idx rc.2) = .ok sub := by
    simp only [GeoboxTiles.getItem, hgi, bind, Except.bind, pure, Except.pure]; exact ⟨_, rfl⟩
  obtain ⟨ry', rx', h1, h2, h3, h4⟩ := gbt_tile_is_crop ⟨toC04 (g.tileGeobox id k), t⟩ hy hx _ _ sub hs
  simp only at h1
  rw [hgi] at h1
  cases h1
  have hshape := tile_geobox_shape_res hg k
  refine ⟨rc, ⟨hr, sy, sx, sub, hgi, hyy, hxx, hs, h2, h3, fun u v => h4 (u, v), ?_⟩, ?_⟩
  · intro u v hu0 hu1 hv0 hv1
    rw [h4]
    have cx := cell_in_span hpx hu0 hu1
    have cy := cell_in_span hpy hv0 hv1
    refine (tile_footprint_is_image hg k _).mp
      ⟨(px : Rat) + u, (py : Rat) + v, cx.1, hshape.2.1 ▸ cx.2, cy.1, hshape.1 ▸ cy.2, ?_⟩
    simp only [toC04]
    rw [sub_add_eq_add_sub, sub_add_cancel, sub_add_eq_add_sub (py : Rat), sub_add_cancel]
  · rintro rc' ⟨hr', sy', sx', _, hgi', hyy', hxx', _⟩
    exact uniq rc' ⟨hr', sy', sx', hgi', hyy', hxx'⟩

/-- `GeoBox.from_bbox(gs[k].boundingbox, shape=gs.tile_shape, tight=True)` (C08 model; any anchor, any tolerance) is the tile
    GeoBox itself on a north-up grid (`rx > 0`, `ry < 0`): same shape, same affine. -/
theorem c08_from_bbox_rebuilds_tile (hg : GridSpec.new id ny nx rx ry ox oy fx fy = .ok g) (hrx : 0 < rx) (hry : ry < 0)
    (k : Int × Int) (anchor : C08.AnchorArg) (tol : Rat) :
    C08.fromBbox ⟨(g.footprint k).left, (g.footprint k).bottom, (g.footprint k).right, (g.footprint k).top⟩ true
        (.yx ny nx) .none anchor tol =
      .ok ⟨(g.tileGeobox id k).ny, (g.tileGeobox id k).nx, (g.tileGeobox id k).aff⟩ := by
  obtain ⟨hnx, hny, _, _⟩ := GridSpec.new_pos hg
  obtain ⟨rfl, w⟩ := GridSpec.new_ok hg
  have hnx' : (nx : Rat) ≠ 0 := by exact_mod_cast hnx.ne'
  have hny' : (ny : Rat) ≠ 0 := by exact_mod_cast hny.ne'
  rw [GridSpec.footprint_eq _ w]
  simp only [C08.fromBbox, C08.snapOf, C08.intShapeToRes, C08.ResArg.xy?, if_true, bind, Except.bind, pure, Except.pure,
    hnx.ne', hny.ne', if_false, C08.BBox.spanX, C08.BBox.spanY, Bin1D.hi_eq_lo_add, add_sub_cancel_left,
    GridSpec.tileGeobox, GridSpec.tileTxy, if_pos hrx, if_neg (not_lt.mpr hry.le), GridSpec.rabs_of_pos hrx,
    GridSpec.rabs_of_neg hry]
  rw [mul_div_cancel_left₀ _ hnx', mul_neg, neg_neg, mul_div_cancel_left₀ _ hny', Aff.translation_mul_scale]

end

example : ∃ g, GridSpec.new id 2 4 (1 / 2) (-1 / 4) (-3) 1 false true = .ok g :=
  (gridspec_new_ok_iff _ _ _ _ _ _ _ _).mpr ⟨by norm_num [rabs], by norm_num [rabs]⟩

example : Tiling.WF (.reg 4 3) ∧ Tiling.WF (.reg 2 2) ∧ (Tiling.reg 4 3).base = 4 := ⟨by show (0 : Int) < 3; decide, by show (0 : Int) < 2; decide, rfl⟩

end OdcGeo.C14
