/-
C05 — the parallel (dask) COG writer produces a correct, overview-first GeoTIFF.

Theorems about the model `OdcGeo/Model/C05.lean` (which mirrors `odc/geo/cog/_shared.py`,
`_tifffile.py` of /repo main, the repairs F18 and F40–F43 included).  All statements are for arbitrary sizes, block lists,
sample counts, observed streams.

This file speaks about the observed tile STREAM only and does not import C06.  That "position in
the observed stream" (`streamOff`) is "offset in the file" is C06's theorem `C06.main` (the bytes
handed to the parts writer, concatenated in part order, equal `header ++ tiles in stream order`);
the harness checks it on every file it writes (offset order = `writeOrder`, gap-free from header
size to EOF).  `file_is_header_then_tiles` of DESIGN §4 is the composition of `C06.main` with
`tile_info_exact` and `patch_hdr_exact`; it is carried out in `Props/C05File.lean`
(`header_addresses_tile_bytes_stats`) and `Props/C05CogFile.lean` (`cog_file_tile_table`).
-/
import OdcGeo.Model.C05
import OdcGeo.Lemmas.C05
import Mathlib.Data.List.Nodup

namespace OdcGeo.C05

/-- every tile size the writer uses is a multiple of 16 (`adjust_blocksize`, any `dim`) -/
theorem blocksize_mult16 (block dim : Nat) : 16 ∣ adjustBlocksize block dim :=
  adjustBlocksize_eq block dim ▸ alignUp_dvd _ 16

/-- … and rounds the governing size (image side if smaller than the block, else the block) up
by less than 16 -/
theorem blocksize_bounds (block dim : Nat) :
    let g := if 0 < dim ∧ dim < block then dim else block
    g ≤ adjustBlocksize block dim ∧ adjustBlocksize block dim < g + 16 :=
  adjustBlocksize_eq block dim ▸ ⟨alignUp_ge _ 16 (by decide), alignUp_lt _ 16 (by decide)⟩

theorem blocksize_pos (block dim : Nat) (hb : 0 < block) : 0 < adjustBlocksize block dim := by
  refine Nat.lt_of_lt_of_le ?_ (blocksize_bounds block dim).1
  split
  · exact ‹0 < dim ∧ dim < block›.1
  · exact hb

theorem norm_blocksize_mult16 (b : Blk) : 16 ∣ (normBlocksize b).y ∧ 16 ∣ (normBlocksize b).x := by
  cases b <;> simp only [normBlocksize] <;> exact ⟨blocksize_mult16 _ _, blocksize_mult16 _ _⟩

/-- `compute_cog_spec` adjusts an already adjusted tile again: a no-op -/
theorem adjust_idem (b : Nat) : adjustBlocksize (adjustBlocksize b) = adjustBlocksize b := by
  rw [adjustBlocksize_eq _ 0, if_neg (fun h => Nat.lt_irrefl 0 h.1)]
  exact alignUp_of_dvd _ 16 (by decide) (blocksize_mult16 b 0)

/-- `num_overviews(block, dim)` is the least `k` with `⌊dim / 2^k⌋ ≤ block`: iterated
floor-halving equals one floor division, and no smaller exponent fits. -/
theorem num_overviews_spec (block dim : Nat) :
    dim / 2 ^ numOverviews block dim ≤ block ∧ ∀ j, j < numOverviews block dim → block < dim / 2 ^ j :=
  numOverviewsFuel_least dim block dim (Nat.le_refl _)

theorem num_overviews_least (block dim k : Nat) (h : dim / 2 ^ k ≤ block) : numOverviews block dim ≤ k :=
  LeastHalvings.le (num_overviews_spec block dim) h

/-- termination: the iteration budget is never what stops the loop — any budget `≥ dim`
gives the same count (the loop runs at most `dim` times because `dim` strictly decreases
while `block < dim`). -/
theorem num_overviews_fuel_irrelevant (fuel block dim : Nat) (h : dim ≤ fuel) :
    numOverviewsFuel fuel block dim = numOverviews block dim :=
  leastHalvings_unique (numOverviewsFuel_least fuel block dim h) (num_overviews_spec block dim)

example : numOverviews 32 1023 = 5 ∧ numOverviews 256 78 = 0 ∧ numOverviews 16 300 = 5 := by decide

/-- `compute_cog_spec` without `max_pad`: each side is padded up (never cropped) by less than `2^n`
to a multiple of `2^n`; `n` is the larger of the two overview counts. -/
theorem padded_shape (shape tile : YX) :
    let r := computeCogSpec shape tile
    let n := r.2.2
    n = max (numOverviews (adjustBlocksize tile.x) shape.x) (numOverviews (adjustBlocksize tile.y) shape.y) ∧
    r.2.1 = ⟨adjustBlocksize tile.y, adjustBlocksize tile.x⟩ ∧
    shape.y ≤ r.1.y ∧ r.1.y < shape.y + 2 ^ n ∧ 2 ^ n ∣ r.1.y ∧
    shape.x ≤ r.1.x ∧ r.1.x < shape.x + 2 ^ n ∧ 2 ^ n ∣ r.1.x := by
  intro r n
  have hp : ∀ n, 0 < 2 ^ n := fun n => Nat.two_pow_pos n
  refine ⟨rfl, rfl, ?_⟩
  have hr : r.1 = ⟨alignUp shape.y (2 ^ n), alignUp shape.x (2 ^ n)⟩ := by
    simp only [r, n, computeCogSpec]; rw [if_pos (hp _)]
  rw [hr]
  obtain ⟨a, b, c⟩ := alignUp_spec shape.y _ (hp n)
  exact ⟨a, b, c, alignUp_spec shape.x _ (hp n)⟩

/-- `compute_cog_spec(…, max_pad=mp)`: the padding unit is `2^n` unless `mp` is smaller, then it is
the largest power of two `≤ mp` (no padding at all for `mp = 0`); each side is padded up by less
than that unit to a multiple of it, so never by more than `mp` when `mp` limits it. -/
theorem padded_shape_maxpad (shape tile : YX) (mp : Nat) :
    let r := computeCogSpec shape tile (some mp)
    let n := r.2.2
    let pad := if mp < 2 ^ n then (if mp = 0 then 0 else alignDownPow2 mp) else 2 ^ n
    n = (computeCogSpec shape tile).2.2 ∧
    (pad = 0 → r.1 = shape) ∧
    (0 < pad → shape.y ≤ r.1.y ∧ r.1.y < shape.y + pad ∧ pad ∣ r.1.y ∧
               shape.x ≤ r.1.x ∧ r.1.x < shape.x + pad ∧ pad ∣ r.1.x) ∧
    (mp < 2 ^ n → pad ≤ mp) ∧ (pad = 0 ∨ ∃ k, pad = 2 ^ k) := by
  intro r n pad
  have hr : r.1 = if pad > 0 then ⟨alignUp shape.y pad, alignUp shape.x pad⟩ else shape := by
    simp only [r, n, pad, computeCogSpec]
  refine ⟨rfl, ?_, ?_, ?_, ?_⟩
  · intro h0; rw [hr, if_neg (h0 ▸ Nat.lt_irrefl 0)]
  · intro hp
    rw [hr, if_pos hp]
    obtain ⟨a, b, c⟩ := alignUp_spec shape.y _ hp
    exact ⟨a, b, c, alignUp_spec shape.x _ hp⟩
  · intro hlt
    simp only [pad, if_pos hlt]
    split
    · omega
    · rename_i h0; exact (alignDownPow2_spec mp (Nat.pos_of_ne_zero h0)).2.1
  · simp only [pad]
    split
    · split
      · left; rfl
      · rename_i h0; right; exact (alignDownPow2_spec mp (Nat.pos_of_ne_zero h0)).1
    · right; exact ⟨n, rfl⟩

/-- F41 witness (`padding-adds-tile`): the padding can cross a tile boundary — 272 rows with 16-pixel tiles are padded
to 288 rows = 18 tile rows, the unpadded source has only 17 chunk rows (which is why the writer pads
the source as well, `_pad_to_cog_shape`). -/
theorem padding_adds_tile_cex :
    let p := (computeCogSpec ⟨272, 16⟩ ⟨16, 16⟩).1
    (Meta.chunked ⟨1, p, ⟨16, 16⟩⟩).y = 18 ∧ (Meta.chunked ⟨1, ⟨272, 16⟩, ⟨16, 16⟩⟩).y = 17 := by
  decide

/-- `levels_halve` + `header_levels_total`: for **every** image of at least 1×1 pixels (also
with sides `≤ 2^n`), any block list and with or without a GeoBox, the level loop returns
`n + 1` levels without error; level `k` has shape exactly `p / 2^k` (`shape_k · 2^k = p`,
never rounded), at least 1×1 pixels, the tile prescribed by the cycled block list, and the
GeoBox affine `A · scale(2^k)`. -/
theorem header_levels_total (im : YX) (hy : 1 ≤ im.y) (hx : 1 ≤ im.x) (bs : List Blk) (last : Blk)
    (g : Option Aff) :
    let p := (computeCogSpec im (normBlocksize last)).1
    let n := (computeCogSpec im (normBlocksize last)).2.2
    ∃ lv, levelLoop (blockAt bs last) n (n + 1) 0 p g = .ok lv ∧ lv.length = n + 1 ∧
      ∀ k (hk : k < lv.length),
        lv[k].shape.y * 2 ^ k = p.y ∧ lv[k].shape.x * 2 ^ k = p.x ∧
        1 ≤ lv[k].shape.y ∧ 1 ≤ lv[k].shape.x ∧
        lv[k].tile = normBlocksize (blockAt bs last k) ∧
        16 ∣ lv[k].tile.y ∧ 16 ∣ lv[k].tile.x ∧
        lv[k].aff = g.map (fun A => A * Aff.scale (2 ^ k) (2 ^ k)) := by
  intro p n
  obtain ⟨_, _, h1, _, hdy, h2, _, hdx⟩ := padded_shape im (normBlocksize last)
  have hpy : 0 < p.y := Nat.lt_of_lt_of_le hy h1
  have hpx : 0 < p.x := Nat.lt_of_lt_of_le hx h2
  refine ⟨_, levelLoop_eq (blockAt bs last) n (n + 1) 0 p g rfl hpy hdy hpx hdx, by rw [List.length_map, List.length_range], ?_⟩
  intro k hk
  -- level `k ≤ n` of a shape padded to a multiple of `2^n`
  have hkn : 2 ^ k ∣ 2 ^ n := Nat.pow_dvd_pow 2 (Nat.lt_succ_iff.mp (by simpa using hk))
  obtain ⟨ey, py⟩ := div_two_pow_exact hpy (hkn.trans hdy)
  obtain ⟨ex, px⟩ := div_two_pow_exact hpx (hkn.trans hdx)
  simp only [List.getElem_map, List.getElem_range, levelAt, Nat.zero_add]
  exact ⟨ey, ex, py, px, trivial, (norm_blocksize_mult16 _).1, (norm_blocksize_mult16 _).2, trivial⟩

/-- the same at the level of `_make_empty_cog`: whenever the axis order is determined and the
image has at least 1×1 pixels and the block list is not empty, the call succeeds -/
theorem make_empty_cog_total (shape : List Nat) (gbox : Option (YX × Aff)) (bs : List Blk)
    (ax : Axis) (yd : Nat) (im : YX) (ns : Nat) (last : Blk)
    (hax : yaxisFromShape shape (gbox.map (·.1)) = .ok (ax, yd))
    (him : imShape ax shape = some (im, ns)) (hlast : bs.getLast? = some last)
    (hy : 1 ≤ im.y) (hx : 1 ≤ im.x) :
    ∃ c, makeEmptyCog shape gbox bs = .ok c ∧ c.axis = ax ∧ c.nsamples = ns ∧
      c.nlevels = (computeCogSpec im (normBlocksize last)).2.2 ∧ c.levels.length = c.nlevels + 1 := by
  obtain ⟨lv, hlv, hlen, _⟩ := header_levels_total im hy hx bs last (gbox.map (·.2))
  refine ⟨⟨ax, ns, if ax = .SYX then ns else 1, _, lv⟩, ?_, rfl, rfl, rfl, hlen⟩
  simp only [makeEmptyCog, makeEmptyCogWith, hax, him, hlast]
  rw [hlv]

/-- every IFD of a header has the same number of planes (the fact behind the hypothesis `hpl` of
`write_order_stream_exact`) -/
theorem cog_metas_planes (c : Cog) : ∀ m ∈ c.metas, m.planes = c.planes := by
  intro m hm
  obtain ⟨l, _, rfl⟩ := List.mem_map.mp hm
  rfl

/-- F18 witness: the loop as it was before the repair (shrink + `zoom_to` after *every* level)
divides by zero for an 8×200 image with 32-pixel tiles and a GeoBox … -/
theorem header_levels_prefix_cex :
    makeEmptyCogPreFix [8, 200] (some (⟨8, 200⟩, ⟨1, 0, 0, 0, -1, 0⟩)) [.one 32] = .error .zeroDiv := by
  decide +kernel

/-- … while without a GeoBox the old loop succeeded, and the repaired loop succeeds with it. -/
theorem header_levels_prefix_nogbox :
    (makeEmptyCogPreFix [8, 200] none [.one 32]).toOption.map (·.levels.length) = some 4 ∧
    (makeEmptyCog [8, 200] (some (⟨8, 200⟩, ⟨1, 0, 0, 0, -1, 0⟩)) [.one 32]).toOption.map
      (·.levels.length) = some 4 := by
  decide +kernel

/-- axis order: a GeoBox that matches the last two axes (and not the first two) makes the image
band-first, whatever its width … -/
theorem yaxis_gbox_decides (a b c : Nat) (g : YX) (h1 : g ≠ ⟨a, b⟩) (h2 : g = ⟨b, c⟩) :
    yaxisFromShape [a, b, c] (some g) = .ok (.SYX, 1) := by
  subst h2
  have : ¬ ((⟨b, c⟩ : YX) = ⟨a, b⟩) := h1
  simp [yaxisFromShape, this]

/-- … which the order of tests before the repair got wrong for 3- or 4-pixel-wide images. -/
theorem yaxis_prefix_cex : yaxisFromShapePreFix [2, 8, 3] (some ⟨8, 3⟩) = .ok (.YXS, 0) := by decide

/-- default block list (`blocksize` unset): both entries normalise to positive tiles, also for
1-pixel chunks (the `max(…, 1)` in the second entry) -/
theorem default_blocksize_pos (cy cx : Nat) (hy : 1 ≤ cy) (hx : 1 ≤ cx) :
    ∀ b ∈ defaultBlocksize cy cx, 0 < (normBlocksize b).y ∧ 0 < (normBlocksize b).x := by
  intro b hb
  simp only [defaultBlocksize, List.mem_cons, List.not_mem_nil, or_false] at hb
  rcases hb with rfl | rfl
  · simp only [normBlocksize]; exact ⟨blocksize_pos _ _ hy, blocksize_pos _ _ hx⟩
  · have h : 0 < max (max cy cx / 2) 1 := Nat.lt_of_lt_of_le Nat.one_pos (Nat.le_max_right _ _)
    simp only [normBlocksize]; exact ⟨blocksize_pos _ _ h, blocksize_pos _ _ h⟩

theorem mem_tidx (m : Meta) (s y x : Nat) :
    (s, y, x) ∈ m.tidx ↔ s < m.planes ∧ y < m.chunked.y ∧ x < m.chunked.x := by
  simp only [Meta.tidx, List.mem_flatMap, List.mem_map, List.mem_range, Prod.mk.injEq]
  constructor
  · rintro ⟨s', hs, y', hy, x', hx, rfl, rfl, rfl⟩; exact ⟨hs, hy, hx⟩
  · rintro ⟨hs, hy, hx⟩; exact ⟨s, hs, y, hy, x, hx, rfl, rfl, rfl⟩

/-- `flat_tile_idx` accepts exactly the indices inside the tile grid -/
theorem flat_tile_idx_ok (m : Meta) (s y x : Nat) :
    m.flatTileIdx s y x = if s < m.planes ∧ y < m.chunked.y ∧ x < m.chunked.x
      then .ok (m.flatRaw s y x) else .error .indexError := by
  unfold Meta.flatTileIdx
  by_cases h : s < m.planes ∧ y < m.chunked.y ∧ x < m.chunked.x
  · rw [if_pos h, if_neg (by omega)]; simp
  · rw [if_neg h, if_pos (by omega)]

/-- `flat_idx_bijection`, enumeration form: the `i`-th tile enumerated by `tidx()` has flat index
`i`, and there are `num_tiles` of them. -/
theorem flat_idx_enum (m : Meta) :
    m.tidx.map (fun t => m.flatTileIdx t.1 t.2.1 t.2.2) = (List.range m.numTiles).map .ok := by
  rw [← tidx_map_flat m, List.map_map]
  apply List.map_congr_left
  rintro ⟨s, y, x⟩ ht
  rw [mem_tidx] at ht
  simp [flat_tile_idx_ok, ht]

theorem flat_idx_lt (m : Meta) (s y x : Nat) (h : s < m.planes ∧ y < m.chunked.y ∧ x < m.chunked.x) :
    m.flatRaw s y x < m.numTiles :=
  List.mem_range.mp (tidx_map_flat m ▸ List.mem_map.mpr ⟨(s, y, x), (mem_tidx m s y x).mpr h, rfl⟩)

theorem flat_idx_inj (m : Meta) (s y x s' y' x' : Nat)
    (h : s < m.planes ∧ y < m.chunked.y ∧ x < m.chunked.x)
    (h' : s' < m.planes ∧ y' < m.chunked.y ∧ x' < m.chunked.x)
    (he : m.flatRaw s y x = m.flatRaw s' y' x') : (s, y, x) = (s', y', x') := by
  have hnd : (m.tidx.map (fun t => m.flatRaw t.1 t.2.1 t.2.2)).Nodup := by
    rw [tidx_map_flat]; exact List.nodup_range
  exact List.inj_on_of_nodup_map hnd ((mem_tidx m s y x).mpr h) ((mem_tidx m s' y' x').mpr h') he

theorem flat_idx_surj (m : Meta) (i : Nat) (hi : i < m.numTiles) :
    ∃ s y x, (s < m.planes ∧ y < m.chunked.y ∧ x < m.chunked.x) ∧ m.flatRaw s y x = i := by
  have : i ∈ m.tidx.map (fun t => m.flatRaw t.1 t.2.1 t.2.2) := by
    rw [tidx_map_flat]; exact List.mem_range.mpr hi
  obtain ⟨⟨s, y, x⟩, ht, rfl⟩ := List.mem_map.mp this
  exact ⟨s, y, x, (mem_tidx m s y x).mp ht, rfl⟩

/-- padding is only after the data (right / bottom), and data + padding is one full tile -/
theorem tile_pad_right_bottom (N t i : Nat) :
    (tilePad N t i).1 = 0 ∧ blockExtent N t i + (tilePad N t i).2 = t := by
  refine ⟨rfl, ?_⟩
  show min t (N - i * t) + (t - min t (N - i * t)) = t
  omega

theorem tile_starts_inside (N t i : Nat) (ht : 0 < t) (hi : i < (N + t - 1) / t) : i * t < N := by
  have := (Nat.le_div_iff_mul_le ht).mp hi
  rw [Nat.succ_mul] at this
  omega

theorem blockExtent_bounds (N t i : Nat) (ht : 0 < t) (hi : i < (N + t - 1) / t) :
    i * t + blockExtent N t i ≤ N ∧ 0 < blockExtent N t i ∧ blockExtent N t i ≤ t := by
  have h := tile_starts_inside N t i ht hi
  refine ⟨?_, Nat.lt_min.mpr ⟨ht, Nat.sub_pos_of_lt h⟩, Nat.min_le_left _ _⟩
  calc i * t + blockExtent N t i ≤ i * t + (N - i * t) := Nat.add_le_add_left (Nat.min_le_right _ _) _
    _ = N := Nat.add_sub_cancel' (Nat.le_of_lt h)

theorem mem_block_iff (N t r i : Nat) (ht : 0 < t) :
    i * t ≤ r ∧ r < i * t + blockExtent N t i ↔ r / t = i ∧ r < N := by
  unfold blockExtent
  constructor
  · rintro ⟨h1, h2⟩
    have h3 : r < i * t + t := Nat.lt_of_lt_of_le h2 (Nat.add_le_add_left (Nat.min_le_left _ _) _)
    have h4 : r < i * t + (N - i * t) := Nat.lt_of_lt_of_le h2 (Nat.add_le_add_left (Nat.min_le_right _ _) _)
    exact ⟨Nat.div_eq_of_lt_le h1 (by rwa [Nat.add_one_mul]), by omega⟩
  · rintro ⟨rfl, hr⟩
    have h1 := Nat.div_mul_le_self r t
    have h2 := Nat.lt_div_mul_add (a := r) ht
    omega

/-- the per-tile extents partition the source rows/columns: pixel `r` lies in tile `r / t`, inside
that tile's extent -/
theorem block_extents_partition (N t r : Nat) (ht : 0 < t) (hr : r < N) :
    r / t < (N + t - 1) / t ∧ (r / t) * t ≤ r ∧ r < (r / t) * t + blockExtent N t (r / t) := by
  refine ⟨?_, (mem_block_iff N t r _ ht).mpr ⟨rfl, hr⟩⟩
  rw [Nat.div_lt_iff_lt_mul ht]
  have := (chunked_covers N t ht).1
  omega

/-- position of the `i`-th observed tile in the byte stream that starts at `start` -/
def streamOff (start : Nat) (tiles : List Obs) (i : Nat) : Nat := start + sizes (tiles.take i)

/-- `cs`: the byte chunks of the same stream as C06 holds it (Props/C05File, Props/C06Cog) -/
theorem streamOff_of_sizes {α : Type} {tiles : List Obs} {cs : List (List α)} (hsz : tiles.map (·.sz) = cs.map List.length)
    (start i : Nat) : streamOff start tiles i = start + (cs.take i).flatten.length := by
  rw [streamOff, sizes, List.map_take, hsz, ← List.map_take, List.length_flatten]

theorem sz_of_sizes {α : Type} {tiles : List Obs} {cs : List (List α)} (hsz : tiles.map (·.sz) = cs.map List.length)
    (i : Nat) (hi : i < tiles.length) (hc : i < cs.length) : tiles[i].sz = cs[i].length := by
  have := congrArg (·[i]?) hsz
  simpa only [List.getElem?_map, List.getElem?_eq_getElem hi, List.getElem?_eq_getElem hc, Option.map_some,
    Option.some.injEq] using this

theorem look_initInfo (ms : List Meta) (l f : Nat) (m : Meta) (hm : ms[l]? = some m) (hf : f < m.numTiles) :
    look (initInfo ms) l f = some (0, 0) := by
  simp [look, initInfo, hm, hf]

theorem obsKey_lt {ms : List Meta} {t : Obs} {l f : Nat} (h : obsKey ms t = .ok (l, f)) :
    ∃ m, ms[l]? = some m ∧ f < m.numTiles := by
  unfold obsKey Meta.flatTileIdx at h
  split at h
  · cases h
  · rename_i m hm
    split at h
    · cases h
    · rename_i hfl
      cases h
      split at hfl
      · cases hfl
      · cases hfl
        exact ⟨m, hm, flat_idx_lt _ _ _ _ (by omega)⟩

/-- `tile_info_exact`: for **every** observed stream — any order, any subset of tiles, zero-size
tiles skipped — in which no tile is reported twice with data, the entry of the `i`-th observed
tile is `(start + Σ_{j<i} size_j, size_i)`: its interval starts where the previous data ended
and has the observed length. -/
theorem tile_info_exact (ms : List Meta) (tiles : List Obs) (start : Nat) (info : TileInfo)
    (h : extractTileInfo ms tiles start = .ok info)
    (hnd : ∀ i j (hi : i < tiles.length) (hj : j < tiles.length), i < j →
      tiles[i].sz ≠ 0 → tiles[j].sz ≠ 0 → obsKey ms tiles[i] ≠ obsKey ms tiles[j]) :
    ∀ i (hi : i < tiles.length), tiles[i].sz ≠ 0 →
      ∃ l f, obsKey ms tiles[i] = .ok (l, f) ∧
        look info l f = some (streamOff start tiles i, tiles[i].sz) := by
  obtain ⟨off', hr⟩ := extractTileInfo_ok_iff.mp h
  intro i hi hz
  obtain ⟨⟨l, f⟩, hk⟩ := (extractLoop_ok_iff ms tiles _).mp ⟨_, hr⟩ _ (List.getElem_mem hi)
  obtain ⟨m, hm, hf⟩ := obsKey_lt hk
  refine ⟨l, f, hk, (extractLoop_spec ms tiles _ start info off' hr).2 i hi l f hz hk
    (by rw [look_initInfo ms l f m hm hf]; rfl) fun j hj hij hzj hkj => hnd i j hi hj hij hz hzj (by rw [hk, hkj])⟩

/-- the intervals `[streamOff i, streamOff i + size_i)` start at the header size, are gap-free in
stream order, pairwise disjoint, and end at `start + total size` -/
theorem stream_intervals (start : Nat) (tiles : List Obs) :
    streamOff start tiles 0 = start ∧
    (∀ i (hi : i < tiles.length), streamOff start tiles (i + 1) = streamOff start tiles i + tiles[i].sz) ∧
    (∀ i j (hi : i < tiles.length), i < j → streamOff start tiles i + tiles[i].sz ≤ streamOff start tiles j) ∧
    streamOff start tiles tiles.length = start + sizes tiles := by
  have hstep : ∀ i (hi : i < tiles.length),
      streamOff start tiles (i + 1) = streamOff start tiles i + tiles[i].sz := by
    intro i hi
    simp only [streamOff, List.take_succ_eq_append_getElem hi, sizes_append, sizes_cons, sizes_nil]
    omega
  have hmono : ∀ i j, i ≤ j → streamOff start tiles i ≤ streamOff start tiles j := by
    intro i j hij
    have := sizes_append ((tiles.take j).take i) ((tiles.take j).drop i)
    rw [List.take_append_drop, List.take_take, Nat.min_eq_left hij] at this
    unfold streamOff
    omega
  exact ⟨by simp [streamOff], hstep, fun i j hi hij => hstep i hi ▸ hmono (i + 1) j hij, by simp [streamOff]⟩

/-- a tile of the grid that was never observed with data keeps the entry `(0, 0)` -/
theorem tile_info_unobserved (ms : List Meta) (tiles : List Obs) (start : Nat) (info : TileInfo)
    (h : extractTileInfo ms tiles start = .ok info) (l f : Nat) (m : Meta)
    (hm : ms[l]? = some m) (hf : f < m.numTiles)
    (hno : ∀ t ∈ tiles, t.sz ≠ 0 → obsKey ms t ≠ .ok (l, f)) :
    look info l f = some (0, 0) := by
  obtain ⟨off', hr⟩ := extractTileInfo_ok_iff.mp h
  rw [(extractLoop_spec ms tiles _ start info off' hr).1 l f hno, look_initInfo ms l f m hm hf]

/-- `_patch_hdr`: the tags hold the stream position (from 0) shifted by the header size -/
theorem patch_hdr_exact (ms : List Meta) (tiles : List Obs) (hdrSz : Nat) (info info0 : TileInfo)
    (h0 : extractTileInfo ms tiles 0 = .ok info0) (h : patchHdr ms tiles hdrSz = .ok info)
    (l f o n : Nat) (hl : look info0 l f = some (o, n)) : look info l f = some (o + hdrSz, n) := by
  simp only [patchHdr, h0, Except.map] at h
  cases h
  rw [look_map_shift, hl]
  rfl

/-- `overviews_first`: along the stream handed to the multi-part writer the IFD index never
increases — every tile of every overview (`IFD k > 0`) is streamed before every
full-resolution tile (`IFD 0`), coarsest level first. -/
theorem overviews_first (ms : List Meta) (i j : Nat) (hi : i < (writeOrder ms).length)
    (hj : j < (writeOrder ms).length) (hij : i < j) :
    ((writeOrder ms)[j]).1 ≤ ((writeOrder ms)[i]).1 :=
  List.pairwise_iff_getElem.mp (writeOrder_levels_desc ms) i j hi hj hij

/-- hence (with `stream_intervals`; file offsets by `C06.main`): the data of an overview tile
ends before the data of any full-resolution tile starts -/
theorem overview_data_before_fullres (ms : List Meta) (start : Nat) (tiles : List Obs)
    (hord : tiles.map (·.lvl) = (writeOrder ms).map (·.1))
    (i j : Nat) (hi : i < tiles.length) (hj : j < tiles.length)
    (hov : 0 < tiles[i].lvl) (hfull : tiles[j].lvl = 0) :
    streamOff start tiles i + tiles[i].sz ≤ streamOff start tiles j := by
  have hp : tiles.Pairwise (fun a b => b.lvl ≤ a.lvl) := by
    have : ((writeOrder ms).map (·.1)).Pairwise (fun a b => b ≤ a) := List.pairwise_map.mpr (writeOrder_levels_desc ms)
    rwa [← hord, List.pairwise_map] at this
  rcases Nat.lt_trichotomy i j with hlt | heq | hgt
  · exact (stream_intervals start tiles).2.2.1 i j hi hlt
  · subst heq; omega
  · have := List.pairwise_iff_getElem.mp hp j i hj hi hgt
    omega

/-- the write order contains exactly the tiles of every IFD's grid (for every plane) -/
theorem write_order_complete (m0 : Meta) (rest : List Meta) (e : Nat × Nat × Nat × Nat) :
    e ∈ writeOrder (m0 :: rest) ↔
      ∃ m, (m0 :: rest)[e.1]? = some m ∧ e.2.1 < m0.planes ∧ e.2.2.1 < m.chunked.y ∧ e.2.2.2 < m.chunked.x := by
  rw [writeOrder_eq]
  simp only [List.mem_flatten, List.mem_reverse, mem_bagsFrom, List.mem_zipIdx_iff_getElem?]
  constructor
  · rintro ⟨b, ⟨m, l, s, hml, hs, rfl⟩, he⟩
    obtain ⟨h1, h2, h3, h4⟩ := mem_bag.mp he
    exact ⟨m, h1 ▸ hml, h2 ▸ hs, h3, h4⟩
  · rintro ⟨m, hm, hs, hy, hx⟩
    exact ⟨_, ⟨m, e.1, e.2.1, hm, hs, rfl⟩, mem_bag.mpr ⟨rfl, rfl, hy, hx⟩⟩

/-- no tile is streamed twice -/
theorem write_order_nodup (ms : List Meta) : (writeOrder ms).Nodup := by
  cases ms with
  | nil => exact List.nodup_nil
  | cons m0 rest =>
    rw [writeOrder_eq, List.nodup_flatten, List.pairwise_reverse]
    refine ⟨fun b hb => ?_, (bagsFrom_strict m0.planes (m0 :: rest) 0).imp fun h x hx2 hx1 => ?_⟩
    · obtain ⟨m, l, s, _, _, rfl⟩ := mem_bagsFrom.mp (List.mem_reverse.mp hb)
      exact bag_nodup m l s
    · have := h x hx1 x hx2
      omega

/-- the observation of write-order entry `e` with `sz` bytes -/
def obsOf (e : Nat × Nat × Nat × Nat) (sz : Nat) : Obs := ⟨e.1, e.2.1, e.2.2.1, e.2.2.2, sz⟩

theorem zipWith_obsOf_lvl (es : List (Nat × Nat × Nat × Nat)) (szs : List Nat) (h : es.length = szs.length) :
    (List.zipWith obsOf es szs).map (·.lvl) = es.map (·.1) :=
  List.ext_getElem (by simp [h]) fun i h1 h2 => by simp [obsOf]

theorem zipWith_obsOf_sz (es : List (Nat × Nat × Nat × Nat)) (szs : List Nat) (h : es.length = szs.length) :
    (List.zipWith obsOf es szs).map (·.sz) = szs :=
  List.ext_getElem (by simp [h]) fun i h1 h2 => by simp [obsOf]

theorem obsKey_obsOf (ms : List Meta) (e : Nat × Nat × Nat × Nat) (sz : Nat) (m : Meta)
    (hm : ms[e.1]? = some m) (hv : e.2.1 < m.planes ∧ e.2.2.1 < m.chunked.y ∧ e.2.2.2 < m.chunked.x) :
    obsKey ms (obsOf e sz) = .ok (e.1, m.flatRaw e.2.1 e.2.2.1 e.2.2.2) := by
  simp only [obsKey, obsOf, hm, flat_tile_idx_ok, if_pos hv]

def ValidTile (ms : List Meta) (e : Nat × Nat × Nat × Nat) : Prop :=
  ∃ m, ms[e.1]? = some m ∧ e.2.1 < m.planes ∧ e.2.2.1 < m.chunked.y ∧ e.2.2.2 < m.chunked.x

theorem obsKey_obsOf_inj (ms : List Meta) {e e' : Nat × Nat × Nat × Nat} (sz sz' : Nat)
    (he : ValidTile ms e) (he' : ValidTile ms e') (h : obsKey ms (obsOf e sz) = obsKey ms (obsOf e' sz')) : e = e' := by
  obtain ⟨m, hm, hv⟩ := he
  obtain ⟨m', hm', hv'⟩ := he'
  rw [obsKey_obsOf ms e sz m hm hv, obsKey_obsOf ms e' sz' m' hm' hv'] at h
  obtain ⟨h1, h2⟩ := Prod.mk.inj (Except.ok.inj h)
  rw [h1] at hm
  cases Option.some.inj (hm.symm.trans hm')
  exact Prod.ext h1 (flat_idx_inj m _ _ _ _ _ _ hv hv' h2)

/-- any stream of distinct valid tiles, with arbitrary observed sizes, satisfies the hypotheses of `tile_info_exact` by
itself -/
theorem valid_stream_exact (ms : List Meta) (es : List (Nat × Nat × Nat × Nat)) (hv : ∀ e ∈ es, ValidTile ms e)
    (hnd : es.Nodup) (szs : List Nat) (start : Nat) :
    let tiles := List.zipWith obsOf es szs
    ∃ info, extractTileInfo ms tiles start = .ok info ∧
      ∀ i (hi : i < tiles.length), tiles[i].sz ≠ 0 →
        ∃ l f, obsKey ms tiles[i] = .ok (l, f) ∧
          look info l f = some (streamOff start tiles i, tiles[i].sz) := by
  intro tiles
  have hget : ∀ i (hi : i < tiles.length), ∃ (hi' : i < es.length) (sz : Nat), tiles[i] = obsOf es[i] sz := by
    intro i hi
    exact ⟨Nat.lt_of_lt_of_le hi (by rw [List.length_zipWith]; exact Nat.min_le_left _ _), _, List.getElem_zipWith⟩
  have hall : ∀ t ∈ tiles, ∃ k, obsKey ms t = .ok k := by
    intro t ht
    obtain ⟨i, hi, rfl⟩ := List.getElem_of_mem ht
    obtain ⟨hi', sz, hsz⟩ := hget i hi
    obtain ⟨m, hm, hvm⟩ := hv _ (List.getElem_mem hi')
    exact ⟨_, hsz ▸ obsKey_obsOf ms _ sz m hm hvm⟩
  obtain ⟨⟨info, off⟩, hrun⟩ := (extractLoop_ok_iff ms tiles (initInfo ms, start)).mpr hall
  have hinfo : extractTileInfo ms tiles start = .ok info := extractTileInfo_ok_iff.mpr ⟨off, hrun⟩
  refine ⟨info, hinfo, tile_info_exact ms tiles start info hinfo ?_⟩
  intro i j hi hj hij _ _ heq
  obtain ⟨hi', szi, hszi⟩ := hget i hi
  obtain ⟨hj', szj, hszj⟩ := hget j hj
  rw [hszi, hszj] at heq
  have := (List.Nodup.getElem_inj_iff hnd).mp
    (obsKey_obsOf_inj ms szi szj (hv _ (List.getElem_mem hi')) (hv _ (List.getElem_mem hj')) heq)
  omega

/-- The stream `save_cog_with_dask` really produces — the tiles in `writeOrder`, with arbitrary
observed sizes: every id is inside its IFD's grid and no tile occurs twice.  Hence header patching
succeeds and every non-empty tile's entry is `(start + Σ earlier sizes, its size)`. -/
theorem write_order_stream_exact (m0 : Meta) (rest : List Meta)
    (hpl : ∀ m ∈ rest, m.planes = m0.planes) (szs : List Nat) (start : Nat) :
    let ms := m0 :: rest
    let tiles := List.zipWith obsOf (writeOrder ms) szs
    ∃ info, extractTileInfo ms tiles start = .ok info ∧
      ∀ i (hi : i < tiles.length), tiles[i].sz ≠ 0 →
        ∃ l f, obsKey ms tiles[i] = .ok (l, f) ∧
          look info l f = some (streamOff start tiles i, tiles[i].sz) := by
  refine valid_stream_exact _ _ (fun e he => ?_) (write_order_nodup _) szs start
  -- the write order bounds the plane by `m0.planes`, a valid tile by the planes of its own level
  obtain ⟨m, hm, hs, hy, hx⟩ := (write_order_complete m0 rest e).mp he
  refine ⟨m, hm, ?_, hy, hx⟩
  rcases List.mem_cons.mp (List.mem_of_getElem? hm) with rfl | h
  · exact hs
  · rw [hpl m h]; exact hs

/-- the same through `_patch_hdr`: the table written into the header of the finished file -/
theorem write_order_patched (m0 : Meta) (rest : List Meta) (hpl : ∀ m ∈ rest, m.planes = m0.planes) (szs : List Nat)
    (hdrSz : Nat) :
    let ms := m0 :: rest
    let tiles := List.zipWith obsOf (writeOrder ms) szs
    ∃ info, patchHdr ms tiles hdrSz = .ok info ∧
      ∀ i (hi : i < tiles.length), tiles[i].sz ≠ 0 →
        ∃ l f, obsKey ms tiles[i] = .ok (l, f) ∧
          look info l f = some (streamOff 0 tiles i + hdrSz, tiles[i].sz) := by
  intro ms tiles
  obtain ⟨info0, h0, hlook⟩ := write_order_stream_exact m0 rest hpl szs 0
  refine ⟨_, by simp only [patchHdr, ms, tiles, h0]; rfl, fun i hi hz => ?_⟩
  obtain ⟨l, f, hk, hl⟩ := hlook i hi hz
  exact ⟨l, f, hk, by rw [look_map_shift, hl]; rfl⟩

example : writeOrder [⟨1, ⟨8, 40⟩, ⟨16, 16⟩⟩, ⟨1, ⟨4, 20⟩, ⟨16, 16⟩⟩] =
    [(1, 0, 0, 0), (1, 0, 0, 1), (0, 0, 0, 0), (0, 0, 0, 1), (0, 0, 0, 2)] := by decide +kernel

theorem bandOffset_replicate_one (ns k : Nat) (hk : k ≤ ns) : bandOffset (List.replicate ns 1) k = k := by
  unfold bandOffset
  rw [List.take_replicate, Nat.min_eq_left hk]
  simp

/-- `compress_tile_picks_own_band`: for EVERY band count and EVERY chunking of the band axis of a band-first source
(all bands in one chunk, one band per chunk, groups of 2, irregular …) the tile of plane `s` is cut from source band `s`:
the block named for it exists after the re-chunk, and block offset + plane picked inside the block is `s`. -/
theorem compress_tile_picks_own_band (ns : Nat) (bandChunks : List Nat) (s : Nat) (hs : s < ns) :
    sourceBandOfTile ns bandChunks s = some s := by
  unfold sourceBandOfTile compressChunks blockName pickPlane
  by_cases h1 : bandChunks.length = 1
  · by_cases hn : ns = 1
    · simp [h1, hn, bandOffset]; omega
    · simp [h1, hn, bandOffset]
  · simp [h1, hs, bandOffset_replicate_one ns s hs.le]

/-- what the re-chunk targets: band-last and 2-D sources get ALL samples of a pixel in one chunk, a band-first source
keeps a single band chunk and is otherwise split to one band per chunk; spatially always the tile -/
theorem compress_chunks_spec (ax : Axis) (ndim ns : Nat) (bc : List Nat) (tile : YX) :
    (compressChunks ax ndim ns bc tile).tile = tile ∧
    ((compressChunks ax ndim ns bc tile).band = [] ∨ (compressChunks ax ndim ns bc tile).band = [ns] ∨
      (compressChunks ax ndim ns bc tile).band = List.replicate ns 1) ∧
    (ax = .SYX → ndim = 3 → bc.length ≠ 1 → (compressChunks ax ndim ns bc tile).band = List.replicate ns 1) := by
  unfold compressChunks
  cases ax with
  | YX => exact ⟨rfl, .inl rfl, fun h => nomatch h⟩
  | YXS => exact ⟨rfl, .inr (.inl rfl), fun h => nomatch h⟩
  | SYX =>
    simp only
    split
    · exact ⟨rfl, .inl rfl, fun _ h3 _ => by omega⟩
    · split
      · exact ⟨rfl, .inr (.inl rfl), fun _ _ h1 => absurd ‹_› h1⟩
      · exact ⟨rfl, .inr (.inr rfl), fun _ _ _ => rfl⟩

/-- band axis chunked in groups (the case of seeded change C05-10, DESIGN §13): 4 bands chunked 2 + 2, 3 bands chunked
(2, 1) -/
example : sourceBandOfTile 4 [2, 2] 3 = some 3 ∧ sourceBandOfTile 3 [2, 1] 2 = some 2 ∧
    sourceBandOfTile 5 [5] 4 = some 4 ∧ sourceBandOfTile 1 [1] 0 = some 0 := by decide

/-- concatenating the first four reversed bags and passing the rest one by one streams every
bag EXACTLY once, in reversed order — whatever the number of bags -/
theorem bag_groups_flatten {β : Type} (tiles : List β) : (bagGroups tiles).flatten = tiles.reverse := by
  unfold bagGroups
  have hsing : ∀ l : List β, (l.map fun b => [b]).flatten = l := fun l => by
    rw [← List.flatMap_def, List.flatMap_singleton']
  simp only []
  split
  · simp only [List.flatten_cons, hsing, List.take_append_drop]
  · exact hsing _

theorem bag_groups_perm {β : Type} (tiles : List β) : (bagGroups tiles).flatten.Perm tiles := by
  rw [bag_groups_flatten]; exact List.reverse_perm tiles

/-- at most one group has more than one member, and it is the first -/
theorem bag_groups_shape {β : Type} (tiles : List β) :
    (tiles.length ≤ 4 → bagGroups tiles = tiles.reverse.map fun b => [b]) ∧
    (4 < tiles.length → ∃ rest, bagGroups tiles = tiles.reverse.take 4 :: rest ∧ ∀ g ∈ rest, g.length = 1) := by
  unfold bagGroups
  simp only []
  constructor
  · intro h; rw [if_neg (by simpa using Nat.not_lt.mpr h)]
  · intro h
    rw [if_pos (by simpa using h)]
    exact ⟨_, rfl, fun g hg => by obtain ⟨b, _, rfl⟩ := List.mem_map.mp hg; rfl⟩

example : bagGroups [0, 1, 2, 3, 4, 5] = [[5, 4, 3, 2], [1], [0]] := by decide

/-- `patched_header_size`: without statistics the header keeps its length; with statistics it grows by the XML + NUL
unless the XML fits into the old tag value; it never shrinks -/
theorem patched_header_size (h0 oldCount xmlLen : Nat) :
    patchedHdrSize h0 none = h0 ∧
    (oldCount ≤ xmlLen → patchedHdrSize h0 (some (oldCount, xmlLen)) = h0 + xmlLen + 1) ∧
    (xmlLen + 1 ≤ oldCount → patchedHdrSize h0 (some (oldCount, xmlLen)) = h0) ∧
    h0 ≤ patchedHdrSize h0 (some (oldCount, xmlLen)) := by
  simp only [patchedHdrSize, statsGrow]
  refine ⟨trivial, ?_, ?_, ?_⟩
  · intro h; rw [if_neg (by omega)]; omega
  · intro h; rw [if_pos h]; rfl
  · split <;> omega

/-- the table written with statistics is the plain table shifted by the FINAL header size (stats XML included) -/
theorem patch_hdr_stats_exact (ms : List Meta) (tiles : List Obs) (h0 : Nat) (stats : Option (Nat × Nat))
    (info info0 : TileInfo) (hinfo0 : extractTileInfo ms tiles 0 = .ok info0)
    (hinfo : patchHdrStats ms tiles h0 stats = .ok info) (l f o n : Nat) (hl : look info0 l f = some (o, n)) :
    look info l f = some (o + patchedHdrSize h0 stats, n) :=
  patch_hdr_exact ms tiles _ info info0 hinfo0 hinfo l f o n hl

end OdcGeo.C05
