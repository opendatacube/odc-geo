/-
C19 — `CRS(obj)` for a hashable CRS-like object (`Model/C19Like.lean`), which is its own key in `_crs_cache`:
what a hit, a first construction and a failing one do to the cache, and two objects with one WKT.
-/
import OdcGeo.Model.C19Like
import OdcGeo.Props.C19Unified
namespace OdcGeo.C19

theorem constructLike_of_hit (W : World) (σ : LState) (lid : Nat) (wkt : String) (pick : Nat) (e : CrsObj)
    (h : assoc lid σ.likes = some e) : constructLike W σ lid wkt pick = (σ, .ok e) := by
  simp only [constructLike, h]

theorem constructLike_ok_of_miss (W : World) (σ : LState) (lid : Nat) (wkt : String) (pick : Nat) (c : CrsObj)
    (hm : assoc lid σ.likes = none) (h : (constructLike W σ lid wkt pick).2 = .ok c) :
    ∃ p, W.fromText wkt = some p ∧ entryOf (alloc σ.core pick p).2 p 0 = .ok c ∧
      (constructLike W σ lid wkt pick).1 =
        { core := (alloc σ.core pick p).1, likes := σ.likes ++ [(lid, c)] } := by
  revert h
  simp only [constructLike, hm]
  split
  · nofun
  · next p hp =>
    split
    · next he =>
      intro h
      cases h
      exact ⟨p, hp, he, rfl⟩
    · nofun

/-- the same object again is a cache hit: the very same record (same pyproj object), nothing grows -/
theorem constructLike_hit (W : World) (σ : LState) (lid : Nat) (wkt : String) (pick pick' : Nat) (c : CrsObj)
    (h : (constructLike W σ lid wkt pick).2 = .ok c) :
    constructLike W (constructLike W σ lid wkt pick).1 lid wkt pick' = ((constructLike W σ lid wkt pick).1, .ok c) := by
  cases hl : assoc lid σ.likes with
  | some e =>
    rw [constructLike_of_hit W σ lid wkt pick e hl] at h ⊢
    cases h
    exact constructLike_of_hit W σ lid wkt pick' _ hl
  | none =>
    obtain ⟨p, -, -, hs⟩ := constructLike_ok_of_miss W σ lid wkt pick c hl h
    rw [hs]
    exact constructLike_of_hit W _ lid wkt pick' c (assoc_append_new lid c σ.likes hl)

/-- a first construction adds exactly one entry keyed by the object and leaves every text /
pyproj-object entry alone: a hashable CRS-like object never collides with (or poisons) the
key of a text spec -/
theorem constructLike_accounting (W : World) (σ : LState) (lid : Nat) (wkt : String) (pick : Nat) (c : CrsObj)
    (hm : assoc lid σ.likes = none) (h : (constructLike W σ lid wkt pick).2 = .ok c) :
    (constructLike W σ lid wkt pick).1.core.cache = σ.core.cache ∧
    (constructLike W σ lid wkt pick).1.cacheLen = σ.cacheLen + 1 ∧
    c.obj ∈ (constructLike W σ lid wkt pick).1.roots ∧
    ∃ p, W.fromText wkt = some p ∧ c.info = p := by
  obtain ⟨p, hp, he, hs⟩ := constructLike_ok_of_miss W σ lid wkt pick c hm h
  have hc := alloc_cache σ.core pick p
  rw [hs]
  refine ⟨hc, ?_, ?_, p, hp, (entryOf_ok he).2⟩
  · simp only [LState.cacheLen, hc, List.length_append, List.length_singleton, Nat.add_assoc]
  · simp only [LState.roots, List.map_append, List.map_cons, List.map_nil, List.mem_append,
      List.mem_singleton, or_true]

/-- a failing construction stores nothing -/
theorem constructLike_error (W : World) (σ : LState) (lid : Nat) (wkt : String) (pick : Nat) (e : ErrKind)
    (h : (constructLike W σ lid wkt pick).2 = .error e) :
    (constructLike W σ lid wkt pick).1.cacheLen = σ.cacheLen := by
  revert h
  simp only [constructLike]
  split
  · nofun
  · split
    · exact fun _ => rfl
    · split
      · nofun
      · exact fun _ => by simp only [LState.cacheLen, alloc_cache]

/-- two DIFFERENT objects with the same WKT: two entries, two pyproj objects — equal CRSs (same
string, same system) that do not share `_crs` (witness; `CRS(text)` twice shares it) -/
theorem constructLike_two_objects_cex :
    let σ1 := (constructLike k4World {} 0 "X" 0).1
    let σ2 := (constructLike k4World σ1 1 "X" 0).1
    σ2.cacheLen = 2 ∧ σ2.core.cache = [] ∧
    (∃ a b, (constructLike k4World {} 0 "X" 0).2 = .ok a ∧ (constructLike k4World σ1 1 "X" 0).2 = .ok b ∧
      a.obj ≠ b.obj ∧ crsEq a b = true ∧ a.str = b.str) := by
  refine ⟨by decide +kernel, by decide +kernel, ⟨0, ⟨0, "X", "WX", some 4326⟩, "X", some 0⟩,
    ⟨1, ⟨0, "X", "WX", some 4326⟩, "X", some 0⟩, by decide +kernel, by decide +kernel, by decide, by decide +kernel, rfl⟩

end OdcGeo.C19
