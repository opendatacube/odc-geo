/-
C17 — `polygon_path` (`Model/C17Path.lean`): the ring of grid points, in `edge_index` order.
-/
import OdcGeo.Model.C17Path
import OdcGeo.Lemmas.C17Edge
import OdcGeo.Lemmas.C17MapM
import Mathlib.Tactic.Ring

namespace OdcGeo.C17

theorem mem_edgeIndexC (nx ny : Nat) (hx : 1 ≤ nx) (hy : 1 ≤ ny) (closed : Bool) (p : Nat × Nat)
    (h : p ∈ edgeIndexC nx ny closed) :
    (p.1 < ny ∧ p.2 < nx) ∧ (p.1 = 0 ∨ p.1 = ny - 1 ∨ p.2 = 0 ∨ p.2 = nx - 1) := by
  rcases List.mem_append.1 h with h | h
  · exact mem_edgeIndex nx ny hx hy p h
  · cases closed
    · cases h
    · cases List.mem_singleton.1 h
      exact ⟨⟨hy, hx⟩, Or.inl rfl⟩

/-- number of ring indices: `2 (nx + ny) - 4` for a grid with at least two points per side, one more when closed -/
theorem edge_index_length (nx ny : Nat) (hx : 2 ≤ nx) (hy : 2 ≤ ny) (closed : Bool) :
    (edgeIndexC nx ny closed).length = 2 * (nx + ny) - 4 + (if closed then 1 else 0) := by
  have h : nx + (ny - 1) + (nx - 1) + (ny - 2) = 2 * (nx + ny) - 4 := by omega
  rw [edgeIndexC, List.length_append, edgeIndex_length, h]
  cases closed <;> rfl

/-- every ring index is on the border: first or last row, or first or last column -/
theorem edge_index_on_border (nx ny : Nat) (hx : 1 ≤ nx) (hy : 1 ≤ ny) (closed : Bool) :
    ∀ p ∈ edgeIndexC nx ny closed, p.1 = 0 ∨ p.1 = ny - 1 ∨ p.2 = 0 ∨ p.2 = nx - 1 :=
  fun p hp => (mem_edgeIndexC nx ny hx hy closed p hp).2

/-- **`polygon_path` never fails on non-empty coordinate vectors; it returns one point per ring index, each with its x
among `x` and its y among `y`** (`y = None`: `y = x`) -/
theorem polygon_path_spec (xs : List Rat) (ys : Option (List Rat)) (closed : Bool)
    (hx : xs ≠ []) (hy : ∀ v, ys = some v → v ≠ []) :
    ∃ pts, polygonPath xs ys closed = .ok pts ∧
      pts.length = (edgeIndexC xs.length (ys.getD xs).length closed).length ∧
      ∀ p ∈ pts, p.1 ∈ xs ∧ p.2 ∈ ys.getD xs := by
  have hxl : 1 ≤ xs.length := List.length_pos_iff.mpr hx
  have hyl : 1 ≤ (ys.getD xs).length := by
    cases ys with
    | none => exact hxl
    | some v => exact List.length_pos_iff.mpr (hy v rfl)
  unfold polygonPath
  generalize ys.getD xs = Y at hyl ⊢
  have hne : (edgeIndexC xs.length Y.length closed).isEmpty = false := by
    rw [List.isEmpty_eq_false_iff, ← List.length_pos_iff, edgeIndexC, List.length_append, edgeIndex_length]
    omega
  simp only [hne, Bool.false_eq_true, if_false]
  refine exists_mapM_ok (pickPt xs Y) (fun q => q.1 ∈ xs ∧ q.2 ∈ Y) _ fun p hp => ?_
  obtain ⟨h1, h2⟩ := (mem_edgeIndexC xs.length Y.length hxl hyl closed p hp).1
  refine ⟨(xs[p.2], Y[p.1]), ?_, List.getElem_mem _, List.getElem_mem _⟩
  simp only [pickPt, List.getElem?_eq_getElem h2, List.getElem?_eq_getElem h1]

/-- a closed path ends where it starts: index `(0, 0)` first and last -/
theorem polygon_path_closed_ring (nx ny : Nat) (hx : 1 ≤ nx) :
    (edgeIndexC nx ny true).head? = some (0, 0) ∧ (edgeIndexC nx ny true).getLast? = some (0, 0) := by
  refine ⟨?_, List.getLast?_concat ..⟩
  obtain ⟨n, rfl⟩ := Nat.exists_eq_succ_of_ne_zero (Nat.ne_of_gt hx)
  rw [edgeIndexC, C03.edgeIndex, List.range_succ_eq_map]
  rfl

/-- an empty coordinate vector is numpy's `IndexError` as soon as the other one has two entries; with both empty
(`y = None`, open) there is no ring index to unpack: `ValueError` -/
theorem polygon_path_empty_x_cex : polygonPath [] (some [1, 2]) false = .error .indexError ∧
    polygonPath [] none false = .error .valueError := by decide

example : polygonPath [0, 1, 2] (some [7, 9]) true
    = .ok [(0, 7), (1, 7), (2, 7), (2, 9), (1, 9), (0, 9), (0, 7)] := by decide

example : polygonPath [0, 1] none true = .ok [(0, 0), (1, 0), (1, 1), (0, 1), (0, 0)] := by decide

end OdcGeo.C17
