/- `setAt` (Model/C14Args), as the thread scheduler of Model/C14Thr uses it: element and length after an update. -/
import OdcGeo.Model.C14Thr
import OdcGeo.Lemmas.C14Args
namespace OdcGeo.C14

theorem getElem?_setAt {α : Type} : ∀ (l : List α) (i j : Nat) (a : α),
    (setAt l i a)[j]? = if j = i ∧ i < l.length then some a else l[j]? := by
  intro l i j a
  rw [setAt_eq_set, List.getElem?_set]
  by_cases h : i = j
  · subst h
    by_cases hl : i < l.length
    · simp only [hl, and_self, if_true]
    · simp only [hl, and_false, if_false, if_true, List.getElem?_eq_none (not_lt.mp hl)]
  · rw [if_neg h, if_neg (fun hc => h hc.1.symm)]

theorem length_setAt {α : Type} : ∀ (l : List α) (i : Nat) (a : α), (setAt l i a).length = l.length := by
  intro l i a
  rw [setAt_eq_set, List.length_set]

end OdcGeo.C14
