/- Basic algebra of the rational affine model (shared helper lemmas). -/
import OdcGeo.Model.Affine
import OdcGeo.Lemmas.Between
import Mathlib.Tactic.Ring
import Mathlib.Tactic.LinearCombination
import Mathlib.Tactic.FieldSimp
import Mathlib.Algebra.Order.Field.Rat

namespace OdcGeo.Aff

@[ext] theorem ext' {A B : Aff} (ha : A.a = B.a) (hb : A.b = B.b) (hc : A.c = B.c)
    (hd : A.d = B.d) (he : A.e = B.e) (hf : A.f = B.f) : A = B := by
  cases A; cases B; simp_all

theorem mul_def (A B : Aff) : A * B = mul A B := rfl

theorem apply_mul (A B : Aff) (p : Rat × Rat) : (A * B).apply p = A.apply (B.apply p) := by
  simp only [mul_def, mul, apply]; ext <;> ring

theorem mul_assoc' (A B C : Aff) : A * B * C = A * (B * C) := by
  simp only [mul_def, mul]; ext <;> simp <;> ring

theorem id_mul (A : Aff) : Aff.id * A = A := by
  simp only [mul_def, mul, Aff.id]; ext <;> simp

theorem mul_id (A : Aff) : A * Aff.id = A := by
  simp only [mul_def, mul, Aff.id]; ext <;> simp

theorem apply_id (p : Rat × Rat) : Aff.id.apply p = p := by
  simp [apply, Aff.id]

theorem inv_mul_self (A : Aff) (h : A.det ≠ 0) : A.inv * A = Aff.id := by
  obtain ⟨a, b, c, d, e, f⟩ := A
  have h' : a * e - b * d ≠ 0 := h
  simp only [mul_def, mul, inv, det, Aff.id]
  have key : (a * e - b * d) * (1 / (a * e - b * d)) = 1 := by field_simp
  generalize 1 / (a * e - b * d) = k at key ⊢
  ext <;> dsimp only <;>
    first | ring1 | linear_combination key

theorem mul_inv_self (A : Aff) (h : A.det ≠ 0) : A * A.inv = Aff.id := by
  obtain ⟨a, b, c, d, e, f⟩ := A
  have h' : a * e - b * d ≠ 0 := h
  simp only [mul_def, mul, inv, det, Aff.id]
  have key : (a * e - b * d) * (1 / (a * e - b * d)) = 1 := by field_simp
  generalize 1 / (a * e - b * d) = k at key ⊢
  ext <;> dsimp only <;>
    first | ring1 | linear_combination key | linear_combination (-c) * key
          | linear_combination (-f) * key

theorem inv_apply_apply (A : Aff) (h : A.det ≠ 0) (p : Rat × Rat) : A.inv.apply (A.apply p) = p := by
  rw [← apply_mul, inv_mul_self A h, apply_id]

theorem apply_inv_apply (A : Aff) (h : A.det ≠ 0) (p : Rat × Rat) : A.apply (A.inv.apply p) = p := by
  rw [← apply_mul, mul_inv_self A h, apply_id]

theorem apply_injective (A : Aff) (h : A.det ≠ 0) {p q : Rat × Rat} (hpq : A.apply p = A.apply q) : p = q := by
  have := congrArg A.inv.apply hpq
  rwa [inv_apply_apply A h, inv_apply_apply A h] at this

theorem det_mul (A B : Aff) : (A * B).det = A.det * B.det := by
  simp only [mul_def, mul, det]; ring

theorem apply_translation (tx ty : Rat) (p : Rat × Rat) :
    (translation tx ty).apply p = (p.1 + tx, p.2 + ty) := by
  simp [apply, translation]

theorem apply_scale (sx sy : Rat) (p : Rat × Rat) :
    (scale sx sy).apply p = (sx * p.1, sy * p.2) := by
  simp [apply, scale]

theorem det_translation (tx ty : Rat) : (translation tx ty).det = 1 := by
  simp [det, translation]

theorem det_scale (sx sy : Rat) : (scale sx sy).det = sx * sy := by
  simp [det, scale]

theorem det_id : Aff.id.det = 1 := by simp [det, Aff.id]

theorem mul_translation (A : Aff) (tx ty : Rat) :
    A * translation tx ty = ⟨A.a, A.b, A.a * tx + A.b * ty + A.c, A.d, A.e, A.d * tx + A.e * ty + A.f⟩ := by
  simp only [mul_def, mul, translation, mul_one, mul_zero, add_zero, zero_add]

theorem translation_mul (tx ty : Rat) (A : Aff) :
    translation tx ty * A = ⟨A.a, A.b, A.c + tx, A.d, A.e, A.f + ty⟩ := by
  simp only [mul_def, mul, translation, one_mul, zero_mul, add_zero, zero_add]

theorem apply_mul_translation (A : Aff) (tx ty : Rat) (p : Rat × Rat) :
    (A * translation tx ty).apply p = A.apply (p.1 + tx, p.2 + ty) := by
  rw [apply_mul, apply_translation]

theorem mul_scale (A : Aff) (sx sy : Rat) :
    A * scale sx sy = ⟨A.a * sx, A.b * sy, A.c, A.d * sx, A.e * sy, A.f⟩ := by
  simp only [mul_def, mul, scale, mul_zero, add_zero, zero_add]

theorem det_mul_translation (A : Aff) (tx ty : Rat) : (A * translation tx ty).det = A.det := by
  rw [det_mul, det_translation, mul_one]

theorem ext_apply {A B : Aff} (h : ∀ p, A.apply p = B.apply p) : A = B := by
  have h0 := h (0, 0); have h1 := h (1, 0); have h2 := h (0, 1)
  simp only [apply, Prod.mk.injEq, mul_zero, mul_one, zero_add, add_zero] at h0 h1 h2
  rw [h0.1, h0.2] at h1 h2
  exact ext' (add_right_cancel h1.1) (add_right_cancel h2.1) h0.1 (add_right_cancel h1.2)
    (add_right_cancel h2.2) h0.2

theorem translation_mul_translation (a b c d : Rat) :
    translation a b * translation c d = translation (a + c) (b + d) := by
  apply ext_apply; intro p
  simp only [apply_mul, apply_translation, add_assoc, add_comm c, add_comm d]

theorem scale_mul_scale (a b c d : Rat) : scale a b * scale c d = scale (a * c) (b * d) := by
  apply ext_apply; intro p
  simp only [apply_mul, apply_scale, mul_assoc]

theorem scale_mul_translation (sx sy tx ty : Rat) :
    scale sx sy * translation tx ty = translation (sx * tx) (sy * ty) * scale sx sy := by
  apply ext_apply; intro p
  simp only [apply_mul, apply_scale, apply_translation, mul_add]

theorem translation_mul_scale (ox oy rx ry : Rat) : translation ox oy * scale rx ry = ⟨rx, 0, ox, 0, ry, oy⟩ := by
  simp only [mul_scale, translation, one_mul, zero_mul]

theorem translation_zero : translation 0 0 = Aff.id := rfl

theorem translation_neg_mul (a b : Rat) : translation (-a) (-b) * translation a b = Aff.id := by
  rw [translation_mul_translation, neg_add_cancel, neg_add_cancel, translation_zero]

/-! ### invertible maps form a group

The inverse is the only right inverse; the inverse of a product, of an inverse, of a translation and of a scaling are
read off that. -/

theorem det_ne_zero_of_mul_eq_id {A B : Aff} (h : A * B = Aff.id) : A.det ≠ 0 := fun hz => by
  have := congrArg det h
  rw [det_mul, hz, zero_mul, det_id] at this
  exact zero_ne_one this

theorem inv_det_ne_zero {A : Aff} (h : A.det ≠ 0) : A.inv.det ≠ 0 := det_ne_zero_of_mul_eq_id (inv_mul_self A h)

theorem inv_mul_cancel_left (A T : Aff) (h : A.det ≠ 0) : A.inv * (A * T) = T := by
  rw [← mul_assoc', inv_mul_self A h, id_mul]

theorem inv_eq_of_mul_eq_id {A B : Aff} (h : A * B = Aff.id) : A.inv = B := by
  rw [← mul_id A.inv, ← h, inv_mul_cancel_left A B (det_ne_zero_of_mul_eq_id h)]

theorem inv_id : Aff.id.inv = Aff.id := inv_eq_of_mul_eq_id (id_mul _)

theorem inv_inv (A : Aff) (h : A.det ≠ 0) : A.inv.inv = A := inv_eq_of_mul_eq_id (inv_mul_self A h)

theorem inv_mul (A B : Aff) (hA : A.det ≠ 0) (hB : B.det ≠ 0) : (A * B).inv = B.inv * A.inv :=
  inv_eq_of_mul_eq_id (by rw [mul_assoc', ← mul_assoc' B, mul_inv_self B hB, id_mul, mul_inv_self A hA])

/-- `~D * S` takes pixels of the grid `S` to pixels of the grid `D`; its inverse is `~S * D` -/
theorem inv_inv_mul {S D : Aff} (hS : S.det ≠ 0) (hD : D.det ≠ 0) : (D.inv * S).inv = S.inv * D := by
  rw [inv_mul _ _ (inv_det_ne_zero hD) hS, inv_inv D hD]

theorem inv_translation (tx ty : Rat) : (translation tx ty).inv = translation (-tx) (-ty) :=
  inv_eq_of_mul_eq_id (by rw [translation_mul_translation, add_neg_cancel, add_neg_cancel, translation_zero])

theorem inv_mul_translation (A : Aff) (h : A.det ≠ 0) (tx ty : Rat) :
    (A * translation tx ty).inv = translation (-tx) (-ty) * A.inv := by
  rw [inv_mul A _ h (by rw [det_translation]; exact one_ne_zero), inv_translation]

theorem inv_scale {sx sy : Rat} (hx : sx ≠ 0) (hy : sy ≠ 0) : (scale sx sy).inv = scale (1 / sx) (1 / sy) :=
  inv_eq_of_mul_eq_id (by rw [scale_mul_scale, mul_one_div_cancel hx, mul_one_div_cancel hy]; rfl)

/-- `inv?` is `~A` as the code computes it: a `ValueError` on a singular map -/
theorem inv?_of_det_ne {A : Aff} (h : A.det ≠ 0) : A.inv? = .ok A.inv := if_neg h
theorem inv?_of_det_eq {A : Aff} (h : A.det = 0) : A.inv? = .error .valueError := if_pos h

theorem inv?_bind_ok_iff {β : Type} {A : Aff} {f : Aff → Res β} {b : β} :
    (A.inv? >>= f) = .ok b ↔ A.det ≠ 0 ∧ f A.inv = .ok b := by
  rw [inv?]
  split <;> simp [*, bind, Except.bind]

/-- the image of a point of the rectangle `[x0, x1] × [y0, y1]` lies in every box `[l, r] × [b, t]` that holds the images
of the four corners: each coordinate of the image is an affine form on the rectangle (`affine_between`) -/
theorem apply_mem_box (A : Aff) {x y x0 x1 y0 y1 l r b t : Rat} (hx : x0 ≤ x ∧ x ≤ x1) (hy : y0 ≤ y ∧ y ≤ y1)
    (h00 : l ≤ (A.apply (x0, y0)).1 ∧ (A.apply (x0, y0)).1 ≤ r ∧ b ≤ (A.apply (x0, y0)).2 ∧ (A.apply (x0, y0)).2 ≤ t)
    (h10 : l ≤ (A.apply (x1, y0)).1 ∧ (A.apply (x1, y0)).1 ≤ r ∧ b ≤ (A.apply (x1, y0)).2 ∧ (A.apply (x1, y0)).2 ≤ t)
    (h11 : l ≤ (A.apply (x1, y1)).1 ∧ (A.apply (x1, y1)).1 ≤ r ∧ b ≤ (A.apply (x1, y1)).2 ∧ (A.apply (x1, y1)).2 ≤ t)
    (h01 : l ≤ (A.apply (x0, y1)).1 ∧ (A.apply (x0, y1)).1 ≤ r ∧ b ≤ (A.apply (x0, y1)).2 ∧ (A.apply (x0, y1)).2 ≤ t) :
    l ≤ (A.apply (x, y)).1 ∧ (A.apply (x, y)).1 ≤ r ∧ b ≤ (A.apply (x, y)).2 ∧ (A.apply (x, y)).2 ≤ t :=
  have X := affine_between (a := A.a) (b := A.b) (c := A.c) hx hy ⟨h00.1, h00.2.1⟩ ⟨h10.1, h10.2.1⟩ ⟨h11.1, h11.2.1⟩
    ⟨h01.1, h01.2.1⟩
  ⟨X.1, X.2, affine_between (a := A.d) (b := A.e) (c := A.f) hx hy h00.2.2 h10.2.2 h11.2.2 h01.2.2⟩

/-! ### scale and translation only (`b = d = 0`): the map acts on each axis by itself, and so does its inverse -/

theorem apply_of_st {A : Aff} (hb : A.b = 0) (hd : A.d = 0) (p : Rat × Rat) :
    A.apply p = (A.a * p.1 + A.c, A.e * p.2 + A.f) := by
  simp only [apply, hb, hd, zero_mul, add_zero, zero_add]

theorem det_of_st {A : Aff} (hb : A.b = 0) : A.det = A.a * A.e := by rw [det, hb, zero_mul, sub_zero]

theorem inv_of_st {A : Aff} (hb : A.b = 0) (hd : A.d = 0) : A.inv.b = 0 ∧ A.inv.d = 0 := by
  simp only [inv, hb, hd, neg_zero, zero_mul, and_self]

theorem eta_of_st {A : Aff} (hb : A.b = 0) (hd : A.d = 0) : (⟨A.a, 0, A.c, 0, A.e, A.f⟩ : Aff) = A := by
  cases A
  cases hb
  cases hd
  rfl

end OdcGeo.Aff
