/-
Helper lemmas for `Props/C18Up.lean`: the in-process S3 writer with bodies, the file sink's `finalise` interrupted,
`cancel("all")` next to uploads of other keys and with a paged listing.
-/
import OdcGeo.Model.C18Up
import OdcGeo.Lemmas.C18

namespace OdcGeo.C18
namespace Up

theorem gather_of_lookup (held : List (Nat × Bytes)) (f : Nat → Bytes) :
    ∀ ps : List Nat, (∀ p ∈ ps, held.lookup p = some (f p)) → gather held ps = some (ps.map f)
  | [], _ => rfl
  | p :: ps, h => by
    have h1 := h p List.mem_cons_self
    have h2 := gather_of_lookup held f ps (fun q hq => h q (List.mem_cons_of_mem _ hq))
    simp [gather, h1, h2]

theorem ascending_of_pairwise : ∀ ps : List Nat, ps.Pairwise (· < ·) → ascending ps = true
  | [], _ => rfl
  | [_], _ => rfl
  | a :: b :: rest, h => by
    have h' := List.pairwise_cons.1 h
    have hab : a < b := h'.1 b List.mem_cons_self
    simp [ascending, hab, ascending_of_pairwise (b :: rest) h'.2]

theorem sizesOk_of_dropLast (m : Nat) :
    ∀ bs : List Bytes, (∀ b ∈ bs.dropLast, m ≤ b.length) → sizesOk m bs = true
  | [], _ => rfl
  | [_], _ => rfl
  | b :: c :: rest, h => by
    have hb : m ≤ b.length := h b (by simp [List.dropLast])
    have hr := sizesOk_of_dropLast m (c :: rest) (fun x hx => h x (by
      simp only [List.dropLast_cons_cons]; exact List.mem_cons_of_mem _ hx))
    simp [sizesOk, hb, hr]

/-- the parts list of the sink model and the service's table evolve alike -/
theorem foldl_put_eq_sink (ws : List (Nat × Bytes)) :
    ∀ s : Sink, (ws.foldl Sink.write s).parts = ws.foldl put s.parts := by
  induction ws with
  | nil => intro s; rfl
  | cons w ws ih => intro s; simp only [List.foldl_cons]; rw [ih]; rfl

theorem lookup_foldl_put (ws : List (Nat × Bytes)) (hnd : (ws.map (·.1)).Nodup) (w : Nat × Bytes) (hw : w ∈ ws) :
    (ws.foldl put []).lookup w.1 = some w.2 := by
  rw [← foldl_put_eq_sink ws {}]
  exact Sink.lookup_foldl_write ws hnd {} w hw

/-- the writer has initiated upload 1, which is active and holds `held` -/
structure Started (s : State) (held : List (Nat × Bytes)) : Prop where
  uid : s.uploadId = 1
  creates : s.creates = 1
  live : s.live = true
  held : s.held = held
  ids : ∀ c ∈ s.calls, c.id = 1
  count : s.calls.countP UCall.isCreate = 1

theorem ensureInit_started {s : State} {h : List (Nat × Bytes)} (hs : Started s h) : ensureInit s = s := by
  simp [ensureInit, hs.uid]

theorem write_started {s : State} {h : List (Nat × Bytes)} (hs : Started s h) (w : Nat × Bytes) :
    (write s w).2 = none ∧ Started (write s w).1 (put h w) ∧ (write s w).1.object = s.object := by
  simp only [write, ensureInit_started hs, hs.live, if_true]
  refine ⟨trivial, ⟨hs.uid, hs.creates, rfl, by simp [hs.held], ?_, ?_⟩, trivial⟩
  · exact List.forall_mem_cons.2 ⟨by simp [UCall.id, hs.uid], hs.ids⟩
  · simp [UCall.isCreate, hs.count]

theorem runWrites_started (ws : List (Nat × Bytes)) :
    ∀ (s : State) (h : List (Nat × Bytes)), Started s h →
      (runWrites s ws).2 = none ∧ Started (runWrites s ws).1 (ws.foldl put h) ∧
        (runWrites s ws).1.object = s.object := by
  induction ws with
  | nil => intro s h hs; exact ⟨rfl, hs, rfl⟩
  | cons w ws ih =>
    intro s h hs
    obtain ⟨h1, h2, h3⟩ := write_started hs w
    have hw : write s w = ((write s w).1, none) := by rw [← h1]
    have := ih _ _ h2
    simp only [runWrites]
    rw [hw]
    simp only [List.foldl_cons]
    exact ⟨this.1, this.2.1, this.2.2.trans h3⟩

/-- after any writes on a fresh object, `_ensure_init` leaves upload 1 active with the parts written -/
theorem runWrites_fresh (ws : List (Nat × Bytes)) :
    (runWrites {} ws).2 = none ∧ Started (ensureInit (runWrites {} ws).1) (ws.foldl put []) ∧
      (ensureInit (runWrites {} ws).1).object = none := by
  have h0 : Started (ensureInit {}) [] :=
    ⟨rfl, rfl, rfl, rfl, by simp [ensureInit, UCall.id], by simp [ensureInit, UCall.isCreate]⟩
  cases ws with
  | nil => exact ⟨rfl, h0, rfl⟩
  | cons w ws =>
    -- the first write initiates: it is a write on the initiated object
    have hw : runWrites {} (w :: ws) = runWrites (ensureInit {}) (w :: ws) := rfl
    obtain ⟨g1, g2, g3⟩ := runWrites_started (w :: ws) _ _ h0
    rw [hw, ensureInit_started g2]
    exact ⟨g1, g2, g3⟩

/-- `finalise` looks at the object only through `ensureInit` -/
theorem finalise_started {s : State} {h : List (Nat × Bytes)} (hs : Started (ensureInit s) h) (m : Nat) (ps : List Nat)
    (f : Nat → Bytes) (hne : ps ≠ []) (hasc : ps.Pairwise (· < ·))
    (hw : ∀ p ∈ ps, h.lookup p = some (f p)) (hsz : ∀ b ∈ (ps.map f).dropLast, m ≤ b.length) :
    (finalise m s ps).2 = none ∧ (finalise m s ps).1.object = some (ps.flatMap f) ∧
      (finalise m s ps).1.creates = 1 ∧ (∀ c ∈ (finalise m s ps).1.calls, c.id = 1) ∧
      (finalise m s ps).1.calls.countP UCall.isCreate = 1 ∧
      (finalise m s ps).1.calls.head? = some (.complete 1 ps) ∧ (finalise m s ps).1.live = false := by
  have he : ps.isEmpty = false := List.isEmpty_eq_false_iff.2 hne
  have hg := gather_of_lookup h f ps hw
  simp only [finalise, he, hs.live, hs.held, ascending_of_pairwise ps hasc, hg,
    sizesOk_of_dropLast m _ hsz, Bool.not_true, Bool.false_eq_true, if_false]
  refine ⟨trivial, by simp [List.flatMap_def], hs.creates, ?_, ?_, by simp [hs.uid], trivial⟩
  · exact List.forall_mem_cons.2 ⟨by simp [UCall.id, hs.uid], hs.ids⟩
  · simp [UCall.isCreate, hs.count]

end Up

theorem Sink.finaliseCrash_ok (s : Sink) (ps : List Nat) (k : Nat) (f : Nat → Bytes) (hk : 1 ≤ k) (hne : ps ≠ [])
    (hnd : ps.Nodup) (hw : ∀ p ∈ ps, s.lookup p = some (f p)) :
    s.finaliseCrash ps k =
      { s with dst := some ((ps.take k).flatMap f), parts := s.parts.filter fun q => !(ps.take k).contains q.1 } := by
  have hsub : ∀ p ∈ ps.take k, p ∈ ps := fun p hp => List.mem_of_mem_take hp
  have hnd' : (ps.take k).Nodup := hnd.sublist (List.take_sublist k ps)
  rw [Sink.finaliseCrash]
  cases htk : ps.take k with
  | nil =>
    rcases List.take_eq_nil_iff.1 htk with h | h
    · omega
    · exact absurd h hne
  | cons first rest =>
    rw [htk] at hsub hnd'
    dsimp only
    rw [hw first (hsub first List.mem_cons_self)]
    exact congrArg Prod.fst (Sink.appendParts_first s first rest false f hnd' fun p hp => hw p (hsub p hp))

namespace SeqK

theorem abortLoop_own : ∀ (l : List Nat) (own : Seq.State), l.Nodup → (∀ i ∈ l, i ∈ own.active) →
    (abortLoop own l).2.2 = true ∧ (abortLoop own l).2.1 = l.map .abort ∧
      (abortLoop own l).1.active = own.active.filter (fun i => !l.contains i) ∧
      (abortLoop own l).1.uploadId = own.uploadId ∧ (abortLoop own l).1.creates = own.creates ∧
      (abortLoop own l).1.completed = own.completed ∧ (abortLoop own l).1.nextPart = own.nextPart
  | [], own, _, _ => by
    refine ⟨rfl, rfl, ?_, rfl, rfl, rfl, rfl⟩
    simp only [abortLoop]
    exact (List.filter_eq_self.2 (fun _ _ => rfl)).symm
  | i :: rest, own, hnd, hall => by
    have hnd' := List.nodup_cons.1 hnd
    have hi : own.active.contains i = true := by simpa using hall i List.mem_cons_self
    have hrest : ∀ j ∈ rest, j ∈ ({ own with active := own.active.filter (· != i), aborted := i :: own.aborted } :
        Seq.State).active := by
      intro j hj
      have hji : j ≠ i := fun e => hnd'.1 (e ▸ hj)
      simp only [List.mem_filter]
      exact ⟨hall j (List.mem_cons_of_mem _ hj), by simpa using hji⟩
    obtain ⟨h1, h2, h3, h4, h5, h6, h7⟩ := abortLoop_own rest _ hnd'.2 hrest
    simp only [abortLoop, hi, if_true]
    refine ⟨h1, by simp [h2], ?_, h4, h5, h6, h7⟩
    rw [h3]
    exact filter_filter_contains id own.active i rest

end SeqK

theorem cancelAllPagedN_active (page : Nat) : ∀ (n : Nat) (s : Seq.State),
    (cancelAllPagedN page n s).active = s.active.drop (n * page)
  | 0, s => by simp [cancelAllPagedN]
  | n + 1, s => by
    rw [cancelAllPagedN, cancelAllPagedN_active page n]
    simp only [cancelAllPaged, List.drop_drop]
    congr 1
    rw [Nat.add_mul, Nat.one_mul, Nat.add_comm]

end OdcGeo.C18
