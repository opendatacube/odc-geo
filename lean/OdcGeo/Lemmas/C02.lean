/- Helper lemmas for C02 (not counted as obligations): affine combinations under an affine map, a geobox from its
pixel-to-world function, the min / max of four corner values, ceilings of quotients, `is_affine_st` of a grid without
rotation or shear, the branches of `resolution` and of `snapGridTight` (also used by the C08 and C14 link theorems). -/
import OdcGeo.Model.C02
import OdcGeo.Lemmas.Affine
import OdcGeo.Lemmas.Py
import Mathlib.Tactic.LinearCombination
import Mathlib.Algebra.Order.Field.Rat

namespace OdcGeo.Aff

/-- an affine map commutes with affine (weights summing to one) combinations -/
theorem apply_combo4 (A : Aff) (w0 w1 w2 w3 : Rat) (p0 p1 p2 p3 : Rat × Rat)
    (hw : w0 + w1 + w2 + w3 = 1) :
    A.apply (w0 * p0.1 + w1 * p1.1 + w2 * p2.1 + w3 * p3.1,
             w0 * p0.2 + w1 * p1.2 + w2 * p2.2 + w3 * p3.2) =
      (w0 * (A.apply p0).1 + w1 * (A.apply p1).1 + w2 * (A.apply p2).1 + w3 * (A.apply p3).1,
       w0 * (A.apply p0).2 + w1 * (A.apply p1).2 + w2 * (A.apply p2).2 + w3 * (A.apply p3).2) := by
  simp only [apply]
  ext
  · linear_combination (-A.c) * hw
  · linear_combination (-A.f) * hw

end OdcGeo.Aff

namespace OdcGeo.C02

/-- a geobox is its shape, its CRS and its pixel-to-world function: identities between views can be read off their
pixel contracts -/
theorem GeoBox.ext_pix2wld {g h : GeoBox} (hny : g.ny = h.ny) (hnx : g.nx = h.nx) (hcrs : g.crs = h.crs)
    (hp : ∀ p, pix2wld g p = pix2wld h p) : g = h := by
  obtain ⟨_, _, A, _⟩ := g
  obtain ⟨_, _, B, _⟩ := h
  obtain rfl : A = B := Aff.ext_apply hp
  simp only at hny hnx hcrs
  subst hny hnx hcrs
  rfl

theorem min4_max4_mem (a b c d : Rat) :
    (min4 a b c d ≤ a ∧ a ≤ max4 a b c d) ∧ (min4 a b c d ≤ b ∧ b ≤ max4 a b c d) ∧
    (min4 a b c d ≤ c ∧ c ≤ max4 a b c d) ∧ (min4 a b c d ≤ d ∧ d ≤ max4 a b c d) := by
  simp only [min4, max4, min_le_iff, le_max_iff, le_refl, true_or, or_true, and_self]

/-- `min4` / `max4` of four values (any `m` that returns one of its arguments) is the value at one of the four -/
theorem choice4_attained {α : Type} (m : Rat → Rat → Rat) (hm : ∀ a b, m a b = a ∨ m a b = b) (f : α → Rat)
    {p0 p1 p2 p3 : α} : ∃ p ∈ [p0, p1, p2, p3], m (m (f p0) (f p1)) (m (f p2) (f p3)) = f p := by
  rcases hm (m (f p0) (f p1)) (m (f p2) (f p3)) with h | h <;> rw [h]
  · rcases hm (f p0) (f p1) with h' | h'
    · exact ⟨p0, by simp, h'⟩
    · exact ⟨p1, by simp, h'⟩
  · rcases hm (f p2) (f p3) with h' | h'
    · exact ⟨p2, by simp, h'⟩
    · exact ⟨p3, by simp, h'⟩

theorem op4_rev {m : Rat → Rat → Rat} (hc : ∀ a b, m a b = m b a) {a b c d : Rat} :
    m (m d c) (m b a) = m (m a b) (m c d) := by rw [hc (m d c), hc d c, hc b a]

theorem op4_swap {m : Rat → Rat → Rat} (hc : ∀ a b, m a b = m b a) {a b c d : Rat} :
    m (m b a) (m d c) = m (m a b) (m c d) := by rw [hc b a, hc d c]

theorem le_ceil_div_mul {N f : Rat} (hf : 0 < f) : N ≤ ((N / f).ceil : Rat) * f :=
  (div_le_iff₀ hf).mp Rat.le_ceil

theorem ceil_div_mul_lt {N f : Rat} (hf : 0 < f) : ((N / f).ceil : Rat) * f < N + f := by
  have h := mul_lt_mul_of_pos_right (Rat.ceil_lt (x := N / f)) hf
  rwa [add_mul, div_mul_cancel₀ N hf.ne', one_mul] at h

theorem rabs_eq_abs (x : Rat) : rabs x = |x| := Gen.Py.absR_eq_abs x

theorem rabs_nonneg' (x : Rat) : 0 ≤ rabs x := by rw [rabs_eq_abs]; exact abs_nonneg x

theorem isAffineST_of_zero {A : Aff} (hb : A.b = 0) (hd : A.d = 0) : isAffineST A = true := by
  have ht : rabs 0 < tolST := by decide +kernel
  simp only [isAffineST, hb, hd, ht, decide_true, Bool.and_self]

theorem resolution_of_st (g : GeoBox) (n m : Rat) (h : isAffineST g.A = true) :
    resolution g n m = .ok (g.A.a, g.A.e) := by
  simp only [resolution, h, if_true]

theorem resolution_of_not_st (g : GeoBox) (n m : Rat) (h : isAffineST g.A = false) (hdet : g.A.det ≠ 0) :
    resolution g n m = .ok (n, if g.A.det / (n * m) < 0 then -m else m) := by
  simp only [resolution, h, hdet, Bool.false_eq_true, if_false]

theorem snapGridTight_pos {x0 x1 tol res : Rat} (h : 0 < res) :
    snapGridTight x0 x1 res tol = .ok (x0, max 1 (snapCeil ((x1 - x0) / res) tol)) := if_pos h

theorem snapGridTight_neg {x0 x1 tol res : Rat} (h : res < 0) :
    snapGridTight x0 x1 res tol = .ok (x1, max (snapCeil ((x1 - x0) / (-res)) tol) 1) := by
  rw [snapGridTight, if_neg (not_lt.mpr h.le), if_neg h.ne]

theorem snapGridTight_zero (x0 x1 tol : Rat) : snapGridTight x0 x1 0 tol = .error .zeroDiv := by
  rw [snapGridTight, if_neg (lt_irrefl _), if_pos rfl]

end OdcGeo.C02
