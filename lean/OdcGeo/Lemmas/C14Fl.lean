/- The binary64 rounding `fl64` of `Model/C14.lean`, from its definition (Nat.log2 bracket, one-step normalisation, round-half-even):
   its structure on positive rationals (`fl64_spec`) and, from that, integers of magnitude below 2^53 are fixed points. -/
import OdcGeo.Model.C14
import OdcGeo.Lemmas.C14
namespace OdcGeo.C14

theorem pow2_subnormal_le : pow2 (-1074) ≤ 1 / 2 ^ 53 := by
  rw [show (-1074 : Int) = -((1074 : Nat) : Int) by rfl, pow2_negNat]
  exact one_div_le_one_div_of_le (by positivity) (pow_le_pow_right₀ (by norm_num) (by norm_num))

/-- `roundHalfEven` of `Model/C14` has the body of the prelude's, so the prelude's lemmas hold of it as they stand (here and
`roundHalfEven_err`, Lemmas/C14FlBound) -/
theorem roundHalfEven_int (z : Int) : roundHalfEven (z : Rat) = z := Gen.Py.roundHalfEven_intCast z

theorem log2_lower (q : Rat) (hq : 0 < q) :
    pow2 (((Nat.log2 q.num.natAbs : Nat) : Int) - ((Nat.log2 q.den : Nat) : Int) - 1) < q := by
  have hn0 : q.num.natAbs ≠ 0 := by have := Rat.num_pos.mpr hq; omega
  have N : ((2 : Rat) ^ q.num.natAbs.log2) ≤ (q.num.natAbs : Rat) := by exact_mod_cast Nat.log2_self_le hn0
  have D : (q.den : Rat) < (2 : Rat) ^ (q.den.log2 + 1) := by exact_mod_cast Nat.lt_log2_self
  have hqe : (q.num.natAbs : Rat) / (q.den : Rat) = q := by
    rw [← Int.cast_natCast, Int.natAbs_of_nonneg (Rat.num_pos.mpr hq).le, Rat.num_div_den]
  rw [sub_sub, ← Nat.cast_succ, pow2_sub, pow2_nat, pow2_nat]
  exact (div_lt_div₀' N D (Nat.cast_pos.mpr (Nat.pos_of_ne_zero hn0)) (Nat.cast_pos.mpr q.den_pos)).trans_eq hqe

/-- structure of the binary64 rounding of a positive rational: `fl64 q` is `q / 2^e` rounded to an integer, times the unit `2^e`,
    and the unit is at most `q / 2^52` (normal range) or `2^-1074` (subnormal clamp) -/
theorem fl64_spec (q : Rat) (hq : 0 < q) :
    ∃ e : Int, fl64 q = (roundHalfEven (q / pow2 e) : Rat) * pow2 e ∧ pow2 e ≤ q / 2 ^ 52 + pow2 (-1074) := by
  have b := log2_lower q hq
  generalize hl : ((Nat.log2 q.num.natAbs : Nat) : Int) - ((Nat.log2 q.den : Nat) : Int) = l at b
  have hp : 0 < pow2 (l - 52) := pow2_pos _
  -- whichever way the one-step normalisation goes, the significand `q / 2^e1` is at least `2^52`
  obtain ⟨e1, he1, hs⟩ : ∃ e1 : Int,
      e1 = (if q / pow2 (l - 52) < pow2 52 then l - 52 - 1 else if pow2 53 ≤ q / pow2 (l - 52) then l - 52 + 1 else l - 52) ∧
      pow2 (e1 + (52 : Nat)) ≤ q := by
    split_ifs with c1 c2
    · exact ⟨_, rfl, (show l - 1 = l - 52 - 1 + (52 : Nat) by omega) ▸ b.le⟩
    · refine ⟨_, rfl, ?_⟩
      rw [show l - 52 + 1 + ((52 : Nat) : Int) = l - 52 + (53 : Nat) by omega, pow2_add_nat, ← pow2_nat]
      exact (le_div_iff₀ hp).mp c2
    · refine ⟨_, rfl, ?_⟩
      rw [pow2_add_nat, ← pow2_nat]
      exact (le_div_iff₀ hp).mp (not_lt.mp c1)
  rw [pow2_add_nat] at hs
  refine ⟨if e1 < -1074 then -1074 else e1, ?_, ?_⟩
  · unfold fl64
    simp only [hq.ne', not_lt.mpr hq.le, if_false, hl, ← he1]
  · split_ifs with hc
    · exact le_add_of_nonneg_left (div_pos hq (by positivity)).le
    · exact le_add_of_le_of_nonneg ((le_div_iff₀' (by positivity)).mpr hs) (pow2_pos _).le

theorem fl64_neg (q : Rat) : fl64 (-q) = -fl64 q := by
  unfold fl64
  rcases lt_trichotomy q 0 with h | rfl | h
  · simp only [neg_eq_zero, h.ne, neg_lt_zero, not_lt.mpr h.le, h, if_true, if_false, neg_neg]
  · simp
  · simp only [neg_eq_zero, h.ne', neg_lt_zero, h, not_lt.mpr h.le, if_true, if_false, neg_neg]

theorem fl64_nat (n : Nat) (hn : n < 2 ^ 53) : fl64 (n : Rat) = (n : Rat) := by
  rcases eq_or_ne n 0 with rfl | hne
  · rw [Nat.cast_zero]; exact if_pos rfl
  obtain ⟨e, h, he⟩ := fl64_spec n (Nat.cast_pos.mpr (Nat.pos_of_ne_zero hne))
  -- the unit `2^e` is at most 1, so `n / 2^e` is an integer, which rounding leaves alone
  have he0 : e ≤ 0 := by
    by_contra hc
    have h2 : (2 : Rat) ≤ pow2 e := by
      rw [pow2_eq_zpow]
      exact (zpow_one (2 : Rat)).symm.trans_le (zpow_le_zpow_right₀ one_le_two (by omega))
    have : (n : Rat) + 1 ≤ 2 ^ 53 := by exact_mod_cast hn
    linarith [pow2_subnormal_le]
  obtain ⟨j, rfl⟩ : ∃ j : Nat, e = -(j : Int) := ⟨(-e).toNat, by omega⟩
  have hs : (n : Rat) / pow2 (-(j : Int)) = ((n * 2 ^ j : Nat) : Int) := by
    rw [pow2_negNat, one_div, div_inv_eq_mul]; push_cast; rfl
  rw [h, hs, roundHalfEven_int, pow2_negNat, one_div]
  push_cast
  exact mul_inv_cancel_right₀ (by positivity) _

theorem fl64_int (z : Int) (hz : z.natAbs < 2 ^ 53) : fl64 (z : Rat) = (z : Rat) := by
  obtain ⟨n, rfl | rfl⟩ := Int.eq_nat_or_neg z
  · exact_mod_cast fl64_nat n (by simpa using hz)
  · rw [Int.cast_neg, fl64_neg, Int.cast_natCast, fl64_nat n (by simpa using hz)]

end OdcGeo.C14
