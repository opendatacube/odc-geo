/-
Fuel lemma for the `while` loop of `_shared.num_overviews` as regenerated in `OdcGeo/Gen/C05.lean`:
with `dim + 1` units of fuel the loop never runs out, and it counts what the hand model `numOverviewsFuel` counts.
The loop state is `(c, dim)` (loop variables in alphabetical order, see tools/py2lean.py).
-/
import OdcGeo.Gen.C05
import OdcGeo.Gen.Tie
import OdcGeo.Model.C05

namespace OdcGeo.C05
open OdcGeo.Gen

/-- the Python value of a modelled block size -/
def Blk.toPy : Blk → Py.IntOrPair
  | .one b => .one b
  | .two b1 b2 => .two b1 b2

theorem gen_loop0_spec : ∀ (fuel : Nat) (b c d : Nat) (bi ci di : Int), bi = b → ci = c → di = d → d < fuel →
    ∃ d' : Int, Gen.C05.num_overviews_loop0 fuel bi ci di = .ok (((c + numOverviewsFuel fuel b d : Nat) : Int), d') := by
  intro fuel
  induction fuel with
  | zero => intro b c d bi ci di _ _ _ h; omega
  | succ fuel ih =>
    rintro b c d _ _ _ rfl rfl rfl hlt
    simp only [Gen.C05.num_overviews_loop0, numOverviewsFuel, Int.ofNat_lt]
    split
    · rw [← Nat.add_assoc, Nat.add_right_comm]
      exact ih b (c + 1) (d / 2) _ _ _ rfl rfl (by rw [Int.fdiv_eq_ediv_of_nonneg _ (by decide)]; rfl) (by omega)
    · exact ⟨d, rfl⟩

end OdcGeo.C05
