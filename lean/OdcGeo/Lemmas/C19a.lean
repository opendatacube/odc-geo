/-
Lemmas for C19 part (a): the pinning invariant `Inv` of `_crs_cache` (the pyproj objects of its entries
are live; every instance and every transformer key refers to one of them), kept by every real history;
with it the transformer cache is correct, and `(str, _epsg)` of a text / int spec is that of a fresh
interpreter.  Shared with `Lemmas/C19c.lean`: `Post` (what a construction establishes), `step_keeps` (a real step
keeps what the allocator, the collector and the construction keep), `Moves` (reachability by real operations).
-/
import OdcGeo.Model.C19

namespace OdcGeo.C19

theorem assoc_mem {β : Type} (k : Nat) (l : List (Nat × β)) (v : β)
    (h : assoc k l = some v) : (k, v) ∈ l := by
  induction l with
  | nil => simp [assoc] at h
  | cons hd tl ih =>
    obtain ⟨k', v'⟩ := hd
    simp only [assoc] at h
    split at h
    · cases h; subst_vars; exact List.mem_cons_self
    · exact List.mem_cons_of_mem _ (ih h)

theorem assoc_setVar {β : Type} (k : Nat) (v : β) (l : List (Nat × β)) :
    assoc k (setVar k v l) = some v := if_pos rfl

theorem assoc_filter_ne {β : Type} (k k' : Nat) (h : k ≠ k') :
    ∀ l : List (Nat × β), assoc k (l.filter (fun e => e.1 != k')) = assoc k l
  | [] => rfl
  | (k1, v) :: t => by
    have ih := assoc_filter_ne k k' h t
    by_cases he : k1 = k'
    · subst he
      simp [assoc, Ne.symm h, ih]
    · simp [he, assoc, ih]

theorem assoc_setVar_ne {β : Type} (k k' : Nat) (v : β) (l : List (Nat × β)) (h : k ≠ k') :
    assoc k (setVar k' v l) = assoc k l :=
  (if_neg (Ne.symm h)).trans (assoc_filter_ne k k' h l)

theorem assoc_append_new {β : Type} (k : Nat) (e : β) : ∀ l : List (Nat × β), assoc k l = none →
    assoc k (l ++ [(k, e)]) = some e
  | [], _ => by simp [assoc]
  | a :: t, h => by
    by_cases ha : a.1 = k
    · simp [assoc, ha] at h
    · simp only [assoc, ha, if_false] at h
      simp [assoc, ha, assoc_append_new k e t h]

theorem mem_setVar {β : Type} {k : Nat} {v : β} {l : List (Nat × β)} {e : Nat × β}
    (h : e ∈ setVar k v l) : e = (k, v) ∨ e ∈ l :=
  (List.mem_cons.1 h).imp_right fun h => (List.mem_filter.1 h).1

theorem mem_delVar {β : Type} {k : Nat} {l : List (Nat × β)} {e : Nat × β}
    (h : e ∈ delVar k l) : e ∈ l :=
  (List.mem_filter.1 h).1

/-- Some `_crs_cache` entry stores the pyproj object `i`, whose attributes are `p`. -/
def Pinned (cache : List (Key × CrsObj)) (i : Nat) (p : PInfo) : Prop :=
  ∃ ke ∈ cache, ke.2.obj = i ∧ ke.2.info = p

/-- The heap is a finite map; freed ids are distinct, not live, and below `next`. -/
structure HeapOk (heap : List (Nat × PInfo)) (free : List Nat) (next : Nat) : Prop where
  heapNodup : (heap.map Prod.fst).Nodup
  freeNodup : free.Nodup
  heapLt : ∀ e ∈ heap, e.1 < next
  freeLt : ∀ i ∈ free, i < next
  disj : ∀ e ∈ heap, e.1 ∉ free

/-- `_crs_cache` owns the pyproj objects: those of its entries are live, and every `CRS` instance
and every transformer key refers to one of them (so nothing but the cache has to keep them alive).
The pyproj objects the program holds itself are live. -/
structure RefOk (heap : List (Nat × PInfo)) (cache : List (Key × CrsObj))
    (vars : List (Nat × CrsObj)) (pvars : List (Nat × (Nat × PInfo)))
    (tcache : List ((Nat × Nat × Bool) × (Nat × Nat))) : Prop where
  cacheLive : ∀ ke ∈ cache, (ke.2.obj, ke.2.info) ∈ heap
  varsPinned : ∀ vc ∈ vars, Pinned cache vc.2.obj vc.2.info
  pvarsLive : ∀ pe ∈ pvars, pe.2 ∈ heap
  tcachePinned : ∀ te ∈ tcache, ∃ p q, Pinned cache te.1.1 p ∧ Pinned cache te.1.2.1 q ∧
    p.sys = te.2.1 ∧ q.sys = te.2.2

structure Inv (σ : State) : Prop where
  heapOk : HeapOk σ.heap σ.free σ.next
  refOk : RefOk σ.heap σ.cache σ.vars σ.pvars σ.tcache

theorem inv_init : Inv {} :=
  have e {α : Type} {P : α → Prop} : ∀ x ∈ ([] : List α), P x := fun _ h => nomatch h
  ⟨⟨.nil, .nil, e, e, e⟩, e, e, e, e⟩

theorem Pinned.mono {c c' : List (Key × CrsObj)} {i : Nat} {p : PInfo} (hc : ∀ e ∈ c, e ∈ c')
    (h : Pinned c i p) : Pinned c' i p :=
  let ⟨ke, hke, e⟩ := h
  ⟨ke, hc _ hke, e⟩

theorem Inv.live {σ : State} (h : Inv σ) {i : Nat} {p : PInfo} (hp : Pinned σ.cache i p) :
    (i, p) ∈ σ.heap :=
  let ⟨ke, hke, e1, e2⟩ := hp
  e1 ▸ e2 ▸ h.refOk.cacheLive ke hke

theorem RefOk.mono {heap heap' cache cache' vars pvars tcache}
    (hh : ∀ e ∈ heap, e ∈ heap') (hc : ∀ e ∈ cache, e ∈ cache')
    (hnew : ∀ ke ∈ cache', ke ∈ cache ∨ (ke.2.obj, ke.2.info) ∈ heap')
    (h : RefOk heap cache vars pvars tcache) : RefOk heap' cache' vars pvars tcache where
  cacheLive ke hke := (hnew ke hke).elim (fun h1 => hh _ (h.cacheLive ke h1)) id
  varsPinned vc hvc := (h.varsPinned vc hvc).mono hc
  pvarsLive pe hpe := hh _ (h.pvarsLive pe hpe)
  tcachePinned te hte :=
    let ⟨p, q, h1, h2, h3⟩ := h.tcachePinned te hte
    ⟨p, q, h1.mono hc, h2.mono hc, h3⟩

theorem HeapOk.functional {heap free next} (h : HeapOk heap free next) {i : Nat} {p q : PInfo}
    (hp : (i, p) ∈ heap) (hq : (i, q) ∈ heap) : p = q := by
  have hnd := h.heapNodup
  clear h
  induction heap with
  | nil => cases hp
  | cons hd tl ih =>
    rw [List.map_cons, List.nodup_cons] at hnd
    rcases List.mem_cons.1 hp with hp | hp <;> rcases List.mem_cons.1 hq with hq | hq
    · rw [← hp] at hq; exact (Prod.mk.inj hq).2.symm ▸ rfl
    · exfalso; apply hnd.1; rw [← hp]; exact List.mem_map.2 ⟨_, hq, rfl⟩
    · exfalso; apply hnd.1; rw [← hq]; exact List.mem_map.2 ⟨_, hp, rfl⟩
    · exact ih hp hq hnd.2

theorem HeapOk.push {heap free next} (h : HeapOk heap free next) {free' : List Nat} {next' id : Nat}
    (p : PInfo) (hnd : free'.Nodup) (hsub : ∀ x ∈ free', x ∈ free) (hid : id ∉ free')
    (hfresh : ∀ e ∈ heap, e.1 ≠ id) (hle : next ≤ next') (hlt : id < next') :
    HeapOk ((id, p) :: heap) free' next' where
  heapNodup := List.nodup_cons.2
    ⟨fun hm => let ⟨e, he, h1⟩ := List.mem_map.1 hm; hfresh e he h1, h.heapNodup⟩
  freeNodup := hnd
  heapLt := List.forall_mem_cons.2 ⟨hlt, fun e he => Nat.lt_of_lt_of_le (h.heapLt e he) hle⟩
  freeLt i hi := Nat.lt_of_lt_of_le (h.freeLt i (hsub i hi)) hle
  disj := List.forall_mem_cons.2 ⟨hid, fun e he hx => h.disj e he (hsub _ hx)⟩

theorem alloc_spec (σ : State) (pick : Nat) (p : PInfo) (h : Inv σ) :
    Inv (alloc σ pick p).1 ∧ ((alloc σ pick p).2, p) ∈ (alloc σ pick p).1.heap := by
  have hr := fun id => h.refOk.mono (heap' := (id, p) :: σ.heap)
    (fun _ he => List.mem_cons_of_mem _ he) (fun _ he => he) (fun _ hke => Or.inl hke)
  unfold alloc
  split
  · next hlt =>
    have hid : σ.free.getD pick 0 = σ.free[pick] := by simp [List.getD, hlt]
    have hmem : σ.free[pick] ∈ σ.free := List.getElem_mem hlt
    refine ⟨⟨?_, hr _⟩, List.mem_cons_self⟩
    rw [hid]
    refine h.heapOk.push p (h.heapOk.freeNodup.eraseIdx pick) (fun _ => List.mem_of_mem_eraseIdx)
      (fun hx => ?_) (fun e he hx => h.heapOk.disj e he (hx ▸ hmem)) (Nat.le_refl _)
      (h.heapOk.freeLt _ hmem)
    obtain ⟨i, hi, hne, e⟩ := List.mem_eraseIdx_iff_getElem.1 hx
    exact hne ((List.getElem_inj h.heapOk.freeNodup).1 e)
  · exact ⟨⟨h.heapOk.push p h.heapOk.freeNodup (fun _ hx => hx)
      (fun hx => Nat.lt_irrefl _ (h.heapOk.freeLt _ hx))
      (fun e he hx => Nat.lt_irrefl _ (hx ▸ h.heapOk.heapLt e he)) (Nat.le_succ _)
      (Nat.lt_succ_self _), hr _⟩, List.mem_cons_self⟩

theorem alloc_cache (σ : State) (pick : Nat) (p : PInfo) : (alloc σ pick p).1.cache = σ.cache := by
  unfold alloc
  split <;> rfl

theorem alloc_heap_mono (σ : State) (pick : Nat) (p : PInfo) :
    ∀ e ∈ σ.heap, e ∈ (alloc σ pick p).1.heap := by
  intro e he
  unfold alloc
  split <;> exact List.mem_cons_of_mem _ he

theorem alloc_vars (σ : State) (pick : Nat) (p : PInfo) : (alloc σ pick p).1.vars = σ.vars := by
  unfold alloc
  split <;> rfl

theorem mem_roots {σ : State} {i : Nat} : i ∈ roots σ ↔
    (∃ ke ∈ σ.cache, ke.2.obj = i) ∨ (∃ ke ∈ σ.cache, keyObj? ke.1 = some i) ∨
      (∃ vc ∈ σ.vars, vc.2.obj = i) ∨ ∃ pe ∈ σ.pvars, pe.2.1 = i := by
  simp only [roots, List.mem_append, List.mem_map, List.mem_filterMap, or_assoc]

theorem collect_keep {σ : State} {e : Nat × PInfo} (he : e ∈ σ.heap) (hr : e.1 ∈ roots σ) :
    e ∈ (collect σ).heap := by
  simp only [collect, List.mem_filter]
  exact ⟨he, by simpa using hr⟩

theorem collect_inv (σ : State) (h : Inv σ) : Inv (collect σ) where
  heapOk := {
    heapNodup := h.heapOk.heapNodup.sublist (List.filter_sublist.map _)
    freeNodup := List.nodup_append.2 ⟨h.heapOk.heapNodup.sublist (List.filter_sublist.map _),
      h.heapOk.freeNodup, fun a ha b hb hab =>
        let ⟨e, he, h1⟩ := List.mem_map.1 ha
        h.heapOk.disj e (List.mem_filter.1 he).1 (h1 ▸ hab ▸ hb)⟩
    heapLt := fun e he => h.heapOk.heapLt e (List.mem_filter.1 he).1
    freeLt := List.forall_mem_append.2
      ⟨List.forall_mem_map.2 fun e he => h.heapOk.heapLt e (List.mem_filter.1 he).1, h.heapOk.freeLt⟩
    disj := fun e he hx => by
      obtain ⟨he, hk⟩ := List.mem_filter.1 he
      rcases List.mem_append.1 hx with hx | hx
      -- a freed object with the id of a kept one would be a root and not a root
      · obtain ⟨e', he', hee⟩ := List.mem_map.1 hx
        have h1 := (List.mem_filter.1 he').2
        rw [hee, hk] at h1
        cases h1
      · exact h.heapOk.disj e he hx }
  -- only the cache and the program's own pyproj objects have to be roots
  refOk := {
    cacheLive := fun ke hke =>
      collect_keep (h.refOk.cacheLive ke hke) (mem_roots.2 (.inl ⟨ke, hke, rfl⟩))
    varsPinned := h.refOk.varsPinned
    pvarsLive := fun pe hpe =>
      collect_keep (h.refOk.pvarsLive pe hpe) (mem_roots.2 (.inr (.inr (.inr ⟨pe, hpe, rfl⟩))))
    tcachePinned := h.refOk.tcachePinned }

/-- The pyproj object of `c` is pinned: what every construction returns. -/
def Good (σ : State) (c : CrsObj) : Prop := Pinned σ.cache c.obj c.info

theorem Inv.good {σ : State} (h : Inv σ) {v : Nat} {c : CrsObj} (hv : assoc v σ.vars = some c) :
    Good σ c :=
  h.refOk.varsPinned _ (assoc_mem _ _ _ hv)

theorem entryOf_ok {id : Nat} {p : PInfo} {e0 : Nat} {e : CrsObj} (h : entryOf id p e0 = .ok e) :
    e.obj = id ∧ e.info = p := by
  unfold entryOf at h
  simp only at h
  split at h
  · split at h
    · cases h; exact ⟨rfl, rfl⟩
    · cases h
  · cases h; exact ⟨rfl, rfl⟩

theorem cacheFind_hit {W : World} {k : Key} {c : List (Key × CrsObj)} {e : CrsObj}
    (h : cacheFind W k c = some e) : ∃ k', (k', e) ∈ c ∧ keyEq W k' k = true := by
  obtain ⟨ke, hf, rfl⟩ := Option.map_eq_some_iff.1 h
  have hk := List.find?_some hf
  exact ⟨ke.1, List.mem_of_find?_eq_some hf, hk⟩

theorem good_of_hit {W : World} {k : Key} {σ : State} {e : CrsObj}
    (hf : cacheFind W k σ.cache = some e) : Good σ e :=
  let ⟨_, hmem, _⟩ := cacheFind_hit hf
  ⟨_, hmem, rfl, rfl⟩

/-- What a look-up or construction `r` establishes: `P` of the state it leaves and, if it
returned `c`, `Q` of that state and `c`. -/
def Post (P : State → Prop) (Q : State → CrsObj → Prop) (r : State × Res CrsObj) : Prop :=
  P r.1 ∧ ∀ c, r.2 = .ok c → Q r.1 c

theorem Post.ok {P : State → Prop} {Q : State → CrsObj → Prop} {σ : State} {c : CrsObj}
    (hP : P σ) (hQ : Q σ c) : Post P Q (σ, .ok c) :=
  ⟨hP, fun _ hc => by cases hc; exact hQ⟩

theorem Post.error {P : State → Prop} {Q : State → CrsObj → Prop} {σ : State} {e : ErrKind}
    (hP : P σ) : Post P Q (σ, .error e) :=
  ⟨hP, fun _ hc => nomatch hc⟩

theorem Post.imp {P : State → Prop} {Q Q' : State → CrsObj → Prop} {r : State × Res CrsObj}
    (h : Post P Q r) (hQ : ∀ σ c, Q σ c → Q' σ c) : Post P Q' r :=
  ⟨h.1, fun c hc => hQ _ c (h.2 c hc)⟩

theorem inv_cache_push {σ : State} (h : Inv σ) (k : Key) (e : CrsObj)
    (he : (e.obj, e.info) ∈ σ.heap) :
    Post Inv Good ({ σ with cache := σ.cache ++ [(k, e)] }, .ok e) :=
  .ok ⟨h.heapOk, h.refOk.mono (fun _ hx => hx) (fun _ hx => List.mem_append_left _ hx)
      (List.forall_mem_append.2 ⟨fun _ => Or.inl, List.forall_mem_singleton.2 (Or.inr he)⟩)⟩
    ⟨(k, e), by simp, rfl, rfl⟩

theorem makeFromText_spec (W : World) (σ : State) (key : String) (parsed : Option PInfo)
    (e0 pick : Nat) (h : Inv σ) : Post Inv Good (makeFromText W σ key parsed e0 pick) := by
  unfold makeFromText
  simp only
  split
  · next e hf => exact .ok h (good_of_hit hf)
  · split
    · exact .error h
    · next p =>
      obtain ⟨a1, a2⟩ := alloc_spec σ pick p h
      split
      · next e he =>
        obtain ⟨e1, e2⟩ := entryOf_ok he
        exact inv_cache_push a1 (Key.txt key) e (by rw [e1, e2]; exact a2)
      · exact .error a1

theorem makeFromObj_spec (W : World) (σ : State) (id : Nat) (p : PInfo) (h : Inv σ)
    (hl : (id, p) ∈ σ.heap) : Post Inv Good (makeFromObj W σ id p) := by
  unfold makeFromObj
  simp only
  split
  · next e hf => exact .ok h (good_of_hit hf)
  · split
    · next e he =>
      obtain ⟨e1, e2⟩ := entryOf_ok he
      exact inv_cache_push h (Key.obj id p) e (by rw [e1, e2]; exact hl)
    · exact .error h

theorem construct_spec (W : World) (σ : State) (spec : Spec) (pick : Nat) (h : Inv σ) :
    Post Inv Good (construct W σ spec pick) := by
  cases spec with
  | int _ | str _ => exact makeFromText_spec W σ _ _ _ pick h
  | pyproj pv =>
    simp only [construct]
    split
    · exact .error h
    · next id p hpv =>
      exact makeFromObj_spec W σ id p h (h.refOk.pvarsLive _ (assoc_mem _ _ _ hpv))
  | dict d =>
    simp only [construct]
    split
    · exact .error h
    · next p _ =>
      obtain ⟨a1, a2⟩ := alloc_spec σ pick p h
      exact makeFromObj_spec W _ _ p a1 a2
  | crs v =>
    simp only [construct]
    split
    · exact .error h
    · next c hv => exact .ok h (h.good hv)

theorem construct_vars (W : World) (σ : State) (spec : Spec) (pick : Nat) :
    (construct W σ spec pick).1.vars = σ.vars := by
  have hobj : ∀ (σ : State) id p, (makeFromObj W σ id p).1.vars = σ.vars := by
    intro σ id p
    unfold makeFromObj
    simp only
    split
    · rfl
    · split <;> rfl
  have htxt : ∀ key parsed e0, (makeFromText W σ key parsed e0 pick).1.vars = σ.vars := by
    intro key parsed e0
    unfold makeFromText
    simp only
    split
    · rfl
    · split
      · rfl
      · split <;> exact alloc_vars σ pick _
  cases spec with
  | int _ | str _ => exact htxt _ _ _
  | pyproj pv =>
    simp only [construct]
    split
    · rfl
    · exact hobj _ _ _
  | dict d =>
    simp only [construct]
    split
    · rfl
    · exact (hobj _ _ _).trans (alloc_vars σ pick _)
  | crs w =>
    simp only [construct]
    split <;> rfl

theorem assoc_step_mk_ne (W : World) (σ : State) {v w : Nat} (spec : Spec) (pick : Nat) (hw : w ≠ v) :
    assoc w (step W σ (.mk v spec pick)).1.vars = assoc w σ.vars := by
  have hcv := construct_vars W σ spec pick
  simp only [step]
  split
  · next σ1 c heq => rw [heq] at hcv; exact (assoc_setVar_ne w v c _ hw).trans (congrArg _ hcv)
  · next σ1 e heq => rw [heq] at hcv; exact congrArg _ hcv

theorem assoc_step_mk_self {W : World} {σ : State} {v : Nat} {spec : Spec} {pick : Nat} {c : CrsObj}
    (hc : (construct W σ spec pick).2 = .ok c) :
    assoc v (step W σ (.mk v spec pick)).1.vars = some c := by
  simp only [step]
  split
  · next σ1 c' heq => rw [heq] at hc; cases hc; exact assoc_setVar _ _ _
  · next σ1 e heq => rw [heq] at hc; cases hc

theorem Inv.vars {σ : State} (h : Inv σ) {vars : List (Nat × CrsObj)}
    (hv : ∀ vc ∈ vars, Good σ vc.2) : Inv { σ with vars := vars } :=
  ⟨h.heapOk, h.refOk.cacheLive, hv, h.refOk.pvarsLive, h.refOk.tcachePinned⟩

theorem Inv.pvars {σ : State} (h : Inv σ) {pvars : List (Nat × (Nat × PInfo))}
    (hp : ∀ pe ∈ pvars, pe.2 ∈ σ.heap) : Inv { σ with pvars := pvars } :=
  ⟨h.heapOk, h.refOk.cacheLive, h.refOk.varsPinned, hp, h.refOk.tcachePinned⟩

theorem inv_setVar {σ : State} (h : Inv σ) (v : Nat) (c : CrsObj) (hc : Good σ c) :
    Inv { σ with vars := setVar v c σ.vars } :=
  h.vars fun vc hvc => (mem_setVar hvc).elim (fun e => e ▸ hc) (h.refOk.varsPinned vc)

theorem inv_tcache_push {σ : State} (h : Inv σ) (ca cb : CrsObj) (xy : Bool)
    (ha : Good σ ca) (hb : Good σ cb) :
    Inv { σ with tcache := σ.tcache ++ [((ca.obj, cb.obj, xy), (ca.info.sys, cb.info.sys))] } :=
  ⟨h.heapOk, h.refOk.cacheLive, h.refOk.varsPinned, h.refOk.pvarsLive,
    List.forall_mem_append.2 ⟨h.refOk.tcachePinned, List.forall_mem_singleton.2
      ⟨ca.info, cb.info, ha, hb, rfl, rfl⟩⟩⟩

theorem step_inv (W : World) (σ : State) (op : Op) (hop : op.real = true) (h : Inv σ) :
    Inv (step W σ op).1 := by
  have hnew : ∀ pv pick p, Inv { (alloc σ pick p).1 with
      pvars := setVar pv ((alloc σ pick p).2, p) (alloc σ pick p).1.pvars } := fun pv pick p =>
    let ⟨a1, a2⟩ := alloc_spec σ pick p h
    a1.pvars fun pe hpe => (mem_setVar hpe).elim (fun e => e ▸ a2) (a1.refOk.pvarsLive pe)
  have hbind : ∀ (v : Nat) {r : State × Res CrsObj}, Post Inv Good r → Inv (match r with
      | (σ1, .ok c) => ({ σ1 with vars := setVar v c σ1.vars }, Out.str c.str)
      | (σ1, .error e) => (σ1, Out.err e)).1 := by
    rintro v ⟨σ1, _ | c⟩ hr
    · exact hr.1
    · exact inv_setVar hr.1 v c (hr.2 c rfl)
  cases op with
  | pnewText _ _ _ | pnewEpsg _ _ _ =>
    simp only [step]
    split
    · exact h
    · exact hnew _ _ _
  | mk v spec pick => exact hbind v (construct_spec W σ spec pick h)
  | pickle v src pick =>
    simp only [step]
    split
    · exact h
    · exact hbind v (construct_spec W σ _ pick h)
  | drop v => exact h.vars fun vc hvc => h.refOk.varsPinned vc (mem_delVar hvc)
  | pdrop pv => exact h.pvars fun pe hpe => h.refOk.pvarsLive pe (mem_delVar hpe)
  | gc => exact collect_inv σ h
  | transformer a b xy =>
    simp only [step]
    split
    · next ca cb ha hb =>
      split
      · exact h
      · exact inv_tcache_push h ca cb xy (h.good ha) (h.good hb)
    · exact h
  | epsg v =>
    simp only [step]
    split
    · exact h
    · next c hv =>
      split
      · exact inv_setVar h v _ (h.good (c := c) hv)
      · exact h
  | eq a b =>
    simp only [step]
    split <;> exact h
  | evict k => cases hop

/-- `step` touches `_crs_cache` and the heap only through `alloc`, `construct` and the
collector: what depends on the cache and grows with the heap is kept by a real step as soon as
the collector keeps it and the construction the step performs (if any) does. -/
theorem step_keeps {P : State → Prop} {W : World}
    (hmono : ∀ σ σ' : State, σ'.cache = σ.cache → (∀ e ∈ σ.heap, e ∈ σ'.heap) → P σ → P σ')
    (hcollect : ∀ σ, P σ → P (collect σ)) (σ : State) (op : Op) (hop : op.real = true) (hP : P σ)
    (hmk : ∀ v spec pick, op = .mk v spec pick → P (construct W σ spec pick).1)
    (hstr : ∀ s pick, P (construct W σ (.str s) pick).1) :
    P (step W σ op).1 := by
  have halloc : ∀ pick p pvars, P { (alloc σ pick p).1 with pvars := pvars } :=
    fun pick p _ => hmono σ _ (alloc_cache σ pick p) (alloc_heap_mono σ pick p) hP
  have hbind : ∀ (v : Nat) {r : State × Res CrsObj}, P r.1 →
      P (match r with
        | (σ1, .ok c) => ({ σ1 with vars := setVar v c σ1.vars }, Out.str c.str)
        | (σ1, .error e) => (σ1, Out.err e)).1 := by
    rintro v ⟨σ1, _ | c⟩ hr
    · exact hr
    · exact hmono σ1 _ rfl (fun _ he => he) hr
  cases op with
  | pnewText _ _ _ | pnewEpsg _ _ _ =>
    simp only [step]
    split
    · exact hP
    · exact halloc _ _ _
  | mk v spec pick => exact hbind v (hmk v spec pick rfl)
  | pickle v src pick =>
    simp only [step]
    split
    · exact hP
    · exact hbind v (hstr _ pick)
  | drop _ | pdrop _ => exact hmono σ _ rfl (fun _ he => he) hP
  | gc => exact hcollect σ hP
  | transformer _ _ _ | epsg _ | eq _ _ =>
    -- neither cache nor heap is touched, whichever branch is taken
    simp only [step]
    repeat' split
    all_goals exact hmono σ _ rfl (fun _ he => he) hP
  | evict k => cases hop

theorem runFrom_append (W : World) : ∀ (a b : List Op) (σ : State),
    (runFrom W σ (a ++ b)).1 = (runFrom W (runFrom W σ a).1 b).1
  | [], _, _ => rfl
  | op :: a, b, σ => runFrom_append W a b (step W σ op).1

theorem runFrom_preserves {W : World} {P : State → Prop} {Q : Op → Prop}
    (hstep : ∀ σ op, Q op → P σ → P (step W σ op).1) :
    ∀ (h : List Op) (σ : State), P σ → (∀ op ∈ h, Q op) → P (runFrom W σ h).1
  | [], _, hσ, _ => hσ
  | op :: ops, σ, hσ, hq =>
    runFrom_preserves hstep ops _ (hstep σ op (hq op List.mem_cons_self) hσ)
      (fun o ho => hq o (List.mem_cons_of_mem _ ho))

theorem inv_run (W : World) (h : List Op) (hreal : ∀ op ∈ h, op.real = true) :
    Inv (run W h).1 :=
  runFrom_preserves (step_inv W) h {} inv_init hreal

/-- The history model gets from `σ` to `σ'` by real operations. -/
def Moves (W : World) (σ σ' : State) : Prop :=
  ∃ ops : List Op, (∀ o ∈ ops, o.real = true) ∧ σ' = (runFrom W σ ops).1

theorem Moves.refl {W : World} {σ : State} : Moves W σ σ :=
  ⟨[], by simp, rfl⟩

theorem Moves.step {W : World} {σ : State} {op : Op} (hop : op.real = true) :
    Moves W σ (step W σ op).1 :=
  ⟨[op], fun _ ho => List.mem_singleton.1 ho ▸ hop, rfl⟩

theorem Moves.trans {W : World} {a b c : State} : Moves W a b → Moves W b c → Moves W a c
  | ⟨o1, r1, e1⟩, ⟨o2, r2, e2⟩ =>
    ⟨o1 ++ o2, fun o ho => (List.mem_append.1 ho).elim (r1 o) (r2 o), by
      rw [runFrom_append, ← e1, e2]⟩

/-- The transformer cache keyed on object identities never returns a transformer between the
wrong systems, whatever ids the allocator reused. -/
theorem transformer_correct_state (W : World) (σ : State) (hi : Inv σ)
    (a b : Nat) (xy : Bool) (ca cb : CrsObj)
    (ha : assoc a σ.vars = some ca) (hb : assoc b σ.vars = some cb) :
    (step W σ (.transformer a b xy)).2 = .tr ca.info.sys cb.info.sys := by
  simp only [step, ha, hb]
  split
  · next s d hf =>
    obtain ⟨⟨k, _, _⟩, hfind, hte⟩ := Option.map_eq_some_iff.1 hf
    cases hte
    have hk := List.find?_some hfind
    cases beq_iff_eq.1 hk
    obtain ⟨p, q, h1, h2, rfl, rfl⟩ := hi.refOk.tcachePinned _ (List.mem_of_find?_eq_some hfind)
    -- the key names the objects of `ca`, `cb`: one id pinned twice is one live object
    rw [hi.heapOk.functional (hi.live h1) (hi.live (hi.good ha)),
      hi.heapOk.functional (hi.live h2) (hi.live (hi.good hb))]
  · rfl

/-- Specs given as text or as an EPSG number. -/
def Spec.textual : Spec → Bool
  | .int _ => true
  | .str _ => true
  | _ => false

/-- Operations that never put a pyproj object into `_crs_cache` as a key. -/
def Op.textOnly : Op → Bool
  | .evict _ => false
  | .mk _ (.pyproj _) _ => false
  | .mk _ (.dict _) _ => false
  | _ => true

/-- `_make_crs_key` of a textual spec. -/
def specKey : Spec → Option String
  | .int n => some (keyOfInt n)
  | .str s => some (keyOfStr s)
  | _ => none

/-- What a fresh interpreter gives for `(str(CRS(spec)), CRS(spec)._epsg)`. -/
def freshOut (W : World) (spec : Spec) : Res (String × Option Nat) :=
  (construct W {} spec 0).2.map (fun c => (c.str, c.epsg))

/-- pyproj gives the same `(str, epsg)` for every spelling that shares a cache key. -/
def TextCoherent (W : World) : Prop :=
  ∀ s s', s.textual = true → s'.textual = true → specKey s = specKey s' →
    freshOut W s = freshOut W s'

/-- The observable part of a construction result. -/
abbrev view (c : CrsObj) : String × Option Nat := (c.str, c.epsg)

/-- The outcome of `_make_crs` on a cache miss, as far as `(str, epsg)` goes. -/
def txtOut (parsed : Option PInfo) (e0 : Nat) : Res (String × Option Nat) :=
  match parsed with
  | none => .error .runtimeError
  | some p => (entryOf 0 p e0).map view

theorem entryOf_view (id : Nat) (p : PInfo) (e0 : Nat) :
    (entryOf id p e0).map view = (entryOf 0 p e0).map view := by
  unfold entryOf
  simp only
  split
  · split <;> rfl
  · rfl

theorem makeFromText_hit {W : World} {σ : State} {k : String} {e : CrsObj}
    (parsed : Option PInfo) (e0 pick : Nat) (h : cacheFind W (.txt k) σ.cache = some e) :
    (makeFromText W σ k parsed e0 pick).2 = .ok e := by
  unfold makeFromText
  simp only [h]

theorem makeFromText_miss (W : World) (σ : State) (key : String) (parsed : Option PInfo)
    (e0 pick : Nat) (hm : cacheFind W (.txt key) σ.cache = none) :
    (makeFromText W σ key parsed e0 pick).2.map view = txtOut parsed e0 := by
  unfold makeFromText
  simp only [hm]
  cases parsed with
  | none => rfl
  | some p =>
    simp only [txtOut]
    rw [← entryOf_view (alloc σ pick p).2 p e0]
    split <;> next _ he => rw [he]

theorem freshOut_int (W : World) (n : Nat) : freshOut W (.int n) = txtOut (W.fromEpsg n) n :=
  makeFromText_miss W {} _ _ _ 0 rfl

theorem freshOut_str (W : World) (s : String) : freshOut W (.str s) = txtOut (W.fromText s) 0 :=
  makeFromText_miss W {} _ _ _ 0 rfl

/-- Every key is a string and the stored `(str, epsg)` is what a fresh interpreter computes
for any textual spec with that key. -/
def TextInv (W : World) (cache : List (Key × CrsObj)) : Prop :=
  ∀ ke ∈ cache, ∃ k, ke.1 = .txt k ∧ ∀ spec, spec.textual = true → specKey spec = some k →
    freshOut W spec = .ok (view ke.2)

theorem textInv_hit {W : World} {cache : List (Key × CrsObj)} (hinv : TextInv W cache)
    {key : String} {e : CrsObj} (hf : cacheFind W (.txt key) cache = some e)
    (spec : Spec) (hs : spec.textual = true) (hk : specKey spec = some key) :
    freshOut W spec = .ok (view e) := by
  obtain ⟨k', hmem, heq⟩ := cacheFind_hit hf
  obtain ⟨k, hk1, hk2⟩ := hinv _ hmem
  cases hk1
  exact hk2 spec hs (beq_iff_eq.1 heq ▸ hk)

/-- `spec0` is the spec under construction: `key` is its key and `txtOut parsed e0` is what a
fresh interpreter answers for it.  On a hit the stored `(str, epsg)` is that answer by `TextInv`;
on a miss the new entry is right for *every* spec with this key by `TextCoherent`. -/
theorem makeFromText_text (W : World) (hW : TextCoherent W) (σ : State) (key : String)
    (parsed : Option PInfo) (e0 pick : Nat) (hinv : TextInv W σ.cache)
    (spec0 : Spec) (h0 : spec0.textual = true) (hk0 : specKey spec0 = some key)
    (hf0 : freshOut W spec0 = txtOut parsed e0) :
    TextInv W (makeFromText W σ key parsed e0 pick).1.cache ∧
      (makeFromText W σ key parsed e0 pick).2.map view = txtOut parsed e0 := by
  cases hm : cacheFind W (.txt key) σ.cache with
  | some e =>
    unfold makeFromText
    simp only [hm]
    exact ⟨hinv, (textInv_hit hinv hm spec0 h0 hk0).symm.trans hf0⟩
  | none =>
    refine ⟨?_, makeFromText_miss W σ key parsed e0 pick hm⟩
    unfold makeFromText
    simp only [hm]
    cases parsed with
    | none => exact hinv
    | some p =>
      simp only
      split
      · next e he =>
        simp only [alloc_cache]
        refine List.forall_mem_append.2
          ⟨hinv, List.forall_mem_singleton.2 ⟨key, rfl, fun spec hs hk => ?_⟩⟩
        rw [hW spec spec0 hs h0 (hk.trans hk0.symm), hf0, txtOut, ← entryOf_view (alloc σ pick p).2, he]
        rfl
      · simp only [alloc_cache]
        exact hinv

theorem construct_text (W : World) (hW : TextCoherent W) (σ : State) (spec : Spec) (pick : Nat)
    (hinv : TextInv W σ.cache) (hs : spec.textual = true) :
    TextInv W (construct W σ spec pick).1.cache ∧
      (construct W σ spec pick).2.map view = freshOut W spec := by
  cases spec with
  | int n =>
    rw [freshOut_int]
    exact makeFromText_text W hW σ _ _ _ pick hinv (.int n) rfl rfl (freshOut_int W n)
  | str s =>
    rw [freshOut_str]
    exact makeFromText_text W hW σ _ _ _ pick hinv (.str s) rfl rfl (freshOut_str W s)
  | pyproj _ | dict _ | crs _ => cases hs

theorem construct_crs_cache (W : World) (σ : State) (v pick : Nat) :
    (construct W σ (.crs v) pick).1.cache = σ.cache := by
  simp only [construct]
  split <;> rfl

theorem step_textInv (W : World) (hW : TextCoherent W) (σ : State) (op : Op)
    (hop : op.textOnly = true) (hinv : TextInv W σ.cache) : TextInv W (step W σ op).1.cache := by
  refine step_keeps (P := fun σ => TextInv W σ.cache) (fun _ _ hc _ h => hc ▸ h) (fun _ h => h) σ op
    ?_ hinv ?_ (fun s pick => (construct_text W hW σ (.str s) pick hinv rfl).1)
  · cases op <;> first | rfl | cases hop
  · intro v spec pick e
    subst e
    cases spec with
    | int _ | str _ => exact (construct_text W hW σ _ pick hinv rfl).1
    | pyproj _ | dict _ => cases hop
    | crs v' => exact (construct_crs_cache W σ v' pick).symm ▸ hinv

theorem textInv_run (W : World) (hW : TextCoherent W) (h : List Op)
    (ht : ∀ op ∈ h, op.textOnly = true) : TextInv W (run W h).1.cache :=
  runFrom_preserves (P := fun σ => TextInv W σ.cache) (step_textInv W hW) h {}
    (fun _ hke => nomatch hke) ht

end OdcGeo.C19
