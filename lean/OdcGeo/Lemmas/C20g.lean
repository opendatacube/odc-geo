/-
Solvability of the normal equations of `affine_from_pts`: the Gram determinant of `[x y 1]` is positive as soon as three
of the source points are not collinear (Cauchy–Binet in the form of the rank-one update identities `det_addRank1`,
`adjQ_addRank1`, `quad_addRank1`), so `solveNormal` / `lstsqNormal` return a solution.
-/
import OdcGeo.Lemmas.C20f
import Mathlib.Data.List.Perm.Basic
import Mathlib.Algebra.BigOperators.Group.List.Basic

namespace OdcGeo.C20

abbrev V3 := Rat × Rat × Rat

/-- `wᵀ · adj(g) · w` -/
def Sym3.adjQ (g : Sym3) (w : V3) : Rat :=
  (g.yy * g.one - g.y * g.y) * w.1 * w.1 + (g.xx * g.one - g.x * g.x) * w.2.1 * w.2.1 +
  (g.xx * g.yy - g.xy * g.xy) * w.2.2 * w.2.2 + 2 * (g.x * g.y - g.xy * g.one) * w.1 * w.2.1 +
  2 * (g.xy * g.y - g.yy * g.x) * w.1 * w.2.2 + 2 * (g.xy * g.x - g.xx * g.y) * w.2.1 * w.2.2

/-- `uᵀ · g · u` -/
def Sym3.quad (g : Sym3) (u : V3) : Rat :=
  g.xx * u.1 * u.1 + 2 * g.xy * u.1 * u.2.1 + g.yy * u.2.1 * u.2.1 + 2 * g.x * u.1 * u.2.2 +
  2 * g.y * u.2.1 * u.2.2 + g.one * u.2.2 * u.2.2

/-- `g + v·vᵀ` -/
def Sym3.addRank1 (g : Sym3) (v : V3) : Sym3 :=
  ⟨g.xx + v.1 * v.1, g.xy + v.1 * v.2.1, g.yy + v.2.1 * v.2.1, g.x + v.1 * v.2.2, g.y + v.2.1 * v.2.2,
   g.one + v.2.2 * v.2.2⟩

def cross (v w : V3) : V3 := (v.2.1 * w.2.2 - v.2.2 * w.2.1, v.2.2 * w.1 - v.1 * w.2.2, v.1 * w.2.1 - v.2.1 * w.1)
def dot (u v : V3) : Rat := u.1 * v.1 + u.2.1 * v.2.1 + u.2.2 * v.2.2

theorem det_addRank1 (g : Sym3) (v : V3) : (g.addRank1 v).det = g.det + g.adjQ v := by
  simp only [Sym3.det, Sym3.adjQ, Sym3.addRank1, det3]; ring

theorem adjQ_addRank1 (g : Sym3) (v w : V3) : (g.addRank1 v).adjQ w = g.adjQ w + g.quad (cross v w) := by
  simp only [Sym3.adjQ, Sym3.quad, Sym3.addRank1, cross]; ring

theorem quad_addRank1 (g : Sym3) (v u : V3) : (g.addRank1 v).quad u = g.quad u + dot u v * dot u v := by
  simp only [Sym3.quad, Sym3.addRank1, dot]; ring

def lift (p : Rat × Rat) : V3 := (p.1, p.2, 1)

theorem gram_cons (p : Rat × Rat) (X : List (Rat × Rat)) : gram (p :: X) = (gram X).addRank1 (lift p) := by
  simp only [gram, Sym3.addRank1, lift, List.map_cons, List.sum_cons, List.length_cons, Nat.cast_succ]
  congr 1 <;> ring

theorem gram_perm {X Y : List (Rat × Rat)} (h : X.Perm Y) : gram X = gram Y := by
  simp only [gram, (h.map _).sum_eq, h.length_eq]

theorem gram_nonneg (X : List (Rat × Rat)) :
    (∀ u, 0 ≤ (gram X).quad u) ∧ (∀ w, 0 ≤ (gram X).adjQ w) ∧ 0 ≤ (gram X).det := by
  induction X with
  | nil => simp [gram, Sym3.quad, Sym3.adjQ, Sym3.det, det3]
  | cons p X ih =>
    obtain ⟨hq, ha, hd⟩ := ih
    rw [gram_cons]
    refine ⟨fun u => ?_, fun w => ?_, ?_⟩
    · rw [quad_addRank1]; exact add_nonneg (hq u) (mul_self_nonneg _)
    · rw [adjQ_addRank1]; exact add_nonneg (ha w) (hq _)
    · rw [det_addRank1]; exact add_nonneg hd (ha _)

/-- **Gram determinant ≥ squared triple product** of any three of the points (listed first). -/
theorem gram_det_ge (p q r : Rat × Rat) (X : List (Rat × Rat)) :
    dot (cross (lift q) (lift p)) (lift r) * dot (cross (lift q) (lift p)) (lift r) ≤ (gram (p :: q :: r :: X)).det := by
  -- peel off `p`, `q`, `r` in turn: `det G₀ = det G₁ + adjQ G₁ p`, `adjQ G₁ p = adjQ G₂ p + quad G₂ (q × p)`,
  -- `quad G₂ (q × p) = quad G₃ (q × p) + ((q × p) · r)²`; the three terms dropped are non-negative
  have h1 := (gram_nonneg X).1 (cross (lift q) (lift p))
  have h2 := (gram_nonneg (r :: X)).2.1 (lift p)
  have h3 := (gram_nonneg (q :: r :: X)).2.2
  rw [gram_cons] at h2
  rw [gram_cons q, gram_cons r] at h3
  rw [gram_cons p, det_addRank1, gram_cons q, adjQ_addRank1, gram_cons r, quad_addRank1]
  linarith only [h1, h2, h3]

theorem triple_eq (p q r : Rat × Rat) :
    dot (cross (lift q) (lift p)) (lift r) = -((q.1 - p.1) * (r.2 - p.2) - (q.2 - p.2) * (r.1 - p.1)) := by
  simp only [dot, cross, lift]; ring

theorem perm_three {α : Type} [DecidableEq α] {X : List α} {p q r : α} (hp : p ∈ X) (hq : q ∈ X) (hr : r ∈ X)
    (hpq : p ≠ q) (hpr : p ≠ r) (hqr : q ≠ r) : ∃ X', X.Perm (p :: q :: r :: X') := by
  have hq' : q ∈ X.erase p := (List.mem_erase_of_ne hpq.symm).mpr hq
  have hr' : r ∈ (X.erase p).erase q := (List.mem_erase_of_ne hqr.symm).mpr ((List.mem_erase_of_ne hpr.symm).mpr hr)
  exact ⟨_, (List.perm_cons_erase hp).trans
    (((List.perm_cons_erase hq').trans ((List.perm_cons_erase hr').cons q)).cons p)⟩

/-- **Three non-collinear source points make the Gram determinant positive.** -/
theorem gram_det_pos {X : List (Rat × Rat)} {p q r : Rat × Rat} (hp : p ∈ X) (hq : q ∈ X) (hr : r ∈ X)
    (hnc : (q.1 - p.1) * (r.2 - p.2) - (q.2 - p.2) * (r.1 - p.1) ≠ 0) : 0 < (gram X).det := by
  have hpq : p ≠ q := by rintro rfl; simp at hnc
  have hpr : p ≠ r := by rintro rfl; simp at hnc
  have hqr : q ≠ r := by rintro rfl; exact hnc (by ring)
  obtain ⟨X', hperm⟩ := perm_three hp hq hr hpq hpr hqr
  rw [gram_perm hperm]
  have := gram_det_ge p q r X'
  rw [triple_eq, neg_mul_neg] at this
  exact (mul_self_pos.mpr hnc).trans_le this

theorem solveNormal_isSome {X : List (Rat × Rat)} (ys : List Rat) (hD : (gram X).det ≠ 0) :
    ∃ t, solveNormal X ys = some t :=
  ⟨_, if_neg hD⟩

theorem lstsqNormal_isSome {X : List (Rat × Rat)} (Y : List (Rat × Rat)) {p q r : Rat × Rat} (hp : p ∈ X) (hq : q ∈ X)
    (hr : r ∈ X) (hnc : (q.1 - p.1) * (r.2 - p.2) - (q.2 - p.2) * (r.1 - p.1) ≠ 0) : ∃ M, lstsqNormal X Y = some M := by
  have hD := (gram_det_pos hp hq hr hnc).ne'
  obtain ⟨t1, h1⟩ := solveNormal_isSome (Y.map (·.1)) hD
  obtain ⟨t2, h2⟩ := solveNormal_isSome (Y.map (·.2)) hD
  exact ⟨_, by rw [lstsqNormal, h1, h2]; rfl⟩

end OdcGeo.C20
