/-
`edge_index` (`Model/C03.lean::edgeIndex`): which ring indices there are, where they lie, how many.
-/
import OdcGeo.Model.C03
namespace OdcGeo.C17
open OdcGeo.C03

theorem mem_edgeIndex (nx ny : Nat) (hx : 1 ≤ nx) (hy : 1 ≤ ny) (p : Nat × Nat) (h : p ∈ edgeIndex nx ny) :
    (p.1 < ny ∧ p.2 < nx) ∧ (p.1 = 0 ∨ p.1 = ny - 1 ∨ p.2 = 0 ∨ p.2 = nx - 1) := by
  simp only [edgeIndex, List.mem_append, List.mem_map, List.mem_range] at h
  -- top row, right column, bottom row backwards, left column upwards
  rcases h with ((⟨k, hk, rfl⟩ | ⟨k, hk, rfl⟩) | ⟨k, hk, rfl⟩) | ⟨k, hk, rfl⟩
  · exact ⟨⟨by omega, hk⟩, Or.inl rfl⟩
  · exact ⟨⟨by omega, by omega⟩, Or.inr (Or.inr (Or.inr rfl))⟩
  · exact ⟨⟨by omega, by omega⟩, Or.inr (Or.inl rfl)⟩
  · exact ⟨⟨by omega, by omega⟩, Or.inr (Or.inr (Or.inl rfl))⟩

theorem edgeIndex_corners (nx ny : Nat) (hx : 2 ≤ nx) (hy : 2 ≤ ny) :
    (0, 0) ∈ edgeIndex nx ny ∧ (0, nx - 1) ∈ edgeIndex nx ny ∧
    (ny - 1, nx - 1) ∈ edgeIndex nx ny ∧ (ny - 1, 0) ∈ edgeIndex nx ny := by
  simp only [edgeIndex, List.mem_append, List.mem_map, List.mem_range]
  refine ⟨Or.inl (Or.inl (Or.inl ⟨0, by omega, rfl⟩)), Or.inl (Or.inl (Or.inl ⟨nx - 1, by omega, rfl⟩)),
    Or.inl (Or.inl (Or.inr ⟨ny - 2, by omega, ?_⟩)), Or.inl (Or.inr ⟨nx - 2, by omega, ?_⟩)⟩
  · rw [show ny - 2 + 1 = ny - 1 by omega]
  · rw [Nat.sub_self]

theorem edgeIndex_length (nx ny : Nat) :
    (edgeIndex nx ny).length = nx + (ny - 1) + (nx - 1) + (ny - 2) := by
  simp only [edgeIndex, List.length_append, List.length_map, List.length_range]

end OdcGeo.C17
