/-
C18, cluster protocol (`Dist`): invariant, preservation by steps and by crashes, progress; `DistN` refines it when the
names agree, and a step of it touches nothing under other names.
-/
import OdcGeo.Model.C18

namespace OdcGeo.C18

namespace Dist

@[simp] theorem goto_pc_self (s : State) (t : Nat) (p : PC) : (s.goto t p).pc t = p := by
  simp [State.goto]

@[simp] theorem goto_pc_other (s : State) {t t' : Nat} (p : PC) (h : t' ≠ t) :
    (s.goto t p).pc t' = s.pc t' := by
  simp [State.goto, h]

@[simp] theorem goto_wid (s : State) (t : Nat) (p : PC) : (s.goto t p).wid = s.wid := rfl
@[simp] theorem goto_var (s : State) (t : Nat) (p : PC) : (s.goto t p).var = s.var := rfl
@[simp] theorem goto_deleted (s : State) (t : Nat) (p : PC) : (s.goto t p).deleted = s.deleted := rfl
@[simp] theorem goto_lock (s : State) (t : Nat) (p : PC) : (s.goto t p).lock = s.lock := rfl
@[simp] theorem goto_creates (s : State) (t : Nat) (p : PC) : (s.goto t p).creates = s.creates := rfl
@[simp] theorem goto_calls (s : State) (t : Nat) (p : PC) : (s.goto t p).calls = s.calls := rfl

@[simp] theorem setWid_self (s : State) (w id : Nat) : (s.setWid w id).wid w = id := by
  simp [State.setWid]
@[simp] theorem setWid_var (s : State) (w id : Nat) : (s.setWid w id).var = s.var := rfl
@[simp] theorem setWid_deleted (s : State) (w id : Nat) : (s.setWid w id).deleted = s.deleted := rfl
@[simp] theorem setWid_lock (s : State) (w id : Nat) : (s.setWid w id).lock = s.lock := rfl
@[simp] theorem setWid_creates (s : State) (w id : Nat) : (s.setWid w id).creates = s.creates := rfl
@[simp] theorem setWid_calls (s : State) (w id : Nat) : (s.setWid w id).calls = s.calls := rfl
@[simp] theorem setWid_pc (s : State) (w id : Nat) : (s.setWid w id).pc = s.pc := rfl

theorem setWid_one_mono (s : State) (w w' : Nat) (h : s.wid w' = 1) : (s.setWid w 1).wid w' = 1 := by
  simp only [State.setWid]; split <;> simp_all

theorem setWid_one_range (s : State) (w w' : Nat) (h : s.wid w' = 0 ∨ s.wid w' = 1) :
    (s.setWid w 1).wid w' = 0 ∨ (s.setWid w 1).wid w' = 1 := by
  simp only [State.setWid]; split <;> simp_all

/-- program points inside the `with lock:` block -/
def inCS : PC → Bool
  | .get2 | .setOwn2 _ | .initAssert | .create | .setId _ | .readForVar | .setVar _ | .release _
  | .releaseFault => true
  | _ => false

/-- What thread `t` may rely on at program point `p`. -/
def PCok (cfg : Cfg) (s : State) (t : Nat) : PC → Prop
  | .start => True
  | .askClient => True
  | .get1 => True
  | .acquire => True
  | .setOwn1 id => id = 1 ∧ s.creates = 1
  | .get2 => s.var = none → s.creates = 0
  | .setOwn2 id => id = 1 ∧ s.var = some 1
  | .initAssert => s.var = none ∧ s.creates = 0
  | .create => s.var = none ∧ s.creates = 0
  | .setId id => id = 1 ∧ s.creates = 1 ∧ s.var = none
  | .readForVar => s.creates = 1 ∧ s.var = none ∧ s.wid (cfg.worker t) = 1
  | .setVar id => id = 1 ∧ s.creates = 1 ∧ s.var = none ∧ s.wid (cfg.worker t) = 1
  | .release a => a ≠ .raise ∧ s.var = some 1 ∧ s.wid (cfg.worker t) = 1
  | .endAssert => s.wid (cfg.worker t) = 1
  | .useAssert => s.wid (cfg.worker t) = 1
  | .readId => s.wid (cfg.worker t) = 1
  | .call id => id = 1 ∧ s.wid (cfg.worker t) = 1
  | .askClient2 => s.creates = 1 ∧ cfg.kind t = .fin ∧ Call.complete 1 ∈ s.calls
  | .delVar => s.creates = 1 ∧ cfg.kind t = .fin ∧ Call.complete 1 ∈ s.calls
  | .done => s.creates = 1 ∧
      (match cfg.kind t with
       | .write p => Call.upload p 1 ∈ s.calls
       | .fin => Call.complete 1 ∈ s.calls)
  | .failed => False
  | .releaseFault => s.var = none ∧ s.creates = 0
  | .faulted => True

structure Ids (s : State) : Prop where
  creates_le : s.creates ≤ 1
  wid_range : ∀ w, s.wid w = 0 ∨ s.wid w = 1
  wid_created : ∀ w, s.wid w = 1 → s.creates = 1
  var_range : s.var = none ∨ s.var = some 1
  var_created : s.var = some 1 → s.creates = 1

/-- The inductive invariant of the cluster protocol (valid until the variable is deleted). -/
structure Inv (cfg : Cfg) (s : State) : Prop where
  ids : Ids s
  -- used when a worker takes the lock: lock free and variable unset mean that nothing has been created yet
  free : s.lock = none → s.var = none → s.creates = 0
  mutex : ∀ t, inCS (s.pc t) = true ↔ s.lock = some t
  pcs : ∀ t, PCok cfg s t (s.pc t)
  calls : ∀ c ∈ s.calls, c.id = 1
  count : s.calls.countP Call.isCreate = s.creates

theorem inv_init (cfg : Cfg) : Inv cfg init :=
  ⟨⟨Nat.zero_le 1, fun _ => .inl rfl, nofun, .inl rfl, nofun⟩, fun _ _ => rfl, fun _ => ⟨nofun, nofun⟩,
    fun _ => trivial, fun _ hc => (nomatch hc), rfl⟩

/-- `PCok` is monotone in "worker knows the id" and the call log; the variable only
matters inside the critical section. -/
theorem PCok_mono {cfg : Cfg} {s s' : State} {t : Nat} {p : PC}
    (hc : s'.creates = s.creates) (hw : ∀ w, s.wid w = 1 → s'.wid w = 1)
    (hv : inCS p = true → s'.var = s.var)
    (hcalls : ∀ c, c ∈ s.calls → c ∈ s'.calls) (h : PCok cfg s t p) : PCok cfg s' t p := by
  cases p with
  | start | askClient | get1 | acquire | faulted => trivial
  | releaseFault | initAssert | create => exact ⟨(hv rfl) ▸ h.1, hc ▸ h.2⟩
  | setOwn1 id => exact ⟨h.1, hc ▸ h.2⟩
  | get2 => intro hv'; rw [hv rfl] at hv'; rw [hc]; exact h hv'
  | setOwn2 id => exact ⟨h.1, (hv rfl) ▸ h.2⟩
  | setId id => exact ⟨h.1, hc ▸ h.2.1, (hv rfl) ▸ h.2.2⟩
  | readForVar => exact ⟨hc ▸ h.1, (hv rfl) ▸ h.2.1, hw _ h.2.2⟩
  | setVar id => exact ⟨h.1, hc ▸ h.2.1, (hv rfl) ▸ h.2.2.1, hw _ h.2.2.2⟩
  | release a => exact ⟨h.1, (hv rfl) ▸ h.2.1, hw _ h.2.2⟩
  | endAssert | useAssert | readId => exact hw _ h
  | call id => exact ⟨h.1, hw _ h.2⟩
  | askClient2 | delVar => exact ⟨hc ▸ h.1, h.2.1, hcalls _ h.2.2⟩
  | done =>
    refine ⟨hc ▸ h.1, ?_⟩
    have h2 := h.2
    split <;> rename_i hk <;> rw [hk] at h2 <;> exact hcalls _ h2
  | failed => exact h.elim

/-- Outside the critical section nothing is assumed while no upload has been created. -/
theorem PCok_outside_zero {cfg : Cfg} {s s' : State} {t : Nat} {p : PC}
    (hcs : inCS p = false) (hz : s.creates = 0) (hI : Ids s) (h : PCok cfg s t p) :
    PCok cfg s' t p := by
  have hw : ∀ w, s.wid w = 1 → False := fun w hw1 => by have := hI.wid_created w hw1; omega
  cases p with
  | start | askClient | get1 | acquire | faulted => trivial
  | setOwn1 id => have := h.2; omega
  | get2 | initAssert | create | readForVar | releaseFault | setOwn2 _ | setId _ | setVar _ | release _ =>
    simp [inCS] at hcs
  | endAssert | useAssert | readId => exact (hw _ h).elim
  | call id => exact (hw _ h.2).elim
  | askClient2 | delVar | done => have := h.1; omega
  | failed => exact h.elim

theorem Ids.congr {s s' : State} (h : Ids s) (hc : s'.creates = s.creates) (hw : s'.wid = s.wid)
    (hv : s'.var = s.var) : Ids s' :=
  ⟨hc ▸ h.creates_le, hw ▸ h.wid_range, hw ▸ hc ▸ h.wid_created, hv ▸ h.var_range, hv ▸ hc ▸ h.var_created⟩

theorem PCok_congr {cfg : Cfg} {s s' : State} {t : Nat} {p : PC} (hc : s'.creates = s.creates)
    (hw : s'.wid = s.wid) (hv : s'.var = s.var) (hcalls : s'.calls = s.calls) (h : PCok cfg s t p) :
    PCok cfg s' t p :=
  PCok_mono hc (fun _ h => hw ▸ h) (fun _ => hv) (fun _ h => hcalls ▸ h) h

theorem inv_frame {cfg : Cfg} {s s' : State} {t : Nat} {p : PC} (hI : Inv cfg s) (hpc : s'.pc = s.pc)
    (hids : Ids s') (hfree : s'.lock = none → s'.var = none → s'.creates = 0)
    (hmt : inCS p = true ↔ s'.lock = some t)
    (hlock : ∀ t', t' ≠ t → (s'.lock = some t' ↔ s.lock = some t'))
    (hpt : PCok cfg s' t p)
    (hothers : ∀ t', t' ≠ t → PCok cfg s t' (s.pc t') → PCok cfg s' t' (s.pc t'))
    (hcalls : ∀ c ∈ s'.calls, c.id = 1)
    (hcount : s'.calls.countP Call.isCreate = s'.creates) : Inv cfg (s'.goto t p) := by
  refine ⟨hids.congr rfl rfl rfl, hfree, fun t' => ?_, fun t' => PCok_congr (s := s') rfl rfl rfl rfl ?_, hcalls, hcount⟩
  · by_cases h : t' = t
    · rw [h, goto_pc_self]; exact hmt
    · rw [goto_pc_other _ _ h, hpc]; exact (hI.mutex t').trans (hlock t' h).symm
  · by_cases h : t' = t
    · rw [h, goto_pc_self]; exact hpt
    · rw [goto_pc_other _ _ h, hpc]; exact hothers t' h (hI.pcs t')

theorem inv_goto {cfg : Cfg} {s : State} {t : Nat} {p q : PC} (hI : Inv cfg s) (hq : s.pc t = q)
    (hcs : inCS p = inCS q) (hp : PCok cfg s t p) : Inv cfg (s.goto t p) :=
  inv_frame hI rfl hI.ids hI.free (by rw [hcs, ← hq]; exact hI.mutex t) (fun _ _ => Iff.rfl) hp (fun _ _ h => h)
    hI.calls hI.count

theorem others_outside {cfg : Cfg} {s : State} {t : Nat} (hI : Inv cfg s) (hlk : s.lock = some t)
    (t' : Nat) (h : t' ≠ t) : inCS (s.pc t') = false :=
  Bool.eq_false_iff.2 fun hc => h (Option.some.inj (hlk.symm.trans ((hI.mutex t').1 hc))).symm

theorem ids_setWid {s : State} (hI : Ids s) (w : Nat) (hc : s.creates = 1) : Ids (s.setWid w 1) :=
  ⟨hI.creates_le, fun w' => setWid_one_range s w w' (hI.wid_range w'), fun _ _ => hc,
    hI.var_range, hI.var_created⟩

theorem var_some_eq_one {s : State} (hI : Ids s) {id : Nat} (hv : s.var = some id) : id = 1 := by
  rcases hI.var_range with h | h <;> rw [hv] at h
  · cases h
  · exact Option.some.inj h

theorem inv_setWid {cfg : Cfg} {s : State} {t : Nat} {p q : PC} (hI : Inv cfg s) (hq : s.pc t = q)
    (hc1 : s.creates = 1) (hcs : inCS p = inCS q) (hp : PCok cfg (s.setWid (cfg.worker t) 1) t p) :
    Inv cfg ((s.setWid (cfg.worker t) 1).goto t p) :=
  inv_frame hI rfl (ids_setWid hI.ids _ hc1) hI.free (by rw [hcs, ← hq]; exact hI.mutex t) (fun _ _ => Iff.rfl) hp
    (fun _ _ h => PCok_mono (s := s) rfl (fun w' h => setWid_one_mono s _ w' h) (fun _ => rfl) (fun _ h => h) h)
    hI.calls hI.count

theorem inv_call {cfg : Cfg} {s : State} {t : Nat} {c : Call} {p q : PC} (hI : Inv cfg s) (hq : s.pc t = q)
    (hid : c.id = 1) (hnc : c.isCreate = false) (hcs : inCS p = inCS q)
    (hp : PCok cfg { s with calls := c :: s.calls } t p) :
    Inv cfg ({ s with calls := c :: s.calls }.goto t p) :=
  inv_frame hI rfl (hI.ids.congr rfl rfl rfl) hI.free (by rw [hcs, ← hq]; exact hI.mutex t) (fun _ _ => Iff.rfl) hp
    (fun _ _ h => PCok_mono (s := s) rfl (fun _ h => h) (fun _ => rfl) (fun _ h => List.mem_cons_of_mem _ h) h)
    (List.forall_mem_cons.2 ⟨hid, hI.calls⟩)
    ((List.countP_cons_of_neg (by simp [hnc])).trans hI.count)

theorem inv_release {cfg : Cfg} {s : State} {t : Nat} {p : PC} (hI : Inv cfg s) (hlk : s.lock = some t)
    (hout : inCS p = false) (hfree : s.var = none → s.creates = 0) (hp : PCok cfg s t p) :
    Inv cfg ({ s with lock := none }.goto t p) := by
  refine inv_frame hI rfl (hI.ids.congr rfl rfl rfl) (fun _ => hfree) ?_ (fun t' h => ?_)
    (PCok_congr rfl rfl rfl rfl hp) (fun _ _ h => PCok_congr rfl rfl rfl rfl h) hI.calls hI.count
  · rw [hout]; exact ⟨nofun, nofun⟩
  · show none = some t' ↔ s.lock = some t'
    rw [hlk]
    exact ⟨nofun, fun e => absurd (Option.some.inj e).symm h⟩

theorem step_inv (cfg : Cfg) (s : State) (t : Nat) (hI : Inv cfg s)
    (hd : (step cfg s t).deleted = false) : Inv cfg (step cfg s t) := by
  have hpt := hI.pcs t
  have hmt := hI.mutex t
  have hids := hI.ids
  unfold step
  generalize hpc : s.pc t = q at hpt hmt
  cases q with
  | start =>
    refine inv_goto hI hpc (by split <;> rfl) ?_
    split
    · have := hids.wid_range (cfg.worker t)
      show s.wid (cfg.worker t) = 1
      omega
    · trivial
  | askClient => exact inv_goto hI hpc rfl trivial
  | get1 =>
    dsimp only
    split
    · exact inv_goto hI hpc rfl trivial
    · cases hv : s.var with
      | some id =>
        have h1 := var_some_eq_one hids hv
        exact inv_goto hI hpc rfl ⟨h1, hids.var_created (h1 ▸ hv)⟩
      | none => exact inv_goto hI hpc rfl trivial
  | setOwn1 id =>
    obtain ⟨rfl, hc1⟩ := hpt
    exact inv_setWid hI hpc hc1 rfl (setWid_self s _ 1)
  | acquire =>
    cases hl : s.lock with
    | some h => exact hI
    | none =>
      refine inv_frame hI rfl (hids.congr rfl rfl rfl) nofun (by simp [inCS]) (fun t' h => ?_) (hI.free hl)
        (fun _ _ h => PCok_congr rfl rfl rfl rfl h) hI.calls hI.count
      show some t = some t' ↔ s.lock = some t'
      rw [hl]
      exact ⟨fun e => absurd (Option.some.inj e).symm h, nofun⟩
  | get2 =>
    cases hv : s.var with
    | some id =>
      have h1 := var_some_eq_one hids hv
      exact inv_goto hI hpc rfl ⟨h1, h1 ▸ hv⟩
    | none => exact inv_goto hI hpc rfl ⟨hv, hpt hv⟩
  | setOwn2 id =>
    obtain ⟨rfl, hv1⟩ := hpt
    exact inv_setWid hI hpc (hids.var_created hv1) rfl ⟨fun h => (nomatch h), hv1, setWid_self s _ 1⟩
  | initAssert =>
    have hw0 : s.wid (cfg.worker t) = 0 := by
      rcases hids.wid_range (cfg.worker t) with h | h
      · exact h
      · have := hids.wid_created _ h; have := hpt.2; omega
    dsimp only
    rw [if_pos hw0]
    exact inv_goto hI hpc rfl hpt
  | create =>
    obtain ⟨hv0, hc0⟩ := hpt
    have hlk : s.lock = some t := hmt.1 rfl
    dsimp only
    split
    · exact inv_goto hI hpc rfl ⟨hv0, hc0⟩
    refine inv_frame hI rfl ?_ (fun h => by simp [hlk] at h) (by simpa [inCS] using hlk) (fun _ _ => Iff.rfl)
      ⟨by simp [hc0], by simp [hc0], hv0⟩
      (fun t' h hp => PCok_outside_zero (s := s) (others_outside hI hlk t' h) hc0 hids hp)
      (List.forall_mem_cons.2 ⟨by simp [Call.id, hc0], hI.calls⟩) (by simp [List.countP_cons, Call.isCreate, hI.count])
    exact ⟨by simp [hc0], hids.wid_range, fun _ _ => by simp [hc0], hids.var_range, fun _ => by simp [hc0]⟩
  | setId id =>
    obtain ⟨rfl, hc1, hv0⟩ := hpt
    exact inv_setWid hI hpc hc1 rfl ⟨hc1, hv0, setWid_self s _ 1⟩
  | readForVar =>
    exact inv_goto hI hpc rfl ⟨hpt.2.2, hpt.1, hpt.2.1, hpt.2.2⟩
  | setVar id =>
    obtain ⟨rfl, hc1, hv0, hw1⟩ := hpt
    have hlk : s.lock = some t := hmt.1 rfl
    refine inv_frame hI rfl ⟨hids.creates_le, hids.wid_range, hids.wid_created, Or.inr rfl, fun _ => hc1⟩
      (fun h => by simp [hlk] at h) (by simpa [inCS] using hlk) (fun _ _ => Iff.rfl) ⟨nofun, rfl, hw1⟩
      (fun t' h hp => ?_) hI.calls hI.count
    -- the others are outside the block, where nothing is assumed about the variable
    have hout := others_outside hI hlk t' h
    exact PCok_mono (s := s) rfl (fun _ h => h) (fun hc => by rw [hout] at hc; cases hc) (fun _ h => h) hp
  | release a =>
    obtain ⟨ha, hv1, hw1⟩ := hpt
    refine inv_release hI (hmt.1 rfl) ?_ (fun h0 => by rw [hv1] at h0; cases h0) ?_
    · cases a <;> first | exact absurd rfl ha | rfl
    · cases a <;> first | exact absurd rfl ha | exact hw1
  | releaseFault =>
    exact inv_release hI (hmt.1 rfl) rfl (fun _ => hpt.2) trivial
  | endAssert | useAssert =>
    have hw1 : s.wid (cfg.worker t) = 1 := hpt
    dsimp only
    rw [if_pos (show s.wid (cfg.worker t) ≠ 0 by omega)]
    exact inv_goto hI hpc rfl hw1
  | readId => exact inv_goto hI hpc rfl ⟨hpt, hpt⟩
  | call id =>
    obtain ⟨rfl, hw1⟩ := hpt
    have hc1 := hids.wid_created _ hw1
    dsimp only
    split
    · exact inv_goto hI hpc rfl trivial
    -- the record of the call is in the log; a crashed thread assumes nothing
    split
    · cases cfg.kind t <;> exact inv_call hI hpc rfl rfl rfl trivial
    · cases hk : cfg.kind t
      · exact inv_call hI hpc rfl rfl rfl ⟨hc1, by simp [hk]⟩
      · exact inv_call hI hpc rfl rfl rfl ⟨hc1, hk, by simp⟩
  | askClient2 => exact inv_goto hI hpc rfl hpt
  | delVar => simp [step, hpc] at hd
  | done | failed | faulted => exact hI

/-- rank of a program point: an upper bound on the steps a thread at `p` can still take (18 from `start`); every
enabled step lowers it (`step_decreases`); the two successors of a branch may share a rank (`setOwn1` / `acquire`) -/
def remaining : PC → Nat
  | .start => 18 | .askClient => 17 | .get1 => 16 | .setOwn1 _ => 15 | .acquire => 15 | .get2 => 14
  | .setOwn2 _ => 13 | .initAssert => 13 | .create => 12 | .setId _ => 11 | .readForVar => 10
  | .setVar _ => 9 | .release _ => 8 | .endAssert => 7 | .useAssert => 6 | .readId => 5
  | .call _ => 4 | .askClient2 => 3 | .delVar => 2 | .releaseFault => 8 | .done => 0 | .failed => 0
  | .faulted => 0

/-- The one case analysis of `step` for what it does to the program counters and the flag: a thread that is not
enabled stutters; an enabled one moves to a program point of lower rank, and whatever else changes (`x`), nobody
else's program point does, nor the flag unless the thread is at `delVar`. -/
theorem step_cases (cfg : Cfg) (s : State) (t : Nat) {motive : State → Prop}
    (stutter : enabled s t = false → motive s)
    (move : ∀ (x : State) (p : PC), x.pc = s.pc → (s.pc t ≠ .delVar → x.deleted = s.deleted) →
      enabled s t = true → remaining p < remaining (s.pc t) → motive (x.goto t p)) :
    motive (step cfg s t) := by
  unfold step
  unfold enabled at stutter move
  generalize s.pc t = q at stutter move ⊢
  cases q with
  | done | failed | faulted => exact stutter rfl
  | acquire =>
    cases hl : s.lock with
    | some _ => exact stutter (by rw [hl]; rfl)
    | none => exact move _ _ rfl (fun _ => rfl) (by rw [hl]; rfl) (by decide)
  | start | initAssert | endAssert | useAssert => exact move _ _ rfl (fun _ => rfl) rfl (by split <;> decide)
  | get1 => cases cfg.spurGet1 t <;> cases s.var <;> exact move _ _ rfl (fun _ => rfl) rfl (by simp [remaining])
  | get2 => cases s.var <;> exact move _ _ rfl (fun _ => rfl) rfl (by simp [remaining])
  | create => cases cfg.faultCreate t <;> exact move _ _ rfl (fun _ => rfl) rfl (by simp [remaining])
  | release a => cases a <;> exact move _ _ rfl (fun _ => rfl) rfl (by decide)
  | call _ =>
    cases cfg.faultCall t <;> cases cfg.crashCall t <;> cases cfg.kind t <;>
      exact move _ _ rfl (fun _ => rfl) rfl (by simp [remaining])
  | delVar => exact move _ _ rfl (fun h => absurd rfl h) rfl (by decide)
  | _ => exact move _ _ rfl (fun _ => rfl) rfl (by simp [remaining])

/-- only `cleanup_client`, the last action of a `finalise`, sets the flag -/
theorem step_frame (cfg : Cfg) (s : State) (t : Nat) :
    (∀ t', t' ≠ t → (step cfg s t).pc t' = s.pc t') ∧
      (s.pc t ≠ .delVar → (step cfg s t).deleted = s.deleted) :=
  step_cases cfg s t
    (motive := fun s' => (∀ t', t' ≠ t → s'.pc t' = s.pc t') ∧ (s.pc t ≠ .delVar → s'.deleted = s.deleted))
    (fun _ => ⟨fun _ _ => rfl, fun _ => rfl⟩)
    fun x p hx hd _ _ => ⟨fun t' h => (goto_pc_other x p h).trans (congrFun hx t'), hd⟩

theorem step_deleted_mono (cfg : Cfg) (s : State) (t : Nat) (h : (step cfg s t).deleted = false) :
    s.deleted = false := by
  by_cases hp : s.pc t = .delVar
  · simp [step, hp] at h
  · exact ((step_frame cfg s t).2 hp).symm.trans h

theorem runFrom_inv (cfg : Cfg) (sched : List Nat) (s : State) (h : Inv cfg s)
    (hd : (runFrom cfg s sched).deleted = false) : Inv cfg (runFrom cfg s sched) :=
  -- carried along the schedule: the invariant, as long as the flag is unset (it is never reset)
  List.foldlRecOn (motive := fun s => s.deleted = false → Inv cfg s) sched (step cfg) (fun _ => h)
    (fun s hs t _ hd => step_inv cfg s t (hs (step_deleted_mono cfg s t hd)) hd) hd

/-- With writers only nobody reaches `cleanup_client`: the variable is never deleted. -/
theorem runFrom_inv_writers (cfg : Cfg) (hk : ∀ t, cfg.kind t ≠ .fin) (sched : List Nat) (s : State)
    (h : Inv cfg s) (hd : s.deleted = false) :
    Inv cfg (runFrom cfg s sched) ∧ (runFrom cfg s sched).deleted = false :=
  List.foldlRecOn (motive := fun s => Inv cfg s ∧ s.deleted = false) sched (step cfg) ⟨h, hd⟩
    fun s ⟨hI, hd⟩ t _ => by
      have hne : s.pc t ≠ .delVar := fun e => hk t (by have := hI.pcs t; rw [e] at this; exact this.2.1)
      have hd' := ((step_frame cfg s t).2 hne).trans hd
      exact ⟨step_inv cfg s t hI hd', hd'⟩

theorem runFrom_pc_unscheduled (cfg : Cfg) (sched : List Nat) (t : Nat) (ht : t ∉ sched) (s : State) :
    (runFrom cfg s sched).pc t = s.pc t :=
  List.foldlRecOn (motive := fun s' => s'.pc t = s.pc t) sched (step cfg) rfl
    fun s' hs u hu => ((step_frame cfg s' u).1 t fun e => ht (e ▸ hu)).trans hs

theorem step_of_not_enabled (cfg : Cfg) (s : State) (t : Nat) (h : enabled s t = false) :
    step cfg s t = s :=
  step_cases cfg s t (motive := fun s' => s' = s) (fun _ => rfl) fun _ _ _ _ he => nomatch h.symm.trans he

theorem enabled_of_inCS (s : State) (t : Nat) (h : inCS (s.pc t) = true) : enabled s t = true := by
  unfold enabled
  revert h
  cases s.pc t <;> first | exact fun _ => rfl | exact nofun

theorem all_done_of_stuck (cfg : Cfg) (s : State) (hI : Inv cfg s) (T : List Nat)
    (hT : ∀ t, s.pc t ≠ .start → t ∈ T) (hmax : ∀ t ∈ T, enabled s t = false) :
    ∀ t ∈ T, s.pc t = .done ∨ s.pc t = .faulted := by
  intro t ht
  have hen := hmax t ht
  have hok := hI.pcs t
  unfold enabled at hen
  generalize s.pc t = q at hen hok ⊢
  cases q with
  | done => exact .inl rfl
  | faulted => exact .inr rfl
  | failed => exact hok.elim
  | acquire =>
    -- blocked: the holder is inside the block, hence in `T` and enabled
    cases hl : s.lock with
    | none => rw [hl] at hen; cases hen
    | some h =>
      have hcs : inCS (s.pc h) = true := (hI.mutex h).2 hl
      have hh : h ∈ T := hT h fun e => by rw [e] at hcs; cases hcs
      exact absurd ((hmax h hh).symm.trans (enabled_of_inCS s h hcs)) nofun
  | _ => cases hen

theorem step_decreases (cfg : Cfg) (s : State) (t : Nat) (h : enabled s t = true) :
    remaining ((step cfg s t).pc t) < remaining (s.pc t) :=
  step_cases cfg s t (motive := fun s' => remaining (s'.pc t) < remaining (s.pc t))
    (fun hn => nomatch hn.symm.trans h) fun x p _ _ _ hr => (goto_pc_self x t p).symm ▸ hr

@[simp] theorem crash_pc_self (s : State) (t : Nat) : (crash s t).pc t = .faulted := by simp [crash]
@[simp] theorem crash_pc_other (s : State) {t t' : Nat} (h : t' ≠ t) : (crash s t).pc t' = s.pc t' := by
  simp [crash, h]
@[simp] theorem crash_deleted (s : State) (t : Nat) : (crash s t).deleted = s.deleted := rfl

/-- A worker dying with thread `t` anywhere outside the publication window (lock lease expiring) keeps the
invariant of the cluster protocol. -/
theorem crash_inv (cfg : Cfg) (s : State) (t : Nat) (hI : Inv cfg s) (hw : inWindow (s.pc t) = false) :
    Inv cfg (crash s t) := by
  have hpt := hI.pcs t
  have hmt := hI.mutex t
  unfold crash
  by_cases hl : s.lock = some t
  · -- the lease of the lock expires; outside the window an unset variable means nothing has been created
    have hcs : inCS (s.pc t) = true := hmt.2 hl
    have hfree : s.var = none → s.creates = 0 := by
      intro hv
      generalize s.pc t = q at hpt hcs hw
      cases q with
      | get2 => exact hpt hv
      | setOwn2 _ => exact nomatch hv.symm.trans hpt.2
      | release _ => exact nomatch hv.symm.trans hpt.2.1
      | initAssert | create | releaseFault => exact hpt.2
      | setId _ | readForVar | setVar _ => cases hw
      | _ => cases hcs
    rw [if_pos hl]
    exact inv_release hI hl rfl hfree trivial
  · rw [if_neg hl]
    exact inv_goto hI rfl (Bool.eq_false_iff.2 fun hc => hl (hmt.1 hc)).symm trivial

theorem runEv_inv (cfg : Cfg) (evs : List Ev) :
    ∀ s, (s.deleted = false → Inv cfg s) → crashesOutsideWindow cfg s evs = true →
      (runEv cfg s evs).deleted = false → Inv cfg (runEv cfg s evs) := by
  induction evs with
  | nil => intro s h _ hd; exact h hd
  | cons e rest ih =>
    intro s h hc
    cases e with
    | step t => exact ih _ (fun hd => step_inv cfg s t (h (step_deleted_mono cfg s t hd)) hd) hc
    | crash t =>
      simp only [crashesOutsideWindow, Bool.and_eq_true, Bool.not_eq_true'] at hc
      exact ih _ (fun hd => crash_inv cfg s t (h hd) hc.1) hc.2

end Dist

namespace DistN

/-- the `Dist` configuration seen when every worker computes the same names -/
def toDist (cfg : Cfg) : Dist.Cfg :=
  { kind := cfg.kind, worker := cfg.worker, faultCreate := cfg.faultCreate, faultCall := cfg.faultCall,
    spurGet1 := cfg.spurGet1, crashCall := cfg.crashCall }

theorem proj_step (cfg : Cfg) (L V : Nat) (hL : ∀ w, cfg.lockName w = L) (hV : ∀ w, cfg.varName w = V)
    (s : State) (t : Nat) : proj L V (step cfg s t) = Dist.step (toDist cfg) (proj L V s) t := by
  unfold step Dist.step
  simp only [hL, hV, toDist]
  rw [show (proj L V s).pc t = s.pc t from rfl, show (proj L V s).var = s.vars V from rfl,
    show (proj L V s).lock = s.locks L from rfl]
  cases s.pc t
  -- the projection goes under the `if`s
  case get1 => dsimp only; cases s.vars V <;> simp only [apply_ite (proj L V)] <;> rfl
  case get2 => dsimp only; cases s.vars V <;> rfl
  case create => dsimp only; simp only [apply_ite (proj L V)]; rfl
  case call => dsimp only; cases cfg.kind t <;> simp only [apply_ite (proj L V)] <;> rfl
  -- the steps that write the variable `V` or the lock `L`: the projection reads back what was written
  case acquire => dsimp only; cases s.locks L <;> simp [proj, State.setLock, State.goto, Dist.State.goto]
  case setVar | delVar | release | releaseFault =>
    simp [proj, State.setVar, State.setLock, State.goto, Dist.State.goto]
  all_goals rfl

theorem proj_runFrom (cfg : Cfg) (L V : Nat) (hL : ∀ w, cfg.lockName w = L) (hV : ∀ w, cfg.varName w = V)
    (sched : List Nat) (s : State) :
    proj L V (runFrom cfg s sched) = Dist.runFrom (toDist cfg) (proj L V s) sched :=
  (List.foldl_hom (proj L V) fun s t => (proj_step cfg L V hL hV s t).symm).symm

/-- `s'` differs from `s` at most in what thread `t` may write: its own program point, its worker's copy, the
variable and the lock under the names its worker computes (and the global log and counters). -/
structure Frame (cfg : Cfg) (t : Nat) (s s' : State) : Prop where
  vars : ∀ V, V ≠ cfg.varName (cfg.worker t) → s'.vars V = s.vars V
  locks : ∀ L, L ≠ cfg.lockName (cfg.worker t) → s'.locks L = s.locks L
  pc : ∀ t', t' ≠ t → s'.pc t' = s.pc t'
  wid : ∀ w, w ≠ cfg.worker t → s'.wid w = s.wid w

theorem step_frame (cfg : Cfg) (s : State) (t : Nat) : Frame cfg t s (step cfg s t) := by
  unfold step
  dsimp only
  split <;> (try split) <;> (try split) <;> (try split)
  -- each field is either untouched or updated at the one index excluded by `h`
  all_goals exact ⟨fun _ h => by first | rfl | exact if_neg h, fun _ h => by first | rfl | exact if_neg h,
    fun _ h => by first | exact if_neg h | rfl, fun _ h => by first | rfl | exact if_neg h⟩

end DistN

end OdcGeo.C18
