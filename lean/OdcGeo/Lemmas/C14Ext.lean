/- Helper lemmas for Props/C14Ext.lean (IEEE special-value arithmetic of `Model/C14Ext.lean`). -/
import OdcGeo.Model.C14Ext
import OdcGeo.Lemmas.C14Args
namespace OdcGeo.C14

theorem XF.mul_nan_right (E : FEnv) (x : XF) : x.mul E .nan = .nan := by cases x <;> rfl

theorem XF.addX_nan_right (E : FEnv) (x : XF) : x.addX E .nan = .nan := by cases x <;> rfl

/-- `Bin1D.__getitem__` on an int index, no overflow threshold: `float(k)`, then the three float operations -/
theorem Bin1DX.lo_int (fl : Rnd) (b : Bin1DX) (k : Int) :
    b.lo ⟨fl, none⟩ (.int k) =
      .ok ((((XF.fin (fl (k : Rat))).mul ⟨fl, none⟩ b.sz).mul ⟨fl, none⟩ (.fin (b.dir : Rat))).addX ⟨fl, none⟩ b.origin) :=
  rfl

theorem XF.fin_mul_pinf (E : FEnv) (a : Rat) :
    (XF.fin a).mul E .pinf = if 0 < a then .pinf else if a < 0 then .ninf else .nan := by
  rcases lt_trichotomy a 0 with h | h | h
  · have : ¬ 0 < a := not_lt.mpr h.le
    simp [XF.mul, XF.sign?, h, this]
  · subst h; simp [XF.mul, XF.sign?]
  · simp [XF.mul, XF.sign?, h]

theorem XF.inf_mul_unit (E : FEnv) : XF.pinf.mul E (.fin 1) = .pinf ∧ XF.ninf.mul E (.fin 1) = .ninf ∧
    XF.pinf.mul E (.fin (-1)) = .ninf ∧ XF.ninf.mul E (.fin (-1)) = .pinf := by
  simp only [XF.mul, XF.sign?]
  decide

theorem XF.inf_add_fin (E : FEnv) (o : Rat) : XF.pinf.addX E (.fin o) = .pinf ∧ XF.ninf.addX E (.fin o) = .ninf :=
  ⟨rfl, rfl⟩

theorem XF.inf_mul_unit_add (E : FEnv) {x : XF} (hx : x = .pinf ∨ x = .ninf) {d : Int} (hd : d = -1 ∨ d = 1) (o : Rat) :
    (x.mul E (.fin (d : Rat))).addX E (.fin o) = .pinf ∨ (x.mul E (.fin (d : Rat))).addX E (.fin o) = .ninf := by
  obtain ⟨u1, u2, u3, u4⟩ := XF.inf_mul_unit E
  obtain ⟨v1, v2⟩ := XF.inf_add_fin E o
  rcases hx with rfl | rfl <;> rcases hd with rfl | rfl <;> push_cast <;>
    simp only [u1, u2, u3, u4, v1, v2, true_or, or_true]

end OdcGeo.C14
