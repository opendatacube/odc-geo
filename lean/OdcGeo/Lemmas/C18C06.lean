/-
Helper lemmas for the C18 ∘ C06 link (`Props/C18C06.lean`): what a C06 run owes a writer, in the writers' terms,
and the sink after a list of writer calls.
-/
import OdcGeo.Lemmas.C06Final
import OdcGeo.Lemmas.C18Sink


namespace OdcGeo.C18
open OdcGeo

/-- the C18 sink after the writer calls `ws` of a C06 run (in the order they were made) -/
def sinkAfter (ws : List (C06.Part Nat)) : Sink := ws.foldl (fun s p => s.write (p.id, p.data)) {}

/-- the writer C06 sees when `mpu_write` is given an `MPUFileSink(dst, **kw)` -/
def sinkWriter (kw : LimitKw) : C06.Writer :=
  ⟨(sinkLimit true kw .minWriteSz).toNat, (sinkLimit true kw .minPart).toNat, (sinkLimit true kw .maxPart).toNat⟩

/-- `Written` in the writers' own terms, with `f` the content function of the parts -/
theorem written_table {W : C06.Writer} {B : Bytes} {fp wsAll : List (C06.Part Nat)} (h : C06.Written W B fp wsAll) :
    ∃ f : Nat → Bytes, fp.map (·.id) ≠ [] ∧ (fp.map (·.id)).Pairwise (· < ·) ∧
      ((wsAll.map fun p => (p.id, p.data)).map (·.1)).Nodup ∧
      (∀ i ∈ fp.map (·.id), (i, f i) ∈ wsAll.map fun p => (p.id, p.data)) ∧
      (∀ q ∈ wsAll.map fun p => (p.id, p.data), q.1 ∈ fp.map (·.id)) ∧
      (fp.map (·.id)).flatMap f = B ∧ ∀ b ∈ ((fp.map (·.id)).map f).dropLast, W.minWrite ≤ b.length := by
  have hasc : (fp.map (·.id)).Pairwise (· < ·) := List.pairwise_map.2 h.incr
  have hnd : (fp.map (·.id)).Nodup := hasc.imp (fun h => Nat.ne_of_lt h)
  have hkeys : (wsAll.map fun p => (p.id, p.data)).map (·.1) = wsAll.map (·.id) := by
    simp [List.map_map, Function.comp_def]
  obtain ⟨f, hf⟩ := Sink.exists_content (fp.map fun p => (p.id, p.data))
    (by simpa [List.map_map, Function.comp_def] using hnd)
  replace hf : ∀ p ∈ fp, f p.id = p.data := fun p hp => hf _ (List.mem_map.2 ⟨p, hp, rfl⟩)
  refine ⟨f, by simpa using h.ne, hasc, hkeys ▸ (h.perm.map (·.id)).nodup_iff.2 hnd, ?_, ?_, ?_, ?_⟩
  · intro i hi
    obtain ⟨p, hp, rfl⟩ := List.mem_map.1 hi
    exact List.mem_map.2 ⟨p, h.perm.mem_iff.2 hp, by rw [hf p hp]⟩
  · intro q hq
    obtain ⟨p, hp, rfl⟩ := List.mem_map.1 hq
    exact List.mem_map.2 ⟨p, h.perm.mem_iff.1 hp, rfl⟩
  · rw [← h.bytes, List.flatMap_map, C06.partsBytes, List.flatMap_def]
    exact congrArg List.flatten (List.map_congr_left hf)
  · rw [List.map_map, List.map_congr_left (g := (·.data)) hf, ← List.map_dropLast]
    intro b hb
    obtain ⟨p, hp, rfl⟩ := List.mem_map.1 hb
    exact h.sizes p hp

theorem sinkAfter_eq (ws : List (C06.Part Nat)) :
    sinkAfter ws = (ws.map (fun p => (p.id, p.data))).foldl Sink.write {} := by
  simp only [sinkAfter, List.foldl_map]

end OdcGeo.C18
