/-
Bridges between the translator's Python-semantics prelude (`OdcGeo/Gen/PyPrelude.lean`) and the vocabulary of the
hand model `OdcGeo/Model/C20.lean`, used by the tie theorems of `Props/GenC20/*.lean` (and by C05's ties for
`align_up_pow2`).
-/
import OdcGeo.Gen.PyPrelude
import OdcGeo.Gen.Tie
import OdcGeo.Model.C20

namespace OdcGeo.C20
open OdcGeo.Gen

theorem py_trunc_eq (x : Rat) : Py.trunc x = trunc x := rfl

theorem py_absR_eq (x : Rat) : Py.absR x = rabs x := rfl

theorem py_fmod_one (x : Rat) : Py.fmod x 1 = fmod1 x := by
  simp [Py.fmod, fmod1, py_trunc_eq]

theorem py_ceilLog2_eq (x : Int) (h : 0 < x) : Py.ceilLog2 x = ((clog2 x.toNat : Nat) : Int) := by
  unfold Py.ceilLog2 clog2
  by_cases h1 : x ≤ 1
  · have : x.toNat ≤ 1 := by omega
    simp [h1, this]
  · have : ¬ x.toNat ≤ 1 := by omega
    simp [h1, this]

/-- `maybeInt` without the intermediate `Option` (normal form used by the ties; `simp only [maybeInt, maybeInt?]`
would make `simp` evaluate the `match` on an `if` over `Rat`, which does not terminate in reasonable time) -/
theorem maybeInt_if (x tol : Rat) :
    maybeInt x tol = if rabs (splitFloat x).2 < tol then ((trunc (splitFloat x).1 : Int) : Rat) else x := by
  unfold maybeInt maybeInt?
  by_cases h : rabs (splitFloat x).2 < tol
  · rw [if_pos h, if_pos h]
  · rw [if_neg h, if_neg h]

theorem py_ipow_two_nat (n : Nat) : Py.ipow 2 (n : Int) = ((2 ^ n : Nat) : Int) := by
  simp [Py.ipow]

end OdcGeo.C20
