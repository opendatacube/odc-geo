/- `data_resolution_and_offset`, sums of squared residuals, affine maps on three points, `affine_from_pts`. -/
import OdcGeo.Model.C20
import OdcGeo.Lemmas.Affine
import Mathlib.Tactic.LinearCombination
import Mathlib.Algebra.Order.BigOperators.Group.List

namespace OdcGeo.C20

theorem dataResolutionAndOffset_eq (L : List Rat) (h : 2 ≤ L.length) (hne : L ≠ []) (fb : Option Rat) :
    dataResolutionAndOffset L fb =
      .ok ((L.getLast hne - L.head hne) / ((L.length - 1 : Nat) : Rat),
           L.head hne - (1 / 2 : Rat) * ((L.getLast hne - L.head hne) / ((L.length - 1 : Nat) : Rat))) := by
  match L, h with
  | x :: y :: rest, _ => rfl

theorem sum_sq_pair {α : Type} (L : List α) (f g : α → Rat) :
    0 ≤ (L.map fun q => f q * f q + g q * g q).sum ∧
      ((L.map fun q => f q * f q + g q * g q).sum = 0 ↔ ∀ q ∈ L, f q = 0 ∧ g q = 0) := by
  have hnn : ∀ x ∈ L.map fun q => f q * f q + g q * g q, 0 ≤ x :=
    List.forall_mem_map.mpr fun q _ => add_nonneg (mul_self_nonneg _) (mul_self_nonneg _)
  exact ⟨List.sum_nonneg hnn,
    fun h q hq => mul_self_add_mul_self_eq_zero.mp
      (List.all_zero_of_le_zero_le_of_sum_eq_zero hnn h (List.mem_map_of_mem hq)),
    fun h => List.sum_eq_zero (List.forall_mem_map.mpr fun q hq => mul_self_add_mul_self_eq_zero.mpr (h q hq))⟩

theorem sqResidual_nonneg (M : Aff) (XY : List ((Rat × Rat) × (Rat × Rat))) : 0 ≤ sqResidual M XY :=
  (sum_sq_pair XY _ _).1

theorem sqResidual_eq_zero_iff (M : Aff) (XY : List ((Rat × Rat) × (Rat × Rat))) :
    sqResidual M XY = 0 ↔ ∀ q ∈ XY, M.apply q.1 = q.2 := by
  refine (sum_sq_pair XY _ _).2.trans ?_
  simp only [sub_eq_zero, Prod.ext_iff]

theorem row_eq_of_three {a b c a' b' c' : Rat} {p q r : Rat × Rat}
    (hp : a * p.1 + b * p.2 + c = a' * p.1 + b' * p.2 + c')
    (hq : a * q.1 + b * q.2 + c = a' * q.1 + b' * q.2 + c')
    (hr : a * r.1 + b * r.2 + c = a' * r.1 + b' * r.2 + c')
    (hnc : (q.1 - p.1) * (r.2 - p.2) - (q.2 - p.2) * (r.1 - p.1) ≠ 0) : a = a' ∧ b = b' ∧ c = c' := by
  obtain rfl : a = a' :=
    mul_right_cancel₀ hnc (by linear_combination (r.2 - p.2) * (hq - hp) - (q.2 - p.2) * (hr - hp))
  obtain rfl : b = b' :=
    mul_right_cancel₀ hnc (by linear_combination (q.1 - p.1) * (hr - hp) - (r.1 - p.1) * (hq - hp))
  exact ⟨rfl, rfl, by linear_combination hp⟩

theorem aff_eq_of_three {M A : Aff} {p q r : Rat × Rat}
    (hp : M.apply p = A.apply p) (hq : M.apply q = A.apply q) (hr : M.apply r = A.apply r)
    (hnc : (q.1 - p.1) * (r.2 - p.2) - (q.2 - p.2) * (r.1 - p.1) ≠ 0) : M = A := by
  simp only [Aff.apply, Prod.mk.injEq] at hp hq hr
  obtain ⟨ha, hb, hc⟩ := row_eq_of_three hp.1 hq.1 hr.1 hnc
  obtain ⟨hd, he, hf⟩ := row_eq_of_three hp.2 hq.2 hr.2 hnc
  exact Aff.ext' ha hb hc hd he hf

theorem affineFromPts_ok_length {lstsq : List (Rat × Rat) → List (Rat × Rat) → Option Aff} {X Y : List (Rat × Rat)}
    {M : Aff} (h : affineFromPts lstsq X Y = .ok M) : X.length = Y.length ∧ 3 ≤ X.length ∧ lstsq X Y = some M := by
  unfold affineFromPts at h
  split_ifs at h with h1 h2
  split at h
  · rename_i hM
    cases h
    exact ⟨not_not.mp h1, not_lt.mp h2, hM⟩
  · cases h

end OdcGeo.C20
