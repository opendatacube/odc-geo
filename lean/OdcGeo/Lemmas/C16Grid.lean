/-
Families of GeoBoxes on a common pixel grid: the vocabulary of `Props/C16Core.lean`, the algebra of pixel
rectangles, and the pixel-domain boxes of the model on a family (not property obligations).
-/
import OdcGeo.Lemmas.C16
import OdcGeo.Lemmas.C17
import Mathlib.Tactic.Ring
import Mathlib.Data.List.Perm.Basic
import Mathlib.Algebra.Order.Field.Rat
import Mathlib.Algebra.Order.Group.MinMax

namespace OdcGeo.C16
open OdcGeo

/-- integer pixel rectangle: columns `x0 ≤ i < x1`, rows `y0 ≤ j < y1` -/
structure Rect where
  x0 : Int
  y0 : Int
  x1 : Int
  y1 : Int
  deriving DecidableEq

/-- member of the family of `g0` covering `r` -/
def onGrid (g0 : GeoBox) (r : Rect) : GeoBox :=
  ⟨r.y1 - r.y0, r.x1 - r.x0, g0.aff * Aff.translation r.x0 r.y0, g0.crs⟩

/-- shapes are non-negative -/
def Rect.Valid (r : Rect) : Prop := r.x0 ≤ r.x1 ∧ r.y0 ≤ r.y1
/-- at least one pixel -/
def Rect.NonEmpty (r : Rect) : Prop := r.x0 < r.x1 ∧ r.y0 < r.y1

/-- smallest rectangle containing both -/
def Rect.union (r s : Rect) : Rect := ⟨min r.x0 s.x0, min r.y0 s.y0, max r.x1 s.x1, max r.y1 s.y1⟩

/-- common pixels; a missing overlap on an axis gives a zero extent at `max` of the starts -/
def Rect.inter (r s : Rect) : Rect :=
  ⟨max r.x0 s.x0, max r.y0 s.y0, max (max r.x0 s.x0) (min r.x1 s.x1), max (max r.y0 s.y0) (min r.y1 s.y1)⟩

/-- The world position (corner) of a pixel identifies it on a common grid: `w` is a pixel of `g`. -/
def HasPixel (g : GeoBox) (w : Rat × Rat) : Prop :=
  ∃ i j : Int, 0 ≤ i ∧ i < g.nx ∧ 0 ≤ j ∧ j < g.ny ∧ g.aff.apply ((i : Rat), (j : Rat)) = w

def Rect.rawInter (r s : Rect) : Rect := ⟨max r.x0 s.x0, max r.y0 s.y0, min r.x1 s.x1, min r.y1 s.y1⟩
/-- `normEmpty` on rectangles (the "standardise empty geobox representation" step of
`geobox_intersection_conservative`): an inverted axis is given zero extent at its start -/
def Rect.norm (r : Rect) : Rect := ⟨r.x0, r.y0, max r.x0 r.x1, max r.y0 r.y1⟩
def Rect.Has (r : Rect) (i j : Int) : Prop := r.x0 ≤ i ∧ i < r.x1 ∧ r.y0 ≤ j ∧ j < r.y1

/-! `Rect.inter` is `Rect.rawInter` followed by `Rect.norm` (by definition), and a `norm` in front of a
`rawInter` is swallowed by the `norm` behind it (`norm_rawInter_norm`): every law of `inter` is the
law of `min`/`max` for `rawInter` plus that one fact. -/

theorem max_min_max_of_le {α : Type} [LinearOrder α] {m M : α} (h : m ≤ M) (x c : α) :
    max M (min (max m x) c) = max M (min x c) := by
  rw [min_max_distrib_right, ← max_assoc, max_eq_left ((min_le_left m c).trans h)]

theorem Rect.inter_eq (r s : Rect) : r.inter s = (r.rawInter s).norm := rfl

theorem Rect.union_comm (a b : Rect) : a.union b = b.union a := by
  simp only [Rect.union, min_comm, max_comm]

theorem Rect.union_assoc (a b c : Rect) : (a.union b).union c = a.union (b.union c) := by
  simp only [Rect.union, min_assoc, max_assoc]

theorem Rect.union_self (a : Rect) : a.union a = a := by
  simp only [Rect.union, min_self, max_self]

theorem Rect.rawInter_comm (a b : Rect) : a.rawInter b = b.rawInter a := by
  simp only [Rect.rawInter, min_comm, max_comm]

theorem Rect.rawInter_assoc (a b c : Rect) : (a.rawInter b).rawInter c = a.rawInter (b.rawInter c) := by
  simp only [Rect.rawInter, min_assoc, max_assoc]

theorem Rect.rawInter_self (a : Rect) : a.rawInter a = a := by
  simp only [Rect.rawInter, min_self, max_self]

theorem Rect.norm_of_valid {a : Rect} (h : a.Valid) : a.norm = a := by
  simp only [Rect.norm, max_eq_right h.1, max_eq_right h.2]

theorem Rect.norm_valid (a : Rect) : a.norm.Valid := ⟨le_max_left _ _, le_max_left _ _⟩

theorem Rect.norm_rawInter_norm (a b : Rect) : (a.norm.rawInter b).norm = (a.rawInter b).norm := by
  simp only [Rect.norm, Rect.rawInter, Rect.mk.injEq, true_and]
  exact ⟨max_min_max_of_le (le_max_left _ _) _ _, max_min_max_of_le (le_max_left _ _) _ _⟩

theorem Rect.rawInter_norm_norm (a b : Rect) : (a.rawInter b.norm).norm = (a.rawInter b).norm := by
  rw [Rect.rawInter_comm, Rect.norm_rawInter_norm, Rect.rawInter_comm]

theorem Rect.inter_comm (a b : Rect) : a.inter b = b.inter a := by
  rw [Rect.inter_eq, Rect.inter_eq, Rect.rawInter_comm]

theorem Rect.inter_assoc (a b c : Rect) : (a.inter b).inter c = a.inter (b.inter c) := by
  simp only [Rect.inter_eq, Rect.norm_rawInter_norm, Rect.rawInter_norm_norm, Rect.rawInter_assoc]

theorem Rect.inter_valid (a b : Rect) : (a.inter b).Valid := (a.rawInter b).norm_valid

theorem Rect.inter_self {a : Rect} (h : a.Valid) : a.inter a = a := by
  rw [Rect.inter_eq, Rect.rawInter_self, Rect.norm_of_valid h]

theorem Rect.inter_eq_rawInter {a b : Rect} (h : (a.inter b).NonEmpty) : a.inter b = a.rawInter b := by
  obtain ⟨hx, hy⟩ := h
  simp only [Rect.inter] at hx hy
  simp only [Rect.inter, Rect.rawInter, max_eq_right ((lt_max_iff.mp hx).resolve_left (lt_irrefl _)).le,
    max_eq_right ((lt_max_iff.mp hy).resolve_left (lt_irrefl _)).le]

theorem Rect.inter_empty_of_apart {a b : Rect}
    (h : (a.x1 ≤ b.x0 ∨ b.x1 ≤ a.x0) ∨ (a.y1 ≤ b.y0 ∨ b.y1 ≤ a.y0)) : ¬ (a.inter b).NonEmpty := by
  intro hne
  obtain ⟨hx, hy⟩ := Rect.inter_eq_rawInter hne ▸ hne
  simp only [Rect.rawInter, max_lt_iff, lt_min_iff] at hx hy
  omega

theorem Rect.union_inter_self (a b : Rect) (h : (a.inter b).NonEmpty) : a.union (a.inter b) = a := by
  simp only [Rect.inter_eq_rawInter h, Rect.union, Rect.rawInter, min_eq_left (le_max_left _ _),
    max_eq_left (min_le_left _ _)]

theorem Rect.has_norm (t : Rect) (i j : Int) : t.norm.Has i j ↔ t.Has i j := by
  simp only [Rect.Has, Rect.norm, lt_max_iff]
  exact ⟨fun ⟨h1, h2, h3, h4⟩ => ⟨h1, h2.resolve_left (not_lt.mpr h1), h3, h4.resolve_left (not_lt.mpr h3)⟩,
    fun ⟨h1, h2, h3, h4⟩ => ⟨h1, Or.inr h2, h3, Or.inr h4⟩⟩

theorem Rect.has_rawInter (r s : Rect) (i j : Int) : (r.rawInter s).Has i j ↔ r.Has i j ∧ s.Has i j := by
  simp only [Rect.Has, Rect.rawInter, max_le_iff, lt_min_iff]
  tauto

def Rect.Within (s t : Rect) : Prop := t.x0 ≤ s.x0 ∧ t.y0 ≤ s.y0 ∧ s.x1 ≤ t.x1 ∧ s.y1 ≤ t.y1

theorem Rect.Within.has {s t : Rect} (h : s.Within t) {i j : Int} (hs : s.Has i j) : t.Has i j :=
  ⟨h.1.trans hs.1, hs.2.1.trans_le h.2.2.1, h.2.1.trans hs.2.2.1, hs.2.2.2.trans_le h.2.2.2⟩

theorem Rect.within_trans {a b c : Rect} (h1 : a.Within b) (h2 : b.Within c) : a.Within c :=
  ⟨h2.1.trans h1.1, h2.2.1.trans h1.2.1, h1.2.2.1.trans h2.2.2.1, h1.2.2.2.trans h2.2.2.2⟩

theorem Rect.rawInter_within_left (r s : Rect) : (r.rawInter s).Within r :=
  ⟨le_max_left _ _, le_max_left _ _, min_le_left _ _, min_le_left _ _⟩

theorem Rect.rawInter_within_right (r s : Rect) : (r.rawInter s).Within s :=
  ⟨le_max_right _ _, le_max_right _ _, min_le_right _ _, min_le_right _ _⟩

theorem Rect.NonEmpty.of_within {s t : Rect} (hs : s.NonEmpty) (h : s.Within t) : t.NonEmpty :=
  ⟨h.1.trans_lt (hs.1.trans_le h.2.2.1), h.2.1.trans_lt (hs.2.trans_le h.2.2.2)⟩

theorem Rect.NonEmpty.valid {r : Rect} (h : r.NonEmpty) : r.Valid := ⟨h.1.le, h.2.le⟩

theorem Rect.within_union_left (r s : Rect) : r.Within (r.union s) :=
  ⟨min_le_left _ _, min_le_left _ _, le_max_left _ _, le_max_left _ _⟩

theorem Rect.within_union_right (r s : Rect) : s.Within (r.union s) :=
  ⟨min_le_right _ _, min_le_right _ _, le_max_right _ _, le_max_right _ _⟩

theorem Rect.union_within {r s t : Rect} (hr : r.Within t) (hs : s.Within t) : (r.union s).Within t :=
  ⟨le_min hr.1 hs.1, le_min hr.2.1 hs.2.1, max_le hr.2.2.1 hs.2.2.1, max_le hr.2.2.2 hs.2.2.2⟩

theorem Rect.union_eq_of_within {r p : Rect} (h : r.Within p) : r.union p = p := by
  simp only [Rect.union, min_eq_right h.1, min_eq_right h.2.1, max_eq_right h.2.2.1, max_eq_right h.2.2.2]

theorem Rect.inter_eq_of_within {r p : Rect} (hr : r.Valid) (h : r.Within p) : r.inter p = r := by
  rw [Rect.inter_eq]
  simp only [Rect.rawInter, max_eq_left h.1, max_eq_left h.2.1, min_eq_left h.2.2.1, min_eq_left h.2.2.2]
  exact Rect.norm_of_valid hr

theorem Rect.inter_union_self {a : Rect} (h : a.Valid) (b : Rect) : a.inter (a.union b) = a :=
  Rect.inter_eq_of_within h (Rect.within_union_left a b)

theorem Rect.union_union_of_within {a b c : Rect} (h : b.Within (a.union c)) : (a.union b).union c = a.union c := by
  obtain ⟨h1, h2, h3, h4⟩ := h
  simp only [Rect.union, Rect.mk.injEq] at h1 h2 h3 h4 ⊢
  exact ⟨by rw [min_right_comm, min_eq_left h1], by rw [min_right_comm, min_eq_left h2],
    by rw [max_right_comm, max_eq_left h3], by rw [max_right_comm, max_eq_left h4]⟩

theorem forall_mem_pair {α : Type} {p : α → Prop} {a b : α} : (∀ x ∈ [a, b], p x) ↔ p a ∧ p b := by
  simp only [List.forall_mem_cons, List.not_mem_nil, false_imp_iff, implies_true, and_true]

theorem foldl_rawInter_has (acc : Rect) (ss : List Rect) (i j : Int) :
    (ss.foldl Rect.rawInter acc).Has i j ↔ ∀ s ∈ acc :: ss, s.Has i j := by
  induction ss generalizing acc with
  | nil => simp only [List.foldl_nil, List.forall_mem_singleton]
  | cons s ss ih => simp only [List.foldl_cons, ih, List.forall_mem_cons, Rect.has_rawInter, and_assoc]

theorem foldl_union_spec (acc : Rect) (ss : List Rect) :
    (∀ s ∈ acc :: ss, s.Within (ss.foldl Rect.union acc)) ∧
    (∀ t : Rect, (∀ s ∈ acc :: ss, s.Within t) → (ss.foldl Rect.union acc).Within t) := by
  induction ss generalizing acc with
  | nil => exact ⟨fun s hs => by rw [List.mem_singleton.mp hs]; exact ⟨le_rfl, le_rfl, le_rfl, le_rfl⟩,
      fun t ht => ht acc (List.mem_cons_self ..)⟩
  | cons s ss ih =>
    obtain ⟨ih1, ih2⟩ := ih (acc.union s)
    simp only [List.forall_mem_cons, List.foldl_cons] at ih1 ih2 ⊢
    exact ⟨⟨Rect.within_trans (Rect.within_union_left _ _) ih1.1,
        Rect.within_trans (Rect.within_union_right _ _) ih1.1, ih1.2⟩,
      fun t ⟨ha, hs, hss⟩ => ih2 t ⟨Rect.union_within ha hs, hss⟩⟩

theorem foldl_absorb {α : Type} (f : α → α → α) (hrc : ∀ a b c, f (f a b) c = f (f a c) b)
    (hid : ∀ a b, f (f a b) b = f a b) (l : List α) (x : α) (hx : x ∈ l) (acc : α) :
    l.foldl f acc = l.foldl f (f acc x) := by
  induction l generalizing acc with
  | nil => cases hx
  | cons y ys ih =>
    simp only [List.foldl]
    rcases List.mem_cons.mp hx with rfl | hx
    · rw [hid]
    · rw [ih hx (f acc y), hrc]

theorem foldl_perm_head {α : Type} (f : α → α → α) (hassoc : ∀ a b c, f (f a b) c = f a (f b c))
    (hidem : ∀ a, f a a = a) (hcomm : ∀ a b, f a b = f b a)
    (r r' : α) (ss ss' : List α) (p : (r :: ss).Perm (r' :: ss')) :
    ss.foldl f r = ss'.foldl f r' := by
  have hrc : ∀ a b c, f (f a b) c = f (f a c) b := fun a b c => by
    rw [hassoc, hcomm b c, ← hassoc]
  have hid : ∀ a b, f (f a b) b = f a b := fun a b => by rw [hassoc, hidem]
  have : RightCommutative f := ⟨hrc⟩
  have e1 : ss.foldl f r = (r :: ss).foldl f r := by simp [List.foldl, hidem]
  have e2 : ss'.foldl f r' = (r' :: ss').foldl f r' := by simp [List.foldl, hidem]
  have hr : r ∈ r' :: ss' := p.subset (List.mem_cons_self ..)
  rw [e1, e2, p.foldl_eq r, foldl_absorb f hrc hid _ r' (List.mem_cons_self ..) r,
    foldl_absorb f hrc hid _ r hr r', hcomm r r']

theorem hasPixel_onGrid (g0 : GeoBox) (r : Rect) (w : Rat × Rat) :
    HasPixel (onGrid g0 r) w ↔ ∃ i j : Int, r.Has i j ∧ g0.aff.apply ((i : Rat), (j : Rat)) = w := by
  simp only [HasPixel, onGrid, Aff.apply_mul_translation, Rect.Has]
  constructor
  · rintro ⟨i, j, h1, h2, h3, h4, h5⟩
    refine ⟨i + r.x0, j + r.y0, ⟨by omega, by omega, by omega, by omega⟩, ?_⟩
    push_cast
    exact h5
  · rintro ⟨i, j, ⟨h1, h2, h3, h4⟩, h5⟩
    refine ⟨i - r.x0, j - r.y0, by omega, by omega, by omega, by omega, ?_⟩
    simp only [Int.cast_sub, sub_add_cancel, h5]

/-- index form of pixel membership (needs an invertible grid so that world positions identify pixels) -/
theorem hasPixel_idx (g0 : GeoBox) (hdet : g0.aff.det ≠ 0) (t : Rect) (i j : Int) :
    HasPixel (onGrid g0 t) (g0.aff.apply ((i : Rat), (j : Rat))) ↔ t.Has i j := by
  rw [hasPixel_onGrid]
  constructor
  · rintro ⟨i', j', h, h5⟩
    have := Aff.apply_injective g0.aff hdet h5
    simp only [Prod.mk.injEq, Int.cast_inj] at this
    obtain ⟨rfl, rfl⟩ := this
    exact h
  · exact fun h => ⟨i, j, h, rfl⟩

theorem forall_hasPixel (g0 : GeoBox) (hdet : g0.aff.det ≠ 0) (s t : Rect) :
    (∀ w, HasPixel (onGrid g0 s) w → HasPixel (onGrid g0 t) w) ↔ ∀ i j, s.Has i j → t.Has i j := by
  constructor
  · exact fun h i j hs => (hasPixel_idx g0 hdet t i j).mp (h _ ((hasPixel_idx g0 hdet s i j).mpr hs))
  · intro h w hw
    obtain ⟨i, j, hs, rfl⟩ := (hasPixel_onGrid _ _ _).mp hw
    exact (hasPixel_idx g0 hdet t i j).mpr (h i j hs)

theorem exists_hasPixel_onGrid (g0 : GeoBox) (t : Rect) : (∃ w, HasPixel (onGrid g0 t) w) ↔ t.NonEmpty := by
  simp only [hasPixel_onGrid]
  constructor
  · rintro ⟨_, i, j, ⟨h1, h2, h3, h4⟩, _⟩
    exact ⟨h1.trans_lt h2, h3.trans_lt h4⟩
  · exact fun ⟨h1, h2⟩ => ⟨_, t.x0, t.y0, ⟨le_rfl, h1, le_rfl, h2⟩, rfl⟩

theorem isEmpty_onGrid (g0 : GeoBox) {t : Rect} (h : t.Valid) : (onGrid g0 t).isEmpty = true ↔ ¬ t.NonEmpty := by
  obtain ⟨h1, h2⟩ := h
  simp only [GeoBox.isEmpty, onGrid, Bool.or_eq_true, beq_iff_eq, Rect.NonEmpty]
  omega

/-- a non-empty rectangle whose pixels all lie in `t` lies within `t` (look at its two extreme pixels) -/
theorem Rect.within_of_has {s t : Rect} (hs : s.NonEmpty) (h : ∀ i j, s.Has i j → t.Has i j) : s.Within t := by
  obtain ⟨n1, n2⟩ := hs
  obtain ⟨a1, -, a3, -⟩ := h s.x0 s.y0 ⟨le_rfl, n1, le_rfl, n2⟩
  obtain ⟨-, b2, -, b4⟩ := h (s.x1 - 1) (s.y1 - 1) ⟨by omega, by omega, by omega, by omega⟩
  exact ⟨a1, a3, by omega, by omega⟩

theorem det_onGrid (g0 : GeoBox) (r : Rect) : (onGrid g0 r).aff.det = g0.aff.det :=
  Aff.det_mul_translation _ _ _

/-- pixel-domain box of `s` relative to the reference `r` -/
def relBB (r s : Rect) : BBox Int := ⟨s.x0 - r.x0, s.y0 - r.y0, s.x1 - r.x0, s.y1 - r.y0, none⟩

theorem onGrid_aff_shift (g0 : GeoBox) (r s : Rect) :
    (onGrid g0 r).aff * Aff.translation ((s.x0 - r.x0 : Int) : Rat) ((s.y0 - r.y0 : Int) : Rat) = (onGrid g0 s).aff := by
  simp only [onGrid]
  rw [Aff.mul_assoc', Aff.translation_mul_translation]
  congr 2 <;> push_cast <;> ring

theorem bbpd_onGrid (g0 : GeoBox) (hdet : g0.aff.det ≠ 0) (r s : Rect) (tol : Rat) (htol : 0 < tol) :
    bboxInPixelDomain (onGrid g0 s) (onGrid g0 r) tol = .ok (relBB r s) := by
  rw [bboxInPixelDomain_of_mul (onGrid g0 s) (onGrid g0 r) rfl ((det_onGrid g0 r).trans_ne hdet) (s.x0 - r.x0)
    (s.y0 - r.y0) (onGrid_aff_shift g0 r s).symm tol htol, relBB]
  simp only [onGrid, sub_add_sub_cancel']

theorem allBBoxes_onGrid (g0 : GeoBox) (hdet : g0.aff.det ≠ 0) (r : Rect) (ss : List Rect) :
    allBBoxes (onGrid g0 r) tolPix (ss.map (onGrid g0)) = .ok (ss.map (relBB r)) := by
  induction ss with
  | nil => rfl
  | cons s ss ih => simp only [List.map, allBBoxes, bbpd_onGrid g0 hdet _ _ _ tolPix_pos, ih]

theorem geoboxOfPixBBox_relBB (g0 : GeoBox) (r s : Rect) : geoboxOfPixBBox (onGrid g0 r) (relBB r s) = onGrid g0 s := by
  simp only [geoboxOfPixBBox, relBB, onGrid_aff_shift, sub_sub_sub_cancel_right]
  rfl

theorem normEmpty_eq (bb : BBox Int) :
    normEmpty bb = ⟨bb.left, bb.bottom, max bb.left bb.right, max bb.bottom bb.top, bb.crs⟩ := by
  obtain ⟨l, b, r, t, c⟩ := bb
  unfold normEmpty
  by_cases h1 : l > r <;> by_cases h2 : b > t <;> simp [h1, h2] <;> omega

theorem normEmpty_relBB (r s : Rect) : normEmpty (relBB r s) = relBB r s.norm := by
  simp only [normEmpty_eq, relBB, Rect.norm, max_sub_sub_right]

theorem foldRes_union_rel (r acc : Rect) (ss : List Rect) :
    foldRes unionStep (relBB r acc) (ss.map (relBB r)) = .ok (relBB r (ss.foldl Rect.union acc)) := by
  induction ss generalizing acc with
  | nil => rfl
  | cons s ss ih =>
    have step : unionStep (relBB r acc) (relBB r s) = .ok (relBB r (acc.union s)) := by
      simp only [unionStep, relBB, Rect.union, ne_eq, not_true_eq_false, if_false, min_sub_sub_right,
        max_sub_sub_right, min_comm s.x0, min_comm s.y0, max_comm s.x1, max_comm s.y1]
    simp only [List.map, foldRes, step, List.foldl, ih]

theorem foldRes_inter_rel (r acc : Rect) (ss : List Rect) :
    foldRes interStep (relBB r acc) (ss.map (relBB r)) = .ok (relBB r (ss.foldl Rect.rawInter acc)) := by
  induction ss generalizing acc with
  | nil => rfl
  | cons s ss ih =>
    have step : interStep (relBB r acc) (relBB r s) = .ok (relBB r (acc.rawInter s)) := by
      simp only [interStep, relBB, Rect.rawInter, ne_eq, not_true_eq_false, if_false, min_sub_sub_right,
        max_sub_sub_right, min_comm s.x1, min_comm s.y1, max_comm s.x0, max_comm s.y0]
    simp only [List.map, foldRes, step, List.foldl, ih]

theorem sel_inter_axis (r0 r1 s0 s1 i : Int) :
    PySlice.Sel (r1 - r0) (.slc (some (max r0 s0 - r0)) (some (max (max r0 s0) (min r1 s1) - r0))) i ↔
      0 ≤ i ∧ i < r1 - r0 ∧ s0 ≤ i + r0 ∧ i + r0 < s1 := by
  rw [C17.sel_closed _ _ _ _ (sub_nonneg.mpr (le_max_left _ _))
    (sub_nonneg.mpr ((le_max_left _ _).trans (le_max_left _ _)))]
  omega

/-- the window `numpy.s_[y0:y1, x0:x1]` of the rectangle `I` in the index frame of `t` -/
def Rect.roiIn (t I : Rect) : Roi := ⟨I.y0 - t.y0, I.y1 - t.y0, I.x0 - t.x0, I.x1 - t.x0⟩

theorem Rect.roiIn_inter_nonneg (r s : Rect) :
    0 ≤ (r.roiIn (r.inter s)).x0 ∧ 0 ≤ (r.roiIn (r.inter s)).x1 ∧
    0 ≤ (r.roiIn (r.inter s)).y0 ∧ 0 ≤ (r.roiIn (r.inter s)).y1 :=
  have v := r.inter_valid s
  ⟨sub_nonneg.mpr (le_max_left r.x0 s.x0), sub_nonneg.mpr ((le_max_left r.x0 s.x0).trans v.1),
   sub_nonneg.mpr (le_max_left r.y0 s.y0), sub_nonneg.mpr ((le_max_left r.y0 s.y0).trans v.2)⟩

end OdcGeo.C16
