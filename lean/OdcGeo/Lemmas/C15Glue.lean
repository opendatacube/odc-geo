/-
Helper lemmas for the theorems about `Model/C15Glue.lean`: the algebra of keyword dictionaries (`get` after `cons` / `++` /
`set` taken from `Lemmas/C05Assoc.lean`, after `update` / `without` proved here) and `_write_cog` by outcome: a call ends in a
layout error, is refused by the overwrite guard, stumbles over the resampling name, or makes its GDAL calls (`writeCogFrom_eq`,
`checked_cases`).
-/
import OdcGeo.Model.C15Glue
import OdcGeo.Lemmas.C05Assoc

namespace OdcGeo.C15

theorem Dict.get_cons (p : String × V) (d : Dict) (k : String) :
    Dict.get (p :: d) k = if p.1 = k then some p.2 else Dict.get d k := Assoc.get_cons p d k

theorem Dict.get_nil (k : String) : Dict.get [] k = none := rfl

theorem Dict.get_append (d e : Dict) (k : String) :
    Dict.get (d ++ e) k = (Dict.get d k).or (Dict.get e k) := Assoc.get_append d e k

theorem Dict.get_set (d : Dict) (k : String) (v : V) (k' : String) :
    Dict.get (d.set k v) k' = if k' = k then some v else Dict.get d k' := Assoc.get_set d k v k'

theorem Dict.get_update (d e : Dict) (k : String) :
    Dict.get (d.update e) k = match e.lastGet k with | some v => some v | none => Dict.get d k := by
  unfold Dict.update Dict.lastGet
  induction e generalizing d with
  | nil => simp [Dict.get_nil]
  | cons p e ih =>
    simp only [List.foldl_cons, List.reverse_cons]
    rw [ih, Dict.get_append, Dict.get_set]
    cases Dict.get e.reverse k with
    | some v => rfl
    | none =>
      by_cases h : p.1 = k <;> simp [Dict.get_cons, Dict.get_nil, h, eq_comm (a := k)]

theorem Dict.get_without (d : Dict) (skip : List String) (k : String) :
    Dict.get (d.without skip) k = if k ∈ skip then none else Dict.get d k := by
  unfold Dict.without Dict.get
  rw [List.find?_filter]
  by_cases hk : k ∈ skip
  · rw [if_pos hk, List.find?_eq_none.2 fun p _ => by by_cases h : p.1 = k <;> simp [h, hk]]
    rfl
  · rw [if_neg hk]
    congr 2
    funext p
    by_cases h : p.1 = k <;> simp [h, hk]

theorem Dict.lastGet_without (d : Dict) (skip : List String) (k : String) :
    (d.without skip).lastGet k = if k ∈ skip then none else d.lastGet k := by
  unfold Dict.lastGet Dict.without
  rw [← List.filter_reverse]
  exact Dict.get_without d.reverse skip k

theorem Dict.getNone_def (d : Dict) (k : String) : d.getNone k = (Dict.get d k).getD .none := rfl

theorem get_memOpenKw (o : Dict) (k : String) (hk : k ≠ "driver") : Dict.get (memOpenKw o) k = Dict.get o k := by
  rw [memOpenKw, Dict.get_cons, if_neg (Ne.symm hk)]

theorem get_pathOpenKw (o : Dict) (k : String) (hk : k ≠ "driver") (hm : k ≠ "mode") : Dict.get (pathOpenKw o) k = Dict.get o k := by
  rw [pathOpenKw, Dict.get_cons, Dict.get_cons, if_neg (Ne.symm hm), if_neg (Ne.symm hk)]

/-- `check_write_path(dst, overwrite)`: what it removes, and whether it raises.  `Model/C15Glue.lean` spells this guard out
inline in `writeCogFrom`, `writeCogGcp`, `writeCogLayersWith` and `writeCogLayersFull`; it is the same term, so facts about `pathGuard` apply there
by unfolding. -/
def pathGuard (dst : Dst) (overwrite : Bool) : List Ev × Bool :=
  match dst with
  | .mem => ([], false)
  | .path p ex => if ex then (if overwrite then ([.unlink p], false) else ([], true)) else ([], false)

theorem mem_pathGuard {dst : Dst} {ow : Bool} {ev : Ev} :
    ev ∈ (pathGuard dst ow).1 ↔ ∃ p, ev = .unlink p ∧ dst = .path p true ∧ ow = true := by
  cases dst with
  | mem => simp [pathGuard]
  | path p ex => cases ex <;> cases ow <;> simp [pathGuard]

theorem pathGuard_raises {dst : Dst} {ow : Bool} :
    (pathGuard dst ow).2 = true ↔ ∃ p, dst = .path p true ∧ ow = false := by
  cases dst with
  | mem => simp [pathGuard]
  | path p ex => cases ex <;> cases ow <;> simp [pathGuard]

def blockWarn (b : Nat) : List Ev := if b % 16 != 0 then [.warnBlock] else []

theorem mem_blockWarn {b : Nat} {ev : Ev} (h : ev ∈ blockWarn b) : ev = .warnBlock := by
  unfold blockWarn at h
  split at h
  · exact List.mem_singleton.mp h
  · cases h

/-- what `_write_cog` does before it builds `rio_opts`, the same for a linear and a GCP geobox: overwrite guard, resampling
name, block-size warning; `body` is the rest, given the resolved resampling name -/
def checked (a : WArgs) (body : String → Trace) : Trace :=
  if (pathGuard a.dst a.overwrite).2 then ([], .error .osError) else
  match resamplingS2rio (a.resampling.getD "nearest") with
  | none => ((pathGuard a.dst a.overwrite).1, .error .valueError)
  | some rs => ((pathGuard a.dst a.overwrite).1 ++ blockWarn (a.blocksize.getD 512) ++ (body rs).1, (body rs).2)

theorem checked_cases (a : WArgs) (body : String → Trace) :
    (∃ p, a.dst = .path p true ∧ a.overwrite = false ∧ checked a body = ([], .error .osError)) ∨
    (resamplingS2rio (a.resampling.getD "nearest") = none ∧
      checked a body = ((pathGuard a.dst a.overwrite).1, .error .valueError)) ∨
    ∃ rs, resamplingS2rio (a.resampling.getD "nearest") = some rs ∧
      checked a body =
        ((pathGuard a.dst a.overwrite).1 ++ blockWarn (a.blocksize.getD 512) ++ (body rs).1, (body rs).2) := by
  unfold checked
  by_cases hg : (pathGuard a.dst a.overwrite).2 = true
  · obtain ⟨p, hd, ho⟩ := pathGuard_raises.mp hg
    exact .inl ⟨p, hd, ho, if_pos hg⟩
  · rw [if_neg hg]
    cases resamplingS2rio (a.resampling.getD "nearest") with
    | none => exact .inr (.inl ⟨rfl, rfl⟩)
    | some rs => exact .inr (.inr ⟨rs, rfl, rfl⟩)

theorem forall_mem_checked {P : Ev → Prop} (a : WArgs) (body : String → Trace)
    (hu : ∀ p, a.dst = .path p true → a.overwrite = true → P (.unlink p)) (hw : P .warnBlock)
    (hb : ∀ rs, ∀ ev ∈ (body rs).1, P ev) : ∀ ev ∈ (checked a body).1, P ev := by
  have hg : ∀ ev ∈ (pathGuard a.dst a.overwrite).1, P ev := fun ev hev => by
    obtain ⟨p, rfl, hd, ho⟩ := mem_pathGuard.1 hev
    exact hu p hd ho
  obtain ⟨_, _, _, h⟩ | ⟨_, h⟩ | ⟨rs, _, h⟩ := checked_cases a body <;> rw [h]
  · exact fun _ h => nomatch h
  · exact hg
  · simp only [List.forall_mem_append]
    exact ⟨⟨hg, fun ev hev => mem_blockWarn hev ▸ hw⟩, hb rs⟩

def Dst.loc (k : Nat) : Dst → Loc
  | .mem => .anon k
  | .path p _ => .named p

def Dst.ret (k : Nat) : Dst → Ret
  | .mem => .bytesOf (.anon k)
  | .path p _ => .path p

/-- the GDAL calls of a `_write_cog` whose checks passed, and what it returns -/
def gdalCalls (k0 : Nat) (a : WArgs) (l : Layout) (rs : String) : List Ev × Ret :=
  let rio := rioOpts l a.dtype a.isFloat (a.blocksize.getD 512) a.nodata a.extra
  let tmp := tmpOpts rio a.icomp
  if levelsFor a.levels l.w l.h = [] then
    (.openW (a.dst.loc k0) (match a.dst with | .mem => memOpenKw rio | .path _ _ => pathOpenKw rio) ::
      writeEvents l a.shape.length a.windowed rio ++ [.close], a.dst.ret k0)
  else
    (.envEnter [("GDAL_TIFF_OVR_BLOCKSIZE", .int (a.ovrBlocksize.getD (a.blocksize.getD 512)))] ::
      .openW (.anon k0) (memOpenKw tmp) :: writeEvents l a.shape.length a.windowed tmp ++
      [.buildOverviews (levelsFor a.levels l.w l.h) rs,
       .copy (.anon k0) (a.dst.loc (k0 + 1))
         (match a.dst with | .mem => copyKw (rio.without datasetKeys) | .path _ _ => copyKw rio),
       .close, .envExit], a.dst.ret (k0 + 1))

theorem writeCogFrom_eq (k0 : Nat) (a : WArgs) :
    writeCogFrom k0 a =
      match layoutOf a.shape a.g with
      | .error e => ([], .error e)
      | .ok l => checked a fun rs => ((gdalCalls k0 a l rs).1, .ok (gdalCalls k0 a l rs).2) := by
  unfold writeCogFrom checked gdalCalls
  cases layoutOf a.shape a.g with
  | error e => rfl
  | ok l =>
    simp only [List.length_eq_zero_iff]
    cases resamplingS2rio (a.resampling.getD "nearest") <;> by_cases hlv : levelsFor a.levels l.w l.h = [] <;>
      -- `rfl`: for a path the two sides still differ in the `Decidable` instance of the guard's `if`
      cases a.dst <;> simp [pathGuard, blockWarn, Dst.loc, Dst.ret, hlv] <;> rfl

theorem writeCogGcp_eq (a : WArgs) :
    writeCogGcp a =
      match layoutOf a.shape a.g with
      | .error e => ([], .error e)
      | .ok _ => checked a fun _ => ([], .error .attributeError) := by
  unfold writeCogGcp checked
  cases layoutOf a.shape a.g with
  | error e => rfl
  | ok l => cases a.dst <;> cases resamplingS2rio (a.resampling.getD "nearest") <;> simp [pathGuard, blockWarn] <;> rfl

end OdcGeo.C15
