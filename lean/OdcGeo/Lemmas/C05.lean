/-
Helper lemmas for C05: integer alignment, `num_overviews` as a least exponent, the level loop of
`_make_empty_cog` in closed form, row-major tile enumeration, the loop of `_extract_tile_info`,
the order in which `save_cog_with_dask` streams its tile bags, `align_down_pow2`.
-/
import OdcGeo.Model.C05
import OdcGeo.Lemmas.Affine
import Mathlib.Data.List.Nodup

namespace OdcGeo.C05

theorem alignDown_eq (x a : Nat) : alignDown x a = x / a * a := Nat.div_mul_self_eq_mod_sub_self.symm

theorem alignUp_dvd (x a : Nat) : a ∣ alignUp x a := Nat.dvd_sub_mod _

theorem alignUp_ge (x a : Nat) (ha : 0 < a) : x ≤ alignUp x a := by
  unfold alignUp alignDown
  have h := Nat.mod_lt (x + (a - 1)) ha
  omega

theorem alignUp_lt (x a : Nat) (ha : 0 < a) : alignUp x a < x + a := by
  unfold alignUp alignDown
  omega

theorem alignUp_of_dvd (x a : Nat) (ha : 0 < a) (h : a ∣ x) : alignUp x a = x := by
  obtain ⟨c, rfl⟩ := h
  rw [alignUp, alignDown, Nat.mul_add_mod, Nat.mod_eq_of_lt (Nat.sub_lt ha Nat.one_pos), Nat.add_sub_cancel]

theorem alignUp_spec (x a : Nat) (ha : 0 < a) : x ≤ alignUp x a ∧ alignUp x a < x + a ∧ a ∣ alignUp x a :=
  ⟨alignUp_ge x a ha, alignUp_lt x a ha, alignUp_dvd x a⟩

theorem alignUp_mono {x y : Nat} (a : Nat) (h : x ≤ y) : alignUp x a ≤ alignUp y a := by
  rw [alignUp, alignUp, alignDown_eq, alignDown_eq]
  exact Nat.mul_le_mul_right _ (Nat.div_le_div_right (Nat.add_le_add_right h _))

/-- `align_up` is the ceiling division scaled back: the tile grid of `CogMeta.chunked` spans exactly the aligned extent -/
theorem ceilDiv_mul_eq_alignUp (N t : Nat) (ht : 0 < t) : (N + t - 1) / t * t = alignUp N t := by
  rw [alignUp, alignDown_eq, Nat.add_sub_assoc ht]

theorem chunked_covers (N t : Nat) (ht : 0 < t) :
    N ≤ ((N + t - 1) / t) * t ∧ ((N + t - 1) / t) * t < N + t :=
  ceilDiv_mul_eq_alignUp N t ht ▸ ⟨alignUp_ge N t ht, alignUp_lt N t ht⟩

theorem adjustBlocksize_eq (block dim : Nat) :
    adjustBlocksize block dim = alignUp (if 0 < dim ∧ dim < block then dim else block) 16 := by
  unfold adjustBlocksize
  split <;> rfl

/-- `k` is the least exponent with `⌊dim / 2^k⌋ ≤ block` -/
def LeastHalvings (block dim k : Nat) : Prop :=
  dim / 2 ^ k ≤ block ∧ ∀ j, j < k → block < dim / 2 ^ j

theorem LeastHalvings.le {block dim k k' : Nat} (h : LeastHalvings block dim k) (h' : dim / 2 ^ k' ≤ block) : k ≤ k' :=
  Nat.le_of_not_lt fun hlt => Nat.not_lt.mpr h' (h.2 k' hlt)

theorem leastHalvings_unique {block dim k k' : Nat} (h : LeastHalvings block dim k)
    (h' : LeastHalvings block dim k') : k = k' :=
  Nat.le_antisymm (h.le h'.1) (h'.le h.1)

theorem numOverviewsFuel_least : ∀ (fuel block dim : Nat), dim ≤ fuel →
    LeastHalvings block dim (numOverviewsFuel fuel block dim) := by
  intro fuel
  induction fuel with
  | zero =>
    intro block dim h
    obtain rfl : dim = 0 := Nat.le_zero.mp h
    simp [numOverviewsFuel, LeastHalvings]
  | succ fuel ih =>
    intro block dim h
    unfold numOverviewsFuel
    split
    · rename_i hlt
      have hdiv : ∀ k, dim / 2 ^ (k + 1) = dim / 2 / 2 ^ k := fun k => by
        rw [Nat.pow_succ, Nat.mul_comm, ← Nat.div_div_eq_div_mul]
      obtain ⟨h1, h2⟩ := ih block (dim / 2) (by omega)
      refine ⟨hdiv _ ▸ h1, fun j hj => ?_⟩
      cases j with
      | zero => simpa using hlt
      | succ j => exact hdiv j ▸ h2 j (Nat.lt_of_succ_lt_succ hj)
    · rename_i hnl
      exact ⟨by simpa using Nat.le_of_not_lt hnl, fun j hj => absurd hj (Nat.not_lt_zero j)⟩

theorem scale_one : Aff.scale 1 1 = Aff.id := rfl

theorem two_mul_div_cast (m : Nat) (hm : 0 < m) : ((2 * m : Nat) : Rat) / (m : Rat) = 2 := by
  rw [Nat.cast_mul, Nat.cast_ofNat, mul_div_assoc, div_self (Nat.cast_ne_zero.mpr hm.ne'), mul_one]

theorem zoomTo_shrink2 (sh : YX) (A : Aff) (my mx : Nat) (hy : sh.y = 2 * my) (hx : sh.x = 2 * mx) (hmy : 0 < my)
    (hmx : 0 < mx) : zoomTo sh A (shrink2 sh) = .ok (A * Aff.scale 2 2) := by
  have hs : shrink2 sh = ⟨my, mx⟩ := by
    unfold shrink2
    rw [hy, hx, Nat.mul_div_cancel_left _ Nat.two_pos, Nat.mul_div_cancel_left _ Nat.two_pos]
  rw [hs, zoomTo, if_neg (by simp only [not_or]; exact ⟨hmy.ne', hmx.ne'⟩), hx, hy,
    two_mul_div_cast mx hmx, two_mul_div_cast my hmy]

/-- level `j` of the pyramid over `sh`: both sides halved `j` times (`//`), the tile of block `idx + j`, the affine zoomed by
`2^j` -/
def levelAt (blk : Nat → Blk) (idx : Nat) (sh : YX) (g : Option Aff) (j : Nat) : Level :=
  ⟨⟨sh.y / 2 ^ j, sh.x / 2 ^ j⟩, normBlocksize (blk (idx + j)), g.map (· * Aff.scale (2 ^ j) (2 ^ j))⟩

theorem levelAt_zero (blk : Nat → Blk) (idx : Nat) (sh : YX) (g : Option Aff) :
    levelAt blk idx sh g 0 = ⟨sh, normBlocksize (blk idx), g⟩ := by
  simp only [levelAt, pow_zero, Nat.div_one, Nat.add_zero, scale_one, Aff.mul_id, Option.map_id']

theorem levelAt_succ (blk : Nat → Blk) (idx : Nat) (sh : YX) (g : Option Aff) (j : Nat) :
    levelAt blk idx sh g (j + 1) = levelAt blk (idx + 1) (shrink2 sh) (g.map (· * Aff.scale 2 2)) j := by
  simp only [levelAt, shrink2, Nat.div_div_eq_div_mul, Nat.add_assoc, Nat.add_comm 1 j, Option.map_map,
    Function.comp_def, Aff.mul_assoc', Aff.scale_mul_scale, ← pow_succ']

theorem div_two_pow_exact {s j : Nat} (hs : 0 < s) (h : 2 ^ j ∣ s) : s / 2 ^ j * 2 ^ j = s ∧ 0 < s / 2 ^ j :=
  ⟨Nat.div_mul_cancel h, Nat.div_pos (Nat.le_of_dvd hs h) (Nat.two_pow_pos j)⟩

theorem half_of_two_pow_dvd (r s : Nat) (hs : 0 < s) (h : 2 ^ (r + 1) ∣ s) :
    2 ^ r ∣ s / 2 ∧ s = 2 * (s / 2) ∧ 0 < s / 2 := by
  obtain ⟨c, rfl⟩ := h
  have e : 2 ^ (r + 1) * c = 2 * (2 ^ r * c) := by rw [Nat.pow_succ, Nat.mul_right_comm, Nat.mul_comm]
  rw [e] at hs ⊢
  rw [Nat.mul_div_cancel_left _ Nat.two_pos]
  exact ⟨Nat.dvd_mul_right _ _, rfl, Nat.pos_of_mul_pos_left hs⟩

/-- the sides must be multiples of `2^(rem - 1)` for `zoom_to` to see an exact factor 2 (and no empty shape) at every step -/
theorem levelLoop_eq (blk : Nat → Blk) (n : Nat) :
    ∀ (rem idx : Nat) (sh : YX) (g : Option Aff), rem + idx = n + 1 →
      0 < sh.y → 2 ^ (rem - 1) ∣ sh.y → 0 < sh.x → 2 ^ (rem - 1) ∣ sh.x →
      levelLoop blk n rem idx sh g = .ok ((List.range rem).map (levelAt blk idx sh g)) := by
  intro rem
  induction rem with
  | zero => intro idx sh g _ _ _ _ _; rfl
  | succ rem ih =>
    intro idx sh g hsum hy0 hy hx0 hx
    rw [Nat.add_sub_cancel] at hy hx
    rw [List.range_succ_eq_map, List.map_cons, List.map_map, levelAt_zero]
    by_cases hlt : idx < n
    · -- another level follows, so both sides are even
      obtain ⟨r, rfl⟩ : ∃ r, rem = r + 1 := ⟨rem - 1, by omega⟩
      obtain ⟨hsy, hy2, hpy⟩ := half_of_two_pow_dvd r sh.y hy0 hy
      obtain ⟨hsx, hx2, hpx⟩ := half_of_two_pow_dvd r sh.x hx0 hx
      have hrest := ih (idx + 1) (shrink2 sh) (g.map (· * Aff.scale 2 2)) (by omega) hpy hsy hpx hsx
      rw [← funext (levelAt_succ blk idx sh g)] at hrest
      cases g with
      | none => rw [levelLoop, if_pos hlt]; exact congrArg (Except.map _) hrest
      | some A =>
        rw [levelLoop, if_pos hlt]
        simp only [zoomTo_shrink2 sh A _ _ hy2 hx2 hpy hpx]
        exact congrArg (Except.map _) hrest
    · obtain rfl : rem = 0 := by omega
      simp only [levelLoop, if_neg hlt, Except.map]
      rfl

theorem range_flatMap_range (a b : Nat) :
    (List.range a).flatMap (fun i => (List.range b).map (fun j => i * b + j)) = List.range (a * b) := by
  induction a with
  | zero => simp
  | succ a ih =>
    rw [List.range_succ, List.flatMap_append, ih, Nat.succ_mul, List.range_add]
    simp

theorem tidx_map_flat (m : Meta) :
    m.tidx.map (fun t => m.flatRaw t.1 t.2.1 t.2.2) = List.range m.numTiles := by
  unfold Meta.tidx Meta.flatRaw Meta.numTiles
  generalize m.chunked.y = cy
  generalize m.chunked.x = cx
  rw [Nat.mul_assoc, ← range_flatMap_range m.planes (cy * cx)]
  rw [List.map_flatMap]
  congr 1
  funext s
  rw [List.map_flatMap, ← range_flatMap_range cy cx, List.map_flatMap]
  congr 1
  funext y
  simp [List.map_map, Function.comp_def, Nat.add_assoc]

theorem look_updInfo (info : TileInfo) (l f off sz l' f' : Nat) :
    look (updInfo info l f off sz) l' f' =
      if l' = l ∧ f' = f ∧ (look info l f).isSome then some (off, sz) else look info l' f' := by
  unfold updInfo
  cases hl : info[l]? with
  | none =>
    have : look info l f = none := by unfold look; rw [hl]
    rw [this, if_neg (fun h => nomatch h.2.2)]
  | some p =>
    obtain ⟨os, ns⟩ := p
    have hlt : l < info.length := (List.getElem?_eq_some_iff.mp hl).1
    by_cases h1 : l' = l
    · subst h1
      by_cases h2 : f' = f
      · subst h2
        simp only [look, List.getElem?_set_self hlt, hl, List.getElem?_set_self', true_and]
        cases os[f']? <;> cases ns[f']? <;> rfl
      · rw [if_neg (fun h => h2 h.2.1)]
        simp only [look, List.getElem?_set_self hlt, hl, List.getElem?_set_ne (Ne.symm h2)]
    · rw [if_neg (fun h => h1 h.1)]
      unfold look
      rw [List.getElem?_set_ne (Ne.symm h1)]

theorem look_map_shift (info : TileInfo) (h l f : Nat) :
    look (info.map fun (os, ns) => (os.map (· + h), ns)) l f = (look info l f).map fun (o, n) => (o + h, n) := by
  unfold look
  rw [List.getElem?_map]
  cases info[l]? with
  | none => rfl
  | some p =>
    simp only [Option.map_some, List.getElem?_map]
    cases p.1[f]? <;> cases p.2[f]? <;> rfl

/-- total size of an observed stream -/
def sizes (ts : List Obs) : Nat := (ts.map (·.sz)).sum

@[simp] theorem sizes_nil : sizes [] = 0 := rfl
@[simp] theorem sizes_cons (t : Obs) (ts : List Obs) : sizes (t :: ts) = t.sz + sizes ts := by
  simp [sizes]

theorem sizes_append (a b : List Obs) : sizes (a ++ b) = sizes a + sizes b := by
  simp [sizes]

theorem extractStep_ok (ms : List Meta) (info : TileInfo) (off : Nat) (t : Obs) (st1 : TileInfo × Nat)
    (h : extractStep ms (info, off) t = .ok st1) :
    ∃ l0 f0, obsKey ms t = .ok (l0, f0) ∧ st1.2 = off + t.sz ∧
      ∀ l f, look st1.1 l f =
        if t.sz ≠ 0 ∧ l = l0 ∧ f = f0 ∧ (look info l0 f0).isSome then some (off, t.sz)
        else look info l f := by
  unfold extractStep at h
  cases hk : obsKey ms t with
  | error e => rw [hk] at h; cases h
  | ok k =>
    obtain ⟨l0, f0⟩ := k
    rw [hk] at h
    refine ⟨l0, f0, rfl, ?_⟩
    by_cases hz : t.sz ≠ 0
    · simp only [if_pos hz] at h
      cases h
      exact ⟨rfl, fun l f => by rw [look_updInfo]; simp only [hz, ne_eq, not_false_eq_true, true_and]⟩
    · simp only [if_neg hz] at h
      cases h
      exact ⟨by rw [Decidable.not_not.mp hz]; rfl, fun l f => (if_neg (fun hc => hz hc.1)).symm⟩

/-- What the loop of `_extract_tile_info` does to the table: a slot that no data-carrying observation names is unchanged;
a slot named by observation `i` and by no later one holds `(off + bytes before i, size_i)`.  `updInfo` writes only into
slots the table already has, hence `(look info l f).isSome`. -/
theorem extractLoop_spec (ms : List Meta) :
    ∀ (ts : List Obs) (info : TileInfo) (off : Nat) (info' : TileInfo) (off' : Nat),
      extractLoop ms (info, off) ts = .ok (info', off') →
      (∀ l f, (∀ t ∈ ts, t.sz ≠ 0 → obsKey ms t ≠ .ok (l, f)) → look info' l f = look info l f) ∧
      (∀ i (hi : i < ts.length) l f, ts[i].sz ≠ 0 → obsKey ms ts[i] = .ok (l, f) →
        (look info l f).isSome →
        (∀ j (hj : j < ts.length), i < j → ts[j].sz ≠ 0 → obsKey ms ts[j] ≠ .ok (l, f)) →
        look info' l f = some (off + sizes (ts.take i), ts[i].sz)) := by
  intro ts
  induction ts with
  | nil =>
    intro info off info' off' h
    cases h
    exact ⟨fun _ _ _ => rfl, fun i hi => absurd hi (Nat.not_lt_zero i)⟩
  | cons t ts ih =>
    intro info off info' off' h
    rw [extractLoop] at h
    cases hs : extractStep ms (info, off) t with
    | error e => rw [hs] at h; cases h
    | ok st1 =>
      rw [hs] at h
      obtain ⟨info1, off1⟩ := st1
      obtain ⟨l0, f0, hk0, hoff1, hlook1⟩ := extractStep_ok ms info off t _ hs
      simp only at hoff1 hlook1
      obtain ⟨a2, a4⟩ := ih info1 off1 info' off' h
      refine ⟨?_, ?_⟩
      · intro l f hno
        rw [a2 l f (fun t' ht' => hno t' (List.mem_cons_of_mem _ ht')), hlook1, if_neg]
        rintro ⟨hz, rfl, rfl, _⟩
        exact hno t List.mem_cons_self hz hk0
      · intro i hi l f hz hk hsm hlater
        have hlater' : ∀ j (hj : j < ts.length), i < j + 1 → ts[j].sz ≠ 0 → obsKey ms ts[j] ≠ .ok (l, f) :=
          fun j hj hij => hlater (j + 1) (Nat.succ_lt_succ hj) hij
        cases i with
        | zero =>
          rw [List.getElem_cons_zero] at hz hk
          cases hk0.symm.trans hk
          have hno : ∀ t' ∈ ts, t'.sz ≠ 0 → obsKey ms t' ≠ .ok (l0, f0) := fun t' ht' => by
            obtain ⟨j, hj, rfl⟩ := List.getElem_of_mem ht'
            exact hlater' j hj (Nat.succ_pos j)
          rw [a2 l0 f0 hno, hlook1, if_pos ⟨hz, rfl, rfl, hsm⟩]
          rfl
        | succ i =>
          rw [List.getElem_cons_succ] at hz hk
          have hsm1 : (look info1 l f).isSome := by rw [hlook1]; split <;> first | rfl | exact hsm
          rw [a4 i (Nat.lt_of_succ_lt_succ hi) l f hz hk hsm1 fun j hj hij => hlater' j hj (Nat.succ_lt_succ hij), hoff1]
          simp [Nat.add_assoc]

/-- the loop raises `IndexError` unless every observed tile id lies inside its IFD's grid -/
theorem extractLoop_ok_iff (ms : List Meta) : ∀ (ts : List Obs) (st : TileInfo × Nat),
    (∃ st', extractLoop ms st ts = .ok st') ↔ ∀ t ∈ ts, ∃ k, obsKey ms t = .ok k := by
  intro ts
  induction ts with
  | nil => exact fun st => ⟨(fun _ _ h => nomatch h), fun _ => ⟨st, rfl⟩⟩
  | cons t ts ih =>
    intro st
    rw [extractLoop, List.forall_mem_cons]
    unfold extractStep
    cases obsKey ms t with
    | error e => exact ⟨(fun ⟨_, h⟩ => nomatch h), fun ⟨⟨_, h⟩, _⟩ => nomatch h⟩
    | ok k =>
      have hk : ∃ k', (Except.ok k : Res (Nat × Nat)) = .ok k' := ⟨k, rfl⟩
      by_cases hz : t.sz ≠ 0
      · simp only [if_pos hz]; exact (ih _).trans (and_iff_right hk).symm
      · simp only [if_neg hz]; exact (ih _).trans (and_iff_right hk).symm

theorem extractTileInfo_ok_iff {ms : List Meta} {tiles : List Obs} {start : Nat} {info : TileInfo} :
    extractTileInfo ms tiles start = .ok info ↔ ∃ off, extractLoop ms (initInfo ms, start) tiles = .ok (info, off) := by
  unfold extractTileInfo
  cases extractLoop ms (initInfo ms, start) tiles with
  | error e => exact ⟨(fun h => nomatch h), fun ⟨_, h⟩ => nomatch h⟩
  | ok st => exact ⟨fun h => ⟨st.2, by cases h; rfl⟩, fun ⟨_, h⟩ => by cases h; rfl⟩

abbrev Tile4 := Nat × Nat × Nat × Nat

/-- one bag of `_compress_tiles(img, mm, scale_idx=l, sample_idx=s)` -/
def bag (m : Meta) (l s : Nat) : List Tile4 :=
  (List.range m.chunked.y).flatMap fun y => (List.range m.chunked.x).map fun x => (l, s, y, x)

/-- `_tiles` for the levels `ms` numbered from `k` -/
def bagsFrom (planes : Nat) (k : Nat) (ms : List Meta) : List (List Tile4) :=
  (ms.zipIdx k).flatMap fun (m, l) => (List.range planes).map fun s => bag m l s

theorem writeOrder_eq (m0 : Meta) (rest : List Meta) :
    writeOrder (m0 :: rest) = (bagsFrom m0.planes 0 (m0 :: rest)).reverse.flatten := rfl

theorem mem_bag {m : Meta} {l s : Nat} {e : Tile4} :
    e ∈ bag m l s ↔ e.1 = l ∧ e.2.1 = s ∧ e.2.2.1 < m.chunked.y ∧ e.2.2.2 < m.chunked.x := by
  simp only [bag, List.mem_flatMap, List.mem_map, List.mem_range]
  constructor
  · rintro ⟨y, hy, x, hx, rfl⟩; exact ⟨rfl, rfl, hy, hx⟩
  · rintro ⟨rfl, rfl, hy, hx⟩; exact ⟨_, hy, _, hx, rfl⟩

theorem mem_bagsFrom {planes k : Nat} {ms : List Meta} {b : List Tile4} :
    b ∈ bagsFrom planes k ms ↔ ∃ m l s, (m, l) ∈ ms.zipIdx k ∧ s < planes ∧ b = bag m l s := by
  simp only [bagsFrom, List.mem_flatMap, List.mem_map, List.mem_range, Prod.exists]
  exact ⟨fun ⟨m, l, h, s, hs, e⟩ => ⟨m, l, s, h, hs, e.symm⟩, fun ⟨m, l, s, h, hs, e⟩ => ⟨m, l, h, s, hs, e.symm⟩⟩

theorem bag_nodup (m : Meta) (l s : Nat) : (bag m l s).Nodup := by
  have h : (bag m l s).map (fun e => e.2.2.1 * m.chunked.x + e.2.2.2) =
      List.range (m.chunked.y * m.chunked.x) := by
    rw [← range_flatMap_range]
    simp only [bag, List.map_flatMap, List.map_map]
    rfl
  exact List.Nodup.of_map _ (h ▸ List.nodup_range)

theorem bagsFrom_strict (planes : Nat) (ms : List Meta) (k : Nat) :
    (bagsFrom planes k ms).Pairwise
      (fun b1 b2 => ∀ x ∈ b1, ∀ y ∈ b2, x.1 < y.1 ∨ (x.1 = y.1 ∧ x.2.1 < y.2.1)) := by
  rw [bagsFrom, List.pairwise_flatMap]
  refine ⟨fun ⟨m, l⟩ _ => ?_, ?_⟩
  · -- within a level the plane increases
    rw [List.pairwise_map]
    refine List.pairwise_lt_range.imp fun hss x hx y hy => ?_
    exact .inr ⟨(mem_bag.mp hx).1.trans (mem_bag.mp hy).1.symm, (mem_bag.mp hx).2.1 ▸ (mem_bag.mp hy).2.1 ▸ hss⟩
  · -- the level increases along `zipIdx`
    have h : ((ms.zipIdx k).map Prod.snd).Pairwise (· < ·) := List.zipIdx_map_snd k ms ▸ List.pairwise_lt_range'
    refine (List.pairwise_map.mp h).imp fun hab b1 hb1 b2 hb2 x hx y hy => ?_
    obtain ⟨s, _, rfl⟩ := List.mem_map.mp hb1
    obtain ⟨s', _, rfl⟩ := List.mem_map.mp hb2
    exact .inl ((mem_bag.mp hx).1 ▸ (mem_bag.mp hy).1 ▸ hab)

theorem writeOrder_levels_desc (ms : List Meta) :
    (writeOrder ms).Pairwise (fun a b => b.1 ≤ a.1) := by
  cases ms with
  | nil => exact List.Pairwise.nil
  | cons m0 rest =>
    rw [writeOrder_eq, List.pairwise_flatten, List.pairwise_reverse]
    refine ⟨fun b hb => ?_, (bagsFrom_strict m0.planes (m0 :: rest) 0).imp fun h x hx y hy => ?_⟩
    · obtain ⟨m, l, s, _, _, rfl⟩ := mem_bagsFrom.mp (List.mem_reverse.mp hb)
      exact List.pairwise_of_forall_mem_list fun x hx y hy => Nat.le_of_eq ((mem_bag.mp hy).1.trans (mem_bag.mp hx).1.symm)
    · exact (h y hy x hx).elim Nat.le_of_lt fun h => Nat.le_of_eq h.1

theorem pow2Below_spec : ∀ (fuel p x : Nat), 1 ≤ p → p ≤ x → x - p ≤ fuel → (∃ k, p = 2 ^ k) →
    (∃ k, pow2Below fuel p x = 2 ^ k) ∧ pow2Below fuel p x ≤ x ∧ x < 2 * pow2Below fuel p x := by
  intro fuel
  induction fuel with
  | zero =>
    intro p x h1 h2 h3 hk
    rw [pow2Below]
    exact ⟨hk, h2, by omega⟩
  | succ fuel ih =>
    intro p x h1 h2 h3 ⟨k, hk⟩
    rw [pow2Below]
    split
    · rename_i h
      exact ih (2 * p) x (Nat.le_trans h1 (Nat.le_mul_of_pos_left p Nat.two_pos)) h (by omega)
        ⟨k + 1, by rw [hk, Nat.pow_succ, Nat.mul_comm]⟩
    · rename_i h
      exact ⟨⟨k, hk⟩, h2, Nat.lt_of_not_le h⟩

/-- `align_down_pow2(x)` for `x ≥ 1`: the largest power of two not above `x` -/
theorem alignDownPow2_spec (x : Nat) (hx : 1 ≤ x) :
    (∃ k, alignDownPow2 x = 2 ^ k) ∧ alignDownPow2 x ≤ x ∧ x < 2 * alignDownPow2 x := by
  unfold alignDownPow2
  rw [if_neg (Nat.ne_of_gt hx)]
  exact pow2Below_spec x 1 x (Nat.le_refl _) hx (Nat.sub_le x 1) ⟨0, rfl⟩

end OdcGeo.C05
