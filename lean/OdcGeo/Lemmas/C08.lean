/- Helper lemmas for C08: evaluation / inversion of the `from_bbox` model, the extent of a geobox in C20's
`gridLo` / `gridHi` vocabulary, where `snap_grid` puts the origin, and the valid-input record `ValidRes`. -/
import OdcGeo.Model.C08
import OdcGeo.Lemmas.C20
import OdcGeo.Lemmas.Affine
import OdcGeo.Lemmas.Except

namespace OdcGeo.C08
open OdcGeo.C20 (snapGrid gridLo gridHi)

theorem none_not_int (n : Int) : ShapeArg.none ≠ .int n := fun h => nomatch h

section res
variable {bb : BBox} {tight : Bool} {shape : ShapeArg} {res : ResArg} {anchor : AnchorArg} {tol rx ry : Rat} {g : GeoBox}

theorem intShapeToRes_of_not_int (h : ∀ n, shape ≠ .int n) : intShapeToRes bb shape res = .ok (shape, res) := by
  cases shape with
  | none => rfl
  | int n => exact absurd rfl (h n)
  | yx a b => rfl

theorem fromBbox_res_eq (hs : ∀ n, shape ≠ .int n) (hres : res.xy? = some (rx, ry)) :
    fromBbox bb tight shape res anchor tol =
      (snapGrid bb.left bb.right rx ((snapOf tight (normAnchor anchor)).map (·.1)) tol >>= fun p =>
       snapGrid bb.bottom bb.top ry ((snapOf tight (normAnchor anchor)).map (·.2)) tol >>= fun q =>
       pure ⟨q.2, p.2, Aff.translation p.1 q.1 * Aff.scale rx ry⟩) := by
  unfold fromBbox
  rw [intShapeToRes_of_not_int hs]
  simp only [bind, Except.bind, hres]

theorem fromBbox_res_inv (hs : ∀ n, shape ≠ .int n) (hres : res.xy? = some (rx, ry))
    (h : fromBbox bb tight shape res anchor tol = .ok g) :
    snapGrid bb.left bb.right rx ((snapOf tight (normAnchor anchor)).map (·.1)) tol = .ok (g.affine.c, g.nx) ∧
    snapGrid bb.bottom bb.top ry ((snapOf tight (normAnchor anchor)).map (·.2)) tol = .ok (g.affine.f, g.ny) ∧
    g.affine = ⟨rx, 0, g.affine.c, 0, ry, g.affine.f⟩ := by
  rw [fromBbox_res_eq hs hres] at h
  obtain ⟨p, hx, h⟩ := bind_ok_iff.1 h
  obtain ⟨q, hy, h⟩ := bind_ok_iff.1 h
  have hg := Except.ok.inj h
  rw [Aff.translation_mul_scale] at hg
  cases hg
  exact ⟨hx, hy, rfl⟩

end res

theorem min_eq_gridLo (res tx : Rat) (n : Int) (hn : 0 ≤ n) :
    min tx (tx + (n : Rat) * res) = gridLo res tx n := by
  have hn' : (0 : Rat) ≤ n := Int.cast_nonneg hn
  unfold gridLo
  split_ifs with h
  · exact min_eq_left (le_add_of_nonneg_right (mul_nonneg hn' h.le))
  · exact min_eq_right (add_le_of_nonpos_right (mul_nonpos_of_nonneg_of_nonpos hn' (not_lt.mp h)))

theorem max_eq_gridHi (res tx : Rat) (n : Int) (hn : 0 ≤ n) :
    max tx (tx + (n : Rat) * res) = gridHi res tx n := by
  have hn' : (0 : Rat) ≤ n := Int.cast_nonneg hn
  unfold gridHi
  split_ifs with h
  · exact max_eq_right (le_add_of_nonneg_right (mul_nonneg hn' h.le))
  · exact max_eq_left (add_le_of_nonpos_right (mul_nonpos_of_nonneg_of_nonpos hn' (not_lt.mp h)))

/-- `GeoBox.xmin … ymax` are the `min` / `max` of the two ends of an axis; for `n ≥ 0` these are C20's
`gridLo` / `gridHi`. -/
theorem extent_eq (g : GeoBox) (hnx : 0 ≤ g.nx) (hny : 0 ≤ g.ny) :
    g.xmin = gridLo g.affine.a g.affine.c g.nx ∧ g.xmax = gridHi g.affine.a g.affine.c g.nx ∧
    g.ymin = gridLo g.affine.e g.affine.f g.ny ∧ g.ymax = gridHi g.affine.e g.affine.f g.ny :=
  ⟨min_eq_gridLo _ _ _ hnx, max_eq_gridHi _ _ _ hnx, min_eq_gridLo _ _ _ hny, max_eq_gridHi _ _ _ hny⟩

theorem gridLo_pad (res tx : Rat) (n p : Int) :
    gridLo res (tx - (p : Rat) * res) (n + p * 2) = gridLo res tx n - (p : Rat) * |res| := by
  unfold gridLo
  split_ifs with h
  · rw [abs_of_pos h]
  · rw [abs_of_nonpos (not_lt.mp h)]; push_cast; ring

theorem gridHi_pad (res tx : Rat) (n p : Int) :
    gridHi res (tx - (p : Rat) * res) (n + p * 2) = gridHi res tx n + (p : Rat) * |res| := by
  rw [C20.gridHi_eq, C20.gridHi_eq, gridLo_pad]
  push_cast
  ring

section shape
variable {bb : BBox} {tight : Bool} {anchor : AnchorArg} {tol : Rat} {ny nx : Int} {g : GeoBox}

theorem fromBbox_shape_float_eq (hnx : nx ≠ 0) (hny : ny ≠ 0) (hsn : snapOf tight (normAnchor anchor) = none) :
    fromBbox bb tight (.yx ny nx) .none anchor tol =
      .ok ⟨ny, nx, Aff.translation bb.left bb.top * Aff.scale (bb.spanX / nx) (-bb.spanY / ny)⟩ := by
  unfold fromBbox
  simp only [intShapeToRes, bind, Except.bind, ResArg.xy?, hsn, if_neg hnx, if_neg hny]
  rfl

theorem fromBbox_shape_inv (hnx : nx ≠ 0) (hny : ny ≠ 0) (h : fromBbox bb tight (.yx ny nx) .none anchor tol = .ok g) :
    g = ⟨ny, nx, ⟨bb.spanX / nx, 0, g.affine.c, 0, -bb.spanY / ny, g.affine.f⟩⟩ ∧
      (snapOf tight (normAnchor anchor) = none → g.affine.c = bb.left ∧ g.affine.f = bb.top) ∧
      ∀ sx sy, snapOf tight (normAnchor anchor) = some (sx, sy) → ∃ n1 n2,
        snapGrid bb.left bb.right (bb.spanX / nx) (some sx) tol = .ok (g.affine.c, n1) ∧
        snapGrid bb.bottom bb.top (-bb.spanY / ny) (some sy) tol = .ok (g.affine.f, n2) := by
  cases hsn : snapOf tight (normAnchor anchor) with
  | none =>
    rw [fromBbox_shape_float_eq hnx hny hsn, Aff.translation_mul_scale] at h
    cases Except.ok.inj h
    exact ⟨rfl, fun _ => ⟨rfl, rfl⟩, nofun⟩
  | some s =>
    unfold fromBbox at h
    simp only [intShapeToRes, bind, Except.bind, ResArg.xy?, hsn, if_neg hnx, if_neg hny] at h
    obtain ⟨p, hx, h⟩ := bind_ok_iff.1 h
    obtain ⟨q, hy, h⟩ := bind_ok_iff.1 h
    have hg := Except.ok.inj h
    rw [Aff.translation_mul_scale] at hg
    cases hg
    refine ⟨rfl, nofun, fun sx sy e => ?_⟩
    cases e
    exact ⟨p.2, q.2, hx, hy⟩

end shape

theorem shape_extent {nx ny : Int} (hnx : nx ≠ 0) (hny : ny ≠ 0) {w h : Rat} (hw : 0 ≤ w) (hh : 0 ≤ h) {g : GeoBox}
    (hg : g = ⟨ny, nx, ⟨w / nx, 0, g.affine.c, 0, -h / ny, g.affine.f⟩⟩) :
    g.xmin = g.affine.c ∧ g.xmax = g.affine.c + w ∧ g.ymax = g.affine.f ∧ g.ymin = g.affine.f - h := by
  have e1 : (nx : Rat) * (w / nx) = w := mul_div_cancel₀ w (Int.cast_ne_zero.mpr hnx)
  have e2 : (ny : Rat) * (-h / ny) = -h := mul_div_cancel₀ (-h) (Int.cast_ne_zero.mpr hny)
  rw [hg]
  simp only [GeoBox.xmin, GeoBox.xmax, GeoBox.ymin, GeoBox.ymax, e1, e2]
  exact ⟨min_eq_left (le_add_of_nonneg_right hw), max_eq_right (le_add_of_nonneg_right hw),
    max_eq_left (add_le_of_nonpos_right (neg_nonpos.mpr hh)),
    (min_eq_right (add_le_of_nonpos_right (neg_nonpos.mpr hh))).trans (sub_eq_add_neg _ _).symm⟩

/-- The origin a successful `snap_grid` returns sits on the anchor lattice (either sign of `res`: the origin is the
lower or the upper grid edge, and both are on it). -/
theorem snapGrid_origin_lattice {x0 x1 res tol tx op : Rat} {n : Int}
    (h : snapGrid x0 x1 res (some op) tol = .ok (tx, n)) : ∃ k : Int, (tx - op * |res|) / |res| = k := by
  obtain ⟨hr, _, hop, _⟩ := C20.snapGrid_ok h
  obtain ⟨_, _, _, i, lo⟩ := hop op rfl
  have key : ∀ k : Rat, ((k + op) * |res| - op * |res|) / |res| = k := fun k => by
    rw [add_mul, add_sub_cancel_right, mul_div_cancel_right₀ _ (abs_ne_zero.mpr hr)]
  by_cases hp : 0 < res
  · rw [gridLo, if_pos hp] at lo
    exact ⟨i, by rw [lo, key]⟩
  · have hi := C20.gridHi_eq res tx n
    rw [lo, gridHi, if_neg hp] at hi
    exact ⟨i + n, by rw [hi, ← add_mul, add_right_comm, key, Int.cast_add]⟩

/-- That origin is the lower (`res > 0`) or upper (`res < 0`) end of the interval up to `tol` of a pixel inwards and
less than a pixel outwards (on the upper side: for an interval at least a pixel long). -/
theorem snapGrid_origin {x0 x1 res tol tx op : Rat} {n : Int} (ht : 0 ≤ tol) (ht1 : tol < 1)
    (h : snapGrid x0 x1 res (some op) tol = .ok (tx, n)) :
    (0 < res → -(tol * |res|) ≤ x0 - tx ∧ x0 - tx < |res|) ∧
    (res < 0 → |res| ≤ x1 - x0 → -(tol * |res|) ≤ tx - x1 ∧ tx - x1 < |res|) := by
  obtain ⟨_, _, hop, hb⟩ := C20.snapGrid_ok h
  obtain ⟨_, hx, m, _⟩ := hop op rfl
  refine ⟨fun hp => ?_, fun hn hw => ?_⟩
  · obtain ⟨c, _⟩ := hb ht _ (.inl rfl)
    rw [gridLo, if_pos hp] at c m
    exact ⟨c, m⟩
  · obtain ⟨c, w⟩ := hb ht _ (.inr rfl)
    rw [gridHi, if_neg hn.not_gt] at c w
    exact ⟨c, (w hx).2.2 ht1 hw⟩

/-- Valid input of the resolution branch. -/
structure ValidRes (bb : BBox) (rx ry tol : Rat) (snap : Option (Rat × Rat)) : Prop where
  hx : bb.left ≤ bb.right
  hy : bb.bottom ≤ bb.top
  hrx : rx ≠ 0
  hry : ry ≠ 0
  ht : 0 ≤ tol
  ht2 : tol < 1 / 2
  hsnap : ∀ s, snap = some s → (0 ≤ s.1 ∧ s.1 < 1) ∧ (0 ≤ s.2 ∧ s.2 < 1)

theorem ValidRes.hopx {bb rx ry tol snap} (v : ValidRes bb rx ry tol snap) :
    ∀ op, snap.map (·.1) = some op → 0 ≤ op ∧ op < 1 := fun op h => by
  obtain ⟨s, hs, rfl⟩ := Option.map_eq_some_iff.mp h
  exact (v.hsnap s hs).1

theorem ValidRes.hopy {bb rx ry tol snap} (v : ValidRes bb rx ry tol snap) :
    ∀ op, snap.map (·.2) = some op → 0 ≤ op ∧ op < 1 := fun op h => by
  obtain ⟨s, hs, rfl⟩ := Option.map_eq_some_iff.mp h
  exact (v.hsnap s hs).2

end OdcGeo.C08
