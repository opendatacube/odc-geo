/- One step of the paste loop of `BlockAssembler.extract`: numpy's copy between two slices of one
axis (`roi_intersect3`, then `np.copyto`) on in-range arguments, the extra axes, and what pasting one
block / a list of blocks does to every cell of the window. -/
import OdcGeo.Lemmas.C04Tiling
namespace OdcGeo.C04
open OdcGeo OdcGeo.C17 OdcGeo.NpArray

theorem effSlice_inrange (n : Int) (s : NSlice) (h : 0 ≤ s.start ∧ s.start ≤ s.stop ∧ s.stop ≤ n) :
    effSlice n s = (s.start, s.stop - s.start) := by
  simp only [effSlice, PySlice.bounds]
  rw [clampBound_inrange _ _ ⟨h.1, Int.le_trans h.2.1 h.2.2⟩,
    clampBound_inrange _ _ ⟨Int.le_trans h.1 h.2.1, h.2.2⟩, Int.max_eq_right (Int.sub_nonneg.2 h.2.1)]

theorem assignMap_inrange (nd ns : Int) (d s : NSlice)
    (hd : 0 ≤ d.start ∧ d.start ≤ d.stop ∧ d.stop ≤ nd)
    (hs : 0 ≤ s.start ∧ s.start ≤ s.stop ∧ s.stop ≤ ns)
    (hlen : d.stop - d.start = s.stop - s.start) :
    assignMap nd ns d s = .ok fun j =>
      if d.start ≤ j ∧ j < d.stop then some (s.start + (j - d.start)) else none := by
  simp only [assignMap, effSlice_inrange nd d hd, effSlice_inrange ns s hs]
  have e : d.start + (d.stop - d.start) = d.stop := by omega
  rw [if_pos hlen, e]

/-- `roi_intersect3` of a block region `b` and a window `w`: the source / destination slices lie
inside the block / the window, have equal length, and pair window offset `j` with the block offset
of the same mosaic pixel -/
theorem intersect3N_spec (b w : NSlice) (hb : b.start ≤ b.stop) (hw : w.start ≤ w.stop) :
    ∃ s d ab, intersect3N b w = (s, d, ab) ∧
      ((0 ≤ s.start ∧ s.start ≤ s.stop ∧ s.stop ≤ b.stop - b.start) ∧
        (0 ≤ d.start ∧ d.start ≤ d.stop ∧ d.stop ≤ w.stop - w.start) ∧
        d.stop - d.start = s.stop - s.start) ∧
      ∀ j, 0 ≤ j ∧ j < w.stop - w.start →
        ((d.start ≤ j ∧ j < d.stop) ↔ (b.start ≤ w.start + j ∧ w.start + j < b.stop)) ∧
        (d.start ≤ j ∧ j < d.stop → s.start + (j - d.start) = w.start + j - b.start) := by
  unfold intersect3N
  split
  · exact ⟨_, _, _, rfl, by dsimp only; omega, fun j hj => by dsimp only; omega⟩
  · split
    · exact ⟨_, _, _, rfl, by dsimp only; omega, fun j hj => by dsimp only; omega⟩
    · exact ⟨_, _, _, rfl, by dsimp only; omega, fun j hj => by dsimp only; omega⟩

theorem axis_paste (b w : NSlice) (hb : 0 ≤ b.start ∧ b.start ≤ b.stop)
    (hw : 0 ≤ w.start ∧ w.start ≤ w.stop) :
    ∃ s d ab m, sliceIntersect3 b.toPIdx w.toPIdx = .ok (s, d, ab) ∧
      assignMap (w.stop - w.start) (b.stop - b.start) d s = .ok m ∧
      ∀ j, 0 ≤ j ∧ j < w.stop - w.start →
        m j = if b.start ≤ w.start + j ∧ w.start + j < b.stop
              then some (w.start + j - b.start) else none := by
  obtain ⟨s, d, ab, e, ⟨hs, hd, hlen⟩, hj⟩ := intersect3N_spec b w hb.2 hw.2
  refine ⟨s, d, ab, _, e ▸ sliceIntersect3_nonneg b w ⟨hb.1, by omega⟩ ⟨hw.1, by omega⟩,
    assignMap_inrange _ _ _ _ hd hs hlen, fun j hjr => ?_⟩
  obtain ⟨hiff, hval⟩ := hj j hjr
  by_cases hc : b.start ≤ w.start + j ∧ w.start + j < b.stop
  · rw [if_pos hc, if_pos (hiff.2 hc), hval (hiff.2 hc)]
  · rw [if_neg hc, if_neg (mt hiff.1 hc)]

theorem extraMaps_spec (ns : List Int) (ws : List NSlice) (h : WinOK ws ns) :
    ∃ ms, extraMaps ns ws = .ok ms ∧
      ∀ idx, InBox idx (lens ws) → mapIdx ms idx = some (shift ws idx) := by
  induction ws generalizing ns with
  | nil =>
    cases ns with
    | nil => exact ⟨[], rfl, fun | [], _ => rfl | _ :: _, hi => hi.elim⟩
    | cons n ns => exact h.elim
  | cons w ws ih =>
    cases ns with
    | nil => exact h.elim
    | cons n ns =>
      obtain ⟨hw, hrest⟩ := h
      obtain ⟨ms, hms, hspec⟩ := ih ns hrest
      have ha := assignMap_inrange (w.stop - w.start) n ⟨0, w.stop - w.start⟩ w
        ⟨Int.le_refl 0, Int.sub_nonneg.2 hw.2.1, Int.le_refl _⟩ hw (Int.sub_zero _)
      simp only [] at ha
      refine ⟨_ :: ms, by rw [extraMaps, ha, hms]; rfl, ?_⟩
      intro idx hi
      cases idx with
      | nil => exact hi.elim
      | cons j js =>
        obtain ⟨hj, hjs⟩ := hi
        simp only [mapIdx, shift, hspec js hjs, bind, Option.bind, pure]
        rw [if_pos hj, Int.sub_zero]

theorem lens_any_neg (ws : List NSlice) (ns : List Int) (h : WinOK ws ns) :
    (lens ws).any (· < 0) = false := by
  induction ws generalizing ns with
  | nil => rfl
  | cons w ws ih =>
    cases ns with
    | nil => exact h.elim
    | cons n ns =>
      obtain ⟨hw, hrest⟩ := h
      have := ih ns hrest
      simp only [lens, List.map_cons, List.any_cons] at this ⊢
      rw [this, Bool.or_false, decide_eq_false_iff_not]
      omega

section paste
variable {Val : Type}

theorem owns_unique (a : Assembler Val) (hy : ChunksOK a.chy) (hx : ChunksOK a.chx)
    (k k' : Int × Int) (hk : KeyOK a k) (hk' : KeyOK a k') (Y X : Int)
    (h : Owns a k Y X) (h' : Owns a k' Y X) : k = k' :=
  Prod.ext (Tiling.region_unique (.var a.chy) hy hk.1.1 hk'.1.1 h.1 h'.1)
    (Tiling.region_unique (.var a.chx) hx hk.2.1 hk'.2.1 h.2 h'.2)

section
variable (a : Assembler Val) (hy : ChunksOK a.chy) (hx : ChunksOK a.chx)
  (wl : List NSlice) (wy wx : NSlice) (wt : List NSlice)
  (hwy : 0 ≤ wy.start ∧ wy.start ≤ wy.stop) (hwx : 0 ≤ wx.start ∧ wx.start ≤ wx.stop)
  (hwl : WinOK wl a.lead) (hwt : WinOK wt a.trail)
include hy hx hwy hwx hwl hwt

theorem pasteBlock_spec (xx : Arr Val) (k : Int × Int) (hk : KeyOK a k) :
    ∃ xx', pasteBlock a wl wy wx wt xx k = .ok xx' ∧
      ∀ l y x t, InBox l (lens wl) → (0 ≤ y ∧ y < wy.stop - wy.start) →
        (0 ≤ x ∧ x < wx.stop - wx.start) → InBox t (lens wt) →
        xx' l y x t =
          if ((tileReg a.chy k.1).start ≤ wy.start + y ∧ wy.start + y < (tileReg a.chy k.1).stop) ∧
             ((tileReg a.chx k.2).start ≤ wx.start + x ∧ wx.start + x < (tileReg a.chx k.2).stop)
          then a.blk k (shift wl l) (wy.start + y - (tileReg a.chy k.1).start)
                 (wx.start + x - (tileReg a.chx k.2).start) (shift wt t)
          else xx l y x t := by
  obtain ⟨sy, dy, aby, my, iy, ay, spy⟩ := axis_paste (tileReg a.chy k.1) wy (tileReg_ok _ hy _) hwy
  obtain ⟨sx, dx, abx, mx, ix, ax, spx⟩ := axis_paste (tileReg a.chx k.2) wx (tileReg_ok _ hx _) hwx
  obtain ⟨ml, eml, spl⟩ := extraMaps_spec a.lead wl hwl
  obtain ⟨mt, emt, spt⟩ := extraMaps_spec a.trail wt hwt
  simp only [pasteBlock, zip2, vgetItem_tileReg _ hy _ hk.1, vgetItem_tileReg _ hx _ hk.2, iy, ix,
    ay, ax, eml, emt, bind, Except.bind, pure, Except.pure]
  refine ⟨_, rfl, ?_⟩
  intro l y x t hl hyy hxx ht
  simp only [spl l hl, spt t ht, spy y hyy, spx x hxx]
  by_cases c1 : (tileReg a.chy k.1).start ≤ wy.start + y ∧ wy.start + y < (tileReg a.chy k.1).stop
  · by_cases c2 : (tileReg a.chx k.2).start ≤ wx.start + x ∧ wx.start + x < (tileReg a.chx k.2).stop
    · simp only [c1, c2, and_self, if_true]
    · simp only [c1, c2, and_false, and_true, if_true, if_false]
  · simp only [c1, false_and, if_false]

theorem pasteAll_spec (ks : List (Int × Int)) :
    ∀ (xx : Arr Val), (∀ k ∈ ks, KeyOK a k) →
    ∃ out, pasteAll a wl wy wx wt xx ks = .ok out ∧
      ∀ l y x t, InBox l (lens wl) → (0 ≤ y ∧ y < wy.stop - wy.start) →
        (0 ≤ x ∧ x < wx.stop - wx.start) → InBox t (lens wt) →
        (∀ k ∈ ks, Owns a k (wy.start + y) (wx.start + x) →
          out l y x t = a.blk k (shift wl l) (wy.start + y - (tileReg a.chy k.1).start)
            (wx.start + x - (tileReg a.chx k.2).start) (shift wt t)) ∧
        ((∀ k ∈ ks, ¬ Owns a k (wy.start + y) (wx.start + x)) → out l y x t = xx l y x t) := by
  induction ks with
  | nil =>
    intro xx _
    refine ⟨xx, rfl, ?_⟩
    intro l y x t _ _ _ _
    exact ⟨nofun, fun _ => rfl⟩
  | cons k ks ih =>
    intro xx hks
    have hk : KeyOK a k := hks k List.mem_cons_self
    obtain ⟨xx', hp, hspec⟩ := pasteBlock_spec a hy hx wl wy wx wt hwy hwx hwl hwt xx k hk
    obtain ⟨out, ho, hout⟩ := ih xx' (fun k' hk' => hks k' (List.mem_cons_of_mem _ hk'))
    refine ⟨out, by rw [pasteAll, hp]; exact ho, ?_⟩
    intro l y x t hl hyy hxx ht
    obtain ⟨o1, o2⟩ := hout l y x t hl hyy hxx ht
    have hs := hspec l y x t hl hyy hxx ht
    constructor
    · intro k' hk' hown
      rcases List.mem_cons.1 hk' with rfl | hk'
      · -- a later block on the same pixel has the same key and overwrites with the same cell
        by_cases hin : ∃ k'' ∈ ks, Owns a k'' (wy.start + y) (wx.start + x)
        · obtain ⟨k'', hk'', hown''⟩ := hin
          rw [owns_unique a hy hx _ k'' hk (hks k'' (List.mem_cons_of_mem _ hk'')) _ _ hown hown'']
          exact o1 k'' hk'' hown''
        · rw [o2 fun k'' hk'' ho => hin ⟨k'', hk'', ho⟩, hs]
          exact if_pos hown
      · exact o1 k' hk' hown
    · intro hnone
      rw [o2 (fun k' hk' => hnone k' (List.mem_cons_of_mem _ hk')), hs]
      exact if_neg (hnone k List.mem_cons_self)

end

end paste

end OdcGeo.C04
