/-
`Model/C03` carries its own copies of the scalar helpers of `math.py`; they are those of `Model/C20` (`split_float`,
`is_almost_int` by `rfl`, `maybe_int` by `maybeInt_eq_C20`, `snap_scale` wherever C20's error-aware model succeeds by
`snapScale_of_C20`), so what `_pick_read_scale` does with `maybe_int` is read off `Lemmas/C20Scalar`.
-/
import OdcGeo.Model.C03
import OdcGeo.Lemmas.C20Scalar
namespace OdcGeo.C03

theorem rabs_eq_abs (x : Rat) : rabs x = |x| := Gen.Py.absR_eq_abs x

/-- `maybe_int`: C03 returns the whole part itself, C20 the `int(...)` of it — the same number. -/
theorem maybeInt_eq_C20 (x tol : Rat) : maybeInt x tol = C20.maybeInt x tol := by
  unfold maybeInt C20.maybeInt C20.maybeInt?
  show (if C20.rabs (C20.splitFloat x).2 < tol then (C20.splitFloat x).1 else x) = _
  by_cases h : C20.rabs (C20.splitFloat x).2 < tol
  · simp only [h, if_true]; exact (C20.trunc_splitFloat x).symm
  · simp only [h, if_false]

theorem snapScale_of_C20 {s tol r : Rat} (h : C20.snapScale s tol = .ok r) : snapScale s tol = r := by
  unfold C20.snapScale at h
  unfold snapScale
  show (if C20.rabs s ≥ 1 - tol then maybeInt s tol else if C20.rabs s < tol then s else
      if C20.rabs (C20.splitFloat (1 / s)).2 < tol then 1 / (C20.splitFloat (1 / s)).1 else s) = r
  by_cases c1 : C20.rabs s ≥ 1 - tol
  · rw [if_pos c1] at h ⊢
    rw [maybeInt_eq_C20]; exact Except.ok.inj h
  · rw [if_neg c1] at h ⊢
    by_cases c2 : C20.rabs s < tol
    · rw [if_pos c2] at h ⊢; exact Except.ok.inj h
    · rw [if_neg c2] at h ⊢
      by_cases c3 : s = 0
      · rw [if_pos c3] at h; cases h
      · rw [if_neg c3] at h
        unfold C20.maybeInt? at h
        by_cases c4 : C20.rabs (C20.splitFloat (1 / s)).2 < tol
        · simp only [c4, if_true] at h
          rw [if_pos c4]
          split_ifs at h
          rw [← Except.ok.inj h, C20.trunc_splitFloat]
        · simp only [c4, if_false] at h
          rw [if_neg c4]; exact Except.ok.inj h

theorem pickReadScale_cases {scale tol : Rat} {rs : Int} (h : pickReadScale scale tol = .ok rs) :
    (scale < 1 ∧ rs = 1) ∨
    (1 ≤ scale ∧ (rs = scale.floor ∨ (rs = scale.floor + 1 ∧ (scale.floor : Rat) + 1 - scale < tol))) := by
  unfold pickReadScale at h
  split_ifs at h with c1 c2
  · exact Or.inl ⟨c2, (Except.ok.inj h).symm⟩
  · have hs : 1 ≤ scale := not_lt.mp c2
    refine Or.inr ⟨hs, ?_⟩
    rw [← Except.ok.inj h, maybeInt_eq_C20]
    cases hm : C20.maybeInt? scale tol with
    | none =>
      rw [C20.maybeInt_of_none hm]
      exact Or.inl (Gen.Py.trunc_of_nonneg (zero_le_one.trans hs))
    | some k =>
      -- `k` is the integer nearest to `scale`, less than `tol` away: the floor, or the next one
      rw [C20.maybeInt_of_some hm, show trunc (k : Rat) = k from Gen.Py.trunc_intCast k]
      obtain ⟨-, h1, h2⟩ := C20.maybeInt?_some hm
      rcases le_or_gt (k : Rat) scale with hk | hk
      · exact Or.inl (floor_eq_iff.mpr ⟨hk, by linarith only [(abs_le.mp h2).2]⟩).symm
      · have hf : scale.floor = k - 1 :=
          floor_eq_iff.mpr ⟨by push_cast; linarith only [(abs_le.mp h2).1], by push_cast; linarith only [hk]⟩
        exact Or.inr ⟨by omega, by rw [hf]; push_cast; linarith only [(abs_lt.mp h1).1]⟩

theorem pickReadScale_pos {scale tol : Rat} {rs : Int} (h : pickReadScale scale tol = .ok rs) : 1 ≤ rs := by
  rcases pickReadScale_cases h with ⟨_, rfl⟩ | ⟨hs, k⟩
  · exact le_refl _
  · have hfl : 1 ≤ scale.floor := Rat.le_floor_iff.mpr (by exact_mod_cast hs)
    rcases k with rfl | ⟨rfl, _⟩ <;> omega

end OdcGeo.C03
