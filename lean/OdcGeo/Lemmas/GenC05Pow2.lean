/-
Bridge for `compute_cog_spec`: the regenerated `align_down_pow2` (the code's `2 ** int(ceil(log2 x))`, halved when above `x`)
equals C05's fuel-based `alignDownPow2` on naturals.  Route: regenerated = C20's model (`ceil(log2)` form, same proof as
`tie_align_up_pow2` in `Props/GenC20/AlignUpPow2.lean`), and C20's model = C05's model because both are the power of two `p` with `p ≤ x < 2 p`.
-/
import OdcGeo.Gen.C05
import OdcGeo.Gen.Tie
import OdcGeo.Lemmas.GenC20
import OdcGeo.Lemmas.C20b
import OdcGeo.Lemmas.C05

namespace OdcGeo.C05
open OdcGeo.Gen

theorem gen_align_up_pow2_eq (x : Int) : Gen.C05.align_up_pow2 x = .ok (C20.alignUpPow2 x) := by
  by_cases h : x ≤ 0
  · simp [Gen.C05.align_up_pow2, C20.alignUpPow2, h]
  · simp [Gen.C05.align_up_pow2, C20.alignUpPow2, h, C20.py_ceilLog2_eq x (by omega), C20.py_ipow_two_nat]

theorem gen_align_down_pow2_eq (x : Int) : Gen.C05.align_down_pow2 x = .ok (C20.alignDownPow2 x) := by
  unfold Gen.C05.align_down_pow2 C20.alignDownPow2
  rw [gen_align_up_pow2_eq]
  by_cases h : C20.alignUpPow2 x > x
  · simp only [h, if_true, Int.fdiv_eq_ediv_of_nonneg _ (show (0 : Int) ≤ 2 by decide)]
  · simp only [h, if_false]

/-- the two models of "largest power of two `≤ x`" agree -/
theorem alignDownPow2_bridge (mp : Nat) (h : 0 < mp) :
    C20.alignDownPow2 (mp : Int) = ((alignDownPow2 mp : Nat) : Int) := by
  obtain ⟨n, hA, hle, hgr⟩ := C20.alignDownPow2_greatest (mp : Int) (by omega)
  obtain ⟨⟨k, hB⟩, hBle, hBlt⟩ := alignDownPow2_spec mp (by omega)
  rw [hA, hB]
  have hle' : 2 ^ n ≤ mp := by exact_mod_cast hle
  have h1 : 2 ^ k ≤ 2 ^ n := by exact_mod_cast hgr k (by exact_mod_cast hB ▸ hBle)
  -- `2 ^ n ≤ mp < 2 ^ (k + 1)`, so `n ≤ k`
  have h2 : 2 ^ n < 2 ^ (k + 1) := Nat.lt_of_le_of_lt hle' (by rw [Nat.pow_succ, Nat.mul_comm, ← hB]; exact hBlt)
  have h3 : n ≤ k := Nat.lt_succ_iff.mp ((Nat.pow_lt_pow_iff_right (by decide)).mp h2)
  exact_mod_cast Nat.le_antisymm (Nat.pow_le_pow_right Nat.two_pos h3) h1

/-- the regenerated `align_down_pow2` on a positive natural -/
theorem gen_align_down_pow2_nat (mp : Nat) (h : 0 < mp) :
    Gen.C05.align_down_pow2 (mp : Int) = .ok ((alignDownPow2 mp : Nat) : Int) := by
  rw [gen_align_down_pow2_eq, alignDownPow2_bridge mp h]

end OdcGeo.C05
