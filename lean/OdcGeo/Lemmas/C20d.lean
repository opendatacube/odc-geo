/- Closed form of the step-by-step `decompose_rws` model. -/
import OdcGeo.Model.C20
import OdcGeo.Lemmas.Affine
import Mathlib.Tactic.Linarith
import Mathlib.Tactic.FieldSimp
import Mathlib.Tactic.LinearCombination

namespace OdcGeo.C20

/-- What `decompose_rws` does after `R = A @ inv(WS)`: the determinant test with the column / row flip, then
`S = diag(WS)`, `W = WS @ diag(1 / S)`. -/
def rwsFinish (R WS : Aff) : RWS :=
  let flip := decide (R.det < 0)
  let R := if flip then m2 R.a (-R.b) R.d (-R.e) else R
  let WS := if flip then m2 WS.a WS.b (-WS.d) (-WS.e) else WS
  ⟨R, WS * m2 (1 / WS.a) 0 0 (1 / WS.e), m2 WS.a 0 0 WS.e⟩

theorem decomposeRws2_eq_finish (A : Aff) (n p : Rat) :
    decomposeRws2 A n p =
      rwsFinish (m2 A.a A.b A.d A.e * m2inv (m2 n ((A.b * A.a + A.e * A.d) / n) 0 p))
        (m2 n ((A.b * A.a + A.e * A.d) / n) 0 p) := rfl

/-- On a rotation whose second column carries the sign `s = ±1`, with an upper triangular `WS`: the flip
moves `s` from the column of `R` to the last row of `WS`. -/
theorem rwsFinish_rot {ca sa n m p s : Rat} (hs : s * s = 1) (hcs : ca * ca + sa * sa = 1)
    (hn : n ≠ 0) (hp : p ≠ 0) :
    rwsFinish (m2 ca (s * -sa) sa (s * ca)) (m2 n m 0 p) =
      ⟨m2 ca (-sa) sa ca, m2 1 (m / (s * p)) 0 1, m2 n 0 0 (s * p)⟩ := by
  have hdet : (m2 ca (s * -sa) sa (s * ca)).det = s := by
    simp only [m2, Aff.det]; linear_combination s * hcs
  unfold rwsFinish
  simp only [hdet]
  rcases mul_self_eq_one_iff.mp hs with rfl | rfl
  · simp [m2, Aff.mul_def, Aff.mul, hn, hp, show ¬ (1 : Rat) < 0 by norm_num, div_eq_mul_inv]
  · simp [m2, Aff.mul_def, Aff.mul, hn, hp, show (-1 : Rat) < 0 by norm_num, div_eq_mul_inv]

theorem rws_pn {a b d e n p : Rat} (hn : 0 < n) (hn2 : n * n = a * a + d * d)
    (hp2 : p * p = (b * b + e * e) - ((b * a + e * d) / n) ^ 2) :
    (p * n) * (p * n) = (a * e - b * d) * (a * e - b * d) := by
  have h : ((b * a + e * d) / n) ^ 2 * (n * n) = (b * a + e * d) ^ 2 := by
    rw [div_pow, ← sq n, div_mul_cancel₀ _ (pow_ne_zero 2 hn.ne')]
  linear_combination (n * n) * hp2 - h + (b * b + e * e) * hn2

/-- `A @ inv(WS)` with `WS = [[n, m], [0, p]]`, `m = (ba+ed)/n`, when `p·n = s·det`, `s = ±1`. -/
theorem rws_R0 {a b d e n p s : Rat} (hn : 0 < n) (hn2 : n * n = a * a + d * d) (hp : 0 < p)
    (hs : s * s = 1) (hpn : p * n = s * (a * e - b * d)) :
    m2 a b d e * m2inv (m2 n ((b * a + e * d) / n) 0 p) =
      m2 (a / n) (s * -(d / n)) (d / n) (s * (a / n)) := by
  have hne : n ≠ 0 := ne_of_gt hn
  have hpe : p ≠ 0 := ne_of_gt hp
  have hnp : n * p ≠ 0 := mul_ne_zero hne hpe
  simp only [m2, m2inv, Aff.mul_def, Aff.mul, Aff.det, mul_zero, sub_zero, neg_zero, zero_div, add_zero]
  ext <;> simp only [] <;> field_simp
  · linear_combination b * hn2 + (d * s) * hpn + (d * (a * e - b * d)) * hs
  · linear_combination e * hn2 - (a * s) * hpn - (a * (a * e - b * d)) * hs

theorem decomposeRws2_closed (A : Aff) (n p : Rat) (hn : 0 < n)
    (hn2 : n * n = A.a * A.a + A.d * A.d) (hp : 0 < p)
    (hp2 : p * p = (A.b * A.b + A.e * A.e) - ((A.b * A.a + A.e * A.d) / n) ^ 2) :
    decomposeRws2 A n p =
      ⟨m2 (A.a / n) (-A.d / n) (A.d / n) (A.a / n), m2 1 ((A.a * A.b + A.d * A.e) / A.det) 0 1,
       m2 n 0 0 (A.det / n)⟩ := by
  obtain ⟨a, b, c, d, e, f⟩ := A
  simp only [Aff.det] at hn2 hp2 ⊢
  have hne : n ≠ 0 := ne_of_gt hn
  have hnn : (a / n) * (a / n) + (d / n) * (d / n) = 1 := by
    field_simp; linarith only [hn2]
  -- `p·n = ±det`: the sign is what the flip removes
  obtain ⟨s, hs, hpn⟩ : ∃ s : Rat, s * s = 1 ∧ p * n = s * (a * e - b * d) := by
    rcases mul_self_eq_mul_self_iff.mp (rws_pn hn hn2 hp2) with h | h
    · exact ⟨1, mul_one 1, by rw [h, one_mul]⟩
    · exact ⟨-1, by norm_num, by rw [h, neg_one_mul]⟩
  have hsp : s * p = (a * e - b * d) / n := by
    rw [eq_div_iff hne]; linear_combination s * hpn + (a * e - b * d) * hs
  rw [decomposeRws2_eq_finish, rws_R0 hn hn2 hp hs hpn, rwsFinish_rot hs hnn hne hp.ne', hsp, neg_div,
    div_div_div_cancel_right₀ hne, mul_comm a b, mul_comm d e]

end OdcGeo.C20
