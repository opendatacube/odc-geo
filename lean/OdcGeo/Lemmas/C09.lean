/- Helper lemmas for C09: arithmetic progressions of labels (`ap`), slice index ranges, what `dataResOff` / `affineFromAxis` /
`extractTransform` return on them (`resOf`, `apAff`), coordinate lists, the index maps of a history (`AxMap`, `track`, `idxAff`). -/
import OdcGeo.Model.C09
import OdcGeo.Lemmas.Affine
import OdcGeo.Lemmas.Except
import OdcGeo.Lemmas.Py
import Mathlib.Tactic.Linarith
import Mathlib.Tactic.Ring
import Mathlib.Algebra.Order.Field.Rat

namespace OdcGeo.C09
open OdcGeo OdcGeo.PySliceStep

/-- arithmetic progression of `n` labels `c, c+d, …` -/
def ap (c d : Rat) (n : Nat) : List Rat := (List.range n).map (fun (k : Nat) => c + (k : Rat) * d)

theorem ap_length (c d : Rat) (n : Nat) : (ap c d n).length = n := by simp [ap]

theorem ap_one (c d : Rat) : ap c d 1 = [c] := by simp [ap]

theorem ap_getElem?_toNat (c d : Rat) (n : Nat) (i : Int) (h0 : 0 ≤ i) (hn : i < n) :
    (ap c d n)[i.toNat]? = some (c + (i : Rat) * d) := by
  obtain ⟨j, rfl⟩ := Int.eq_ofNat_of_zero_le h0
  have hj : j < n := by omega
  simp [ap, hj]

theorem pixelLabels_eq_ap (n : Nat) : pixelLabels n = ap (1 / 2) 1 n := by
  unfold pixelLabels ap
  apply List.map_congr_left
  intro k _
  ring

theorem axisLabels_eq_ap (n : Nat) (r t : Rat) : axisLabels n r t = ap (t + r / 2) r n := by
  unfold axisLabels ap
  apply List.map_congr_left
  intro k _
  ring

theorem adjust_bounds (n lower upper dflt : Int) (x : Option Int)
    (h : lower ≤ dflt ∧ dflt ≤ upper ∧ lower ≤ 0 ∧ n - 1 ≤ upper := by omega) :
    lower ≤ adjust n lower upper dflt x ∧ adjust n lower upper dflt x ≤ upper := by
  cases x with
  | none => exact ⟨h.1, h.2.1⟩
  | some v =>
    show lower ≤ (if v < 0 then max (v + n) lower else min v upper) ∧
      (if v < 0 then max (v + n) lower else min v upper) ≤ upper
    split <;> omega

theorem step_within {d q : Int} (hq : 0 < q) (hd : 0 ≤ d) {k : Nat} (hk : k < (d / q + 1).toNat) :
    0 ≤ (k : Int) * q ∧ (k : Int) * q ≤ d := by
  have hq0 : 0 ≤ d / q := Int.ediv_nonneg hd hq.le
  have hk' : (k : Int) ≤ d / q := by omega
  exact ⟨Int.mul_nonneg (Int.natCast_nonneg k) hq.le, (Int.le_ediv_iff_mul_le hq).mp hk'⟩

theorem indices_in_range (n : Nat) (start stop : Option Int) (step : Int) (hs : step ≠ 0)
    (k : Nat) (hk : k < (indices n start stop step).2) :
    0 ≤ (indices n start stop step).1 + (k : Int) * step ∧
      (indices n start stop step).1 + (k : Int) * step < n := by
  unfold indices at hk ⊢
  by_cases hpos : 0 < step
  · rw [if_pos hpos] at hk ⊢
    have hlo := adjust_bounds n 0 n 0 start
    have hhi := adjust_bounds n 0 n n stop
    generalize adjust n 0 n 0 start = lo at *
    generalize adjust n 0 n n stop = hi at *
    dsimp only at hk ⊢
    split at hk
    · obtain ⟨h1, h2⟩ := step_within hpos (by omega) hk
      omega
    · exact absurd hk (Nat.not_lt_zero _)
  · rw [if_neg hpos] at hk ⊢
    have hlo := adjust_bounds n (-1) (n - 1) (n - 1) start
    have hhi := adjust_bounds n (-1) (n - 1) (-1) stop
    generalize adjust n (-1) (n - 1) (n - 1) start = lo at *
    generalize adjust n (-1) (n - 1) (-1) stop = hi at *
    dsimp only at hk ⊢
    split at hk
    · obtain ⟨h1, h2⟩ := step_within (by omega : 0 < -step) (by omega) hk
      rw [Int.mul_neg] at h1 h2
      omega
    · exact absurd hk (Nat.not_lt_zero _)

theorem pick_ap {c d : Rat} {n : Nat} {start stop : Option Int} {step : Int} (hs : step ≠ 0) :
    pick (ap c d n) start stop step =
      ap (c + ((indices n start stop step).1 : Rat) * d) ((step : Rat) * d) (indices n start stop step).2 := by
  unfold pick sel
  rw [ap_length]
  generalize hI : indices n start stop step = I
  obtain ⟨s0, len⟩ := I
  simp only
  rw [List.filterMap_map]
  show _ = List.map _ (List.range len)
  rw [← List.filterMap_eq_map']
  apply List.filterMap_congr
  intro k hk
  have hr := indices_in_range n start stop step hs k (by rw [hI]; exact List.mem_range.mp hk)
  rw [hI] at hr
  rw [Function.comp, ap_getElem?_toNat c d n _ hr.1 hr.2]
  congr 1
  push_cast
  ring

theorem ap_succ (c d : Rat) (n : Nat) : ap c d (n + 1) = c :: ap (c + d) d n := by
  unfold ap
  rw [List.range_succ_eq_map, List.map_cons, List.map_map]
  congr 1
  · simp
  · apply List.map_congr_left
    intro k _
    simp only [Function.comp, Nat.succ_eq_add_one, Nat.cast_add, Nat.cast_one]
    ring

theorem dataResOff_ap_ge2 {c d : Rat} {n : Nat} (hn : 2 ≤ n) (fb : Option Rat) :
    dataResOff (ap c d n) fb = .ok (d, c - (1 / 2) * d) := by
  obtain ⟨m, rfl⟩ : ∃ m, n = m + 2 := ⟨n - 2, by omega⟩
  have hlast : ∀ h, (ap (c + d) d (m + 1)).getLast h = c + ((m : Rat) + 1) * d := by
    intro h
    rw [List.getLast_eq_getElem]
    simp only [ap, List.getElem_map, List.getElem_range, List.length_map, List.length_range, Nat.add_sub_cancel]
    ring
  rw [ap_succ] at hlast
  have hne : ((m + 2 : Nat) : Rat) - 1 ≠ 0 := by
    push_cast
    have : (0 : Rat) ≤ (m : Rat) := Nat.cast_nonneg m
    linarith
  rw [ap_succ, ap_succ]
  simp only [dataResOff, ap_length, hlast]
  rw [show (c + ((m : Rat) + 1) * d - c) / (((m + 2 : Nat) : Rat) - 1) = d by
    rw [div_eq_iff hne]; push_cast; ring]

theorem dataResOff_ap_one (c d : Rat) (fb : Option Rat) :
    dataResOff (ap c d 1) fb = match fb with
      | none => .error .valueError
      | some r => .ok (r, c - (1 / 2) * r) := by
  cases fb <;> simp [ap, dataResOff]

theorem dataResOff_ap_zero (c d : Rat) (fb : Option Rat) :
    dataResOff (ap c d 0) fb = .error .valueError := by
  simp [ap, dataResOff]

theorem dataResOff_ap_short {c d : Rat} {n : Nat} (h : n < 2) : dataResOff (ap c d n) none = .error .valueError := by
  obtain rfl | rfl : n = 0 ∨ n = 1 := by omega
  · exact dataResOff_ap_zero c d none
  · exact dataResOff_ap_one c d none

theorem dataResOff_err {d : List Rat} {f : Option Rat} {e : ErrKind} (h : dataResOff d f = .error e) : e = .valueError := by
  unfold dataResOff at h
  split at h
  · cases h; rfl
  · split at h
    · cases h; rfl
    · cases h
  · cases h

theorem affineFromAxis_empty (xs ys : List Rat) (fb : Option (Rat × Rat)) (h : xs = [] ∨ ys = []) :
    affineFromAxis xs ys fb = .error .valueError := by
  rcases h with rfl | rfl
  · rfl
  · unfold affineFromAxis
    cases hx : dataResOff xs (fb.map (·.1)) with
    | error e => rw [dataResOff_err hx]; rfl
    | ok px => rfl

theorem extractTransform_empty (xs ys : List Rat) (A : Aff) (cc : Option CrsCoord) (h : xs = [] ∨ ys = []) :
    extractTransform xs ys (some A) cc false = .ok none := by
  simp [extractTransform, affineFromAxis_empty xs ys _ h, fallbackRes]

theorem affineFromAxis_ok {xs ys : List Rat} {fb : Option (Rat × Rat)} {t : Aff}
    (h : affineFromAxis xs ys fb = .ok t) : t.b = 0 ∧ t.d = 0 ∧ 1 ≤ ys.length ∧ 1 ≤ xs.length := by
  have hlen : ∀ (l : List Rat) (f : Option Rat) (p : Rat × Rat), dataResOff l f = .ok p → 1 ≤ l.length := by
    intro l f p hp
    cases l with
    | nil => cases hp
    | cons _ _ => exact Nat.succ_le_succ (Nat.zero_le _)
  obtain ⟨px, hx, h⟩ := bind_ok_iff.mp h
  obtain ⟨py, hy, h⟩ := bind_ok_iff.mp h
  cases h
  rw [Aff.translation_mul_scale]
  exact ⟨rfl, rfl, hlen _ _ _ hy, hlen _ _ _ hx⟩

theorem extractTransform_ok_some {xs ys : List Rat} {xf : Option Aff} {cc : Option CrsCoord} {gcp : Bool} {T : Aff}
    (h : extractTransform xs ys xf cc gcp = .ok (some T)) :
    ∃ fb t, affineFromAxis xs ys fb = .ok t ∧ T = composeP2W (if gcp then none else xf) t := by
  unfold extractTransform at h
  generalize (if gcp then none else xf) = p2w at h ⊢
  simp only at h
  split at h
  · rename_i t ht
    exact ⟨none, t, ht, (Option.some.inj (Except.ok.inj h)).symm⟩
  · split at h
    · cases h
    · cases h
    · rename_i r _
      split at h
      · rename_i t ht
        exact ⟨some r, t, ht, (Option.some.inj (Except.ok.inj h)).symm⟩
      · cases h

/-- the CRS coordinate a coordinate is, if it is one: what `crsScan` collects -/
def Coord.crs? : Coord → Option CrsCoord
  | .crs c => some c
  | _ => none

theorem Coord.crs?_eq_some {c : Coord} {c' : CrsCoord} : c.crs? = some c' ↔ c = .crs c' := by
  cases c <;> simp [Coord.crs?]

theorem crsScan_eq (cs : List (String × Coord)) : crsScan cs = cs.filterMap (fun kc => kc.2.crs?) := by
  unfold crsScan
  apply List.filterMap_congr
  intro kc _
  cases kc.2 <;> rfl

theorem crsScan_append (l1 l2 : List (String × Coord)) : crsScan (l1 ++ l2) = crsScan l1 ++ crsScan l2 :=
  List.filterMap_append

theorem crsScan_eq_nil (l : List (String × Coord)) (h : ∀ kc ∈ l, kc.2.crs? = none) : crsScan l = [] := by
  rw [crsScan_eq]
  exact List.filterMap_eq_nil_iff.mpr h

theorem lookup_cons_ne {k k' : String} {c : Coord} {l : List (String × Coord)} (h : k ≠ k') :
    List.lookup k ((k', c) :: l) = List.lookup k l := by
  have : (k == k') = false := by simpa using h
  rw [List.lookup_cons, this]

section mapCoord
variable {nm : String} {f : Coord → Coord} {cs : List (String × Coord)}

theorem mapCoord_eq_map :
    mapCoord nm f cs = cs.map (fun kc => if kc.1 = nm then (kc.1, f kc.2) else kc) := by
  induction cs with
  | nil => rfl
  | cons hd tl ih => rw [mapCoord, ih, List.map_cons]

theorem lookup_mapCoord_ne {k : String} (h : k ≠ nm) :
    (mapCoord nm f cs).lookup k = cs.lookup k := by
  induction cs with
  | nil => rfl
  | cons hd tl ih =>
    obtain ⟨k', c⟩ := hd
    simp only [mapCoord]
    by_cases hk : k' = nm
    · subst hk
      simp only [if_true, List.lookup_cons]
      have : (k == k') = false := by simpa using h
      simp [this, ih]
    · simp only [hk, if_false, List.lookup_cons]
      split <;> simp_all

theorem lookup_mapCoord_eq :
    (mapCoord nm f cs).lookup nm = (cs.lookup nm).map f := by
  induction cs with
  | nil => rfl
  | cons hd tl ih =>
    obtain ⟨k', c⟩ := hd
    simp only [mapCoord]
    by_cases hk : k' = nm
    · subst hk
      simp
    · have : (nm == k') = false := by simpa using fun h => hk h.symm
      simp [hk, List.lookup_cons, this, ih]

theorem crsScan_mapCoord
    (hf : ∀ c, (nm, c) ∈ cs → (f c).crs? = c.crs?) : crsScan (mapCoord nm f cs) = crsScan cs := by
  rw [crsScan_eq, crsScan_eq, mapCoord_eq_map, List.filterMap_map]
  apply List.filterMap_congr
  rintro ⟨k, c⟩ hm
  by_cases hk : k = nm
  · subst hk
    simpa using hf c hm
  · simp [hk]

theorem mem_crs_mapCoord
    (hf : ∀ c, (nm, c) ∈ cs → (f c).crs? = c.crs?) (k : String) (c' : CrsCoord)
    (h : (k, Coord.crs c') ∈ mapCoord nm f cs) : (k, Coord.crs c') ∈ cs := by
  rw [mapCoord_eq_map, List.mem_map] at h
  obtain ⟨⟨k0, c0⟩, hm, he⟩ := h
  by_cases hk : k0 = nm
  · subst hk
    simp only [if_true, Prod.mk.injEq] at he
    obtain ⟨rfl, he⟩ := he
    have := hf c0 hm
    rw [he] at this
    rwa [← Coord.crs?_eq_some.mp this.symm]
  · simp only [hk, if_false] at he
    rwa [← he]

end mapCoord

theorem rabs_eq_abs (x : Rat) : rabs x = |x| := Gen.Py.absR_eq_abs x

/-- the 1-D resolution the code ends up with: from the labels when there are at least two -/
def resOf (n : Nat) (d fb : Rat) : Rat := if 2 ≤ n then d else fb

theorem resOf_ge2 {n : Nat} (h : 2 ≤ n) (d fb : Rat) : resOf n d fb = d := if_pos h

theorem resOf_one (d fb : Rat) : resOf 1 d fb = fb := rfl

theorem resOf_same (n : Nat) (d : Rat) : resOf n d d = d := ite_self d

theorem resOf_mul (n : Nat) (s r : Rat) : resOf n (s * r) r = resOf n s 1 * r := by
  unfold resOf
  split
  · rfl
  · exact (one_mul r).symm

theorem mul_resOf {n k : Nat} (hk : k < n) (d fb : Rat) : (k : Rat) * resOf n d fb = (k : Rat) * d := by
  unfold resOf
  split
  · rfl
  · obtain rfl : k = 0 := by omega
    simp

theorem dataResOff_ap {c d : Rat} {n : Nat} (hn : 1 ≤ n) (fb : Rat) :
    dataResOff (ap c d n) (some fb) = .ok (resOf n d fb, c - (1 / 2) * resOf n d fb) := by
  by_cases h2 : 2 ≤ n
  · rw [resOf_ge2 h2, dataResOff_ap_ge2 h2]
  · obtain rfl : n = 1 := by omega
    rw [dataResOff_ap_one]
    rfl

/-- the pixel transform read off the labels `cx + j·dx` (`nx` of them) and `cy + i·dy` (`ny` of them); `fb` is the
resolution assumed on a one-element axis -/
def apAff (cx dx cy dy : Rat) (nx ny : Nat) (fb : Rat × Rat) : Aff :=
  Aff.translation (cx - (1 / 2) * resOf nx dx fb.1) (cy - (1 / 2) * resOf ny dy fb.2) *
    Aff.scale (resOf nx dx fb.1) (resOf ny dy fb.2)

section apAff
variable {cx dx cy dy : Rat} {nx ny : Nat}

theorem apAff_eq (fb : Rat × Rat) :
    apAff cx dx cy dy nx ny fb = ⟨resOf nx dx fb.1, 0, cx - (1 / 2) * resOf nx dx fb.1,
      0, resOf ny dy fb.2, cy - (1 / 2) * resOf ny dy fb.2⟩ :=
  Aff.translation_mul_scale _ _ _ _

theorem affineFromAxis_ap_some (hx : 1 ≤ nx) (hy : 1 ≤ ny) (fb : Rat × Rat) :
    affineFromAxis (ap cx dx nx) (ap cy dy ny) (some fb) = .ok (apAff cx dx cy dy nx ny fb) := by
  simp only [affineFromAxis, Option.map_some, dataResOff_ap hx, dataResOff_ap hy]
  rfl

theorem affineFromAxis_ap_none_ge2 (hx : 2 ≤ nx) (hy : 2 ≤ ny) (fb : Rat × Rat) :
    affineFromAxis (ap cx dx nx) (ap cy dy ny) none = .ok (apAff cx dx cy dy nx ny fb) := by
  simp only [affineFromAxis, Option.map_none, dataResOff_ap_ge2 hx, dataResOff_ap_ge2 hy, apAff,
    resOf_ge2 hx, resOf_ge2 hy]
  rfl

theorem affineFromAxis_ap_none_short (h : ¬ (2 ≤ nx ∧ 2 ≤ ny)) :
    affineFromAxis (ap cx dx nx) (ap cy dy ny) none = .error .valueError := by
  by_cases h2 : 2 ≤ nx
  · simp [affineFromAxis, dataResOff_ap_ge2 h2, dataResOff_ap_short (not_le.mp fun hy => h ⟨h2, hy⟩), bind, Except.bind]
  · simp [affineFromAxis, dataResOff_ap_short (not_le.mp h2), bind, Except.bind]

theorem extractTransform_ap (hx : 1 ≤ nx) (hy : 1 ≤ ny)
    {xf : Option Aff} {cc : Option CrsCoord} {gcp : Bool} {fb : Rat × Rat}
    (hfb : (2 ≤ nx ∧ 2 ≤ ny) ∨ fallbackRes (if gcp then none else xf) cc gcp = .ok (some fb)) :
    extractTransform (ap cx dx nx) (ap cy dy ny) xf cc gcp =
      .ok (some (composeP2W (if gcp then none else xf) (apAff cx dx cy dy nx ny fb))) := by
  unfold extractTransform
  by_cases h2 : 2 ≤ nx ∧ 2 ≤ ny
  · simp only [affineFromAxis_ap_none_ge2 h2.1 h2.2 fb]
  · simp only [affineFromAxis_ap_none_short h2, hfb.resolve_left h2, affineFromAxis_ap_some hx hy]

theorem extractTransform_ap_none {xf : Option Aff} {cc : Option CrsCoord} {gcp : Bool} {fb : Option (Rat × Rat)}
    (h2 : ¬ (2 ≤ nx ∧ 2 ≤ ny)) (hfb : fallbackRes (if gcp then none else xf) cc gcp = .ok fb)
    (h : fb = none ∨ nx = 0 ∨ ny = 0) :
    extractTransform (ap cx dx nx) (ap cy dy ny) xf cc gcp = .ok none := by
  unfold extractTransform
  simp only [affineFromAxis_ap_none_short h2, hfb]
  cases fb with
  | none => rfl
  | some r =>
    simp only [affineFromAxis_empty (ap cx dx nx) (ap cy dy ny) (some r)
      ((h.resolve_left nofun).imp (fun h => by rw [h]; rfl) (fun h => by rw [h]; rfl))]

theorem centre_to_labels (fb : Rat × Rat) {i j : Nat} (hi : i < ny) (hj : j < nx) :
    (apAff cx dx cy dy nx ny fb).apply (centre i j) = (cx + (j : Rat) * dx, cy + (i : Rat) * dy) := by
  have hxj := mul_resOf hj dx fb.1
  have hyi := mul_resOf hi dy fb.2
  simp only [apAff_eq, Aff.apply, centre, Int.cast_natCast]
  ext
  · linear_combination hxj
  · linear_combination hyi

end apAff

theorem axisLabels_recovered (c d : Rat) {n : Nat} (hn : 1 ≤ n) (fb : Rat) :
    axisLabels n (resOf n d fb) (c - (1 / 2) * resOf n d fb) = ap c d n := by
  rw [axisLabels_eq_ap]
  by_cases h2 : 2 ≤ n
  · rw [resOf_ge2 h2]
    congr 1
    ring
  · obtain rfl : n = 1 := by omega
    rw [ap_one, ap_one, resOf_one]
    congr 1
    ring

/-- result index `k` of an axis is original index `off + stride * k`; `len` results -/
structure AxMap where
  off : Int
  stride : Int
  len : Nat

def AxMap.ident (n : Nat) : AxMap := ⟨0, 1, n⟩

def AxMap.orig (m : AxMap) (k : Nat) : Int := m.off + m.stride * (k : Int)

/-- composition with a further positional slice of the current axis (numpy semantics) -/
def AxMap.slice (m : AxMap) (start stop : Option Int) (step : Int) : AxMap :=
  ⟨m.off + m.stride * (indices m.len start stop step).1, m.stride * step, (indices m.len start stop step).2⟩

def trackOp (yd xd : String) (m : AxMap × AxMap) : Op → AxMap × AxMap
  | .isel d (.slc a b st) =>
    if d = yd then (m.1.slice a b (st.getD 1), m.2)
    else if d = xd then (m.1, m.2.slice a b (st.getD 1)) else m
  | _ => m

/-- the index maps of both spatial axes after a history of operations: result pixel `(i, j)` is original pixel
`((track …).1.orig i, (track …).2.orig j)` -/
def track (yd xd : String) (m : AxMap × AxMap) (ops : List Op) : AxMap × AxMap := ops.foldl (trackOp yd xd) m

/-- labels of an axis whose original labels were `c0 + k * r` -/
def labelsFor (c0 r : Rat) (m : AxMap) : List Rat :=
  ap (c0 + (m.off : Rat) * r) ((m.stride : Rat) * r) m.len

theorem pick_labelsFor {c0 r : Rat} {m : AxMap} {a b : Option Int} {st : Int} (hs : st ≠ 0) :
    pick (labelsFor c0 r m) a b st = labelsFor c0 r (m.slice a b st) := by
  unfold labelsFor
  rw [pick_ap hs]
  unfold AxMap.slice
  congr 1
  · push_cast; ring
  · push_cast; ring

theorem labelsFor_length (c0 r : Rat) (m : AxMap) : (labelsFor c0 r m).length = m.len := ap_length _ _ _

theorem labelsFor_ident (c0 r : Rat) (n : Nat) : labelsFor c0 r (AxMap.ident n) = ap c0 r n := by
  unfold labelsFor AxMap.ident
  congr 1 <;> simp

/-- `GeoBox.coordinates` along one axis of the grid with pixel size `r` and origin `t` after the index map `m`: the labels
of the kept pixels -/
theorem axisLabels_kept (r t : Rat) {m : AxMap} (hm : 1 ≤ m.len) :
    axisLabels m.len (r * resOf m.len m.stride 1) (r * (1 / 2 + (m.off : Rat) - 1 / 2 * resOf m.len m.stride 1) + t) =
      labelsFor (t + r / 2) r m := by
  rw [labelsFor, ← axisLabels_recovered _ _ hm r, resOf_mul]
  congr 1 <;> ring

theorem apAff_pixel (nx ny : Nat) : apAff (1 / 2) 1 (1 / 2) 1 nx ny (1, 1) = Aff.id := by
  rw [apAff_eq, resOf_same, resOf_same]
  ext <;> simp [Aff.id]

/-- the pixel transform read off pixel-space labels of the kept pixels: result pixel `(i, j)` ↦ original pixel
`(my.orig i, mx.orig j)`.  A one-element axis shows no stride and counts as one pixel wide. -/
def idxAff (my mx : AxMap) : Aff :=
  apAff (1 / 2 + (mx.off : Rat)) mx.stride (1 / 2 + (my.off : Rat)) my.stride mx.len my.len (1, 1)

theorem idxAff_centre {my mx : AxMap} {i j : Nat} (hi : i < my.len) (hj : j < mx.len) :
    (idxAff my mx).apply (centre i j) = centre (my.orig i) (mx.orig j) := by
  rw [idxAff, centre_to_labels _ hi hj]
  ext <;> simp only [centre, AxMap.orig] <;> push_cast <;> ring

theorem idxAff_ident (ny nx : Nat) : idxAff (AxMap.ident ny) (AxMap.ident nx) = Aff.id := by
  simp only [idxAff, AxMap.ident, Int.cast_zero, Int.cast_one, add_zero, apAff_pixel]

theorem idxAff_diag {my mx : AxMap} (hsy : my.stride ≠ 0) (hsx : mx.stride ≠ 0) :
    ∃ (kx ky : Int) (cx cy : Rat), kx ≠ 0 ∧ ky ≠ 0 ∧ idxAff my mx = ⟨kx, 0, cx, 0, ky, cy⟩ := by
  -- a resolution read from pixel labels is a non-zero integer
  have hres : ∀ (n : Nat) (s : Int), s ≠ 0 → ∃ k : Int, k ≠ 0 ∧ resOf n (s : Rat) 1 = (k : Rat) := by
    intro n s hs
    unfold resOf
    split
    · exact ⟨s, hs, rfl⟩
    · exact ⟨1, one_ne_zero, Int.cast_one.symm⟩
  obtain ⟨kx, hkx, ekx⟩ := hres mx.len _ hsx
  obtain ⟨ky, hky, eky⟩ := hres my.len _ hsy
  exact ⟨kx, ky, _, _, hkx, hky, by rw [idxAff, apAff_eq, ekx, eky]⟩

/-- labels `c0 + k·r` of the original pixels, restricted by `my`, `mx`: the transform read off them is the one read off
the full axes, after the index maps -/
theorem apAff_labels (c0x rx c0y ry : Rat) (my mx : AxMap) :
    apAff (c0x + (mx.off : Rat) * rx) ((mx.stride : Rat) * rx) (c0y + (my.off : Rat) * ry) ((my.stride : Rat) * ry)
        mx.len my.len (rx, ry) = ⟨rx, 0, c0x - rx / 2, 0, ry, c0y - ry / 2⟩ * idxAff my mx := by
  rw [idxAff, apAff_eq, apAff_eq, Aff.mul_def, Aff.mul, resOf_mul, resOf_mul]
  ext <;> simp only <;> ring

end OdcGeo.C09
