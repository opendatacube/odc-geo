/-
Helper lemmas for C16 (not property obligations): `is_almost_int` / `split_float` as "within `tol` / half a unit of
an integer" (through `Lemmas/C20Scalar`, whose model of math.py has the same functions), `int()` / `round()` and
`minL` / `maxL` (through `Lemmas/Py`), a whole-pixel shift of the reference gives the expected pixel-domain box, and
the outward rounding of an interval that `enclosing` performs per axis.
-/
import OdcGeo.Model.C16
import OdcGeo.Lemmas.Affine
import OdcGeo.Lemmas.C20Scalar
import OdcGeo.Lemmas.Py
import Mathlib.Tactic.Linarith
import Mathlib.Tactic.NormNum
import Mathlib.Algebra.Order.Field.Rat
import Mathlib.Algebra.Order.Group.Abs

namespace OdcGeo.C16
open OdcGeo

theorem qabs_eq_abs (x : Rat) : qabs x = |x| := C20.rabs_eq_abs x

theorem tolPix_pos : 0 < tolPix := by unfold tolPix; norm_num
theorem tolPix_le_half : tolPix ≤ 1 / 2 := by unfold tolPix; norm_num

theorem closeOne_one : closeOne 1 = true := by norm_num [closeOne, qabs, tolOne]
theorem closeZero_zero : closeZero 0 = true := by norm_num [closeZero, qabs, tolZero]

/-! `pyInt` and `pyRound` are the prelude's `int()` and `round()` (`Lemmas/Py`), by `rfl`. -/

theorem pyInt_spec (x : Rat) :
    (0 ≤ x → (pyInt x : Rat) ≤ x ∧ x < pyInt x + 1 ∧ 0 ≤ pyInt x) ∧
    (x < 0 → x ≤ pyInt x ∧ (pyInt x : Rat) < x + 1 ∧ pyInt x ≤ 0) ∧
    (∀ k : Int, pyInt (k : Rat) = k) :=
  have h := Gen.Py.trunc_spec x
  ⟨fun hx => ⟨(h.1 hx).2.1, (h.1 hx).2.2, (h.1 hx).1⟩, fun hx => ⟨(h.2 hx).2.1, (h.2 hx).2.2, (h.2 hx).1⟩,
    Gen.Py.trunc_intCast⟩

/-! `fmod1`, `split_float`, `is_almost_int` are those of `Model/C20` (`qabs` is `C20.rabs`, `pyInt` is `C20.trunc`, both
by `rfl`); the facts about them come from `Lemmas/C20Scalar`. -/

theorem fmod1_eq_C20 (x : Rat) : fmod1 x = C20.fmod1 x := by
  unfold fmod1 C20.fmod1 C20.trunc
  split <;> rfl

theorem splitFloat_eq_C20 (x : Rat) : splitFloat x = C20.splitFloat x := by
  simp only [splitFloat, C20.splitFloat, fmod1_eq_C20]

theorem isAlmostInt_eq_C20 (x tol : Rat) : isAlmostInt x tol = C20.isAlmostInt x tol := by
  simp only [isAlmostInt, C20.isAlmostInt, fmod1_eq_C20]
  rfl

theorem isAlmostInt_iff (x tol : Rat) : isAlmostInt x tol = true ↔ ∃ k : Int, |x - k| < tol := by
  rw [isAlmostInt_eq_C20, C20.isAlmostInt_eq, C20.maybeInt?_isSome_iff]

theorem pyRound_intCast (n : Int) : pyRound (n : Rat) = n := Gen.Py.roundHalfEven_intCast n

theorem isAlmostInt_intCast (n : Int) (tol : Rat) (h : 0 < tol) : isAlmostInt (n : Rat) tol = true :=
  (isAlmostInt_iff n tol).mpr ⟨n, by rwa [sub_self, abs_zero]⟩

theorem pixelTranslation_of_mul (a b : GeoBox) (hcrs : a.crs = b.crs) (hdet : b.aff.det ≠ 0)
    (tx ty : Rat) (h : a.aff = b.aff * Aff.translation tx ty) :
    pixelTranslation a b = .ok (tx, ty) := by
  unfold pixelTranslation
  rw [if_neg (by simpa using hcrs)]
  simp only [Aff.inv?_of_det_ne hdet]
  rw [h, Aff.inv_mul_cancel_left _ _ hdet]
  simp [Aff.translation, closeOne_one, closeZero_zero]

theorem bboxInPixelDomain_of_mul (g ref : GeoBox) (hcrs : g.crs = ref.crs) (hdet : ref.aff.det ≠ 0)
    (tx ty : Int) (h : g.aff = ref.aff * Aff.translation tx ty) (tol : Rat) (htol : 0 < tol) :
    bboxInPixelDomain g ref tol = .ok ⟨tx, ty, tx + g.nx, ty + g.ny, none⟩ := by
  unfold bboxInPixelDomain
  rw [pixelTranslation_of_mul g ref hcrs hdet tx ty h]
  simp [isAlmostInt_intCast _ _ htol, pyRound_intCast]

theorem splitFloat_spec (x : Rat) :
    ∃ w : Int, (splitFloat x).1 = w ∧ (w : Rat) + (splitFloat x).2 = x ∧ |(splitFloat x).2| ≤ 1 / 2 := by
  rw [splitFloat_eq_C20]
  obtain ⟨⟨w, hw⟩, hsum, hlo, hhi⟩ := C20.splitFloat_spec x
  exact ⟨w, hw, hw ▸ hsum, abs_le.mpr ⟨hlo, hhi⟩⟩

theorem minL_eq_foldl (x : Rat) (l : List Rat) : minL x l = l.foldl min x := by
  induction l generalizing x with
  | nil => rfl
  | cons y ys ih => exact ih _

theorem maxL_eq_foldl (x : Rat) (l : List Rat) : maxL x l = l.foldl max x := by
  induction l generalizing x with
  | nil => rfl
  | cons y ys ih => exact ih _

theorem minL_mem_cons (x : Rat) (l : List Rat) : minL x l ∈ x :: l := minL_eq_foldl x l ▸ (foldl_min_spec l x).1

theorem maxL_mem_cons (x : Rat) (l : List Rat) : maxL x l ∈ x :: l := maxL_eq_foldl x l ▸ (foldl_max_spec l x).1

theorem minL_le_of_mem {x : Rat} {l : List Rat} {y : Rat} (h : y ∈ x :: l) : minL x l ≤ y :=
  minL_eq_foldl x l ▸ (foldl_min_spec l x).2 y h

theorem le_maxL_of_mem {x : Rat} {l : List Rat} {y : Rat} (h : y ∈ x :: l) : y ≤ maxL x l :=
  maxL_eq_foldl x l ▸ (foldl_max_spec l x).2 y h

/-- outward rounding of `[l, r]` to `[⌊l⌋, ⌊l⌋ + n]` with `n = max 1 (⌈r⌉ - ⌊l⌋)`: it contains the interval
and exceeds it by less than one unit at each end, unless the interval is a single whole number (`n = 1`) -/
theorem round_axis (l r : Rat) (hlr : l ≤ r) :
    ((l.floor : Rat) ≤ l ∧ r ≤ l.floor + (max 1 (r.ceil - l.floor) : Int)) ∧ l - l.floor < 1 ∧
    ((l.floor : Rat) + (max 1 (r.ceil - l.floor) : Int) - r < 1 ∨
      (max 1 (r.ceil - l.floor) = 1 ∧ l = l.floor ∧ r = l.floor)) := by
  obtain ⟨a1, a2⟩ := floor_bounds l
  obtain ⟨b1, b2⟩ := ceil_bounds r
  rcases le_total 1 (r.ceil - l.floor) with h | h
  · rw [max_eq_right h]
    push_cast
    exact ⟨⟨a1, by linarith⟩, by linarith, Or.inl (by linarith)⟩
  · rw [max_eq_left h]
    have hc : (r.ceil : Rat) ≤ l.floor + 1 := by exact_mod_cast (show r.ceil ≤ l.floor + 1 by omega)
    push_cast
    refine ⟨⟨a1, by linarith⟩, by linarith, ?_⟩
    rcases lt_or_ge (l.floor : Rat) r with h' | h'
    · exact Or.inl (by linarith)
    · exact Or.inr ⟨trivial, by linarith, by linarith⟩

theorem round_axis_abs (l r : Rat) (hlr : l ≤ r) :
    |(l.floor : Rat) - l| ≤ 1 ∧ |(l.floor : Rat) + (max 1 (r.ceil - l.floor) : Int) - r| ≤ 1 := by
  obtain ⟨⟨a1, a2⟩, a3, a4⟩ := round_axis l r hlr
  refine ⟨abs_le.mpr ⟨by linarith, by linarith⟩, abs_le.mpr ⟨by linarith, ?_⟩⟩
  rcases a4 with h | ⟨h1, -, h3⟩
  · exact h.le
  · rw [h1, h3, Int.cast_one, add_sub_cancel_left]

/-- One axis of what `enclosing` promises: the whole-pixel interval `[t, t + n]` against the pixel coordinates
`φ q` of the vertices `q ∈ vs`.  It has at least one pixel, contains every coordinate, exceeds them by less than one
pixel at the low end, and at the high end too unless they all sit on the grid line `t` (then `n = 1` and the
excess is exactly one pixel: no non-empty whole-pixel interval can do better). -/
structure EnclosesAxis {ι : Type} (vs : List ι) (φ : ι → Rat) (t n : Int) : Prop where
  pos : 1 ≤ n
  bounds : ∀ q ∈ vs, (t : Rat) ≤ φ q ∧ φ q ≤ t + n
  lo : ∃ q ∈ vs, φ q - t < 1
  hi : (∃ q ∈ vs, (t : Rat) + n - φ q < 1) ∨ (n = 1 ∧ ∀ q ∈ vs, φ q = t)

theorem enclose_axis {ι : Type} (vs : List ι) (φ : ι → Rat) {l r : Rat}
    (hl : ∃ q ∈ vs, φ q = l) (hr : ∃ q ∈ vs, φ q = r) (hb : ∀ q ∈ vs, l ≤ φ q ∧ φ q ≤ r) :
    EnclosesAxis vs φ l.floor (max 1 (r.ceil - l.floor)) := by
  obtain ⟨ql, ml, rfl⟩ := hl
  obtain ⟨qr, mr, rfl⟩ := hr
  obtain ⟨⟨a1, a2⟩, a3, a4⟩ := round_axis _ _ (hb ql ml).2
  exact ⟨le_max_left _ _, fun q hq => ⟨a1.trans (hb q hq).1, (hb q hq).2.trans a2⟩, ⟨ql, ml, a3⟩,
    a4.imp (fun h => ⟨qr, mr, h⟩) fun ⟨h1, h2, h3⟩ =>
      ⟨h1, fun q hq => le_antisymm ((hb q hq).2.trans h3.le) (h2.ge.trans (hb q hq).1)⟩⟩

theorem EnclosesAxis.of_const {ι : Type} {vs : List ι} {φ : ι → Rat} {t n : Int} (e : EnclosesAxis vs φ t n)
    {k : Int} (hk : ∀ q ∈ vs, φ q = k) : t = k ∧ n = 1 := by
  obtain ⟨q, hq, hlo⟩ := e.lo
  have b0 := (e.bounds q hq).1
  rw [hk q hq] at b0 hlo
  obtain rfl : t = k :=
    le_antisymm (Int.cast_le.mp b0) (Int.lt_add_one_iff.mp (by exact_mod_cast sub_lt_iff_lt_add'.mp hlo))
  refine ⟨rfl, e.hi.elim (fun ⟨q, hq, hhi⟩ => ?_) And.left⟩
  rw [hk q hq, add_sub_cancel_left] at hhi
  exact absurd e.pos (not_le.mpr (by exact_mod_cast hhi))

end OdcGeo.C16
