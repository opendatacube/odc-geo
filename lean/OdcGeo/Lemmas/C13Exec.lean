/- Execution of the task graph of C13.  Two facts carry everything: every stored value is the denotation of its key
(`runOrder_ok`), and the keys of the store are the schedule itself (`runOrder_keys`), so "the key has a value" is
membership in the schedule; a schedule that respects the dependencies runs to the end (`runOrder_valid`). -/
import OdcGeo.Lemmas.C13P

namespace OdcGeo.C13
open OdcGeo

theorem mapOpt_map {α β γ} (f : β → Option γ) (g : α → β) : ∀ (l : List α),
    mapOpt f (l.map g) = mapOpt (fun a => f (g a)) l
  | [] => rfl
  | a :: r => by rw [List.map_cons, mapOpt, mapOpt_map f g r, mapOpt]

def StoreOk (c : Cfg) (G : Gdal) (src : Img) (st : Store) : Prop :=
  ∀ k v, (k, v) ∈ st → denote c G src k = some v

theorem StoreOk.nil (c : Cfg) (G : Gdal) (src : Img) : StoreOk c G src [] := fun _ _ h => by cases h

theorem StoreOk.cons {c : Cfg} {G : Gdal} {src : Img} {st : Store} {k : Key} {v : Img}
    (hst : StoreOk c G src st) (hv : denote c G src k = some v) : StoreOk c G src ((k, v) :: st) := by
  intro k' v' hm
  rcases List.mem_cons.1 hm with h | hm
  · cases h; exact hv
  · exact hst k' v' hm

theorem StoreOk.args {c : Cfg} {G : Gdal} {src : Img} {st : Store} (hst : StoreOk c G src st) {l : List TIdx}
    {args : List Img} (ha : mapOpt (fun a => List.lookup (Key.src a) st) l = some args) :
    mapOpt (srcBlock src c.sy c.sx) l = some args :=
  mapOpt_congr ha fun j _ b hb => hst (Key.src j) b (lookup_mem hb)

theorem runTask_some {g : Key → Option Task} {st st' : Store} {k : Key} (h : runTask g st k = some st') :
    ∃ t args v, g k = some t ∧ mapOpt (fun d => st.lookup d) t.deps = some args ∧ t.fn args = some v ∧
      st' = (k, v) :: st := by
  simp only [runTask, Option.bind_eq_bind, Option.bind_eq_some_iff, Option.pure_def, Option.some.injEq] at h
  obtain ⟨t, ht, args, ha, v, hv, rfl⟩ := h
  exact ⟨t, args, v, ht, ha, hv, rfl⟩

theorem runTask_ok (c : Cfg) (G : Gdal) (src : Img) {st st' : Store} {k : Key}
    (hst : StoreOk c G src st) (h : runTask (graph c G src) st k = some st') :
    ∃ v, st' = (k, v) :: st ∧ denote c G src k = some v := by
  obtain ⟨t, args, v, ht, ha, hv, rfl⟩ := runTask_some h
  refine ⟨v, rfl, ?_⟩
  cases k with
  | src i =>
    obtain ⟨b, hb, rfl⟩ := Option.map_eq_some_iff.1 ht
    exact hb.trans hv
  | dst i =>
    simp only [graph] at ht
    split at ht
    · cases ht
      rw [mapOpt_map] at ha
      simp only [denote, dstBlock, hst.args ha, Option.bind_eq_bind, Option.bind_some]
      exact hv
    · cases ht

theorem runOrder_keys {g : Key → Option Task} : ∀ {order : List Key} {st st' : Store},
    runOrder g order st = some st' → st'.map (·.1) = order.reverse ++ st.map (·.1)
  | [], st, st', h => by cases h; rfl
  | k :: r, st, st', h => by
    obtain ⟨st1, h1, h⟩ := Option.bind_eq_some_iff.1 h
    obtain ⟨_, _, v, _, _, _, rfl⟩ := runTask_some h1
    rw [runOrder_keys h, List.reverse_cons, List.append_assoc]
    rfl

theorem lookup_isSome_iff {st : Store} {k : Key} : (∃ v, st.lookup k = some v) ↔ k ∈ st.map (·.1) := by
  rw [← Option.isSome_iff_exists, List.lookup_isSome_iff, List.mem_map]
  exact ⟨fun ⟨p, hp, h⟩ => ⟨p, hp, (beq_iff_eq.1 h).symm⟩, fun ⟨p, hp, h⟩ => ⟨p, hp, beq_iff_eq.2 h.symm⟩⟩

theorem runOrder_ok (c : Cfg) (G : Gdal) (src : Img) : ∀ (order : List Key) {st st' : Store},
    StoreOk c G src st → runOrder (graph c G src) order st = some st' → StoreOk c G src st'
  | [], st, st', hst, h => by cases h; exact hst
  | k :: r, st, st', hst, h => by
    obtain ⟨st1, h1, h⟩ := Option.bind_eq_some_iff.1 h
    obtain ⟨v, rfl, hv⟩ := runTask_ok c G src hst h1
    exact runOrder_ok c G src r (hst.cons hv) h

theorem run_denote {c : Cfg} {G : Gdal} {src : Img} {order : List Key} {st : Store} {k : Key} {v : Img}
    (h : runOrder (graph c G src) order [] = some st) (hk : st.lookup k = some v) :
    denote c G src k = some v :=
  runOrder_ok c G src order (.nil c G src) h k v (lookup_mem hk)

theorem runTask_ready (c : Cfg) (G : Gdal) (src : Img)
    (hsy : Chain 0 c.sy c.srcH) (hsx : Chain 0 c.sx c.srcW) (hS : c.S.det ≠ 0)
    (hvalid : DepsValid c) {st : Store} {k : Key}
    (hst : StoreOk c G src st) (hr : Ready c (st.map (·.1)) k) : ∃ st', runTask (graph c G src) st k = some st' := by
  unfold runTask
  cases k with
  | src i =>
    simp only [graph, srcBlock_eq hr.1 hr.2, Option.map_some, mapOpt, Option.bind_eq_bind, Option.bind_some]
    exact ⟨_, rfl⟩
  | dst i =>
    obtain ⟨h1, h2, h3⟩ := hr
    obtain ⟨args, ha⟩ := mapOpt_isSome (f := fun a => List.lookup (Key.src a) st)
      (l := lookupDeps c.deps i) (fun j hj => lookup_isSome_iff.2 (h3 j hj))
    obtain ⟨v, hv⟩ : ∃ v, dstTask c G i args = some v := by
      unfold dstTask
      split
      · exact ⟨_, by simp only [constBlock, List.getElem?_eq_getElem h1, List.getElem?_eq_getElem h2]; rfl⟩
      · next he =>
        obtain ⟨blk, h, _⟩ := doChunkedP_pixel c id G src i args hsy hsx hS hvalid (by simpa using he)
          (hst.args ha) c.dy[i.1] c.dx[i.2] (List.getElem?_eq_getElem h1) (List.getElem?_eq_getElem h2)
        exact ⟨blk, by rw [← doChunkedReprojectP_id]; exact h⟩
    simp only [graph, h1, h2, and_self, if_true, Option.bind_eq_bind, Option.bind_some, Option.pure_def,
      mapOpt_map, ha, hv]
    exact ⟨_, rfl⟩

theorem runOrder_valid (c : Cfg) (G : Gdal) (src : Img)
    (hsy : Chain 0 c.sy c.srcH) (hsx : Chain 0 c.sx c.srcW) (hS : c.S.det ≠ 0)
    (hvalid : DepsValid c) : ∀ (order : List Key) (st : Store),
    StoreOk c G src st → ValidOrder c (st.map (·.1)) order → ∃ st', runOrder (graph c G src) order st = some st'
  | [], st, _, _ => ⟨st, rfl⟩
  | k :: r, st, hst, ⟨hr, hv'⟩ => by
    obtain ⟨st1, h1⟩ := runTask_ready c G src hsy hsx hS hvalid hst hr
    obtain ⟨v, rfl, hden⟩ := runTask_ok c G src hst h1
    obtain ⟨st', h2⟩ := runOrder_valid c G src hsy hsx hS hvalid r _ (hst.cons hden) hv'
    exact ⟨st', by rw [runOrder, h1]; exact h2⟩

end OdcGeo.C13
