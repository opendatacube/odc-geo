/- Helper lemmas for C03 (reprojection planning).  Every region the planner computes is an interval of real coordinates
rounded outward to integers and clipped to the image, `⟨clip i 0 n, clip o 0 n⟩`: the facts about `clip` come first;
`axisPos_eq` here and `fromPoints_eq` of Props/C17 reduce the model to them, and `relativeRois_cases` says which of them
the two regions of the sampled path are.  After them: the vocabulary of the coverage statements (`InEnvStrict`,
`InEnvClosed`, `Covers`, `InImage`, `srcSamples`, `dstSamples`), the envelope of an affine image of a rectangle from its
corners, separation, what a successful `reprojectLinear` / `reprojectNonlinear` returned, and the least-squares stencil. -/
import OdcGeo.Model.C03
import OdcGeo.Props.C17
import OdcGeo.Props.C17Boundary
import OdcGeo.Lemmas.Affine
import Mathlib.Tactic.Linarith
import Mathlib.Tactic.Ring
import Mathlib.Tactic.LinearCombination
import Mathlib.Algebra.Order.Field.Rat

namespace OdcGeo.C03
open OdcGeo.C17

theorem clip_interval {i o n : Int} (hn : 0 ≤ n) (h : i ≤ o) :
    0 ≤ clip i 0 n ∧ clip i 0 n ≤ clip o 0 n ∧ clip o 0 n ≤ n := by
  rw [clip_eq hn, clip_eq hn]; omega

theorem clip_interval_empty {i o n : Int} (hn : 0 ≤ n) (hsep : o ≤ 0 ∨ n ≤ i) : clip o 0 n ≤ clip i 0 n := by
  rw [clip_eq hn, clip_eq hn]; omega

theorem clip_of_nonpos {x n : Int} (hn : 0 ≤ n) (h : x ≤ 0) : clip x 0 n = 0 := by rw [clip_eq hn]; omega
theorem clip_of_ge {x n : Int} (hn : 0 ≤ n) (h : n ≤ x) : clip x 0 n = n := by rw [clip_eq hn]; omega
theorem clip_eq_min {x n : Int} (h : 0 ≤ x) : clip x 0 n = min x n := by unfold clip; omega
theorem clip_eq_max {x n : Int} (h : x ≤ n) : clip x 0 n = max x 0 := by unfold clip; omega

theorem clip_lt_of_lt {x n : Int} {v : Rat} (h : (x : Rat) < v) (h0 : 0 < v) : ((clip x 0 n : Int) : Rat) < v := by
  unfold clip
  split_ifs with c1 c2
  · exact_mod_cast h0
  · exact lt_trans (by exact_mod_cast c2) h
  · exact h

theorem lt_clip_of_lt {x n : Int} {v : Rat} (h : v < x) (hn : v < n) : v < ((clip x 0 n : Int) : Rat) := by
  unfold clip
  split_ifs with c1 c2
  · exact lt_trans h (by exact_mod_cast c1)
  · exact hn
  · exact h

theorem floor_le_ceil_of_le {x y : Rat} (h : x ≤ y) : x.floor ≤ y.ceil := by
  have : (x.floor : Rat) ≤ y.ceil := le_trans (Rat.floor_le x) (le_trans h Rat.le_ceil)
  exact_mod_cast this

theorem floor_mem {a b : Int} {x : Rat} (h1 : (a : Rat) ≤ x) (h2 : x < b) : a ≤ x.floor ∧ x.floor < b :=
  ⟨Rat.le_floor_iff.mpr h1, by exact_mod_cast lt_of_le_of_lt (Rat.floor_le x) h2⟩

theorem of_floor_mem {a b : Int} {x : Rat} (h1 : a ≤ x.floor) (h2 : x.floor < b) : (a : Rat) ≤ x ∧ x ≤ b :=
  ⟨le_trans (by exact_mod_cast h1) (Rat.floor_le x),
   le_trans (floor_bounds x).2.le (by exact_mod_cast Int.add_one_le_of_lt h2)⟩

theorem floor_eq_of {m : Int} {y : Rat} (h1 : (m : Rat) ≤ y) (h2 : y < (m : Rat) + 1) : y.floor = m :=
  floor_eq_iff.mpr ⟨h1, h2⟩

theorem floor_of_near_centre {m : Int} {y : Rat} (h : |y - ((m : Rat) + 1 / 2)| < 1 / 2) : y.floor = m := by
  obtain ⟨h1, h2⟩ := abs_lt.mp h
  exact floor_eq_of (by linarith) (by linarith)

theorem centre_interior {d n : Int} (h0 : 0 ≤ d) (hn : d < n) : (0 : Rat) < (d : Rat) + 1 / 2 ∧ (d : Rat) + 1 / 2 < n := by
  have e0 : (0 : Rat) ≤ d := by exact_mod_cast h0
  have en : (d : Rat) + 1 ≤ n := by exact_mod_cast hn
  exact ⟨add_pos_of_nonneg_of_pos e0 (by norm_num), lt_of_lt_of_le (add_lt_add_right (by norm_num) _) en⟩

/-- in the form the envelope lemmas ask of `rect = (⟨0, s.1⟩, ⟨0, s.2⟩)`: hence the casts of `0` -/
theorem centre_in_rect {dy dx : Int} {s : Shape} (hdy : 0 ≤ dy ∧ dy < s.1) (hdx : 0 ≤ dx ∧ dx < s.2) :
    (((0 : Int) : Rat) < (dx : Rat) + 1 / 2 ∧ (dx : Rat) + 1 / 2 < s.2) ∧
    (((0 : Int) : Rat) < (dy : Rat) + 1 / 2 ∧ (dy : Rat) + 1 / 2 < s.1) :=
  ⟨⟨by exact_mod_cast (centre_interior hdx.1 hdx.2).1, (centre_interior hdx.1 hdx.2).2⟩,
   ⟨by exact_mod_cast (centre_interior hdy.1 hdy.2).1, (centre_interior hdy.1 hdy.2).2⟩⟩

theorem centre_mem {a b d : Int} (h1 : (a : Rat) ≤ (d : Rat) + 1 / 2) (h2 : (d : Rat) + 1 / 2 ≤ b) : a ≤ d ∧ d < b :=
  ⟨Int.lt_add_one_iff.mp (by
      exact_mod_cast lt_of_le_of_lt h1 (add_lt_add_right (by norm_num : (1 / 2 : Rat) < 1) (d : Rat))),
   by exact_mod_cast lt_of_lt_of_le (lt_add_of_pos_right (d : Rat) (by norm_num : (0 : Rat) < 1 / 2)) h2⟩

theorem mul_inv_le_iff {x y s : Rat} (hs : 0 < s) : x * (1 / s) ≤ y ↔ x ≤ y * s := by
  rw [mul_one_div, div_le_iff₀ hs]

theorem le_mul_inv_iff {x y s : Rat} (hs : 0 < s) : y ≤ x * (1 / s) ↔ y * s ≤ x := by
  rw [mul_one_div, le_div_iff₀ hs]

theorem mul_inv_lt_iff {x y s : Rat} (hs : 0 < s) : x * (1 / s) < y ↔ x < y * s := by
  rw [mul_one_div, div_lt_iff₀ hs]

theorem lt_mul_inv_iff {x y s : Rat} (hs : 0 < s) : y < x * (1 / s) ↔ y * s < x := by
  rw [mul_one_div, lt_div_iff₀ hs]

/-- **Closed form of the `s > 0` body.**  The source region is the image `[t, Nd·s + t]` of the destination axis, the
destination region the preimage `[-t/s, (Ns - t)/s]` of the source axis, each rounded outward and clipped to its image. -/
theorem axisPos_eq (Ns Nd : Int) (s t : Rat) (hNs : 0 ≤ Ns) (hNd : 0 ≤ Nd) (hs : 0 < s) :
    axisPos Ns Nd s t =
      (⟨clip t.floor 0 Ns, clip ((Nd : Rat) * s + t).ceil 0 Ns⟩,
       ⟨clip (-t * (1 / s)).floor 0 Nd, clip (((Ns : Rat) - t) * (1 / s)).ceil 0 Nd⟩) := by
  -- whichever branch the code takes, the end it sets to a constant is the one that clipping moves there
  have hin : if t < 0 then t.floor ≤ 0 ∧ 0 ≤ (-t * (1 / s)).floor else 0 ≤ t.floor ∧ (-t * (1 / s)).floor ≤ 0 := by
    split_ifs with ht
    · refine ⟨(Rat.floor_lt_iff.mpr (by exact_mod_cast ht)).le, ?_⟩
      rw [Rat.le_floor_iff, Int.cast_zero, le_mul_inv_iff hs, zero_mul]; exact neg_nonneg.mpr ht.le
    · refine ⟨Rat.le_floor_iff.mpr (by exact_mod_cast not_lt.mp ht), Int.lt_add_one_iff.mp ?_⟩
      rw [Rat.floor_lt_iff, mul_inv_lt_iff hs]
      exact lt_of_le_of_lt (neg_nonpos.mpr (not_lt.mp ht)) (by simpa using hs)
  have hout : if ((Nd : Rat) * s + t).ceil ≤ Ns then Nd ≤ (((Ns : Rat) - t) * (1 / s)).ceil
      else (((Ns : Rat) - t) * (1 / s)).ceil ≤ Nd := by
    split_ifs with ha
    · have : (Nd : Rat) ≤ ((Ns : Rat) - t) * (1 / s) := by
        rw [le_mul_inv_iff hs, le_sub_iff_add_le]; exact Rat.ceil_le_iff.mp ha
      exact_mod_cast le_trans this Rat.le_ceil
    · rw [Rat.ceil_le_iff, mul_inv_le_iff hs, sub_le_iff_le_add]; exact (Rat.lt_ceil_iff.mp (not_le.mp ha)).le
  simp only [axisPos]
  rw [show (Ns : Rat) * (1 / s) + -t * (1 / s) = ((Ns : Rat) - t) * (1 / s) by ring]
  split_ifs at hin hout ⊢ with ht ha ha
  · rw [clip_of_nonpos hNs hin.1, clip_eq_min hin.2, clip_eq_max ha, clip_of_ge hNd hout]
  · rw [clip_of_nonpos hNs hin.1, clip_eq_min hin.2, clip_of_ge hNs (not_le.mp ha).le, clip_eq_max hout, max_comm]
  · rw [clip_eq_min hin.1, clip_of_nonpos hNd hin.2, clip_eq_max ha, clip_of_ge hNd hout]
  · rw [clip_eq_min hin.1, clip_of_nonpos hNd hin.2, clip_of_ge hNs (not_le.mp ha).le, clip_eq_max hout, max_comm]

theorem axisPos_ordered (Ns Nd : Int) (s t : Rat) (hNs : 0 ≤ Ns) (hNd : 0 ≤ Nd) (hs : 0 < s) :
    t.floor ≤ ((Nd : Rat) * s + t).ceil ∧ (-t * (1 / s)).floor ≤ (((Ns : Rat) - t) * (1 / s)).ceil := by
  have hNsq : (0 : Rat) ≤ Ns := by exact_mod_cast hNs
  have hNdq : (0 : Rat) ≤ Nd := by exact_mod_cast hNd
  refine ⟨floor_le_ceil_of_le (le_add_of_nonneg_left (mul_nonneg hNdq hs.le)), floor_le_ceil_of_le ?_⟩
  exact mul_le_mul_of_nonneg_right (neg_le_sub_iff_le_add.mpr (le_add_of_nonneg_left hNsq)) (one_div_nonneg.mpr hs.le)

theorem axisPos_within (Ns Nd : Int) (s t : Rat) (hNs : 0 ≤ Ns) (hNd : 0 ≤ Nd) (hs : 0 < s) :
    let r := axisPos Ns Nd s t
    (0 ≤ r.1.start ∧ r.1.start ≤ r.1.stop ∧ r.1.stop ≤ Ns) ∧
    (0 ≤ r.2.start ∧ r.2.start ≤ r.2.stop ∧ r.2.stop ≤ Nd) := by
  rw [axisPos_eq Ns Nd s t hNs hNd hs]
  obtain ⟨o1, o2⟩ := axisPos_ordered Ns Nd s t hNs hNd hs
  exact ⟨clip_interval hNs o1, clip_interval hNd o2⟩

theorem axisPos_disjoint (Ns Nd : Int) (s t : Rat) (hNs : 0 ≤ Ns) (hNd : 0 ≤ Nd) (hs : 0 < s)
    (h : (Nd : Rat) * s + t ≤ 0 ∨ (Ns : Rat) ≤ t) :
    let r := axisPos Ns Nd s t
    r.1.start = r.1.stop ∧ r.2.start = r.2.stop := by
  rw [axisPos_eq Ns Nd s t hNs hNd hs]
  obtain ⟨o1, o2⟩ := axisPos_ordered Ns Nd s t hNs hNd hs
  refine ⟨le_antisymm (clip_interval hNs o1).2.1 (clip_interval_empty hNs ?_),
    le_antisymm (clip_interval hNd o2).2.1 (clip_interval_empty hNd ?_)⟩
  · exact h.imp (fun h => Rat.ceil_le_iff.mpr (by exact_mod_cast h)) (fun h => Rat.le_floor_iff.mpr h)
  · refine h.symm.imp (fun h => ?_) (fun h => ?_)
    · rw [Rat.ceil_le_iff, mul_inv_le_iff hs, Int.cast_zero, zero_mul]; exact sub_nonpos.mpr h
    · rw [Rat.le_floor_iff, le_mul_inv_iff hs, le_neg_iff_add_nonpos_right]; exact h

theorem axisPos_covers (Ns Nd : Int) (s t u : Rat) (hs : 0 < s)
    (hu0 : 0 ≤ u) (huN : u ≤ Nd) (hy0 : 0 ≤ s * u + t) (hyN : s * u + t ≤ Ns) :
    let r := axisPos Ns Nd s t
    ((r.2.start : Rat) ≤ u ∧ u ≤ r.2.stop) ∧
    ((r.1.start : Rat) ≤ s * u + t ∧ s * u + t ≤ r.1.stop) ∧
    (0 < u → 0 < s * u + t → (r.1.start : Rat) < s * u + t) ∧
    (u < Nd → s * u + t < Ns → s * u + t < r.1.stop) := by
  have hNs : 0 ≤ Ns := by exact_mod_cast le_trans hy0 hyN
  have hNd : 0 ≤ Nd := by exact_mod_cast le_trans hu0 huN
  rw [axisPos_eq Ns Nd s t hNs hNd hs]
  have hsN : s * u ≤ (Nd : Rat) * s := by rw [mul_comm]; exact mul_le_mul_of_nonneg_right huN hs.le
  have f1 := Rat.floor_le t
  have c1 := @Rat.le_ceil ((Nd : Rat) * s + t)
  have e1 : -t * (1 / s) ≤ u := by rw [mul_inv_le_iff hs, neg_le_iff_add_nonneg, mul_comm]; exact hy0
  have e2 : u ≤ ((Ns : Rat) - t) * (1 / s) := by rw [le_mul_inv_iff hs, le_sub_iff_add_le, mul_comm]; exact hyN
  refine ⟨⟨clip_le_of_le (le_trans (Rat.floor_le _) e1) hu0, le_clip_of_le (le_trans e2 Rat.le_ceil) huN⟩,
    ⟨clip_le_of_le (le_trans f1 (le_add_of_nonneg_left (mul_nonneg hs.le hu0))) hy0,
     le_clip_of_le (le_trans (add_le_add_left hsN t) c1) hyN⟩,
    fun h0 hy => clip_lt_of_lt (lt_of_le_of_lt f1 (lt_add_of_pos_left t (mul_pos hs h0))) hy,
    fun hN hy => lt_clip_of_lt (lt_of_lt_of_le (add_lt_add_left ?_ t) c1) hy⟩
  rw [mul_comm]; exact mul_lt_mul_of_pos_right hN hs

theorem axisOverlap_ok {Ns Nd : Int} {s t : Rat} {r : NSlice × NSlice} (h : axisOverlap Ns Nd s t = .ok r) :
    (0 < s ∧ r = axisPos Ns Nd s t) ∨
    (s < 0 ∧ ∃ m, m = axisPos Ns Nd (-s) ((Ns : Rat) - t) ∧ r = (⟨Ns - m.1.stop, Ns - m.1.start⟩, m.2)) := by
  unfold axisOverlap at h
  split_ifs at h with h1 h2
  · exact Or.inr ⟨h1, _, rfl, (Except.ok.inj h).symm⟩
  · exact Or.inl ⟨h2, (Except.ok.inj h).symm⟩

theorem boxOverlap_ok {src dst : Shape} {ST : Aff} {r : ROI × ROI} (h : boxOverlap src dst ST = .ok r) :
    ∃ yy xx, axisOverlap src.1 dst.1 ST.e ST.f = .ok yy ∧ axisOverlap src.2 dst.2 ST.a ST.c = .ok xx ∧
      r = ((yy.1, xx.1), (yy.2, xx.2)) := by
  unfold boxOverlap at h
  split at h
  · cases h
  split at h
  · cases h
  rename_i yy hy _ xx hx
  exact ⟨yy, xx, hy, hx, (Except.ok.inj h).symm⟩

/-- Envelope hypotheses on a list of finite sample points (`(x, y)` pairs). -/
structure InEnvStrict (pts : List (Rat × Rat)) (q : Rat × Rat) (pad : Int) : Prop where
  xlo : ∃ p ∈ pts, p.1 - pad ≤ q.1
  xhi : ∃ p ∈ pts, q.1 < p.1 + pad
  ylo : ∃ p ∈ pts, p.2 - pad ≤ q.2
  yhi : ∃ p ∈ pts, q.2 < p.2 + pad

structure InEnvClosed (pts : List (Rat × Rat)) (q : Rat × Rat) : Prop where
  xlo : ∃ p ∈ pts, p.1 ≤ q.1
  xhi : ∃ p ∈ pts, q.1 ≤ p.1
  ylo : ∃ p ∈ pts, p.2 ≤ q.2
  yhi : ∃ p ∈ pts, q.2 ≤ p.2

/-- the conclusion of the coverage theorems: pixel `(dy, dx)` is in `roi_dst` and the source pixel of `q` in `roi_src` -/
def Covers (r : ROI × ROI) (dy dx : Int) (q : Rat × Rat) : Prop :=
  (r.2.1.start ≤ dy ∧ dy < r.2.1.stop) ∧ (r.2.2.start ≤ dx ∧ dx < r.2.2.stop) ∧
  (r.1.2.start ≤ q.1.floor ∧ q.1.floor < r.1.2.stop) ∧ (r.1.1.start ≤ q.2.floor ∧ q.2.floor < r.1.1.stop)

def InImage (q : Rat × Rat) (s : Shape) : Prop := (0 ≤ q.1 ∧ q.1 < s.2) ∧ (0 ≤ q.2 ∧ q.2 < s.1)

theorem InEnvClosed.strict {pts : List (Rat × Rat)} {q : Rat × Rat} (h : InEnvClosed pts q) {pad : Int} (hpad : 1 ≤ pad) :
    InEnvStrict pts q pad :=
  have hp : (0 : Rat) < pad := by exact_mod_cast hpad
  ⟨h.xlo.imp fun _ hp' => ⟨hp'.1, sub_le_iff_le_add.mpr (le_add_of_le_of_nonneg hp'.2 hp.le)⟩,
   h.xhi.imp fun _ hp' => ⟨hp'.1, lt_add_of_le_of_pos hp'.2 hp⟩,
   h.ylo.imp fun _ hp' => ⟨hp'.1, sub_le_iff_le_add.mpr (le_add_of_le_of_nonneg hp'.2 hp.le)⟩,
   h.yhi.imp fun _ hp' => ⟨hp'.1, lt_add_of_le_of_pos hp'.2 hp⟩⟩

theorem fromPoints_floor_mem {pts : List (Coord × Coord)} {ny nx pad : Int} {al : Option Int} {q : Rat × Rat}
    (henv : InEnvStrict (finitePts pts) q pad)
    (hx : 0 ≤ q.1 ∧ q.1 < nx) (hy : 0 ≤ q.2 ∧ q.2 < ny) (hal : ∀ a, al = some a → 0 < a) :
    let r := fromPoints pts ny nx pad al
    (r.2.start ≤ q.1.floor ∧ q.1.floor < r.2.stop) ∧ (r.1.start ≤ q.2.floor ∧ q.2.floor < r.1.stop) := by
  obtain ⟨a, ha, ha'⟩ := henv.xlo
  obtain ⟨b, hb, hb'⟩ := henv.xhi
  obtain ⟨c, hc, hc'⟩ := henv.ylo
  obtain ⟨d, hd, hd'⟩ := henv.yhi
  obtain ⟨iy, oy, ix, ox, e, h⟩ := fromPoints_eq pts ny nx pad al hal (List.ne_nil_of_mem ha)
  rw [e]
  exact ⟨floor_mem (clip_le_of_le (le_trans (h a ha).1.1 ha') hx.1) (lt_clip_of_lt (lt_of_lt_of_le hb' (h b hb).1.2) hx.2),
         floor_mem (clip_le_of_le (le_trans (h c hc).2.1 hc') hy.1) (lt_clip_of_lt (lt_of_lt_of_le hd' (h d hd).2.2) hy.2)⟩

theorem fromPoints_mem_closed {pts : List (Coord × Coord)} {ny nx : Int} {q : Rat × Rat}
    (henv : InEnvClosed (finitePts pts) q)
    (hx : 0 ≤ q.1 ∧ q.1 ≤ nx) (hy : 0 ≤ q.2 ∧ q.2 ≤ ny) :
    let r := fromPoints pts ny nx 0 none
    ((r.2.start : Rat) ≤ q.1 ∧ q.1 ≤ r.2.stop) ∧ ((r.1.start : Rat) ≤ q.2 ∧ q.2 ≤ r.1.stop) := by
  obtain ⟨a, ha, ha'⟩ := henv.xlo
  obtain ⟨b, hb, hb'⟩ := henv.xhi
  obtain ⟨c, hc, hc'⟩ := henv.ylo
  obtain ⟨d, hd, hd'⟩ := henv.yhi
  obtain ⟨iy, oy, ix, ox, e, h⟩ := fromPoints_eq pts ny nx 0 none nofun (List.ne_nil_of_mem ha)
  rw [e]
  simp only [Int.cast_zero, sub_zero, add_zero] at h
  exact ⟨⟨clip_le_of_le (le_trans (h a ha).1.1 ha') hx.1, le_clip_of_le (le_trans hb' (h b hb).1.2) hx.2⟩,
         ⟨clip_le_of_le (le_trans (h c hc).2.1 hc') hy.1, le_clip_of_le (le_trans hd' (h d hd).2.2) hy.2⟩⟩

theorem not_isEmpty_of_mem {r : ROI} {i j : Int} (h1 : r.1.start ≤ i ∧ i < r.1.stop)
    (h2 : r.2.start ≤ j ∧ j < r.2.stop) : ROI.isEmpty r = false := by
  simp only [ROI.isEmpty, Bool.or_eq_false_iff, decide_eq_false_iff_not]
  omega

theorem fromPoints_within (pts : List (Coord × Coord)) {ny nx : Int} (pad : Int) (al : Option Int) (hny : 0 ≤ ny) (hnx : 0 ≤ nx) :
    (0 ≤ (fromPoints pts ny nx pad al).1.start ∧ (fromPoints pts ny nx pad al).1.stop ≤ ny) ∧
    (0 ≤ (fromPoints pts ny nx pad al).2.start ∧ (fromPoints pts ny nx pad al).2.stop ≤ nx) :=
  have c := from_points_within_image pts ny nx pad al hny hnx
  ⟨⟨c.1.1, c.1.2.2.2⟩, ⟨c.2.1, c.2.2.2.2⟩⟩

theorem emptyROI_within {ny nx : Int} (hny : 0 ≤ ny) (hnx : 0 ≤ nx) :
    (0 ≤ emptyROI.1.start ∧ emptyROI.1.stop ≤ ny) ∧ (0 ≤ emptyROI.2.start ∧ emptyROI.2.stop ≤ nx) :=
  ⟨⟨le_rfl, hny⟩, ⟨le_rfl, hnx⟩⟩

/-- the sample points `_relative_rois` builds the source region from -/
def srcSamples (dst : Shape) (back : PtTr) (pps : Nat) : List (Coord × Coord) :=
  (roiBoundary (⟨0, dst.1⟩, ⟨0, dst.2⟩) pps).map back

/-- the sample points the destination region is built from, given the source region -/
def dstSamples (roiSrc : ROI) (fwd : PtTr) (pps : Nat) : List (Coord × Coord) :=
  (roiBoundary roiSrc pps).map fwd

/-- The three outcomes of `_relative_rois`, with `S` the source region (padded, aligned) and `S0` the same without
alignment: both non-empty and the destination region is built from the boundary of `S`; `S` empty; or `S0` empty (the
guard against alignment reviving an empty overlap).  By projections on purpose: after `rw` with `r = (S, D)` a goal
holds `(S, D).1`, and `exact` against a lemma about `fromPoints` then unfolds `fromPoints` to unify. -/
theorem relativeRois_cases (src dst : Shape) (back fwd : PtTr) (pps : Nat) (pad : Int) (al : Option Int) :
    let S := fromPoints (srcSamples dst back pps) src.1 src.2 pad al
    let S0 := fromPoints (srcSamples dst back pps) src.1 src.2 pad none
    let r := relativeRois src dst back fwd pps pad al
    (ROI.isEmpty S = false ∧ ROI.isEmpty S0 = false ∧ r.1 = S ∧ r.2 = fromPoints (dstSamples S fwd pps) dst.1 dst.2 0 none) ∨
    (ROI.isEmpty S = true ∧ r.1 = S ∧ r.2 = emptyROI) ∨
    (ROI.isEmpty S0 = true ∧ r.1 = emptyROI ∧ r.2 = emptyROI) := by
  simp only [relativeRois, srcSamples, dstSamples]
  cases hS : ROI.isEmpty (fromPoints ((roiBoundary (⟨0, dst.1⟩, ⟨0, dst.2⟩) pps).map back) src.1 src.2 pad al)
  · cases hS0 : ROI.isEmpty (fromPoints ((roiBoundary (⟨0, dst.1⟩, ⟨0, dst.2⟩) pps).map back) src.1 src.2 pad none)
    · refine Or.inl ⟨rfl, rfl, ?_⟩
      simp only [Bool.false_eq_true, and_false, if_false, hS, and_self]
    · cases al with
      | none => exact absurd (hS.symm.trans hS0) (by decide)
      | some a => exact Or.inr (Or.inr ⟨rfl, by simp [emptyROI, ROI.isEmpty]⟩)
  · refine Or.inr (Or.inl ⟨rfl, ?_⟩)
    simp only [not_true_eq_false, false_and, and_false, if_false, hS, if_true, and_self]

theorem relativeRois_src {src dst : Shape} {back : PtTr} (fwd : PtTr) {pps : Nat} {pad : Int} {al : Option Int}
    {q : Rat × Rat} (henv : InEnvStrict (finitePts (srcSamples dst back pps)) q pad)
    (hx : 0 ≤ q.1 ∧ q.1 < src.2) (hy : 0 ≤ q.2 ∧ q.2 < src.1) (hal : ∀ a, al = some a → 0 < a) :
    let r := relativeRois src dst back fwd pps pad al
    r.2 = fromPoints (dstSamples r.1 fwd pps) dst.1 dst.2 0 none ∧
    (r.1.2.start ≤ q.1.floor ∧ q.1.floor < r.1.2.stop) ∧ (r.1.1.start ≤ q.2.floor ∧ q.2.floor < r.1.1.stop) := by
  have m1 := fromPoints_floor_mem henv hx hy hal
  have m2 := fromPoints_floor_mem (al := none) henv hx hy nofun
  rcases relativeRois_cases src dst back fwd pps pad al with ⟨_, _, e1, e2⟩ | ⟨h, _⟩ | ⟨h, _⟩
  · simp only
    rw [e1, e2]
    exact ⟨rfl, m1⟩
  · exact absurd ((not_isEmpty_of_mem m1.2 m1.1).symm.trans h) (by decide)
  · exact absurd ((not_isEmpty_of_mem m2.2 m2.1).symm.trans h) (by decide)

/-- the corners of a region are among its boundary samples, so what is extremal at a corner is extremal at a sample -/
theorem corner_mem_roiBoundary (r : ROI) {pps : Nat} (hpps : 2 ≤ pps) {c : Rat × Rat}
    (hc : c ∈ [((r.2.start : Rat), (r.1.start : Rat)), ((r.2.stop : Rat), (r.1.start : Rat)),
      ((r.2.stop : Rat), (r.1.stop : Rat)), ((r.2.start : Rat), (r.1.stop : Rat))]) : c ∈ roiBoundary r pps := by
  obtain ⟨h1, h2, h3, h4⟩ := roi_boundary_corners r pps hpps
  simp only [List.mem_cons, List.not_mem_nil, or_false] at hc
  rcases hc with rfl | rfl | rfl | rfl <;> assumption

/-- a transform without non-finite images: all samples survive the `isfinite` filter -/
theorem finitePts_map_fin (T : Rat × Rat → Rat × Rat) (l : List (Rat × Rat)) :
    finitePts (l.map fun p => (.fin (T p).1, .fin (T p).2)) = l.map T := by
  induction l with
  | nil => rfl
  | cons p ps ih =>
    simp only [List.map_cons, finitePts, List.filterMap_cons] at ih ⊢
    rw [ih]

theorem finitePts_linTr (B : Aff) (l : List (Rat × Rat)) : finitePts (l.map (linTr B)) = l.map B.apply :=
  finitePts_map_fin B.apply l

theorem mul_corner (a x0 x1 u : Rat) (h0 : x0 ≤ u) (h1 : u ≤ x1) :
    ∃ xl xu, (xl = x0 ∨ xl = x1) ∧ (xu = x0 ∨ xu = x1) ∧ a * xl ≤ a * u ∧ a * u ≤ a * xu ∧
      (a ≠ 0 → x0 < u → u < x1 → a * u < a * xu) := by
  rcases le_or_gt 0 a with ha | ha
  · exact ⟨x0, x1, Or.inl rfl, Or.inr rfl, mul_le_mul_of_nonneg_left h0 ha, mul_le_mul_of_nonneg_left h1 ha,
      fun hne _ h => mul_lt_mul_of_pos_left h (lt_of_le_of_ne ha (Ne.symm hne))⟩
  · exact ⟨x1, x0, Or.inr rfl, Or.inl rfl, mul_le_mul_of_nonpos_left h1 ha.le, mul_le_mul_of_nonpos_left h0 ha.le,
      fun _ h _ => mul_lt_mul_of_neg_left h ha⟩

/-- a linear function on a rectangle lies between its values at two corners (strictly below the upper one at interior
points, unless it is constant) -/
theorem lin_corner (a b k x0 x1 y0 y1 u v : Rat) (hx0 : x0 ≤ u) (hx1 : u ≤ x1) (hy0 : y0 ≤ v) (hy1 : v ≤ y1) :
    ∃ c c' : Rat × Rat, c ∈ [(x0, y0), (x1, y0), (x1, y1), (x0, y1)] ∧ c' ∈ [(x0, y0), (x1, y0), (x1, y1), (x0, y1)] ∧
      a * c.1 + b * c.2 + k ≤ a * u + b * v + k ∧ a * u + b * v + k ≤ a * c'.1 + b * c'.2 + k ∧
      ((a ≠ 0 ∨ b ≠ 0) → x0 < u → u < x1 → y0 < v → v < y1 → a * u + b * v + k < a * c'.1 + b * c'.2 + k) := by
  obtain ⟨xl, xu, hxl, hxu, lx, ux, sx⟩ := mul_corner a x0 x1 u hx0 hx1
  obtain ⟨yl, yu, hyl, hyu, ly, uy, sy⟩ := mul_corner b y0 y1 v hy0 hy1
  have mem : ∀ {x y : Rat}, x = x0 ∨ x = x1 → y = y0 ∨ y = y1 → (x, y) ∈ [(x0, y0), (x1, y0), (x1, y1), (x0, y1)] := by
    rintro x y (rfl | rfl) (rfl | rfl) <;> simp
  exact ⟨(xl, yl), (xu, yu), mem hxl hyl, mem hxu hyu, add_le_add_left (add_le_add lx ly) k,
    add_le_add_left (add_le_add ux uy) k,
    fun hne h1 h2 h3 h4 => add_lt_add_left (hne.elim (fun h => add_lt_add_of_lt_of_le (sx h h1 h2) uy)
      (fun h => add_lt_add_of_le_of_lt ux (sy h h3 h4))) k⟩

theorem rows_ne_zero (A : Aff) (h : A.det ≠ 0) : (A.a ≠ 0 ∨ A.b ≠ 0) ∧ (A.d ≠ 0 ∨ A.e ≠ 0) :=
  ⟨not_and_or.mp fun hc => h (by rw [Aff.det, hc.1, hc.2]; ring),
   not_and_or.mp fun hc => h (by rw [Aff.det, hc.1, hc.2]; ring)⟩

theorem inEnvStrict_of_interior (B : Aff) (hdet : B.det ≠ 0) {pps : Nat} (hpps : 2 ≤ pps) (rect : ROI) (p : Rat × Rat)
    (pad : Int) (hpad : 0 ≤ pad)
    (hx : (rect.2.start : Rat) < p.1 ∧ p.1 < rect.2.stop) (hy : (rect.1.start : Rat) < p.2 ∧ p.2 < rect.1.stop) :
    InEnvStrict (finitePts ((roiBoundary rect pps).map (linTr B))) (B.apply p) pad := by
  rw [finitePts_linTr]
  have hp : (0 : Rat) ≤ pad := by exact_mod_cast hpad
  have mem : ∀ {c}, _ → B.apply c ∈ (roiBoundary rect pps).map B.apply := fun m =>
    List.mem_map_of_mem (corner_mem_roiBoundary rect hpps m)
  obtain ⟨r1, r2⟩ := rows_ne_zero B hdet
  obtain ⟨c1, c2, m1, m2, l1, _, l2⟩ := lin_corner B.a B.b B.c _ _ _ _ p.1 p.2 hx.1.le hx.2.le hy.1.le hy.2.le
  obtain ⟨c3, c4, m3, m4, l3, _, l4⟩ := lin_corner B.d B.e B.f _ _ _ _ p.1 p.2 hx.1.le hx.2.le hy.1.le hy.2.le
  exact ⟨⟨B.apply c1, mem m1, sub_le_iff_le_add.mpr (le_add_of_le_of_nonneg l1 hp)⟩,
         ⟨B.apply c2, mem m2, lt_add_of_lt_of_nonneg (l2 r1 hx.1 hx.2 hy.1 hy.2) hp⟩,
         ⟨B.apply c3, mem m3, sub_le_iff_le_add.mpr (le_add_of_le_of_nonneg l3 hp)⟩,
         ⟨B.apply c4, mem m4, lt_add_of_lt_of_nonneg (l4 r2 hx.1 hx.2 hy.1 hy.2) hp⟩⟩

theorem inEnvClosed_of_mem (B : Aff) {pps : Nat} (hpps : 2 ≤ pps) (rect : ROI) (p : Rat × Rat)
    (hx : (rect.2.start : Rat) ≤ p.1 ∧ p.1 ≤ rect.2.stop) (hy : (rect.1.start : Rat) ≤ p.2 ∧ p.2 ≤ rect.1.stop) :
    InEnvClosed (finitePts ((roiBoundary rect pps).map (linTr B))) (B.apply p) := by
  rw [finitePts_linTr]
  have mem : ∀ {c}, _ → B.apply c ∈ (roiBoundary rect pps).map B.apply := fun m =>
    List.mem_map_of_mem (corner_mem_roiBoundary rect hpps m)
  obtain ⟨c1, c2, m1, m2, l1, l2, _⟩ := lin_corner B.a B.b B.c _ _ _ _ p.1 p.2 hx.1 hx.2 hy.1 hy.2
  obtain ⟨c3, c4, m3, m4, l3, l4, _⟩ := lin_corner B.d B.e B.f _ _ _ _ p.1 p.2 hx.1 hx.2 hy.1 hy.2
  exact ⟨⟨B.apply c1, mem m1, l1⟩, ⟨B.apply c2, mem m2, l2⟩, ⟨B.apply c3, mem m3, l3⟩, ⟨B.apply c4, mem m4, l4⟩⟩

theorem maxL_le (d b : Rat) (x : Rat) (xs : List Rat) (h : ∀ y ∈ x :: xs, y ≤ b) : maxL d (x :: xs) ≤ b :=
  h _ (foldl_max_spec xs x).1

theorem le_minL (d b : Rat) (x : Rat) (xs : List Rat) (h : ∀ y ∈ x :: xs, b ≤ y) : b ≤ minL d (x :: xs) :=
  h _ (foldl_min_spec xs x).1

theorem fromPointsAxis_separated (x : Rat) (xs : List Rat) (n pad : Int) (hn : 0 ≤ n)
    (h : (∀ y ∈ x :: xs, y + pad ≤ 0) ∨ (∀ y ∈ x :: xs, (n : Rat) ≤ y - pad)) :
    (fromPointsAxis (minL 0 (x :: xs)) (maxL 0 (x :: xs)) n pad none).stop -
      (fromPointsAxis (minL 0 (x :: xs)) (maxL 0 (x :: xs)) n pad none).start ≤ 0 := by
  have key : (maxL 0 (x :: xs)).ceil + pad ≤ 0 ∨ n ≤ (minL 0 (x :: xs)).floor - pad := by
    refine h.imp (fun h => ?_) (fun h => ?_)
    · have : (maxL 0 (x :: xs)).ceil ≤ -pad :=
        Rat.ceil_le_iff.mpr (maxL_le 0 _ x xs fun y hy => by push_cast; exact le_neg_iff_add_nonpos_right.mpr (h y hy))
      omega
    · have : n + pad ≤ (minL 0 (x :: xs)).floor :=
        Rat.le_floor_iff.mpr (le_minL 0 _ x xs fun y hy => by push_cast; exact le_sub_iff_add_le.mp (h y hy))
      omega
  exact Int.sub_nonpos_of_le (clip_interval_empty hn key)

theorem fromPoints_separated {pts : List (Coord × Coord)} {ny nx pad : Int} (hny : 0 ≤ ny) (hnx : 0 ≤ nx)
    (h : (∀ p ∈ finitePts pts, p.1 + pad ≤ 0) ∨ (∀ p ∈ finitePts pts, (nx : Rat) ≤ p.1 - pad) ∨
         (∀ p ∈ finitePts pts, p.2 + pad ≤ 0) ∨ (∀ p ∈ finitePts pts, (ny : Rat) ≤ p.2 - pad)) :
    ROI.isEmpty (fromPoints pts ny nx pad none) = true := by
  simp only [fromPoints]
  cases hf : finitePts pts with
  | nil => rfl
  | cons p ps =>
    rw [hf] at h
    have hx := fromPointsAxis_separated p.1 (ps.map (·.1)) nx pad hnx
    have hy := fromPointsAxis_separated p.2 (ps.map (·.2)) ny pad hny
    simp only [← List.map_cons, List.forall_mem_map] at hx hy
    simp only [ROI.isEmpty, Bool.or_eq_true, decide_eq_true_eq]
    rcases h with h | h | h | h
    · exact Or.inr (hx (Or.inl h))
    · exact Or.inr (hx (Or.inr h))
    · exact Or.inl (hy (Or.inl h))
    · exact Or.inl (hy (Or.inr h))

theorem normAlign_pos {align : Option Int} (hal : ∀ a, align = some a → 0 ≤ a) :
    ∀ a, normAlign align = some a → 0 < a := by
  intro a ha
  unfold normAlign at ha
  split_ifs at ha with c
  exact lt_of_le_of_ne (hal a ha) fun h0 => c (by rw [ha, ← h0])

theorem le_padOr1 {padding : Option Int} {c : Int} (hc : c ≤ 1) (hpad : ∀ k, padding = some k → c ≤ k) :
    c ≤ padOr1 padding := by
  cases padding with
  | none => exact hc
  | some k => exact hpad k rfl

theorem reprojectLinear_cases {src dst : Shape} {fwd A : Aff} {n ttol stol : Rat} {padding align : Option Int} {p : Plan}
    (h : reprojectLinear src dst fwd A n ttol stol padding align = .ok p) :
    pickReadScale (min (scale2 A n).1 (scale2 A n).2) = .ok p.readShrink ∧
    p.scale = min (scale2 A n).1 (scale2 A n).2 ∧ p.scale2 = scale2 A n ∧
    ((p.pasteOk = false ∧
        (p.roiSrc, p.roiDst) = relativeRois src dst (linTr A) (linTr fwd) 2 (padOr1 padding) (normAlign align)) ∨
     (p.pasteOk = true ∧ canPaste A n stol ttol = .ok true ∧ normAlign align = none ∧
        (padding = none ∨ padding = some 0) ∧
        ((p.readShrink = 1 ∧ boxOverlap src dst (snapAffine A ttol stol) = .ok (p.roiSrc, p.roiDst)) ∨
         (p.readShrink ≠ 1 ∧ ∃ r' : ROI,
            boxOverlap (zoomOutDim src.1 p.readShrink, zoomOutDim src.2 p.readShrink) dst
              (snapAffine (Aff.scale (1 / (p.readShrink : Rat)) (1 / (p.readShrink : Rat)) * A) ttol stol)
              = .ok (r', p.roiDst) ∧ p.roiSrc = scaledUpROI r' p.readShrink)))) := by
  unfold reprojectLinear at h
  dsimp only at h
  -- hide the normalisation of `align` from the case splits
  generalize hal : (if align = some 0 then none else align) = al at h
  split at h
  · cases h
  rename_i rs hrs
  split at h
  · cases h
  · rename_i hpaste
    split_ifs at hpaste with ht
    · subst hal
      split_ifs at h with h1 <;> split at h
      · cases h
      · rename_i r1 r2 hb
        rw [← Except.ok.inj h]
        exact ⟨hrs, rfl, rfl, Or.inr ⟨rfl, hpaste, ht.1, ht.2, Or.inl ⟨h1, hb⟩⟩⟩
      · cases h
      · rename_i r1 r2 hb
        rw [← Except.ok.inj h]
        exact ⟨hrs, rfl, rfl, Or.inr ⟨rfl, hpaste, ht.1, ht.2, Or.inr ⟨h1, r1, hb, rfl⟩⟩⟩
    · cases hpaste
  · subst hal
    rw [← Except.ok.inj h]
    exact ⟨hrs, rfl, rfl, Or.inl ⟨rfl, rfl⟩⟩

theorem reprojectNonlinear_ok {src dst : Shape} {back fwd : PtTr} {scaleAt : Rat × Rat → Rat × Rat}
    {padding align : Option Int} {p : Plan}
    (h : reprojectNonlinear src dst back fwd scaleAt padding align = .ok p) :
    (p.roiSrc, p.roiDst) = relativeRois src dst back fwd 5 (padOr1 padding) (normAlign align) ∧ p.pasteOk = false ∧
    ((ROI.isEmpty p.roiDst = true ∧ p.scale = 0 ∧ p.scale2 = (0, 0) ∧ p.readShrink = 1) ∨
     (ROI.isEmpty p.roiDst = false ∧
      p.scale2 = scaleAt (((p.roiDst.2.start + p.roiDst.2.stop : Int) : Rat) / 2,
                          ((p.roiDst.1.start + p.roiDst.1.stop : Int) : Rat) / 2) ∧
      p.scale = min p.scale2.1 p.scale2.2 ∧ pickReadScale p.scale = .ok p.readShrink)) := by
  unfold reprojectNonlinear at h
  dsimp only at h
  split_ifs at h with c
  · rw [← Except.ok.inj h]
    exact ⟨rfl, rfl, Or.inl ⟨c, rfl, rfl, rfl⟩⟩
  · split at h
    · cases h
    · rename_i rs hrs
      rw [← Except.ok.inj h]
      exact ⟨rfl, rfl, Or.inr ⟨by simpa using c, rfl, rfl, hrs⟩⟩

theorem zoomOutDim_spec (n rs : Int) (hn : 1 ≤ n) (hrs : 1 ≤ rs) :
    n ≤ zoomOutDim n rs * rs ∧ zoomOutDim n rs * rs < n + rs := by
  obtain ⟨c2, c1⟩ := (ceil_intCast_div_eq_iff (N := n) (by omega : 0 < rs)).mp rfl
  have c0 : 0 < ((n : Rat) / rs).ceil := by
    by_contra h
    have := Int.mul_le_mul_of_nonneg_right (Int.not_lt.mp h) (by omega : 0 ≤ rs)
    omega
  rw [zoomOutDim, max_eq_right (by omega)]
  rw [Int.sub_mul, Int.one_mul] at c2
  exact ⟨c1, by omega⟩

/-- The normal equations of `lstsq([x y 1], v)` on the stencil hold for any `a·x + b·y + c` whose slopes are the central
differences of the samples and whose value at the centre is their mean (the stencil is symmetric about `pt`). -/
theorem stencil_fit_normal (v : Rat × Rat → Rat) (pt : Rat × Rat) (r a b c : Rat)
    (ha : a * (2 * r) = v (pt.1 + r, pt.2) - v (pt.1 - r, pt.2))
    (hb : b * (2 * r) = v (pt.1, pt.2 + r) - v (pt.1, pt.2 - r))
    (hc : 5 * (a * pt.1 + b * pt.2 + c) =
      v (pt.1, pt.2) + v (pt.1 - r, pt.2) + v (pt.1, pt.2 - r) + v (pt.1 + r, pt.2) + v (pt.1, pt.2 + r)) :
    let res := (stencilPts pt r).map fun q => v q - (a * q.1 + b * q.2 + c)
    res.sum = 0 ∧ (List.zipWith (· * ·) ((stencilPts pt r).map (·.1)) res).sum = 0 ∧
      (List.zipWith (· * ·) ((stencilPts pt r).map (·.2)) res).sum = 0 := by
  simp only [stencilPts, List.map_cons, List.map_nil, List.sum_cons, List.sum_nil, List.zipWith_cons_cons,
    List.zipWith_nil_right]
  refine ⟨?_, ?_, ?_⟩
  · linear_combination (-1 : Rat) * hc
  · linear_combination (-pt.1) * hc - r * ha
  · linear_combination (-pt.2) * hc - r * hb

theorem central_diff_affine (a b c x y r : Rat) (hr : r ≠ 0) :
    (a * (x + r) + b * y + c - (a * (x - r) + b * y + c)) / (2 * r) = a ∧
    (a * x + b * (y + r) + c - (a * x + b * (y - r) + c)) / (2 * r) = b :=
  have h2 : (2 : Rat) * r ≠ 0 := mul_ne_zero two_ne_zero hr
  ⟨div_eq_of_eq_mul h2 (by ring), div_eq_of_eq_mul h2 (by ring)⟩

end OdcGeo.C03
