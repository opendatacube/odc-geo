/- Helper lemmas for C04: floor / ceil division behind the tile count, prefix sums and the `int32`
cumulative sum of variable tiles, numpy's `a[i]`, `a[i:j]`, `searchsorted` and `min` / `max` of a
selection on in-range arguments. -/
import OdcGeo.Model.C04
import OdcGeo.Model.C04Spec
import OdcGeo.Lemmas.Py
import Mathlib.Tactic.Ring
namespace OdcGeo.C04
open OdcGeo OdcGeo.C17 OdcGeo.NpArray

theorem ediv_bounds (y n : Int) (hn : 0 < n) : (y / n) * n ≤ y ∧ y < (y / n + 1) * n := by
  have h1 := Int.emod_add_mul_ediv y n
  have h2 := Int.emod_nonneg y (Int.ne_of_gt hn)
  have h3 := Int.emod_lt_of_pos y hn
  rw [Int.mul_comm] at h1
  rw [Int.add_mul, Int.one_mul]
  omega

theorem count_is_ceil (N n : Int) (hn : 0 < n) : (count N n - 1) * n < N ∧ N ≤ count N n * n := by
  unfold count ceilDiv
  rw [if_pos hn]
  obtain ⟨b1, b2⟩ := ediv_bounds (N + n - 1) n hn
  rw [Int.add_mul, Int.one_mul] at b2
  rw [Int.sub_mul, Int.one_mul]
  omega

theorem mul_lt_iff_lt_count (N n i : Int) (hn : 0 < n) : i * n < N ↔ i < count N n := by
  obtain ⟨h1, h2⟩ := count_is_ceil N n hn
  have hn' := Int.le_of_lt hn
  exact ⟨fun h => Int.lt_of_mul_lt_mul_right (Int.lt_of_lt_of_le h h2) hn',
    fun h => Int.lt_of_le_of_lt (Int.mul_le_mul_of_nonneg_right (Int.le_sub_one_of_lt h) hn') h1⟩

theorem count_nonneg (N n : Int) (hn : 0 < n) (hN : 0 ≤ N) : 0 ≤ count N n := by
  have := (mul_lt_iff_lt_count N n (-1) hn).1 (by omega)
  omega

theorem count_pos (N n : Int) (hn : 0 < n) (hN : 0 < N) : 0 < count N n :=
  (mul_lt_iff_lt_count N n 0 hn).1 (by rw [Int.zero_mul]; exact hN)

theorem count_le_zero (N n : Int) (hn : 0 < n) (hN : N ≤ 0) : count N n ≤ 0 :=
  Int.not_lt.1 fun h => by
    have := (mul_lt_iff_lt_count N n 0 hn).2 h
    omega

theorem count_eq_of_bounds (N n T : Int) (hn : 0 < n) (h1 : (T - 1) * n < N) (h2 : N ≤ T * n) :
    count N n = T := by
  have a := (mul_lt_iff_lt_count N n (T - 1) hn).1 h1
  have b := mt (mul_lt_iff_lt_count N n T hn).2 (Int.not_lt.2 h2)
  omega

theorem total_eq_sum (ch : List Int) : total ch = ch.sum := by
  induction ch with
  | nil => rfl
  | cons c cs ih => rw [total, ih, List.sum_cons]

theorem pre_eq_sum_take (ch : List Int) (k : Nat) : pre ch k = (ch.take k).sum := by
  induction ch generalizing k with
  | nil => cases k <;> rfl
  | cons c cs ih =>
    cases k with
    | zero => rfl
    | succ k => rw [pre, ih, List.take_succ_cons, List.sum_cons]

theorem pre_nil (k : Nat) : pre [] k = 0 := by cases k <;> rfl

theorem pre_zero (ch : List Int) : pre ch 0 = 0 := by cases ch <;> rfl

theorem pre_ge_length (ch : List Int) (k : Nat) (hk : ch.length ≤ k) : pre ch k = total ch := by
  rw [pre_eq_sum_take, List.take_of_length_le hk, total_eq_sum]

theorem pre_length (ch : List Int) : pre ch ch.length = total ch :=
  pre_ge_length ch _ (Nat.le_refl _)

theorem pre_step (ch : List Int) (k : Nat) (c : Int) (hc : ch[k]? = some c) :
    pre ch (k + 1) = pre ch k + c := by
  obtain ⟨hk, rfl⟩ := List.getElem?_eq_some_iff.1 hc
  rw [pre_eq_sum_take, pre_eq_sum_take, List.take_succ_eq_append_getElem hk, List.sum_append,
    List.sum_singleton]

theorem pre_drop (ch : List Int) (a k : Nat) : pre (ch.drop a) k = pre ch (a + k) - pre ch a := by
  rw [pre_eq_sum_take, pre_eq_sum_take, pre_eq_sum_take, List.take_add, List.sum_append,
    add_sub_cancel_left]

theorem pre_take (xs : List Int) (m k : Nat) (hk : k ≤ m) : pre (xs.take m) k = pre xs k := by
  rw [pre_eq_sum_take, pre_eq_sum_take, List.take_take, Nat.min_eq_left hk]

theorem total_take (xs : List Int) (m : Nat) : total (xs.take m) = pre xs m := by
  rw [pre_eq_sum_take, total_eq_sum]

theorem pre_mono_step (ch : List Int) (h : ∀ c ∈ ch, 0 ≤ c) (k : Nat) : pre ch k ≤ pre ch (k + 1) := by
  by_cases hk : k < ch.length
  · rw [pre_step ch k _ (List.getElem?_eq_getElem hk)]
    exact Int.le_add_of_nonneg_right (h ch[k] (List.getElem_mem hk))
  · have hk' := Nat.not_lt.1 hk
    rw [pre_ge_length ch k hk', pre_ge_length ch (k + 1) (Nat.le_succ_of_le hk')]

theorem pre_mono (ch : List Int) (h : ∀ c ∈ ch, 0 ≤ c) (i j : Nat) (hij : i ≤ j) :
    pre ch i ≤ pre ch j := by
  induction hij with
  | refl => exact Int.le_refl _
  | step _ ih => exact Int.le_trans ih (pre_mono_step ch h _)

theorem pre_nonneg (ch : List Int) (h : ∀ c ∈ ch, 0 ≤ c) (k : Nat) : 0 ≤ pre ch k := by
  rw [← pre_zero ch]
  exact pre_mono ch h 0 k (Nat.zero_le k)

theorem total_nonneg (ch : List Int) (h : ∀ c ∈ ch, 0 ≤ c) : 0 ≤ total ch :=
  (pre_nonneg ch h ch.length).trans_eq (pre_length ch)

theorem pre_le_total (ch : List Int) (h : ∀ c ∈ ch, 0 ≤ c) (k : Nat) : pre ch k ≤ total ch := by
  rw [← pre_ge_length ch (max k ch.length) (Nat.le_max_right _ _)]
  exact pre_mono ch h _ _ (Nat.le_max_left _ _)

theorem exists_interval (f : Nat → Int) (y : Int) (T : Nat) (h0 : f 0 ≤ y) (hT : y < f T) :
    ∃ i, i < T ∧ f i ≤ y ∧ y < f (i + 1) := by
  induction T with
  | zero => exact absurd hT (Int.not_lt.2 h0)
  | succ T ih =>
    by_cases h : y < f T
    · obtain ⟨i, hi, h12⟩ := ih h
      exact ⟨i, Nat.lt_succ_of_lt hi, h12⟩
    · exact ⟨T, Nat.lt_succ_self T, Int.not_lt.1 h, hT⟩

theorem wrap32_id (x : Int) (h : -2147483648 ≤ x ∧ x < 2147483648) : wrap32 x = x := by
  unfold wrap32; omega

/-- summing `ch` in `int32` on top of `acc` never leaves the `int32` range -/
def NoWrap (acc : Int) (ch : List Int) : Prop :=
  (∀ c ∈ ch, 0 ≤ c) ∧ 0 ≤ acc ∧ acc + total ch < 2147483648

theorem ChunksOK.noWrap {ch : List Int} (hok : ChunksOK ch) : NoWrap 0 ch :=
  ⟨hok.1, Int.le_refl 0, by rw [Int.zero_add]; exact hok.2⟩

theorem NoWrap.cons {acc c : Int} {cs : List Int} (h : NoWrap acc (c :: cs)) :
    (0 ≤ c ∧ c < 2147483648) ∧ cumsum32 acc (c :: cs) = (acc + c) :: cumsum32 (acc + c) cs ∧
      NoWrap (acc + c) cs := by
  obtain ⟨hpos, ha, hb⟩ := h
  obtain ⟨hc, hcs⟩ := List.forall_mem_cons.1 hpos
  have ht := total_nonneg cs hcs
  rw [total] at hb
  refine ⟨⟨hc, by omega⟩, ?_, hcs, Int.add_nonneg ha hc, by rwa [Int.add_assoc]⟩
  rw [cumsum32, wrap32_id _ (by omega)]

theorem cumsum32_length (acc : Int) (ch : List Int) : (cumsum32 acc ch).length = ch.length := by
  induction ch generalizing acc with
  | nil => rfl
  | cons c cs ih => simp only [cumsum32, List.length_cons, ih]

theorem cumsum32_getElem? (acc : Int) (ch : List Int) (h : NoWrap acc ch) (k : Nat) (hk : k < ch.length) :
    (cumsum32 acc ch)[k]? = some (acc + pre ch (k + 1)) := by
  induction ch generalizing acc k with
  | nil => cases hk
  | cons c cs ih =>
    obtain ⟨_, e, h'⟩ := h.cons
    rw [e]
    cases k with
    | zero => rw [List.getElem?_cons_zero, pre, pre_zero, Int.add_zero]
    | succ k =>
      rw [List.getElem?_cons_succ, ih _ h' k (Nat.lt_of_succ_lt_succ hk), pre, Int.add_assoc]

theorem lastOr_cumsum32 (acc : Int) (ch : List Int) (h : NoWrap acc ch) :
    lastOr acc (cumsum32 acc ch) = acc + total ch := by
  induction ch generalizing acc with
  | nil => exact (Int.add_zero acc).symm
  | cons c cs ih =>
    obtain ⟨_, e, h'⟩ := h.cons
    rw [e, lastOr, ih _ h', total, Int.add_assoc]

theorem diff32_cumsum32 (acc : Int) (ch : List Int) (h : NoWrap acc ch) :
    diff32 (acc :: cumsum32 acc ch) = ch := by
  induction ch generalizing acc with
  | nil => rfl
  | cons c cs ih =>
    obtain ⟨hc, e, h'⟩ := h.cons
    rw [e, diff32, ih _ h', add_sub_cancel_left, wrap32_id c (by omega)]

theorem offsets_length (ch : List Int) : (offsets ch).length = ch.length + 1 := by
  rw [offsets, List.length_cons, cumsum32_length]

theorem vcount_eq (ch : List Int) : vcount ch = ch.length := by
  rw [vcount, offsets_length]; omega

theorem offsets_getElem? (ch : List Int) (hok : ChunksOK ch) (k : Nat) (hk : k ≤ ch.length) :
    (offsets ch)[k]? = some (pre ch k) := by
  cases k with
  | zero => rw [pre_zero]; rfl
  | succ k =>
    rw [offsets, List.getElem?_cons_succ, cumsum32_getElem? 0 ch hok.noWrap k hk, Int.zero_add]

theorem vbase_eq_total (ch : List Int) (hok : ChunksOK ch) : vbase ch = total ch := by
  rw [vbase, lastOr_cumsum32 0 ch hok.noWrap, Int.zero_add]

theorem sorted_cumsum32 (ch : List Int) (hok : ChunksOK ch) : Sorted (cumsum32 0 ch) := by
  intro i j v w hij hv hw
  have hi := (List.getElem?_eq_some_iff.1 hv).1
  have hj := (List.getElem?_eq_some_iff.1 hw).1
  rw [cumsum32_length] at hi hj
  rw [cumsum32_getElem? 0 ch hok.noWrap i hi] at hv
  rw [cumsum32_getElem? 0 ch hok.noWrap j hj] at hw
  cases hv; cases hw
  exact Int.add_le_add_left (pre_mono ch hok.1 (i + 1) (j + 1) (Nat.succ_le_succ hij)) 0

/-- `a[i]` of a tuple / 1-D array, `j` being the index with a negative one counted from the end
(once): the entry inside `[0, len)`, `IndexError` outside -/
theorem npGet_spec (a : List Int) (i j : Int) (hj : j = if i < 0 then i + a.length else i) :
    (0 ≤ j ∧ j < a.length → ∃ v, a[j.toNat]? = some v ∧ npGet a i = .ok v) ∧
    (¬ (0 ≤ j ∧ j < a.length) → npGet a i = .error .indexError) := by
  subst hj
  unfold npGet
  simp only []
  generalize (if i < 0 then i + (a.length : Int) else i) = j
  refine ⟨fun h => ?_, fun h => if_pos ((not_and_or.1 h).imp Int.not_le.1 Int.not_lt.1)⟩
  rw [if_neg (by omega), List.getElem?_eq_getElem ((Int.toNat_lt h.1).2 h.2)]
  exact ⟨_, rfl, rfl⟩

theorem npGet_inrange (a : List Int) (j : Int) (h : 0 ≤ j ∧ j < a.length) :
    ∃ v, a[j.toNat]? = some v ∧ npGet a j = .ok v :=
  (npGet_spec a j j (if_neg (Int.not_lt.2 h.1)).symm).1 h

theorem npGet_outofrange (a : List Int) (j : Int) (h : (a.length : Int) ≤ j) :
    npGet a j = .error .indexError :=
  (npGet_spec a j j (if_neg (Int.not_lt.2 (Int.le_trans (Int.natCast_nonneg _) h))).symm).2
    fun hc => Int.not_lt.2 h hc.2

theorem npGet_ok_mem (a : List Int) (i v : Int) (h : npGet a i = .ok v) :
    ∃ k : Nat, a[k]? = some v := by
  generalize hj : (if i < 0 then i + (a.length : Int) else i) = j
  obtain ⟨hin, hout⟩ := npGet_spec a i j hj.symm
  by_cases hr : 0 ≤ j ∧ j < a.length
  · obtain ⟨w, hw, e⟩ := hin hr
    cases e.symm.trans h
    exact ⟨_, hw⟩
  · cases (hout hr).symm.trans h

theorem npGet_offsets (ch : List Int) (hok : ChunksOK ch) (k : Nat) (hk : k ≤ ch.length) :
    npGet (offsets ch) (k : Int) = .ok (pre ch k) := by
  obtain ⟨v, hw, hv⟩ := npGet_inrange (offsets ch) k ⟨Int.natCast_nonneg k, by rw [offsets_length]; omega⟩
  rw [Int.toNat_natCast, offsets_getElem? ch hok k hk] at hw
  rw [hv, Option.some.inj hw]

theorem clampBound_inrange (n x : Int) (h : 0 ≤ x ∧ x ≤ n) : PySlice.clampBound n x = x := by
  unfold PySlice.clampBound
  omega

theorem pySlice_inrange (xs : List Int) (a b : Nat) (hab : a ≤ b ∧ b ≤ xs.length) :
    pySlice xs (a : Int) (b : Int) = (xs.drop a).take (b - a) := by
  simp only [pySlice, PySlice.bounds]
  rw [clampBound_inrange _ _ ⟨Int.natCast_nonneg a, Int.ofNat_le.2 (Nat.le_trans hab.1 hab.2)⟩,
    clampBound_inrange _ _ ⟨Int.natCast_nonneg b, Int.ofNat_le.2 hab.2⟩, Int.toNat_natCast,
    ← Int.natCast_sub hab.1, Int.toNat_natCast]

/-- `minL` / `maxL` are `min(xs)` / `max(xs)` as the left folds of `Lemmas/Py` -/
theorem minL_eq_foldl (a : Int) (xs : List Int) : minL a xs = xs.foldl min a := by
  induction xs generalizing a with
  | nil => rfl
  | cons x xs ih => exact ih _

theorem maxL_eq_foldl (a : Int) (xs : List Int) : maxL a xs = xs.foldl max a := by
  induction xs generalizing a with
  | nil => rfl
  | cons x xs ih => exact ih _

theorem minL_spec (a : Int) (xs : List Int) : minL a xs ∈ a :: xs ∧ ∀ x ∈ a :: xs, minL a xs ≤ x :=
  minL_eq_foldl a xs ▸ foldl_min_spec xs a

theorem maxL_spec (a : Int) (xs : List Int) : maxL a xs ∈ a :: xs ∧ ∀ x ∈ a :: xs, x ≤ maxL a xs :=
  maxL_eq_foldl a xs ▸ foldl_max_spec xs a

theorem clipSel_spec (sel : List Int) (hne : sel ≠ []) :
    ∃ y1 y2, clipSel sel = .ok (y1, y2, sel.map (· - y1)) ∧ y1 ∈ sel ∧ y2 ∈ sel ∧
      ∀ s ∈ sel, y1 ≤ s ∧ s ≤ y2 := by
  cases sel with
  | nil => exact absurd rfl hne
  | cons x xs =>
    exact ⟨_, _, rfl, (minL_spec x xs).1, (maxL_spec x xs).1,
      fun s hs => ⟨(minL_spec x xs).2 s hs, (maxL_spec x xs).2 s hs⟩⟩

theorem bsearchRight_spec (xs : List Int) (key : Int) (hs : Sorted xs) :
    ∀ fuel lo hi, lo ≤ hi → hi ≤ xs.length → hi - lo < fuel →
      (∀ i v, i < lo → xs[i]? = some v → v ≤ key) →
      (∀ i v, hi ≤ i → xs[i]? = some v → key < v) →
      bsearchRight xs key fuel lo hi ≤ hi ∧
      (∀ i v, i < bsearchRight xs key fuel lo hi → xs[i]? = some v → v ≤ key) ∧
      (∀ i v, bsearchRight xs key fuel lo hi ≤ i → xs[i]? = some v → key < v) := by
  intro fuel
  induction fuel with
  | zero => exact fun lo hi _ _ h => absurd h (Nat.not_lt_zero _)
  | succ f ih =>
    intro lo hi hle hlen hf hA hB
    rw [bsearchRight]
    by_cases hlt : lo < hi
    · have hmid2 : lo + (hi - lo) / 2 < hi := by omega
      have hm : lo + (hi - lo) / 2 < xs.length := Nat.lt_of_lt_of_le hmid2 hlen
      have hmid := List.getElem?_eq_getElem hm
      rw [if_pos hlt]
      simp only [hmid]
      by_cases hk : key < xs[lo + (hi - lo) / 2]
      · rw [if_pos hk]
        obtain ⟨r2, r34⟩ := ih lo (lo + (hi - lo) / 2) (Nat.le_add_right _ _)
          (Nat.le_of_lt hm) (by omega) hA
          (fun i v hi' hv => Int.lt_of_lt_of_le hk (hs _ _ _ _ hi' hmid hv))
        exact ⟨Nat.le_trans r2 (Nat.le_of_lt hmid2), r34⟩
      · rw [if_neg hk]
        exact ih (lo + (hi - lo) / 2 + 1) hi hmid2 hlen (by omega)
          (fun i v hi' hv => Int.le_trans (hs _ _ _ _ (Nat.le_of_lt_succ hi') hv hmid) (Int.not_lt.1 hk))
          hB
    · rw [if_neg hlt]
      obtain rfl : lo = hi := Nat.le_antisymm hle (Nat.not_lt.1 hlt)
      exact ⟨Nat.le_refl _, hA, hB⟩

theorem searchsorted_split (xs : List Int) (key : Int) (hs : Sorted xs) :
    searchsortedRight xs key ≤ xs.length ∧
    (∀ i v, i < searchsortedRight xs key → xs[i]? = some v → v ≤ key) ∧
    (∀ i v, searchsortedRight xs key ≤ i → xs[i]? = some v → key < v) :=
  (bsearchRight_spec xs key hs (xs.length + 1) 0 xs.length
    (Nat.zero_le _) (Nat.le_refl _) (Nat.lt_succ_self _) (fun i _ h => absurd h (Nat.not_lt_zero i))
    (fun _ _ h hv => absurd (List.getElem?_eq_some_iff.1 hv).1 (Nat.not_lt.2 h)))

theorem takeWhile_length_spec (p : Int → Bool) (xs : List Int) :
    (∀ i v, i < (xs.takeWhile p).length → xs[i]? = some v → p v = true) ∧
    (∀ v, xs[(xs.takeWhile p).length]? = some v → p v = false) := by
  induction xs with
  | nil => exact ⟨fun _ _ h => absurd h (Nat.not_lt_zero _), fun _ h => nomatch h⟩
  | cons x t ih =>
    by_cases hp : p x = true
    · rw [List.takeWhile_cons_of_pos hp]
      refine ⟨fun i v hi hv => ?_, ih.2⟩
      cases i with
      | zero => cases hv; exact hp
      | succ i => exact ih.1 i v (Nat.lt_of_succ_lt_succ hi) hv
    · rw [List.takeWhile_cons_of_neg hp]
      exact ⟨fun _ _ h => absurd h (Nat.not_lt_zero _), fun v hv => by cases hv; exact Bool.eq_false_iff.2 hp⟩

theorem sum_replicate (k : Nat) (a : Int) : (List.replicate k a).sum = k * a := by
  induction k with
  | zero => rw [List.replicate_zero, List.sum_nil, Int.natCast_zero, Int.zero_mul]
  | succ k ih => rw [List.replicate_succ, List.sum_cons, ih]; push_cast; ring

end OdcGeo.C04
