/- Helper lemmas for C13: tilings and their clipping, list helpers, `BlockAssembler.extract`. -/
import OdcGeo.Model.C13
import Mathlib.Algebra.Order.Field.Rat
import Mathlib.Data.List.Forall2

namespace OdcGeo.C13
open OdcGeo

theorem full_wf (h w : Int) (v : Val) : WF (full h w v) h w := by
  intro p
  unfold full
  split
  · next hp => exact ⟨fun _ => hp, fun _ => rfl⟩
  · next hp => exact ⟨fun hs => (by cases hs), fun h' => absurd h' hp⟩

theorem Chain.le : ∀ {t : List Span} {a b : Int}, Chain a t b → a ≤ b
  | [], _, _, h => Int.le_of_eq h
  | _ :: _, _, _, ⟨h1, h2, h3⟩ => by have := Chain.le h3; omega

theorem Chain.get {t : List Span} {a b : Int} {i : Nat} {s : Span} (h : Chain a t b) (hi : t[i]? = some s) :
    a ≤ s.1 ∧ s.1 ≤ s.2 ∧ s.2 ≤ b := by
  induction t generalizing a i with
  | nil => cases hi
  | cons s0 r ih =>
    obtain ⟨h1, h2, h3⟩ := h
    cases i with
    | zero =>
      cases hi
      exact ⟨h1.ge, h2, h3.le⟩
    | succ i =>
      have := ih h3 hi
      omega

theorem Chain.mono {t : List Span} {a b : Int} {i j : Nat} {s s' : Span} (h : Chain a t b) (hij : i ≤ j)
    (hi : t[i]? = some s) (hj : t[j]? = some s') : s.1 ≤ s'.1 ∧ s.2 ≤ s'.2 := by
  induction t generalizing a i j with
  | nil => cases hi
  | cons s0 r ih =>
    obtain ⟨_, _, h3⟩ := h
    cases j with
    | zero =>
      obtain rfl := Nat.le_zero.1 hij
      cases hi.symm.trans hj
      exact ⟨le_rfl, le_rfl⟩
    | succ j =>
      cases i with
      | zero =>
        cases hi
        have := h3.get (i := j) hj
        omega
      | succ i => exact ih h3 (Nat.le_of_succ_le_succ hij) hi hj

theorem locate_spec : ∀ {t : List Span} {p : Int} {i : Nat},
    locate t p = some i → ∃ s, t[i]? = some s ∧ s.1 ≤ p ∧ p < s.2
  | [], _, _, h => by cases h
  | s0 :: r, p, i, h => by
    unfold locate at h
    split at h
    · next hc => cases h; exact ⟨s0, rfl, hc⟩
    · obtain ⟨k, hl, rfl⟩ := Option.map_eq_some_iff.1 h
      exact locate_spec (t := r) hl

theorem Chain.locate_some : ∀ {t : List Span} {a b p : Int},
    Chain a t b → a ≤ p → p < b → ∃ i, locate t p = some i
  | [], a, b, p, h, h1, h2 => by simp [Chain] at h; omega
  | s0 :: r, a, b, p, h, h1, h2 => by
    obtain ⟨e1, e2, e3⟩ := h
    unfold locate
    by_cases hc : s0.1 ≤ p ∧ p < s0.2
    · exact ⟨0, by rw [if_pos hc]⟩
    · rw [if_neg hc]
      obtain ⟨i, hi⟩ := Chain.locate_some e3 (by omega) h2
      exact ⟨i + 1, by simp [hi]⟩

theorem Chain.inTile {t : List Span} {a b p : Int} (h : Chain a t b) (h1 : a ≤ p) (h2 : p < b) :
    ∃ i, InTile t i p := by
  obtain ⟨i, hi⟩ := Chain.locate_some h h1 h2
  exact ⟨i, locate_spec hi⟩

theorem Chain.mem {t : List Span} {a b : Int} {s : Span} (h : Chain a t b) (hs : s ∈ t) :
    a ≤ s.1 ∧ s.1 ≤ s.2 ∧ s.2 ≤ b := by
  obtain ⟨i, hi⟩ := List.getElem?_of_mem hs
  exact h.get hi

theorem chunksTilingFrom_chain : ∀ (l : List Nat) (off : Int),
    Chain off (chunksTilingFrom off l) (off + ((l.sum : Nat) : Int))
  | [], off => (Int.add_zero off).symm
  | n :: r, off => by
    refine ⟨rfl, Int.le_add_of_nonneg_right (Int.natCast_nonneg n), ?_⟩
    have := chunksTilingFrom_chain r (off + n)
    rwa [Int.add_assoc, ← Int.natCast_add] at this

theorem ceilDiv_tiles (N n : Nat) (hn : 0 < n) :
    (∀ i, i < (N + n - 1) / n → i * n < N) ∧ N ≤ (N + n - 1) / n * n := by
  have h1 := Nat.div_add_mod (N + n - 1) n
  have h2 := Nat.mod_lt (N + n - 1) hn
  rw [Nat.mul_comm] at h1
  refine ⟨fun i hi => ?_, by omega⟩
  have : (i + 1) * n ≤ (N + n - 1) / n * n := Nat.mul_le_mul_right n hi
  rw [Nat.add_mul, Nat.one_mul] at this
  omega

theorem regularTiling_chain_aux (N n : Nat) (hn : 0 < n) : ∀ (cnt k : Nat), k + cnt = (N + n - 1) / n →
    Chain ((min (k * n) N : Nat) : Int)
      ((List.range' k cnt).map fun i => (((i * n : Nat) : Int), ((min ((i + 1) * n) N : Nat) : Int))) N
  | 0, k, hk => by
    have := (ceilDiv_tiles N n hn).2
    rw [← hk, Nat.add_zero] at this
    show ((min (k * n) N : Nat) : Int) = N
    rw [Nat.min_eq_right this]
  | cnt + 1, k, hk => by
    have hkN := (ceilDiv_tiles N n hn).1 k (by omega)
    refine ⟨by rw [Nat.min_eq_left hkN.le], ?_, regularTiling_chain_aux N n hn cnt (k + 1) (by omega)⟩
    have : k * n ≤ min ((k + 1) * n) N := by rw [Nat.add_mul]; omega
    exact Int.ofNat_le.2 this

theorem minMax_spec : ∀ {l : List Nat}, l ≠ [] →
    ∃ lo hi, minMax l = some (lo, hi) ∧ (∀ a ∈ l, lo ≤ a ∧ a ≤ hi) ∧ lo ∈ l ∧ hi ∈ l
  | [], h => absurd rfl h
  | [a], _ => ⟨a, a, rfl, by simp, by simp, by simp⟩
  | a :: b :: r, _ => by
    obtain ⟨lo, hi, hm, h1, h2, h3⟩ := minMax_spec (l := b :: r) (List.cons_ne_nil _ _)
    refine ⟨min a lo, max a hi, by rw [minMax, hm], fun x hx => ?_, ?_, ?_⟩
    · rcases List.mem_cons.1 hx with rfl | hx
      · omega
      · have := h1 x hx; omega
    · rcases Nat.le_total a lo with hc | hc
      · rw [Nat.min_eq_left hc]; exact List.mem_cons_self
      · rw [Nat.min_eq_right hc]; exact List.mem_cons_of_mem _ h2
    · rcases Nat.le_total a hi with hc | hc
      · rw [Nat.max_eq_right hc]; exact List.mem_cons_of_mem _ h3
      · rw [Nat.max_eq_left hc]; exact List.mem_cons_self

theorem clipSpans_spec {t : List Span} {lo hi : Nat} {a b : Span}
    (hlo : t[lo]? = some a) (hhi : t[hi]? = some b) :
    ∃ cropped, clipSpans t lo hi = some ((a.1, b.2), cropped) ∧
      ∀ i, lo ≤ i → i ≤ hi →
        cropped[i - lo]? = (t[i]?).map fun s => (s.1 - a.1, s.2 - a.1) := by
  refine ⟨((t.drop lo).take (hi + 1 - lo)).map fun s => (s.1 - a.1, s.2 - a.1), ?_, ?_⟩
  · simp only [clipSpans, hlo, hhi, Option.bind_eq_bind, Option.bind_some, Option.pure_def]
  · intro i h1 h2
    rw [List.getElem?_map, List.getElem?_take, if_pos (by omega), List.getElem?_drop]
    congr 2
    omega

/-- One axis (`π` = row or column of a tile index) of `GeoboxTiles.clip` on the tiles `sel` a task depends on;
`[o, e)` is the pixel window. -/
theorem clipAxis_spec {α : Type} {t : List Span} {N : Int} (ht : Chain 0 t N) {sel : List α} (π : α → Nat)
    (hne : sel ≠ []) (hv : ∀ i ∈ sel, π i < t.length) :
    ∃ lo hi o e cropped, minMax (sel.map π) = some (lo, hi) ∧
      clipSpans t lo hi = some ((o, e), cropped) ∧ 0 ≤ o ∧ e ≤ N ∧
      ∀ i ∈ sel, lo ≤ π i ∧ cropped[π i - lo]? = (t[π i]?).map (fun s => (s.1 - o, s.2 - o)) ∧
        ∀ p, InTile t (π i) p → o ≤ p ∧ p < e := by
  obtain ⟨lo, hi, hm, hb, hlo, hhi⟩ := minMax_spec (l := sel.map π) (by simpa using hne)
  obtain ⟨i0, h0, rfl⟩ := List.mem_map.1 hlo
  obtain ⟨i1, h1, rfl⟩ := List.mem_map.1 hhi
  have ha := List.getElem?_eq_getElem (hv i0 h0)
  have hb' := List.getElem?_eq_getElem (hv i1 h1)
  obtain ⟨cropped, hc, hci⟩ := clipSpans_spec ha hb'
  refine ⟨_, _, _, _, cropped, hm, hc, (ht.get ha).1, (ht.get hb').2.2, fun i hi' => ?_⟩
  have hbi := hb _ (List.mem_map_of_mem hi')
  refine ⟨hbi.1, hci _ hbi.1 hbi.2, fun p ⟨s, hs, p1, p2⟩ => ?_⟩
  have m1 := ht.mono hbi.1 ha hs
  have m2 := ht.mono hbi.2 hs hb'
  omega

theorem lookup_mem {α β : Type} [BEq α] [LawfulBEq α] {k : α} {v : β} {l : List (α × β)}
    (h : l.lookup k = some v) : (k, v) ∈ l := by
  obtain ⟨l₁, l₂, rfl, _⟩ := List.lookup_eq_some_iff.1 h
  exact List.mem_append_right _ List.mem_cons_self

theorem lookupDeps_mem {deps : List (TIdx × List TIdx)} {idx i : TIdx} (h : i ∈ lookupDeps deps idx) :
    ∃ e ∈ deps, i ∈ e.2 := by
  unfold lookupDeps at h
  split at h
  · next l hl => exact ⟨(idx, l), lookup_mem hl, h⟩
  · cases h

theorem mapOpt_map_comm {α β γ : Type} {f : α → Option β} {f' : α → Option γ} (g : β → γ)
    (h : ∀ a, (f a).map g = f' a) : ∀ l : List α, (mapOpt f l).map (List.map g) = mapOpt f' l
  | [] => rfl
  | a :: r => by
    simp only [mapOpt, ← h a, ← mapOpt_map_comm g h r]
    cases f a <;> cases mapOpt f r <;> rfl

theorem forall₂_getElem? {α β : Type} {R : α → β → Prop} {l : List α} {g : List β}
    (h : List.Forall₂ R l g) {i : Nat} {a : α} (ha : l[i]? = some a) : ∃ b, g[i]? = some b ∧ R a b := by
  obtain ⟨hi, rfl⟩ := List.getElem?_eq_some_iff.1 ha
  have hi' : i < g.length := h.length_eq ▸ hi
  exact ⟨g[i], List.getElem?_eq_getElem hi', h.get hi hi'⟩

theorem forall₂_map_eq {α β γ : Type} {R : α → β → Prop} {l : List α} {g : List β} (f : α → γ) (k : β → γ)
    (h : List.Forall₂ R l g) (hR : ∀ a b, R a b → k b = f a) : g.map k = l.map f := by
  induction h with
  | nil => rfl
  | cons hab _ ih => rw [List.map_cons, List.map_cons, hR _ _ hab, ih]

theorem mapOpt_cons_some {α β} {f : α → Option β} {a : α} {r : List α} {bs : List β}
    (h : mapOpt f (a :: r) = some bs) :
    ∃ b bs', f a = some b ∧ mapOpt f r = some bs' ∧ bs = b :: bs' := by
  unfold mapOpt at h
  split at h
  · next b bs' hb hbs => exact ⟨b, bs', hb, hbs, (Option.some.inj h).symm⟩
  · cases h

theorem mapOpt_isSome {α β} {f : α → Option β} : ∀ {l : List α},
    (∀ a ∈ l, ∃ b, f a = some b) → ∃ bs, mapOpt f l = some bs
  | [], _ => ⟨[], rfl⟩
  | a :: r, h => by
    obtain ⟨b, hb⟩ := h a List.mem_cons_self
    obtain ⟨bs, hbs⟩ := mapOpt_isSome (l := r) (fun x hx => h x (List.mem_cons_of_mem _ hx))
    exact ⟨b :: bs, by simp [mapOpt, hb, hbs]⟩

theorem mapOpt_congr {α β} {f g : α → Option β} : ∀ {l : List α} {bs : List β},
    mapOpt f l = some bs → (∀ a ∈ l, ∀ b, f a = some b → g a = some b) → mapOpt g l = some bs
  | [], bs, h, _ => by simpa [mapOpt] using h
  | a :: r, bs, h, hfg => by
    obtain ⟨b, bs', h1, h2, rfl⟩ := mapOpt_cons_some h
    have := mapOpt_congr h2 (fun x hx => hfg x (List.mem_cons_of_mem _ hx))
    simp [mapOpt, hfg a List.mem_cons_self b h1, this]

theorem srcBlock_eq {src : Img} {sy sx : List Span} {idx : TIdx} (h1 : idx.1 < sy.length)
    (h2 : idx.2 < sx.length) : srcBlock src sy sx idx = some (window src sy[idx.1] sx[idx.2]) := by
  unfold srcBlock
  rw [List.getElem?_eq_getElem h1, List.getElem?_eq_getElem h2]
  rfl

theorem srcBlock_some {src : Img} {sy sx : List Span} {idx : TIdx} {b : Img}
    (h : srcBlock src sy sx idx = some b) :
    ∃ ys xs, sy[idx.1]? = some ys ∧ sx[idx.2]? = some xs ∧ b = window src ys xs := by
  simp only [srcBlock, Option.bind_eq_bind, Option.bind_eq_some_iff, Option.pure_def, Option.some.injEq] at h
  obtain ⟨ys, hys, xs, hxs, rfl⟩ := h
  exact ⟨ys, xs, hys, hxs, rfl⟩

theorem pasteBlock_window (acc src : Img) (ys xs : Span) (oy ox : Int) (p : Int × Int) :
    pasteBlock acc (ys.1 - oy, ys.2 - oy) (xs.1 - ox, xs.2 - ox) (window src ys xs) p =
      if (ys.1 ≤ p.1 + oy ∧ p.1 + oy < ys.2) ∧ xs.1 ≤ p.2 + ox ∧ p.2 + ox < xs.2 then src (p.1 + oy, p.2 + ox)
      else acc p := by
  unfold pasteBlock window
  simp only []
  split
  · next h =>
    rw [if_pos (by omega), if_pos (by omega)]
    congr 2 <;> omega
  · next h => rw [if_neg (by omega)]

/-- `BlockAssembler.extract` in the clipped window: offset `(oy, ox)`, tile indices re-based by `(y1, x1)`. -/
theorem assemble_spec (src : Img) (sy sx cy cx : List Span) (y1 x1 : Nat) (oy ox : Int) :
    ∀ (sel : List TIdx) (blocks : List Img) (acc : Img),
      mapOpt (srcBlock src sy sx) sel = some blocks →
      (∀ idx ∈ sel, y1 ≤ idx.1 ∧ x1 ≤ idx.2 ∧
          cy[idx.1 - y1]? = (sy[idx.1]?).map (fun s => (s.1 - oy, s.2 - oy)) ∧
          cx[idx.2 - x1]? = (sx[idx.2]?).map (fun s => (s.1 - ox, s.2 - ox))) →
      ∃ asm, assemble cy cx ((sel.map fun i => (i.1 - y1, i.2 - x1)).zip blocks) acc = some asm ∧
        (∀ p : Int × Int, (∃ idx ∈ sel, InTile sy idx.1 (p.1 + oy) ∧ InTile sx idx.2 (p.2 + ox)) →
            asm p = src (p.1 + oy, p.2 + ox)) ∧
        (∀ p : Int × Int, (¬ ∃ idx ∈ sel, InTile sy idx.1 (p.1 + oy) ∧ InTile sx idx.2 (p.2 + ox)) →
            asm p = acc p)
  | [], blocks, acc, hb, _ => by
    cases hb
    exact ⟨acc, rfl, fun p ⟨_, h, _⟩ => (by cases h), fun _ _ => rfl⟩
  | idx :: r, blocks, acc, hb, hsel => by
    obtain ⟨b, bs', hb1, hb2, rfl⟩ := mapOpt_cons_some hb
    obtain ⟨ys, xs, hys, hxs, rfl⟩ := srcBlock_some hb1
    obtain ⟨_, _, hcy, hcx⟩ := hsel idx List.mem_cons_self
    simp only [hys, hxs, Option.map_some] at hcy hcx
    obtain ⟨asm, h1, ha, hn⟩ := assemble_spec src sy sx cy cx y1 x1 oy ox r bs'
      (pasteBlock acc (ys.1 - oy, ys.2 - oy) (xs.1 - ox, xs.2 - ox) (window src ys xs)) hb2
      (fun i hi => hsel i (List.mem_cons_of_mem _ hi))
    refine ⟨asm, ?_, ?_, ?_⟩
    · simp only [List.map_cons, List.zip_cons_cons, assemble, hcy, hcx]
      simpa using h1
    · intro p hp
      by_cases hr : ∃ i ∈ r, InTile sy i.1 (p.1 + oy) ∧ InTile sx i.2 (p.2 + ox)
      · exact ha p hr
      · obtain ⟨i, hi, ⟨s1, e1, a1⟩, ⟨s2, e2, a2⟩⟩ := hp
        rcases List.mem_cons.1 hi with rfl | hi
        · rw [hys] at e1; rw [hxs] at e2
          cases e1; cases e2
          rw [hn p hr, pasteBlock_window, if_pos ⟨a1, a2⟩]
        · exact absurd ⟨i, hi, ⟨s1, e1, a1⟩, ⟨s2, e2, a2⟩⟩ hr
    · intro p hp
      rw [hn p fun ⟨i, hi, h⟩ => hp ⟨i, List.mem_cons_of_mem _ hi, h⟩, pasteBlock_window,
        if_neg fun h => hp ⟨idx, List.mem_cons_self, ⟨ys, hys, h.1⟩, ⟨xs, hxs, h.2⟩⟩]

end OdcGeo.C13
