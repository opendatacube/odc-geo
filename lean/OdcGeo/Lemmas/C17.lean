/-
What the one-axis definitions of `Model/C17.lean` do on the inputs other properties hand them:
`_norm_slice` / `_norm_slice_or_error` / `slice_intersect3` on bounds that are given and not negative (or both open),
`clip`, numpy's reading (`Spec/PySlice.lean`) of a closed slice with non-negative bounds, and `roi_from_points`
as a function of the points that pass its finite filter.
-/
import OdcGeo.Model.C17
import OdcGeo.Spec.PySlice
import OdcGeo.Lemmas.Py
namespace OdcGeo.C17

theorem wrapNeg_of_nonneg (n : Int) {x : Int} (hx : 0 ≤ x) : wrapNeg n x = x := if_pos hx

theorem wrapNeg_nonneg (n x : Int) : 0 ≤ wrapNeg n x := by
  unfold wrapNeg
  split <;> omega

theorem normSlice_of_nonneg (n : Int) {a b : Int} (ha : 0 ≤ a) (hb : 0 ≤ b) :
    normSlice (.slc (some a) (some b)) n = ⟨a, b⟩ := by
  simp only [normSlice, wrapNeg_of_nonneg n ha, wrapNeg_of_nonneg n hb]

theorem normSliceOrError_closed (s e : Int) (hs : 0 ≤ s) (he : 0 ≤ e) :
    normSliceOrError (.slc (some s) (some e)) = .ok ⟨s, e⟩ :=
  if_neg (show ¬ (e < 0 ∨ s < 0) by omega)

theorem normSlice_full (n : Int) (hn : 0 ≤ n) : normSlice (.slc none none) n = ⟨0, n⟩ := by
  simp only [normSlice, wrapNeg_of_nonneg n (Int.le_refl 0), wrapNeg_of_nonneg n hn]

/-- Once both operands have passed `_norm_slice_or_error` (`Props/C17.lean::norm_or_error_spec` says when: a stop is
given and no bound is negative), `slice_intersect3` is `intersect3N` of what it returned. -/
theorem intersect3_total (a b : PIdx) (a' b' : NSlice)
    (ha : normSliceOrError a = .ok a') (hb : normSliceOrError b = .ok b') :
    sliceIntersect3 a b = .ok (intersect3N a' b') := by
  rw [sliceIntersect3, ha, hb]
  rfl

theorem sliceIntersect3_nonneg (a b : NSlice) (ha : 0 ≤ a.start ∧ 0 ≤ a.stop) (hb : 0 ≤ b.start ∧ 0 ≤ b.stop) :
    sliceIntersect3 a.toPIdx b.toPIdx = .ok (intersect3N a b) :=
  intersect3_total _ _ a b (normSliceOrError_closed _ _ ha.1 ha.2) (normSliceOrError_closed _ _ hb.1 hb.2)

theorem clip_eq {x n : Int} (hn : 0 ≤ n) : clip x 0 n = max 0 (min x n) := by
  unfold clip
  omega

theorem clip_within (x n : Int) (hn : 0 ≤ n) : 0 ≤ clip x 0 n ∧ clip x 0 n ≤ n := by
  rw [clip_eq hn]
  omega

theorem clip_le_of_le {x n : Int} {v : Rat} (h : (x : Rat) ≤ v) (h0 : 0 ≤ v) : ((clip x 0 n : Int) : Rat) ≤ v := by
  unfold clip
  split_ifs with c1 c2
  · exact_mod_cast h0
  · exact le_trans (by exact_mod_cast le_of_lt c2) h
  · exact h

theorem le_clip_of_le {x n : Int} {v : Rat} (h : v ≤ x) (hn : v ≤ n) : v ≤ ((clip x 0 n : Int) : Rat) := by
  unfold clip
  split_ifs with c1 c2
  · exact le_trans h (by exact_mod_cast le_of_lt c1)
  · exact hn
  · exact h

theorem clip_dvd_or_eq (a x n : Int) (h : a ∣ x) : a ∣ clip x 0 n ∨ clip x 0 n = n := by
  unfold clip
  split
  · exact Or.inl (Int.dvd_zero a)
  · split
    · exact Or.inr rfl
    · exact Or.inl h

open PySlice in
theorem clampBound_of_nonneg (n : Int) {x : Int} (hx : 0 ≤ x) : clampBound n x = min x n :=
  if_neg (by omega)

open PySlice in
/-- numpy's clamp of a bound is `_norm_slice`'s wrap of it, cut at `n`. -/
theorem clampBound_eq (n x : Int) (hn : 0 ≤ n) : clampBound n x = min (wrapNeg n x) n := by
  unfold clampBound wrapNeg
  by_cases h : x < 0
  · rw [if_pos h, if_neg (by omega)]
    omega
  · rw [if_neg h, if_pos (by omega)]

open PySlice in
/-- numpy's `(lo, hi)` of a slice are its normalised bounds, cut at `n`. -/
theorem bounds_eq (n : Int) (hn : 0 ≤ n) (a b : Option Int) :
    bounds n a b = (min (normSlice (.slc a b) n).start n, min (normSlice (.slc a b) n).stop n) := by
  cases a <;> cases b <;>
    simp only [bounds, normSlice, clampBound_eq n _ hn, wrapNeg_of_nonneg n le_rfl, wrapNeg_of_nonneg n hn,
      min_eq_left hn, min_self]

open PySlice in
theorem sel_closed (n s e i : Int) (hs : 0 ≤ s) (he : 0 ≤ e) :
    Sel n (.slc (some s) (some e)) i ↔ s ≤ i ∧ i < e ∧ i < n := by
  show clampBound n s ≤ i ∧ i < clampBound n e ↔ _
  rw [clampBound_of_nonneg n hs, clampBound_of_nonneg n he]
  omega

theorem minL_le (d : Rat) (xs : List Rat) : ∀ x ∈ xs, minL d xs ≤ x := by
  cases xs with
  | nil => simp
  | cons y ys => exact (foldl_min_spec ys y).2

theorem le_maxL (d : Rat) (xs : List Rat) : ∀ x ∈ xs, x ≤ maxL d xs := by
  cases xs with
  | nil => simp
  | cons y ys => exact (foldl_max_spec ys y).2

theorem fromPoints_congr {p q : List (Coord × Coord)} (h : finitePts p = finitePts q) (ny nx pad : Int) (al : Option Int) :
    fromPoints p ny nx pad al = fromPoints q ny nx pad al := by
  simp only [fromPoints, h]

end OdcGeo.C17
