/- Hull membership of a ring by support functions (`Quad.Contains`): boxes and their affine images contain
their points, and the reference `disjoint` cannot separate two rings with a common point. -/
import OdcGeo.Model.C12Gi
import OdcGeo.Lemmas.C12
import OdcGeo.Lemmas.Affine
import Mathlib.Tactic.Ring
import Mathlib.Algebra.Order.Field.Rat
namespace OdcGeo.C12
open OdcGeo OdcGeo.C17 OdcGeo.C04 OdcGeo.Spec

/-- `P` lies in the convex hull of the ring, by support functions: on every axis the projection
of `P` lies between the smallest and the largest vertex projection.  The vertices are taken in the order
`p1 p2 p4 p3` of `Quad.bbox`: for `Quad.ofBox` these are the corner values in the order of `affine_form_between` -/
def Quad.Contains (q : Quad) (P : Rat × Rat) : Prop :=
  ∀ ax : Rat × Rat,
    min4 (Convex.dot ax q.p1) (Convex.dot ax q.p2) (Convex.dot ax q.p4) (Convex.dot ax q.p3)
        ≤ Convex.dot ax P ∧
    Convex.dot ax P ≤
      max4 (Convex.dot ax q.p1) (Convex.dot ax q.p2) (Convex.dot ax q.p4) (Convex.dot ax q.p3)

theorem dot_apply (ax : Rat × Rat) (A : Aff) (x y : Rat) :
    Convex.dot ax (A.apply (x, y)) =
      (ax.1 * A.a + ax.2 * A.d) * x + (ax.1 * A.b + ax.2 * A.e) * y + (ax.1 * A.c + ax.2 * A.f) := by
  simp only [Convex.dot, Aff.apply]; ring

theorem ofBox_contains (A : Aff) (b : BBox) (p : Rat × Rat) (h : b.Has p) : (Quad.ofBox A b).Contains (A.apply p) := by
  intro ax
  obtain ⟨u, v⟩ := p
  simp only [Quad.ofBox, dot_apply]
  exact affine_form_between _ _ _ b.x1 b.x2 b.y1 b.y2 u v h.1 h.2

theorem ofBox_contains_world {W : Aff} (hW : W.det ≠ 0) {b : BBox} {P : Rat × Rat} (h : b.Has (W.inv.apply P)) :
    (Quad.ofBox W b).Contains P := by
  have hP := ofBox_contains W b _ h
  rwa [Aff.apply_inv_apply W hW] at hP

theorem ofBBox_contains (b : BBox) (p : Rat × Rat) (h : b.Has p) : (Quad.ofBBox b).Contains p := by
  intro ax
  have h := affine_form_between ax.1 ax.2 0 b.x1 b.x2 b.y1 b.y2 p.1 p.2 h.1 h.2
  simp only [add_zero] at h
  simpa only [Quad.ofBBox, Convex.dot] using h

theorem contains_bbox (q : Quad) (P : Rat × Rat) (h : q.Contains P) : q.bbox.Has P := by
  have hx := h (1, 0)
  have hy := h (0, 1)
  simp only [Convex.dot, one_mul, zero_mul, add_zero, zero_add] at hx hy
  exact ⟨hx, hy⟩

theorem minL4 (a b c d : Rat) : Convex.minL [a, b, c, d] = some (min (min (min a b) c) d) := rfl
theorem maxL4 (a b c d : Rat) : Convex.maxL [a, b, c, d] = some (max (max (max a b) c) d) := rfl

theorem fold_min_le_min4 (a b c d : Rat) : min (min (min a b) c) d ≤ min4 a b d c := by
  simp only [min4, le_min_iff]
  simp only [min_le_iff, le_refl, true_or, or_true, and_self]

theorem max4_le_fold_max (a b c d : Rat) : max4 a b d c ≤ max (max (max a b) c) d := by
  simp only [max4, max_le_iff]
  simp only [le_max_iff, le_refl, true_or, or_true, and_self]

/-- **separating axes, the direction completeness needs**: two convex rings that contain a common
point are not `disjoint` for the reference semantics of shapely's predicate -/
theorem convex_common_point_not_disjoint (p q : Quad) (P : Rat × Rat) (hp : p.Contains P)
    (hq : q.Contains P) : Convex.disjoint p.toList q.toList = false := by
  rw [Convex.disjoint, List.any_eq_false]
  intro ax _
  simp only [Bool.not_eq_true, Convex.separated, Quad.toList, List.map_cons, List.map_nil, minL4, maxL4,
    Bool.or_eq_false_iff, decide_eq_false_iff_not, not_lt]
  -- no axis separates them: fold-min of one ring ≤ its min4 ≤ projection of `P` ≤ max4 of the other ring ≤ its fold-max
  exact ⟨((fold_min_le_min4 ..).trans (hq ax).1).trans ((hp ax).2.trans (max4_le_fold_max ..)),
    ((fold_min_le_min4 ..).trans (hp ax).1).trans ((hq ax).2.trans (max4_le_fold_max ..))⟩

end OdcGeo.C12
