/-
C06: the invariant of an `MPUChunk`, kept by `append`, `maybe_write`, `merge`.
-/
import OdcGeo.Model.C06
import Mathlib.Tactic.Linarith
import Mathlib.Data.List.Perm.Basic


namespace OdcGeo.C06
variable {α : Type}

@[simp] theorem partsBytes_nil : partsBytes ([] : List (Part α)) = [] := rfl
@[simp] theorem partsBytes_append (a b : List (Part α)) :
    partsBytes (a ++ b) = partsBytes a ++ partsBytes b := by
  simp [partsBytes]
@[simp] theorem partsBytes_cons (p : Part α) (ps : List (Part α)) :
    partsBytes (p :: ps) = p.data ++ partsBytes ps := by
  simp [partsBytes]
@[simp] theorem partsBytes_single (p : Part α) : partsBytes [p] = p.data := by
  simp [partsBytes]

def PartsOk (lo nxt : Nat) (ps : List (Part α)) : Prop :=
  ps.Pairwise (fun a b => a.id < b.id) ∧ ∀ p ∈ ps, lo ≤ p.id ∧ p.id < nxt

theorem PartsOk.nil (lo nxt : Nat) : PartsOk lo nxt ([] : List (Part α)) := by
  simp [PartsOk]

theorem PartsOk.mono {lo nxt lo' nxt' : Nat} {ps : List (Part α)} (h : PartsOk lo nxt ps)
    (h1 : lo' ≤ lo) (h2 : nxt ≤ nxt') : PartsOk lo' nxt' ps := by
  refine ⟨h.1, fun p hp => ?_⟩
  have := h.2 p hp; omega

theorem PartsOk.append {lo mid nxt : Nat} {a b : List (Part α)} (ha : PartsOk lo mid a)
    (hb : PartsOk mid nxt b) (hm : lo ≤ mid) (hn : mid ≤ nxt) : PartsOk lo nxt (a ++ b) := by
  refine ⟨?_, ?_⟩
  · rw [List.pairwise_append]
    refine ⟨ha.1, hb.1, ?_⟩
    intro x hx y hy
    have := ha.2 x hx; have := hb.2 y hy; omega
  · intro p hp
    rw [List.mem_append] at hp
    rcases hp with hp | hp
    · have := ha.2 p hp; omega
    · have := hb.2 p hp; omega

theorem PartsOk.snoc {lo nxt : Nat} {ps : List (Part α)} (h : PartsOk lo nxt ps) (d : List α)
    (hlo : lo ≤ nxt) : PartsOk lo (nxt + 1) (ps ++ [⟨nxt, d⟩]) :=
  h.append ⟨List.pairwise_singleton _ _, by simp⟩ hlo (Nat.le_succ nxt)

/-- Invariant of a chunk that summarises partitions with part-number range `[lo, hi)`, whose
payload bytes are `B`, observed list `O`, and which is (`fin`) / is not the end of the stream. -/
structure Inv (W : Writer) (c : Chunk α) (lo hi : Nat) (B : List α) (O : List (Nat × Int))
    (fin : Bool) : Prop where
  stream : c.left ++ partsBytes c.parts ++ c.data = B
  obs : c.observed = O
  fin_eq : c.isFinal = fin
  keep : c.lhsKeep = W.minWrite
  range : (c.next : Int) + c.credits = hi
  lo_le : lo ≤ c.next
  cred_nonneg : 0 ≤ c.credits
  unstarted : c.parts = [] → c.left = [] ∧ c.next = lo
  started_nonfinal : c.parts ≠ [] → c.isFinal = false → 1 ≤ c.credits ∧ W.minWrite ≤ c.data.length
  started_final : c.parts ≠ [] → c.isFinal = true → c.data ≠ [] → 1 ≤ c.credits
  left_len : c.parts ≠ [] → W.minWrite ≤ c.left.length
  ids : PartsOk lo c.next c.parts
  sizes : ∀ p ∈ c.parts, W.minWrite ≤ p.data.length

variable {W : Writer} {c : Chunk α} {lo hi : Nat} {B : List α} {O : List (Nat × Int)} {fin : Bool}

theorem started_eq_true_iff (c : Chunk α) : c.started = true ↔ c.parts ≠ [] := by
  unfold Chunk.started; cases c.parts <;> simp

theorem started_eq_false_iff (c : Chunk α) : c.started = false ↔ c.parts = [] := by
  unfold Chunk.started; cases c.parts <;> simp

theorem append_inv (h : Inv W c lo hi B O false) (d : List α) (cid : Int) :
    Inv W (c.append d cid) lo hi (B ++ d) (O ++ [(d.length, cid)]) false :=
  { h with
    stream := by simp only [Chunk.append]; rw [← h.stream]; simp
    obs := by simp only [Chunk.append]; rw [h.obs]
    started_nonfinal := fun hs hf => by
      have := h.started_nonfinal hs hf
      simp only [Chunk.append, List.length_append]; omega
    started_final := fun _ hf => by rw [show (c.append d cid).isFinal = false from h.fin_eq] at hf; cases hf }

theorem split3 (d : List α) (K n : Nat) :
    List.take K d ++ (List.take n (List.drop K d) ++ List.drop (n + K) d) = d := by
  have : List.drop (n + K) d = List.drop n (List.drop K d) := by
    rw [List.drop_drop]; congr 1; omega
  rw [this, List.take_append_drop, List.take_append_drop]

/-- how many bytes of the next write stay behind as `left_data` -/
def Chunk.keepLeft (c : Chunk α) : Nat := if c.started then 0 else c.lhsKeep

theorem keepLeft_started (hs : c.parts ≠ []) : c.keepLeft = 0 := by
  rw [Chunk.keepLeft, (started_eq_true_iff c).2 hs]; rfl

theorem Inv.keepLeft_unstarted (h : Inv W c lo hi B O fin) (hs : c.parts = []) : c.keepLeft = W.minWrite := by
  rw [Chunk.keepLeft, (started_eq_false_iff c).2 hs, ← h.keep]; rfl

/-- after a write: `keep` went to `left_data`, `part` to the writer, `rest` stays in `data` (`maybe_write` cuts the three
out of `data`; `_flush_data` out of `data ++ extra_data`, with nothing left) -/
def Chunk.wrote (c : Chunk α) (keep part rest : List α) : Chunk α :=
  { c with left := c.left ++ keep, data := rest, parts := c.parts ++ [⟨c.next, part⟩], next := c.next + 1,
           credits := c.credits - 1 }

/-- `maybe_write` does nothing, or cuts `data` into what it keeps back for `left_data`, the part, and what has to stay
(`min_write_sz` bytes and a credit unless the section is final) -/
theorem maybeWrite_eq (W : Writer) (spill : Nat) (c : Chunk α) (h0 : c.parts = [] → c.left = []) :
    maybeWrite W spill c = .ok (c, []) ∨
    ∃ keep part rest, keep ++ (part ++ rest) = c.data ∧ keep.length = c.keepLeft ∧ W.minWrite ≤ part.length ∧
      rest.length = (if c.isFinal then 0 else W.minWrite) ∧ (if c.isFinal then (0 : Int) else 1) ≤ c.credits - 1 ∧
      maybeWrite W spill c = .ok (c.wrote keep part rest, [⟨c.next, part⟩]) := by
  have hK : c.keepLeft ≠ 0 → c.left = [] := fun hk => h0 <| by
    by_contra hs
    exact hk (keepLeft_started hs)
  generalize hm : maybeWrite W spill c = m
  unfold maybeWrite at hm
  unfold Chunk.keepLeft at *
  dsimp only at hm
  generalize (if c.started then 0 else c.lhsKeep) = K at *
  generalize (if c.isFinal then 0 else W.minWrite) = R at *
  generalize (if c.isFinal then (0 : Int) else 1) = P at *
  -- `split_ifs` is slow on this term: take the tests one at a time
  by_cases h1 : c.credits - 1 < P
  · rw [if_pos h1] at hm; exact .inl hm.symm
  rw [if_neg h1] at hm
  by_cases h2 : (c.data.length : Int) - R - K < (max spill W.minWrite : Nat)
  · rw [if_pos h2] at hm; exact .inl hm.symm
  rw [if_neg h2] at hm
  obtain ⟨n, hn⟩ : ∃ n : Nat, (c.data.length : Int) - R - K = n := Int.eq_ofNat_of_zero_le (by omega)
  rw [hn, Int.toNat_natCast] at hm
  refine .inr ⟨c.data.take K, (c.data.drop K).take n, c.data.drop (n + K), split3 c.data K n,
    by rw [List.length_take]; omega, by rw [List.length_take, List.length_drop]; omega,
    by rw [List.length_drop]; omega, by omega, ?_⟩
  by_cases h3 : K = 0
  · rw [if_pos h3] at hm
    subst h3 hm
    simp [Chunk.wrote]
  · rw [if_neg h3, hK h3] at hm
    subst hm
    simp [Chunk.wrote, hK h3]

/-- what a write leaves behind whatever becomes of the credits: the stream, enough `left_data`, ids, sizes -/
theorem wrote_section (h : Inv W c lo hi B O fin) {keep part : List α} (rest : List α) (hk : keep.length = c.keepLeft)
    (hn : W.minWrite ≤ part.length) :
    c.left ++ keep ++ partsBytes (c.parts ++ [⟨c.next, part⟩]) ++ rest =
        c.left ++ partsBytes c.parts ++ (keep ++ (part ++ rest)) ∧
      W.minWrite ≤ (c.left ++ keep).length ∧ PartsOk lo (c.next + 1) (c.parts ++ [⟨c.next, part⟩]) ∧
      ∀ p ∈ c.parts ++ [⟨c.next, part⟩], W.minWrite ≤ p.data.length := by
  refine ⟨?_, ?_, h.ids.snoc _ h.lo_le, fun p hp => ?_⟩
  · by_cases hs : c.parts = []
    · simp [hs, (h.unstarted hs).1]
    · -- after the first write nothing is kept back
      rw [List.length_eq_zero_iff.1 (hk.trans (keepLeft_started hs))]
      simp
  · rw [List.length_append, hk]
    by_cases hs : c.parts = []
    · rw [h.keepLeft_unstarted hs]; exact Nat.le_add_left _ _
    · exact Nat.le_add_right_of_le (h.left_len hs)
  · rcases List.mem_append.1 hp with hp | hp
    · exact h.sizes p hp
    · rw [List.mem_singleton.1 hp]; exact hn

theorem wrote_inv (h : Inv W c lo hi B O fin) {keep part rest : List α} (hd : keep ++ (part ++ rest) = c.data)
    (hk : keep.length = c.keepLeft) (hn : W.minWrite ≤ part.length)
    (hrest : rest.length = (if c.isFinal then 0 else W.minWrite))
    (hP : (if c.isFinal then (0 : Int) else 1) ≤ c.credits - 1) :
    Inv W (c.wrote keep part rest) lo hi B O fin := by
  obtain ⟨hstream, hleft, hids, hsz⟩ := wrote_section h rest hk hn
  exact
  { h with
    stream := hstream.trans (by rw [hd]; exact h.stream)
    range := by
      show ((c.next + 1 : Nat) : Int) + (c.credits - 1) = hi
      have := h.range; omega
    lo_le := Nat.le_succ_of_le h.lo_le
    cred_nonneg := by
      show 0 ≤ c.credits - 1
      split at hP <;> omega
    unstarted := fun hp => absurd hp (by simp [Chunk.wrote])
    started_nonfinal := fun _ (hf : c.isFinal = false) => by
      show 1 ≤ c.credits - 1 ∧ W.minWrite ≤ rest.length
      simp only [hf, Bool.false_eq_true, if_false] at hP hrest
      omega
    started_final := fun _ (hf : c.isFinal = true) hne => by
      rw [if_pos hf] at hrest
      exact absurd (List.length_eq_zero_iff.1 hrest) hne
    left_len := fun _ => hleft
    ids := hids
    sizes := hsz }

theorem maybeWrite_inv (spill : Nat) (h : Inv W c lo hi B O fin) :
    ∃ c' ws, maybeWrite W spill c = .ok (c', ws) ∧ Inv W c' lo hi B O fin ∧ c'.parts = c.parts ++ ws := by
  rcases maybeWrite_eq W spill c (fun hs => (h.unstarted hs).1) with e | ⟨_, _, _, hd, hk, hn, hrest, hP, e⟩
  · exact ⟨c, [], e, h, (List.append_nil _).symm⟩
  · exact ⟨_, _, e, wrote_inv h hd hk hn hrest hP, rfl⟩

theorem flushData_eq (d : List α) (h0 : c.parts = [] → c.left = [])
    (hr : W.minPart ≤ c.next ∧ c.next ≤ W.maxPart) :
    flushData W c d = .ok (c.wrote (d.take c.keepLeft) (d.drop c.keepLeft) [], [⟨c.next, d.drop c.keepLeft⟩]) := by
  unfold flushData Chunk.keepLeft
  rw [if_neg (not_not.2 hr)]
  cases hs : c.started
  · have hl := h0 ((started_eq_false_iff c).1 hs)
    by_cases hk : 0 < c.lhsKeep
    · simp [Chunk.wrote, hk, hl]
    · have hk0 : c.lhsKeep = 0 := by omega
      simp [Chunk.wrote, hk0]
  · simp [Chunk.wrote]

theorem flushRhs_of_canFlush (extra : List α) (h0 : c.parts = [] → c.left = [])
    (hr : W.minPart ≤ c.next ∧ c.next ≤ W.maxPart) (hcf : canFlush W c (c.data ++ extra).length = true) :
    flushRhs (some W) c extra =
      .ok (c.wrote ((c.data ++ extra).take c.keepLeft) ((c.data ++ extra).drop c.keepLeft) [],
        [⟨c.next, (c.data ++ extra).drop c.keepLeft⟩]) := by
  unfold flushRhs
  dsimp only
  rw [if_pos hcf, if_pos hcf, flushData_eq _ h0 hr]
  cases c.started <;> rfl

theorem flushRhs_of_not_canFlush (extra : List α) (hs : c.parts = [])
    (hcf : canFlush W c (c.data ++ extra).length = false) :
    flushRhs (some W) c extra = .ok ({ c with left := c.left ++ (c.data ++ extra), data := [] }, []) := by
  unfold flushRhs
  dsimp only
  rw [(started_eq_false_iff c).2 hs, hcf]
  rfl

theorem canFlush_nonfinal (hf : c.isFinal = false) (n : Nat) :
    canFlush W c n = true ↔ 1 ≤ c.credits ∧ W.minWrite + c.keepLeft ≤ n := by
  unfold canFlush Chunk.keepLeft
  by_cases hc : c.credits < 1
  · rw [if_pos hc]; constructor
    · intro h; cases h
    · intro h; omega
  · rw [if_neg hc, hf]
    cases c.started <;> simp <;> omega

variable {l r : Chunk α} {mid : Nat} {Bl Br : List α} {Ol Or : List (Nat × Int)}

theorem merge_of_unstarted (w : Option Writer) (hobs : (l.observed ++ r.observed).length ≠ 0)
    (hrs : r.parts = []) (hrl : r.left = []) :
    merge w l r = .ok (⟨l.next, l.credits + r.credits, l.data ++ r.data, l.left, l.parts, l.observed ++ r.observed,
      r.isFinal, l.lhsKeep⟩, []) := by
  rw [merge, if_neg hobs, (started_eq_false_iff r).2 hrs, hrl]; rfl

/-- what `merge` builds from a closed-off left side (`left`, `parts`) and a section `r` that has written -/
theorem join_inv (hr : Inv W r mid hi Br Or fin) (hrs : r.parts ≠ []) (hlm : lo ≤ mid)
    {left : List α} {parts : List (Part α)} (hstream : left ++ partsBytes parts = Bl ++ r.left)
    (hleft : W.minWrite ≤ left.length) (hids : PartsOk lo mid parts)
    (hsz : ∀ p ∈ parts, W.minWrite ≤ p.data.length) (obs : List (Nat × Int)) {keep : Nat} (hk : keep = W.minWrite) :
    Inv W ⟨r.next, r.credits, r.data, left, parts ++ r.parts, obs ++ r.observed, r.isFinal, keep⟩
      lo hi (Bl ++ Br) (obs ++ Or) fin := by
  have hne : parts ++ r.parts ≠ [] := fun h => hrs (List.append_eq_nil_iff.1 h).2
  exact
  { hr with
    stream := by
      show left ++ partsBytes (parts ++ r.parts) ++ r.data = Bl ++ Br
      rw [partsBytes_append, ← List.append_assoc, hstream, ← hr.stream]
      simp only [List.append_assoc]
    obs := by rw [← hr.obs]
    keep := hk
    lo_le := le_trans hlm hr.lo_le
    unstarted := fun h => absurd h hne
    started_nonfinal := fun _ => hr.started_nonfinal hrs
    started_final := fun _ => hr.started_final hrs
    left_len := fun _ => hleft
    ids := hids.append hr.ids hlm hr.lo_le
    sizes := fun p hp => (List.mem_append.1 hp).elim (hsz p) (hr.sizes p) }

/-- `flush_rhs` with the right neighbour's `left_data` closes the left section off -/
theorem flushRhs_closes (hl : Inv W l lo mid Bl Ol false) (hminP : W.minPart < lo) (hmax : mid ≤ W.maxPart + 1) {extra : List α}
    (hx : W.minWrite ≤ extra.length) :
    ∃ l' ws, flushRhs (some W) l extra = .ok (l', ws) ∧ l'.parts = l.parts ++ ws ∧
      l'.left ++ partsBytes l'.parts = Bl ++ extra ∧ W.minWrite ≤ l'.left.length ∧ PartsOk lo mid l'.parts ∧
      ∀ p ∈ l'.parts, W.minWrite ≤ p.data.length := by
  have hfin := hl.fin_eq
  have hr := hl.range
  have hlo := hl.lo_le
  have hB : l.left ++ partsBytes l.parts ++ (l.data ++ extra) = Bl ++ extra := by
    rw [← hl.stream, List.append_assoc _ l.data]
  cases hcf : canFlush W l (l.data ++ extra).length
  · -- cannot flush (only before the first write): everything moves to `left_data`
    have hls : l.parts = [] := by
      by_contra hls
      have hd := hl.started_nonfinal hls hfin
      have := (canFlush_nonfinal (W := W) hfin (l.data ++ extra).length).2
        ⟨hd.1, by rw [keepLeft_started hls, List.length_append]; omega⟩
      rw [hcf] at this; cases this
    refine ⟨_, _, flushRhs_of_not_canFlush _ hls hcf, (List.append_nil _).symm, ?_, ?_, hls ▸ PartsOk.nil lo mid,
      by simp [hls]⟩
    · rw [← hB, hls]; simp
    · simp only [List.length_append]; omega
  · obtain ⟨hc1, hlen⟩ := (canFlush_nonfinal hfin _).1 hcf
    obtain ⟨hs, hleft, hids, hsz⟩ := wrote_section hl [] (keep := (l.data ++ extra).take l.keepLeft)
      (part := (l.data ++ extra).drop l.keepLeft) (by rw [List.length_take]; omega) (by rw [List.length_drop]; omega)
    refine ⟨_, _, flushRhs_of_canFlush _ (fun hs => (hl.unstarted hs).1) (by omega) hcf, rfl, ?_, hleft,
      hids.mono (le_refl _) (by omega), hsz⟩
    rw [List.append_nil, List.append_nil, List.take_append_drop, hB] at hs
    exact hs

theorem merge_inv (hl : Inv W l lo mid Bl Ol false) (hr : Inv W r mid hi Br Or fin)
    (hminP : W.minPart < lo) (hmax : mid ≤ W.maxPart + 1) (hobs : (Ol ++ Or).length ≠ 0) :
    ∃ m ws, merge (some W) l r = .ok (m, ws) ∧ Inv W m lo hi (Bl ++ Br) (Ol ++ Or) fin ∧
      m.parts = l.parts ++ ws ++ r.parts := by
  have hobs' : (l.observed ++ r.observed).length ≠ 0 := hl.obs ▸ hr.obs ▸ hobs
  have hlr := hl.range
  have hlc := hl.cred_nonneg
  by_cases hrs : r.parts = []
  · obtain ⟨hrl, hrn⟩ := hr.unstarted hrs
    have hrr := hr.range
    have hrc := hr.cred_nonneg
    refine ⟨_, _, merge_of_unstarted (some W) hobs' hrs hrl, { hl with
      stream := by
        show l.left ++ partsBytes l.parts ++ (l.data ++ r.data) = Bl ++ Br
        rw [← hl.stream, ← hr.stream, hrl, hrs]; simp
      obs := by rw [← hl.obs, ← hr.obs]
      fin_eq := hr.fin_eq
      range := by show (l.next : Int) + (l.credits + r.credits) = hi; omega
      cred_nonneg := by show 0 ≤ l.credits + r.credits; omega
      started_nonfinal := fun hs _ => by
        show 1 ≤ l.credits + r.credits ∧ W.minWrite ≤ (l.data ++ r.data).length
        have := hl.started_nonfinal hs hl.fin_eq
        rw [List.length_append]; omega
      started_final := fun hs _ _ => by
        show 1 ≤ l.credits + r.credits
        have := hl.started_nonfinal hs hl.fin_eq
        omega }, by simp [hrs]⟩
  · obtain ⟨l', ws, e, hp, hs, hlen, hids, hsz⟩ := flushRhs_closes hl hminP hmax (hr.left_len hrs)
    have hlo := hl.lo_le
    refine ⟨_, ws, by rw [merge, if_neg hobs', (started_eq_true_iff r).2 hrs, e]; rfl, ?_, by rw [← hp]⟩
    rw [← hl.obs]
    exact join_inv hr hrs (by omega) hs hlen hids hsz _ hl.keep

end OdcGeo.C06
