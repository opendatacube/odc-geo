/-
`List.mapM` into `Except` (`Lemmas/Except.lean`), in the forms the N-D helpers need: over a mapped list, every element
answering `.ok` with a property, and what an `.ok` answer says element by element.
-/
import OdcGeo.Lemmas.Except
namespace OdcGeo.C17

variable {ε α β : Type}

theorem mapM_map_ok {γ : Type} (h : γ → α) (f : α → Except ε β) (g : γ → β) (l : List γ)
    (H : ∀ x ∈ l, f (h x) = .ok (g x)) : (l.map h).mapM f = .ok (l.map g) :=
  List.mapM_map.trans (mapM_ok_of_forall g H)

theorem exists_mapM_ok (f : α → Except ε β) (P : β → Prop) (l : List α)
    (h : ∀ x ∈ l, ∃ y, f x = .ok y ∧ P y) :
    ∃ ys, l.mapM f = .ok ys ∧ ys.length = l.length ∧ ∀ y ∈ ys, P y := by
  induction l with
  | nil => exact ⟨[], rfl, rfl, fun _ hy => nomatch hy⟩
  | cons x l ih =>
    obtain ⟨y, hy, hp⟩ := h x List.mem_cons_self
    obtain ⟨ys, hys, hlen, hk⟩ := ih fun z hz => h z (List.mem_cons_of_mem x hz)
    exact ⟨y :: ys, mapM_cons_ok_iff.2 ⟨y, ys, hy, hys, rfl⟩, congrArg (· + 1) hlen, List.forall_mem_cons.2 ⟨hp, hk⟩⟩

theorem mapM_ok_inv (f : α → Except ε β) (l : List α) (ys : List β) (h : l.mapM f = .ok ys) :
    ys.length = l.length ∧ ∀ k (h1 : k < l.length) (h2 : k < ys.length), f l[k] = .ok ys[k] := by
  induction l generalizing ys with
  | nil =>
    cases h
    exact ⟨rfl, fun k h1 => absurd h1 (Nat.not_lt_zero k)⟩
  | cons x l ih =>
    obtain ⟨y, ys', hx, hl, rfl⟩ := mapM_cons_ok_iff.1 h
    obtain ⟨hlen, hk⟩ := ih ys' hl
    refine ⟨congrArg (· + 1) hlen, fun k h1 h2 => ?_⟩
    cases k with
    | zero => exact hx
    | succ k => exact hk k (Nat.lt_of_succ_lt_succ h1) (Nat.lt_of_succ_lt_succ h2)

end OdcGeo.C17
