/- Helper lemmas for the glue part of C14 (`Model/C14Args.lean`). -/
import OdcGeo.Model.C14Args
import OdcGeo.Lemmas.C14
import OdcGeo.Lemmas.Except

namespace OdcGeo.C14

theorem liftK_ok_iff {α : Type} (r : Res α) (a : α) : liftK r = .ok a ↔ r = .ok a := by
  cases r <;> simp [liftK]

theorem liftK_error_iff {α : Type} (r : Res α) (e : PyErr) : liftK r = .error e ↔ ∃ e', r = .error e' ∧ e = .k e' := by
  cases r <;> simp [liftK, eq_comm]

theorem Num.toInt_isOk_iff (a : Num) : (∃ n, a.toInt = .ok n) ↔ a.isFinite = true := by
  cases a <;> simp [Num.toInt, Num.isFinite]

/-- `pyTrunc` is the prelude's `int()` (`Lemmas/Py`), in the `-⌊-x⌋` spelling -/
theorem pyTrunc_eq_py (x : Rat) : pyTrunc x = Gen.Py.trunc x := (Gen.Py.trunc_eq_neg_floor_neg x).symm

theorem pyTrunc_int (n : Int) : pyTrunc (n : Rat) = n := by rw [pyTrunc_eq_py, Gen.Py.trunc_intCast]

theorem pyTrunc_nonneg {x : Rat} (h : 0 ≤ x) : (pyTrunc x : Rat) ≤ x ∧ x < (pyTrunc x : Rat) + 1 :=
  pyTrunc_eq_py x ▸ ((Gen.Py.trunc_spec x).1 h).2

theorem pyTrunc_neg {x : Rat} (h : x < 0) : x ≤ (pyTrunc x : Rat) ∧ (pyTrunc x : Rat) - 1 < x := by
  obtain ⟨-, h1, h2⟩ := pyTrunc_eq_py x ▸ (Gen.Py.trunc_spec x).2 h
  exact ⟨h1, sub_lt_iff_lt_add.mpr h2⟩

theorem isSentinel_norm {s : ShapeArg} (h : s.isSentinel = true) : shapeNorm s = .ok (-1, -1) := by
  have hm : ∀ a : Num, a.isMinusOne = true → a.toInt = .ok (-1) := by
    intro a ha
    cases a <;> simp only [Num.isMinusOne, beq_iff_eq, Bool.false_eq_true] at ha
    · subst ha; rfl
    · subst ha; exact congrArg Except.ok (pyTrunc_int (-1))
  -- only a `Shape2d` and a tuple can pass the test
  rcases s with ⟨ny, nx⟩ | ⟨x, y⟩ | l | l | _ <;> try simp only [ShapeArg.isSentinel, Bool.false_eq_true] at h
  · simp only [Bool.and_eq_true, beq_iff_eq] at h
    obtain ⟨rfl, rfl⟩ := h; rfl
  · match l, h with
    | [a, b], h =>
      simp only [Bool.and_eq_true] at h
      simp only [shapeNorm, unpack2, hm a h.1, hm b h.2]
      rfl

theorem crsNorm_eq_ok_iff (crs : CrsArg) (u : Unit) : crsNorm crs = .ok u ↔ crs = .valid := by
  cases crs <;> simp [crsNorm]

theorem originNorm_isOk_iff (origin : OriginArg) : (∃ o, originNorm origin = .ok o) ↔ origin ≠ .other := by
  cases origin <;> simp [originNorm]

theorem GridSpec.fromSampleTileArgs_sentinel (fl : Rnd) (crs : CrsArg) (q : BBox) (shape : ShapeArg) (i : Option IdxArg)
    (fx fy : Bool) (h : shape.isSentinel = true) :
    GridSpec.fromSampleTileArgs fl crs q (some shape) i fx fy = .error (.k .valueError) := by
  simp only [GridSpec.fromSampleTileArgs, Option.getD_some, h, if_true]
  rfl

theorem GridSpec.fromSampleTileArgs_core (fl : Rnd) (q : BBox) (shape : ShapeArg) (i : Option IdxArg) (fx fy : Bool)
    {sy sx ky kx : Int} (h : shape.isSentinel = false) (hs : shapeNorm shape = .ok (sy, sx))
    (hi : idxNorm (i.getD (.tuple [0, 0])) = .ok (ky, kx)) :
    GridSpec.fromSampleTileArgs fl .valid q (some shape) i fx fy =
      liftK (GridSpec.fromSampleTileCore fl q sy sx ky kx fx fy) := by
  simp only [GridSpec.fromSampleTileArgs, Option.getD_some, h, hs, hi]
  rfl

namespace GridSpec

/-- one `pull`: with a coherent cache the result is the first remaining tile that is not filtered out (with the
    geobox of its index) and the pending list loses it; the cache stays coherent and gains exactly the keys of the
    tiles pulled, which are a prefix `pre` of the pending list. -/
theorem pull_spec (fl : Rnd) (g : GridSpec) (dj : GeoBox → Bool) :
    ∀ (ks : List (Int × Int)) (c : Cache), g.Coherent fl c →
      g.Coherent fl (g.pull fl dj ks c).2.2 ∧
      (∃ pre, ks = pre ++ (g.pull fl dj ks c).2.1 ∧
        ∀ k', ((g.pull fl dj ks c).2.2.lookup k').isSome ↔ ((c.lookup k').isSome ∨ k' ∈ pre)) ∧
      (g.pull fl dj ks c).1 =
        (ks.filter (fun k => !dj (g.tileGeobox fl k))).head?.map (fun k => (k, g.tileGeobox fl k)) ∧
      (g.pull fl dj ks c).2.1.filter (fun k => !dj (g.tileGeobox fl k)) =
        (ks.filter (fun k => !dj (g.tileGeobox fl k))).tail := by
  intro ks
  induction ks with
  | nil => exact fun c hc => ⟨hc, ⟨[], rfl, fun k' => (or_iff_left (List.not_mem_nil)).symm⟩, rfl, rfl⟩
  | cons k ks ih =>
    intro c hc
    obtain ⟨h1, h2, h3⟩ := geoboxC_spec fl g c hc k
    cases hd : dj (g.tileGeobox fl k) with
    | true =>
      have e : g.pull fl dj (k :: ks) c = g.pull fl dj ks (g.geoboxC fl c k).2 := by
        simp only [GridSpec.pull, h1, hd, if_true]
      rw [e, List.filter_cons_of_neg (by rw [hd]; decide)]
      obtain ⟨i1, ⟨pre, i2, i3⟩, i4⟩ := ih _ h2
      refine ⟨i1, ⟨k :: pre, congrArg (k :: ·) i2, fun k' => ?_⟩, i4⟩
      rw [i3 k', h3 k', List.mem_cons, or_assoc]
    | false =>
      have e : g.pull fl dj (k :: ks) c = (some (k, g.tileGeobox fl k), ks, (g.geoboxC fl c k).2) := by
        simp only [GridSpec.pull, h1, hd]; rfl
      rw [e, List.filter_cons_of_pos (by rw [hd]; decide)]
      exact ⟨h2, ⟨[k], rfl, fun k' => by rw [h3 k', List.mem_singleton]⟩, rfl, rfl⟩

end GridSpec

theorem pureStep_none (fl : Rnd) (g : GridSpec) (l : List (Int × Int)) :
    pureStep fl g (none, l) = (.ok (l.head?.map (fun k => (k, g.tileGeobox fl k))), (none, l.tail)) := by
  cases l <;> rfl

theorem setAt_eq_set {α : Type} : ∀ (l : List α) (i : Nat) (a : α), setAt l i a = l.set i a
  | [], _, _ => rfl
  | _ :: _, 0, _ => rfl
  | x :: xs, n + 1, a => congrArg (x :: ·) (setAt_eq_set xs n a)

theorem setAt_map {α β : Type} (f : α → β) (l : List α) (i : Nat) (a : α) :
    (setAt l i a).map f = setAt (l.map f) i (f a) := by
  rw [setAt_eq_set, setAt_eq_set, List.map_set]

end OdcGeo.C14
