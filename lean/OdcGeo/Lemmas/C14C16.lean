/- Vocabulary for Props/C14C16.lean. -/
import OdcGeo.Model.C14
import OdcGeo.Model.C16

namespace OdcGeo.C14

/-- the bounding box record of C16 as the query box of C14 -/
def ofC16 (b : C16.BBox Rat) : BBox := ⟨b.left, b.bottom, b.right, b.top⟩

end OdcGeo.C14
