/-
Helper lemmas for `Model/C06Dask.lean`: the tree dask's `fold` / `mpu_write`'s collate build has the partitions
of the bags as its leaves, in stream order.
-/
import OdcGeo.Model.C06Dask
import OdcGeo.Lemmas.C06


namespace OdcGeo.C06
variable {α : Type}

/-- the partitions at the leaves of a tree, in stream order -/
def Tree.leafList : Tree α → List (List (List α × Int))
  | .leaf chunks => [chunks]
  | .node l r => l.leafList ++ r.leafList

theorem Tree.bytes_leafList (t : Tree α) : t.bytes = (t.leafList.map chunksBytes).flatten := by
  induction t with
  | leaf c => simp [Tree.bytes, Tree.leafList, chunksBytes]
  | node l r ihl ihr => simp [Tree.bytes, Tree.leafList, ihl, ihr]

theorem Tree.obs_leafList (t : Tree α) : t.obs = (t.leafList.map chunksObs).flatten := by
  induction t with
  | leaf c => simp [Tree.obs, Tree.leafList, chunksObs]
  | node l r ihl ihr => simp [Tree.obs, Tree.leafList, ihl, ihr]

theorem Tree.chunks_leafList (t : Tree α) : t.chunks = (t.leafList.map fun p => p.map (·.1)).flatten := by
  induction t with
  | leaf c => simp [Tree.chunks, Tree.leafList]
  | node l r ihl ihr => simp [Tree.chunks, Tree.leafList, ihl, ihr]

theorem Tree.leaves_leafList (t : Tree α) : t.leaves = t.leafList.length := by
  induction t with
  | leaf c => simp [Tree.leaves, Tree.leafList]
  | node l r ihl ihr => simp [Tree.leaves, Tree.leafList, ihl, ihr]

theorem Tree.nonEmpty_leafList (t : Tree α) : t.NonEmpty ↔ ∀ p ∈ t.leafList, p ≠ [] := by
  induction t with
  | leaf c => simp [Tree.NonEmpty, Tree.leafList]
  | node l r ihl ihr => simp only [Tree.NonEmpty, Tree.leafList, List.forall_mem_append, ihl, ihr]

def leafListL (ts : List (Tree α)) : List (List (List α × Int)) := (ts.map Tree.leafList).flatten

@[simp] theorem leafListL_nil : leafListL ([] : List (Tree α)) = [] := rfl
@[simp] theorem leafListL_cons (t : Tree α) (ts : List (Tree α)) :
    leafListL (t :: ts) = t.leafList ++ leafListL ts := by simp [leafListL]
theorem leafListL_append (a b : List (Tree α)) : leafListL (a ++ b) = leafListL a ++ leafListL b := by
  simp [leafListL]

theorem Tree.of_leafListL {t : Tree α} {ts : List (Tree α)} (h : t.leafList = leafListL ts) :
    t.leaves = (ts.map Tree.leaves).sum ∧ t.bytes = (ts.map Tree.bytes).flatten ∧
      t.obs = (ts.map Tree.obs).flatten ∧ ((∀ x ∈ ts, x.NonEmpty) → t.NonEmpty) := by
  rw [Tree.leaves_leafList, Tree.bytes_leafList, Tree.obs_leafList, Tree.nonEmpty_leafList, h]
  clear h
  refine ⟨?_, ?_, ?_, fun hx p hp => ?_⟩
  · rw [funext Tree.leaves_leafList, leafListL, List.length_flatten, List.map_map]
    rfl
  · rw [funext Tree.bytes_leafList, leafListL, List.map_flatten, List.flatten_flatten, List.map_map, List.map_map]
    rfl
  · rw [funext Tree.obs_leafList, leafListL, List.map_flatten, List.flatten_flatten, List.map_map, List.map_map]
    rfl
  · simp only [leafListL, List.mem_flatten, List.mem_map] at hp
    obtain ⟨l, ⟨x, hxm, rfl⟩, hpl⟩ := hp
    exact (Tree.nonEmpty_leafList x).1 (hx x hxm) p hpl

theorem foldl1_leafList (t : Tree α) (ts : List (Tree α)) :
    (foldl1 t ts).leafList = t.leafList ++ leafListL ts := by
  induction ts generalizing t with
  | nil => simp [foldl1]
  | cons r rs ih => simp [foldl1, ih, Tree.leafList, List.append_assoc]

theorem chunksOfAux_flatten {β : Type} (s : Nat) (hs : 1 ≤ s) :
    ∀ (f : Nat) (xs : List β), xs.length ≤ f → (chunksOfAux s f xs).flatten = xs := by
  intro f
  induction f with
  | zero => intro xs h; cases xs with
    | nil => simp [chunksOfAux]
    | cons x xs => simp at h
  | succ f ih =>
    intro xs h
    cases xs with
    | nil => simp [chunksOfAux]
    | cons x xs =>
      simp only [chunksOfAux, List.flatten_cons]
      rw [ih]
      · exact List.take_append_drop s (x :: xs)
      · simp only [List.length_drop, List.length_cons] at h ⊢; omega

theorem chunksOfAux_length {β : Type} (s : Nat) (hs : 2 ≤ s) :
    ∀ (f : Nat) (xs : List β), (chunksOfAux s f xs).length * 2 ≤ xs.length + 1 := by
  intro f
  induction f with
  | zero => intro xs; simp [chunksOfAux]
  | succ f ih =>
    intro xs
    cases xs with
    | nil => simp [chunksOfAux]
    | cons x xs =>
      simp only [chunksOfAux, List.length_cons]
      have := ih ((x :: xs).drop s)
      simp only [List.length_drop, List.length_cons] at this
      omega

theorem daskLevel_leafListL (s : Nat) (hs : 1 ≤ s) (ts : List (Tree α)) :
    leafListL (daskLevel s ts) = leafListL ts := by
  have key : ∀ (gs : List (List (Tree α))),
      leafListL (gs.filterMap reduceGroup) = leafListL gs.flatten := by
    intro gs
    induction gs with
    | nil => simp
    | cons g gs ih =>
      cases g with
      | nil => rw [List.filterMap_cons]; simpa [reduceGroup] using ih
      | cons t rest =>
        simp only [List.filterMap_cons, reduceGroup, List.flatten_cons, leafListL_cons, ih, foldl1_leafList,
          leafListL_append, List.cons_append, List.append_assoc]
  unfold daskLevel
  rw [key, chunksOf, chunksOfAux_flatten s hs _ _ (Nat.le_refl _)]

theorem daskLevel_length (s : Nat) (hs : 2 ≤ s) (ts : List (Tree α)) :
    (daskLevel s ts).length * 2 ≤ ts.length + 1 := by
  unfold daskLevel chunksOf
  have h1 := chunksOfAux_length s hs ts.length ts
  have h2 := List.length_filterMap_le (reduceGroup (α := α)) (chunksOfAux s ts.length ts)
  omega

theorem daskLevel_ne_nil (s : Nat) (hs : 1 ≤ s) (ts : List (Tree α)) (h : ts ≠ []) : daskLevel s ts ≠ [] := by
  cases ts with
  | nil => exact absurd rfl h
  | cons t ts =>
    have ht : (List.take s (t :: ts)) = t :: List.take (s - 1) ts := by
      cases s with
      | zero => omega
      | succ k => simp
    simp [daskLevel, chunksOf, chunksOfAux, ht, reduceGroup]

theorem daskFoldAux_spec (s : Nat) (hs : 2 ≤ s) :
    ∀ (f : Nat) (ts : List (Tree α)), ts ≠ [] → ts.length < f →
      ∃ t, daskFoldAux s f ts = some t ∧ t.leafList = leafListL ts := by
  intro f
  induction f with
  | zero => intro ts _ h; omega
  | succ f ih =>
    intro ts hne hlen
    cases ts with
    | nil => exact absurd rfl hne
    | cons t0 ts =>
      simp only [daskFoldAux]
      split
      · exact ⟨_, rfl, by simp [foldl1_leafList]⟩
      · rename_i hgt
        -- a round at least halves the list (`s ≥ 2`), so the fuel suffices
        have := daskLevel_length s hs (t0 :: ts)
        obtain ⟨t, ht, hl⟩ := ih (daskLevel s (t0 :: ts)) (daskLevel_ne_nil s (by omega) _ (by simp)) (by
          simp only [List.length_cons] at this hgt hlen ⊢
          omega)
        exact ⟨t, ht, by rw [hl, daskLevel_leafListL s (by omega)]⟩

theorem daskFold_spec (s : Nat) (hs : 2 ≤ s) (ts : List (Tree α)) (hne : ts ≠ []) :
    ∃ t, daskFold s ts = some t ∧ t.leafList = leafListL ts :=
  daskFoldAux_spec s hs (ts.length + 1) ts hne (by omega)

theorem fromDaskBag_spec (s : Nat) (hs : 2 ≤ s) (bag : List (List (List α × Int))) (hne : bag ≠ []) :
    ∃ t, fromDaskBag s bag = some t ∧ t.leafList = bag := by
  obtain ⟨t, ht, hl⟩ := daskFold_spec s hs (bag.map Tree.leaf) (by simpa using hne)
  refine ⟨t, ht, ?_⟩
  rw [hl]
  clear ht hl hne
  induction bag with
  | nil => simp
  | cons p ps ih => simp [Tree.leafList, ih]

theorem mapM_fromDaskBag (s : Nat) (hs : 2 ≤ s) (bags : List (List (List (List α × Int))))
    (hp : ∀ b ∈ bags, b ≠ []) :
    ∃ ts, bags.mapM (fromDaskBag s) = some ts ∧ leafListL ts = bags.flatten ∧ ts.length = bags.length := by
  induction bags with
  | nil => exact ⟨[], by simp, by simp, rfl⟩
  | cons b bs ih =>
    obtain ⟨ts, h1, h2, h3⟩ := ih (fun b' hb' => hp b' (by simp [hb']))
    obtain ⟨t, ht, hl⟩ := fromDaskBag_spec s hs b (hp b (by simp))
    refine ⟨t :: ts, ?_, by simp [hl, h2], by simp [h3]⟩
    simp [List.mapM_cons, ht, h1]

theorem mpuWriteTree_spec (s : Nat) (hs : 2 ≤ s) (bags : List (List (List (List α × Int))))
    (hb : bags ≠ []) (hp : ∀ b ∈ bags, b ≠ []) :
    ∃ t, mpuWriteTree s bags = some t ∧ t.leafList = bags.flatten := by
  obtain ⟨ts, h1, h2, h3⟩ := mapM_fromDaskBag s hs bags hp
  cases ts with
  | nil => exact absurd (List.length_eq_zero_iff.1 h3.symm) hb
  | cons t ts =>
    refine ⟨foldl1 t ts, by simp [mpuWriteTree, h1], ?_⟩
    rw [foldl1_leafList, ← h2, leafListL_cons]

theorem mpuWrite_eq_run {w : Option Writer} {spill wpc : Nat} {bags : List (List (List (List α × Int)))}
    {mkHdr mkFtr : Option (List (Nat × Int) → List α)} {t : Tree α} (hb : bags ≠ [])
    (ht : mpuWriteTree mpuWriteSplitEvery bags = some t) :
    mpuWrite w spill wpc bags mkHdr mkFtr = some (run ⟨w, spill, wpc, mkFtr.isNone⟩ t mkHdr mkFtr) := by
  rw [mpuWrite, if_neg (by simpa using hb), ht]; rfl

end OdcGeo.C06
