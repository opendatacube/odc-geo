/- The copies of `split_float` / `maybe_int` / `snap_scale` in `Model/C12` are those of `Model/C20` (`splitFloat_eq`,
`maybeInt_fst`, `snapScale_of_C20`: the last through the planning model's copy, which `Lemmas/C03Scalar` ties to C20's), so what is
known about them comes from `Lemmas/C20Scalar`: `snap_scale` / `snap_affine` do nothing to integers and move any value by less
than the tolerance. -/
import OdcGeo.Lemmas.C12
import OdcGeo.Lemmas.C03Scalar
import Mathlib.Algebra.Order.Field.Rat
namespace OdcGeo.C12
open OdcGeo

theorem splitFloat_eq (x : Rat) : splitFloat x = C20.splitFloat x := by
  have ht : (if x < 0 then -(((-x).floor : Int) : Rat) else ((x.floor : Int) : Rat)) = (C20.trunc x : Rat) := by
    rw [show C20.trunc x = _ from Gen.Py.trunc_eq_neg_floor_neg x, apply_ite (Int.cast : Int → Rat), Int.cast_neg]
  simp only [splitFloat, C20.splitFloat, C20.fmod1, ht, sub_sub_cancel]

/-- `maybe_int` in the terms of the planning model's copy of `split_float` (which is C20's, by `rfl`) -/
theorem maybeInt_eq (x tol : Rat) : maybeInt x tol =
    if C03.rabs (C03.splitFloat x).2 < tol then ((C03.splitFloat x).1, true) else (x, false) := by
  unfold maybeInt; rw [splitFloat_eq]; rfl

/-- the value of `maybe_int` is C20's: the whole part of `split_float` is an integer, so `int(...)` of it changes nothing -/
theorem maybeInt_fst (x tol : Rat) : (maybeInt x tol).1 = C20.maybeInt x tol := by
  rw [maybeInt_eq, ← C03.maybeInt_eq_C20, C03.maybeInt]
  split <;> rfl

theorem splitFloat_spec (x : Rat) : (splitFloat x).1 + (splitFloat x).2 = x ∧
    -(1 / 2) ≤ (splitFloat x).2 ∧ (splitFloat x).2 ≤ 1 / 2 :=
  splitFloat_eq x ▸ (C20.splitFloat_spec x).2

theorem maybeInt_int (k : Int) (tol : Rat) : (maybeInt (k : Rat) tol).1 = k := by
  rw [maybeInt_fst, C20.maybeInt_intCast]

theorem snapScale_eq_C03 (s tol : Rat) : snapScale s tol = C03.snapScale s tol := by
  have hr : ∀ x, rabs x = C03.rabs x := fun _ => rfl
  unfold snapScale C03.snapScale C03.maybeInt
  simp only [maybeInt_eq, hr]
  by_cases c : C03.rabs (C03.splitFloat (1 / s)).2 < tol
  · simp only [if_pos c, ↓reduceIte]
    split_ifs <;> rfl
  · simp only [if_neg c, Bool.false_eq_true, ↓reduceIte]
    split_ifs <;> rfl

theorem snapScale_of_C20 {s tol r : Rat} (h : C20.snapScale s tol = .ok r) : snapScale s tol = r :=
  (snapScale_eq_C03 s tol).trans (C03.snapScale_of_C20 h)

theorem snapScale_int (k : Int) (tol : Rat) (ht : 0 < tol) : snapScale (k : Rat) tol = k :=
  snapScale_of_C20 (C20.snapScale_intCast k ht)

theorem snapAffine_int (a c e f : Int) (ttol stol tol : Rat) (h2 : 0 < stol) (h4 : 0 ≤ tol) :
    snapAffine ⟨a, 0, c, 0, e, f⟩ ttol stol tol = ⟨a, 0, c, 0, e, f⟩ := by
  simp only [snapAffine]
  rw [if_neg (by simp [rabs]; exact h4)]
  rw [snapScale_int a stol h2, snapScale_int e stol h2, maybeInt_int c ttol, maybeInt_int f ttol]

theorem maybeInt_close (x tol : Rat) (ht : 0 < tol) : rabs ((maybeInt x tol).1 - x) < tol := by
  rw [maybeInt_fst, rabs_eq_abs]
  rcases C20.maybeInt_close x tol with h | h
  · rwa [h, sub_self, abs_zero]
  · rwa [abs_sub_comm]

theorem snapScale_close (s tol : Rat) (ht : 0 < tol) : rabs (snapScale s tol - s) < tol := by
  obtain ⟨r, hr⟩ := C20.snapScale_total s ht
  rw [snapScale_of_C20 hr, rabs_eq_abs]
  exact C20.snapScale_close ht hr

theorem snap_affine_close (M : Aff) (ttol stol tol : Rat) (h1 : 0 < ttol) (h2 : 0 < stol)
    (hb : ¬ (rabs M.b > tol ∨ rabs M.d > tol)) :
    rabs ((snapAffine M ttol stol tol).a - M.a) < stol ∧ rabs ((snapAffine M ttol stol tol).e - M.e) < stol ∧
    rabs ((snapAffine M ttol stol tol).c - M.c) < ttol ∧ rabs ((snapAffine M ttol stol tol).f - M.f) < ttol := by
  simp only [snapAffine, if_neg hb]
  exact ⟨snapScale_close M.a stol h2, snapScale_close M.e stol h2, maybeInt_close M.c ttol h1, maybeInt_close M.f ttol h1⟩

end OdcGeo.C12
