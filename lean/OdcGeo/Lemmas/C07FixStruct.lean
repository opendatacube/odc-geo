/- C07 — structural lemmas about `Model/C07Fix.lean` (`_multigeom`, shapely's ring construction,
`Geometry.filter`, `geojson` of a list), stated over bare operation classes for the reason given in
`Lemmas/C07Struct.lean`; `lonlatWrap` and the plain path of the full `to_crs` over a linear order. -/
import OdcGeo.Model.C07Fix
import OdcGeo.Lemmas.C07Struct

namespace OdcGeo.C07

section
variable {K : Type}

/-- what `_multigeom` builds from non-empty parts that are all of kind `k` -/
def assemble (k : Kind) (gs : List (Geom K)) : Geom K :=
  match k with
  | .polygon => .multiPolygon gs
  | .point => .multiPoint (pointsOf gs)
  | .lineString => .multiLineString gs
  | _ => .collection gs

theorem multigeomRaw_uniform (k : Kind) (g : Geom K) (rest : List (Geom K))
    (h : ∀ x ∈ g :: rest, kind x = k ∧ isEmpty x = false) : multigeomRaw (g :: rest) = .ok (assemble k (g :: rest)) := by
  have hg := (h g (List.mem_cons_self ..)).1
  have hall : rest.all (fun x => decide (kind x = kind g)) = true :=
    List.all_eq_true.mpr fun x hx => decide_eq_true ((h x (List.mem_cons_of_mem _ hx)).1.trans hg.symm)
  have hfil : (g :: rest).filter (fun x => !isEmpty x) = g :: rest :=
    List.filter_eq_self.mpr fun x hx => by rw [(h x hx).2]; rfl
  unfold multigeomRaw
  dsimp only
  rw [if_pos hall, hfil, hg]
  cases k <;> rfl

theorem mapRingsList_eq_map (f : List (Pt K) → List (Pt K)) :
    ∀ gs : List (Geom K), mapRingsList f gs = gs.map (mapRings f)
  | [] => rfl
  | g :: gs => congrArg (mapRings f g :: ·) (mapRingsList_eq_map f gs)

theorem isEmpty_eq_false_of_length {α : Type} {l l' : List α} (h : l'.length = l.length) (hl : l ≠ []) :
    l'.isEmpty = false := by
  cases l' with
  | nil => exact absurd (List.length_eq_zero_iff.mp h.symm) hl
  | cons _ _ => rfl

theorem kind_mapRings (f : List (Pt K) → List (Pt K)) (g : Geom K) : kind (mapRings f g) = kind g := by
  cases g with
  | point p => unfold mapRings; split <;> rfl
  | _ => rfl

/-- the parts shapely's constructors leave in a `Multi*`: a point, a non-empty line, a polygon with a non-empty shell -/
def IsPart : Geom K → Prop
  | .point _ => True
  | .lineString cs => cs ≠ []
  | .polygon ext _ => ext ≠ []
  | _ => False

theorem isEmpty_mapRings_part (f : List (Pt K) → List (Pt K)) (hf : ∀ cs, (f cs).length = cs.length)
    (g : Geom K) (hg : IsPart g) : isEmpty (mapRings f g) = false := by
  cases g with
  | point p => unfold mapRings; split <;> rfl
  | lineString cs => exact isEmpty_eq_false_of_length (hf cs) hg
  | polygon ext holes => exact isEmpty_eq_false_of_length (hf ext) hg
  | _ => exact hg.elim

theorem pointsOf_map_mapRings (f : List (Pt K) → List (Pt K)) (qs : List (Pt K)) :
    pointsOf ((qs.map Geom.point).map (mapRings f)) = qs.map (fun p => match f [p] with | q :: _ => q | [] => p) := by
  induction qs with
  | nil => rfl
  | cons q qs ih =>
    simp only [List.map_cons, mapRings]
    split <;> simp only [pointsOf, *]

theorem multigeomRaw_map_mapRings (f : List (Pt K) → List (Pt K)) (hf : ∀ cs, (f cs).length = cs.length)
    (k : Kind) (a : Geom K) (rest : List (Geom K)) (h : ∀ g ∈ a :: rest, kind g = k ∧ IsPart g) :
    multigeomRaw ((a :: rest).map (mapRings f)) = .ok (assemble k ((a :: rest).map (mapRings f))) := by
  refine multigeomRaw_uniform k (mapRings f a) (rest.map (mapRings f)) fun x hx => ?_
  obtain ⟨g, hg, rfl⟩ := List.mem_map.mp (show x ∈ (a :: rest).map (mapRings f) from hx)
  exact ⟨(kind_mapRings f g).trans (h g hg).1, isEmpty_mapRings_part f hf g (h g hg).2⟩

end

section
variable {K : Type} [DecidableEq K]

/-- shapely's ring construction: what comes back consists of the coordinates that went in (the
closing vertex is a copy of the first), and a list of one or two coordinates is refused -/
theorem closeRing_spec (cs r : List (Pt K)) (h : closeRing cs = .ok r) :
    (cs = [] ∧ r = []) ∨ (3 ≤ cs.length ∧ (r = cs ∨ ∃ p rest, cs = p :: rest ∧ r = cs ++ [p])) := by
  cases cs with
  | nil => cases h; exact .inl ⟨rfl, rfl⟩
  | cons p rest =>
    rw [closeRing] at h
    by_cases h1 : rest.length + 1 < 3
    · rw [if_pos h1] at h; cases h
    · rw [if_neg h1] at h
      refine .inr ⟨by rw [List.length_cons]; omega, ?_⟩
      by_cases h2 : rest.length + 1 = 3
      · rw [if_pos h2] at h; cases h; exact .inr ⟨p, rest, rfl, rfl⟩
      · rw [if_neg h2] at h
        split at h <;> cases h
        · exact .inl rfl
        · exact .inr ⟨p, rest, rfl, rfl⟩

theorem closeRing_mem (cs r : List (Pt K)) (h : closeRing cs = .ok r) : ∀ q ∈ r, q ∈ cs := by
  intro q hq
  rcases closeRing_spec cs r h with ⟨_, rfl⟩ | ⟨_, rfl | ⟨p, rest, rfl, rfl⟩⟩
  · exact absurd hq List.not_mem_nil
  · exact hq
  · rcases List.mem_append.mp hq with hq | hq
    · exact hq
    · rw [List.mem_singleton.mp hq]; exact List.mem_cons_self ..

omit [DecidableEq K] in
theorem dropSingle_mem (l : List (Pt K)) : ∀ v ∈ dropSingle l, v ∈ l := by
  intro v hv; unfold dropSingle at hv; split at hv
  · cases hv
  · exact hv

theorem closeRings_mem (cs cs' : List (List (Pt K))) (h : closeRings cs = .ok cs') :
    ∀ v ∈ cs'.flatten, v ∈ cs.flatten := by
  induction cs generalizing cs' with
  | nil => cases h; exact fun _ hv => hv
  | cons c cs ih =>
    unfold closeRings at h
    split at h
    · cases h
    · rename_i c' hc
      split at h
      · cases h
      · rename_i l' hl
        cases h
        intro v hv
        rw [List.flatten_cons, List.mem_append] at hv ⊢
        exact hv.imp (closeRing_mem c c' hc v) (ih l' hl v)

theorem mkPolygon_ok {ext : List (Pt K)} {holes : List (List (Pt K))} {g : Geom K}
    (h : mkPolygon ext holes = .ok g) :
    ∃ ext' holes', closeRing ext = .ok ext' ∧ closeRings holes = .ok holes' ∧ g = .polygon ext' holes' := by
  unfold mkPolygon at h
  split at h
  · cases h
  · rename_i e' he
    split at h
    · cases h
    · rename_i hs' hh
      split at h <;> cases h
      exact ⟨e', hs', he, hh, rfl⟩

mutual
/-- **`Geometry.filter(pred)` keeps the geometry type** (an empty geometry of that type when nothing is
left), **keeps only points for which `pred` holds and invents none**: every vertex of the result
satisfies the predicate and is a vertex of the input (the vertex shapely adds to close a ring again is
a copy of a kept one) — for every geometry kind, at any nesting depth.
With `pred = isfinite` this is `dropna`: no NaN / inf vertex survives `check_and_fix`. -/
theorem filterGeom_ok (pred : Pt K → Bool) :
    ∀ (g g' : Geom K), filterGeom pred g = .ok (.geom g') →
      kind g' = kind g ∧ ∀ v ∈ vertices g', pred v = true ∧ v ∈ vertices g
  | .point p, g', h => by
    unfold filterGeom at h
    split at h
    · rename_i hp; cases h
      refine ⟨rfl, fun v hv => ?_⟩
      cases List.mem_singleton.mp hv; exact ⟨hp, hv⟩
    · cases h
  | .multiPoint ps, g', h => by
    cases h
    exact ⟨rfl, fun v hv => (List.mem_filter.mp hv).symm⟩
  | .lineString cs, g', h => by
    cases h
    exact ⟨rfl, fun v hv => (List.mem_filter.mp (dropSingle_mem _ v hv)).symm⟩
  | .linearRing cs, g', h => by
    unfold filterGeom at h
    split at h
    · cases h
    · rename_i r hc; cases h
      exact ⟨rfl, fun v hv => (List.mem_filter.mp (dropSingle_mem _ v (closeRing_mem _ r hc v hv))).symm⟩
  | .polygon ext holes, g', h => by
    unfold filterGeom at h
    split at h
    · cases h
    · rename_i g0 hm; cases h
      obtain ⟨e', hs', he, hh, rfl⟩ := mkPolygon_ok hm
      refine ⟨rfl, fun v hv => ?_⟩
      rcases List.mem_append.mp hv with hv | hv
      · have hv := closeRing_mem _ e' he v hv
        exact ⟨(List.mem_filter.mp hv).2, List.mem_append_left _ (List.mem_filter.mp hv).1⟩
      · obtain ⟨l, hl, hvl⟩ := List.mem_flatten.mp (closeRings_mem _ hs' hh v hv)
        obtain ⟨h0, hh0, rfl⟩ := List.mem_map.mp (List.mem_filter.mp hl).1
        exact ⟨(List.mem_filter.mp hvl).2,
          List.mem_append_right _ (List.mem_flatten.mpr ⟨h0, hh0, (List.mem_filter.mp hvl).1⟩)⟩
  | .multiLineString gs, g', h | .multiPolygon gs, g', h | .collection gs, g', h => by
    unfold filterGeom at h
    split at h
    · cases h
    · rename_i gs' hl; cases h; exact ⟨rfl, filterList_ok_vertices pred gs gs' hl⟩
theorem filterList_ok_vertices (pred : Pt K → Bool) :
    ∀ (gs gs' : List (Geom K)), filterList pred gs = .ok gs' →
      ∀ v ∈ verticesList gs', pred v = true ∧ v ∈ verticesList gs
  | [], gs', h => by cases h; exact fun v hv => nomatch hv
  | g :: gs, gs', h => by
    unfold filterList at h
    split at h
    · cases h
    · rename_i f hg
      split at h
      · cases h
      · rename_i l' hl
        have ih := filterList_ok_vertices pred gs l' hl
        have tail : ∀ v ∈ verticesList l', pred v = true ∧ v ∈ verticesList (g :: gs) :=
          fun v hv => ⟨(ih v hv).1, List.mem_append_right _ (ih v hv).2⟩
        split at h
        · cases h; exact tail
        · rename_i g1
          have ih1 := (filterGeom_ok pred g g1 hg).2
          split at h
          · cases h; exact tail
          · cases h
            intro v hv
            rcases List.mem_append.mp hv with hv | hv
            · exact ⟨(ih1 v hv).1, List.mem_append_left _ (ih1 v hv).2⟩
            · exact tail v hv
end

end

section
variable {K : Type} [Zero K] [Add K] [Sub K] [Neg K] [Mul K] [Div K] [LT K] [LE K] [DecidableLT K] [DecidableLE K]
  [DecidableEq K]

theorem geojsonList_ok (o : GJOpts K) (crs : C01.Tag) (gs : List (Geom K)) (fs : List (GJ K))
    (h : geojsonList o crs gs = .ok fs) : List.Forall₂ (fun g f => geojson o crs g = .ok f) gs fs := by
  induction gs generalizing fs with
  | nil => cases h; exact .nil
  | cons g gs ih =>
    unfold geojsonList at h
    split at h
    · cases h
    · rename_i f hg
      split at h
      · cases h
      · rename_i fs' hl; cases h; exact .cons hg (ih fs' hl)

end

section order
variable {K : Type} [LinearOrder K] [Zero K] [Add K] [Sub K]

/-- `mode="safe"`: the range as it is, or the re-reading of its ends (a negative end moved up by a full
turn), which is kept only when strictly narrower -/
theorem lonlatWrap_safe_cases (c180 c360 x0 x1 : K) (h : x0 ≤ x1) :
    lonlatWrap true c180 c360 x0 x1 = (x0, x1) ∨
    ∃ a b, (a = x0 + c360 ∨ a = x0) ∧ (b = x1 + c360 ∨ b = x1) ∧ maxK a b - minK a b < x1 - x0 ∧
      lonlatWrap true c180 c360 x0 x1 = (minK a b, maxK a b) := by
  have hs := minK_maxK_sorted x0 x1 h
  unfold lonlatWrap
  dsimp only
  by_cases hw : c180 < x1 - x0
  · rw [Bool.true_and, if_pos (decide_eq_true hw)]
    generalize ha : (if x0 < 0 then x0 + c360 else x0) = a
    generalize hb : (if x1 < 0 then x1 + c360 else x1) = b
    by_cases hn : maxK a b - minK a b < x1 - x0
    · have hs' := minK_maxK_sorted _ _ (minK_le_maxK a b)
      rw [if_pos hn, hs'.1, hs'.2]
      exact .inr ⟨a, b, ha ▸ ite_eq_or_eq _ _ _, hb ▸ ite_eq_or_eq _ _ _, hn, rfl⟩
    · rw [if_neg hn, hs.1, hs.2]; exact .inl rfl
  · rw [Bool.true_and, if_neg (by rwa [decide_eq_true_eq]), hs.1, hs.2]; exact .inl rfl

variable [Mul K] [Div K] [DecidableEq K]

/-- no `wrapdateline` (or a projected target) and no `check_and_fix`: densify, project, nothing else —
and no way to fail -/
theorem toCrsAllWith_plain (clipFn : Geom K → Res7 (Geom K)) (E : Env K)
    (proj : C01.CrsRec → C01.CrsRec → Pt K → Pt K) (autoRes : Geom K → K)
    (hit : Geom K → Bool) (split : Geom K → List (Geom K))
    (isValid : Geom K → Bool) (buffer0 : Geom K → Geom K) (finite : Pt K → Bool)
    (s t : C01.CrsRec) (geom : Geom K) (geographic : Bool) (res : Resolution K) (wd : Bool)
    (hw : (wd && geographic) = false) (hne : C01.tagEq (some s) (some t) = false) :
    toCrsAllWith clipFn E proj autoRes hit split isValid buffer0 finite ⟨some s, geom⟩ (some t) geographic res
        wd false = .ok (some t, .geom (mapPts (proj s t) (densified E autoRes res geom))) := by
  have hne' : ¬ C01.tagEq (some s) (some t) = true := by rw [hne]; exact Bool.false_ne_true
  unfold toCrsAllWith densified
  dsimp only
  rw [if_neg hne', hw]
  cases res with
  | none | nonfinite => rfl
  | auto | val r => dsimp only; rw [segmentize_gate]; rfl

end order

end OdcGeo.C07
