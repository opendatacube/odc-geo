/-
`norm_xy` (math.py:446-472, as repaired by "fix: norm_xy scales by sqrt(2)/mean distance")
modelled over an arbitrary ordered field `K` (so that it applies to ℝ, where `√2` exists; over
`Rat` the hypothesis `r·r = 2` is unsatisfiable, which is why this model is field-generic and
lives here, with Mathlib's `Field`, rather than in the core-only `Model/`).

Square roots are witnesses: `ds` are the distances of the centred points from the origin
(`0 ≤ d_i`, `d_i² = x_i² + y_i²`), `r` is the constant the code uses for `√2`.

After the `normxy` section, over `Rat`: `polyval` / `Poly2d` evaluation written out, closure of the bilinear and
biquadratic families under scale+translation of input and output, de-normalisation (`denorm_eval`), `FitNorms`.
-/
import OdcGeo.Model.C20
import OdcGeo.Lemmas.Affine
import Mathlib.Tactic.Ring
import Mathlib.Tactic.LinearCombination
import Mathlib.Algebra.Order.Field.Basic
import Mathlib.Algebra.BigOperators.Group.List.Basic

namespace OdcGeo.C20

section normxy
variable {K : Type} [Field K] [LinearOrder K] [IsStrictOrderedRing K]
set_option linter.unusedSectionVars false

/-- `arr.mean()` -/
def meanK (xs : List K) : K := xs.sum / (xs.length : K)

/-- Result of `norm_xy`: the normalised points and `Affine(s, 0, tx, 0, s, ty)`. -/
structure NormXY (K : Type) where
  pts : List (K × K)
  s : K
  tx : K
  ty : K

/-- `norm_xy(pts)`: `ds` = `sqrt((XX**2).sum(axis=1))` (witness), `r` = `sqrt(2.0)` (witness). -/
def normXYK (pts : List (K × K)) (ds : List K) (r : K) : NormXY K :=
  let mx := meanK (pts.map (·.1))          -- _mean = pts.mean(axis=0)
  let my := meanK (pts.map (·.2))
  let m := meanK ds                        -- mean_dist
  let s := if 0 < m then r / m else 1      -- sx
  ⟨pts.map fun p => ((p.1 - mx) * s, (p.2 - my) * s),   -- XX = (pts - _mean) * sx
   s, -mx * s, -my * s⟩                                  -- tx, ty = -_mean * sx

/-- `ds` are the distances of the points from their centroid. -/
def IsCentredDist (pts : List (K × K)) (ds : List K) : Prop :=
  List.Forall₂ (fun p d => 0 ≤ d ∧
    d * d = (p.1 - meanK (pts.map (·.1))) * (p.1 - meanK (pts.map (·.1))) +
            (p.2 - meanK (pts.map (·.2))) * (p.2 - meanK (pts.map (·.2)))) pts ds

theorem sum_map_sub_mul (xs : List K) (c s : K) :
    (xs.map fun x => (x - c) * s).sum = (xs.sum - (xs.length : K) * c) * s := by
  induction xs with
  | nil => simp
  | cons x xs ih => simp only [List.map_cons, List.sum_cons, List.length_cons, ih]; push_cast; ring

theorem sum_map_mul_right (xs : List K) (s : K) : (xs.map (· * s)).sum = xs.sum * s := by
  simpa using sum_map_sub_mul xs 0 s

theorem meanK_centred (xs : List K) (hne : xs ≠ []) (s : K) :
    meanK (xs.map fun x => (x - meanK xs) * s) = 0 := by
  have hn : (xs.length : K) ≠ 0 := Nat.cast_ne_zero.mpr (List.length_pos_iff.mpr hne).ne'
  unfold meanK
  rw [sum_map_sub_mul, List.length_map, mul_comm (xs.length : K), div_mul_cancel₀ _ hn, sub_self, zero_mul, zero_div]

theorem forall2_scale (pts : List (K × K)) (ds : List K) (mx my s : K) (hs : 0 ≤ s)
    (h : List.Forall₂ (fun p d => 0 ≤ d ∧
      d * d = (p.1 - mx) * (p.1 - mx) + (p.2 - my) * (p.2 - my)) pts ds) :
    List.Forall₂ (fun q d => 0 ≤ d ∧ d * d = q.1 * q.1 + q.2 * q.2)
      (pts.map fun p => ((p.1 - mx) * s, (p.2 - my) * s)) (ds.map (· * s)) := by
  rw [List.forall₂_map_left_iff, List.forall₂_map_right_iff]
  exact h.imp fun p d hpd => ⟨mul_nonneg hpd.1 hs, by linear_combination (s * s) * hpd.2⟩

/-- The scale is positive (so the returned affine is invertible). -/
theorem normXYK_scale_pos (pts : List (K × K)) (ds : List K) (r : K) (hr : 0 < r) :
    0 < (normXYK pts ds r).s := by
  simp only [normXYK]
  split
  · rename_i h; exact div_pos hr h
  · exact one_pos

end normxy

theorem polyval_nil (x : Rat) : polyval [] x = 0 := rfl
theorem polyval_cons (c : Rat) (cs : List Rat) (x : Rat) : polyval (c :: cs) x = c + x * polyval cs x := rfl

theorem polyval_map_mul (cs : List Rat) (s x : Rat) : polyval (cs.map (· * s)) x = polyval cs x * s := by
  induction cs with
  | nil => simp [polyval_nil]
  | cons c cs ih => simp only [List.map_cons, polyval_cons, ih]; ring

open Poly2d in
theorem evalCC_reshape2 (c0 c1 c2 c3 : Rat × Rat) (q : Rat × Rat) :
    evalCC (reshape 2 [c0, c1, c2, c3]) q =
      (c0.1 + q.2 * c1.1 + q.1 * (c2.1 + q.2 * c3.1), c0.2 + q.2 * c1.2 + q.1 * (c2.2 + q.2 * c3.2)) := by
  simp only [evalCC, reshape, polyval2d, polyval, List.range, List.range.loop, List.map, List.drop,
    List.take, List.foldr]
  ext <;> simp

/-- `Σ k[3i+j]·x^i·y^j`, `i, j ≤ 2`: one output component of a biquadratic `Poly2d`. -/
def biq (k0 k1 k2 k3 k4 k5 k6 k7 k8 x y : Rat) : Rat :=
  k0 + y * k1 + y * y * k2 + x * (k3 + y * k4 + y * y * k5) + x * x * (k6 + y * k7 + y * y * k8)

open Poly2d in
theorem evalCC_reshape3 (c0 c1 c2 c3 c4 c5 c6 c7 c8 : Rat × Rat) (q : Rat × Rat) :
    evalCC (reshape 3 [c0, c1, c2, c3, c4, c5, c6, c7, c8]) q =
      (biq c0.1 c1.1 c2.1 c3.1 c4.1 c5.1 c6.1 c7.1 c8.1 q.1 q.2,
       biq c0.2 c1.2 c2.2 c3.2 c4.2 c5.2 c6.2 c7.2 c8.2 q.1 q.2) := by
  simp only [evalCC, reshape, polyval2d, polyval, List.range, List.range.loop, List.map, List.drop,
    List.take, List.foldr, biq]
  ext <;> simp only [] <;> ring

theorem biq_out (k0 k1 k2 k3 k4 k5 k6 k7 k8 s t x y : Rat) :
    biq (k0 * s + t) (k1 * s) (k2 * s) (k3 * s) (k4 * s) (k5 * s) (k6 * s) (k7 * s) (k8 * s) x y =
      s * biq k0 k1 k2 k3 k4 k5 k6 k7 k8 x y + t := by
  unfold biq; ring

theorem biq_subst_y (k0 k1 k2 k3 k4 k5 k6 k7 k8 α β x y : Rat) :
    biq k0 k1 k2 k3 k4 k5 k6 k7 k8 x (α * y + β) =
      biq (k0 + β * k1 + β * β * k2) (α * k1 + 2 * α * β * k2) (α * α * k2)
        (k3 + β * k4 + β * β * k5) (α * k4 + 2 * α * β * k5) (α * α * k5)
        (k6 + β * k7 + β * β * k8) (α * k7 + 2 * α * β * k8) (α * α * k8) x y := by
  unfold biq; ring

theorem biq_subst_x (k0 k1 k2 k3 k4 k5 k6 k7 k8 α β x y : Rat) :
    biq k0 k1 k2 k3 k4 k5 k6 k7 k8 (α * x + β) y =
      biq (k0 + β * k3 + β * β * k6) (k1 + β * k4 + β * β * k7) (k2 + β * k5 + β * β * k8)
        (α * k3 + 2 * α * β * k6) (α * k4 + 2 * α * β * k7) (α * k5 + 2 * α * β * k8)
        (α * α * k6) (α * α * k7) (α * α * k8) x y := by
  unfold biq; ring

/-- Bilinear polynomials are closed under a scale+translation `B` of the input and `Ab` of the output. -/
theorem bilinear_closed (c0 c1 c2 c3 : Rat × Rat) (B Ab : Aff) (hB : B.b = 0 ∧ B.d = 0)
    (hAb : Ab.b = 0 ∧ Ab.d = 0) :
    ∃ d0 d1 d2 d3 : Rat × Rat, (c3 = (0, 0) → d3 = (0, 0)) ∧ ∀ u : Rat × Rat,
      Poly2d.evalCC (Poly2d.reshape 2 [d0, d1, d2, d3]) u =
        Ab.apply (Poly2d.evalCC (Poly2d.reshape 2 [c0, c1, c2, c3]) (B.apply u)) := by
  obtain ⟨a, b, c, d, e, f⟩ := B
  obtain ⟨a', b', c', d', e', f'⟩ := Ab
  simp only at hB hAb
  obtain ⟨rfl, rfl⟩ := hB
  obtain ⟨rfl, rfl⟩ := hAb
  refine ⟨(a' * (c0.1 + c1.1 * f + c2.1 * c + c3.1 * c * f) + c', e' * (c0.2 + c1.2 * f + c2.2 * c + c3.2 * c * f) + f'),
          (a' * (c1.1 * e + c3.1 * c * e), e' * (c1.2 * e + c3.2 * c * e)),
          (a' * (c2.1 * a + c3.1 * a * f), e' * (c2.2 * a + c3.2 * a * f)),
          (a' * (c3.1 * a * e), e' * (c3.2 * a * e)), ?_, ?_⟩
  · intro h; rw [h]; simp
  · intro u
    simp only [evalCC_reshape2, Aff.apply]
    ext <;> simp only [] <;> ring

theorem biquadratic_closed (c0 c1 c2 c3 c4 c5 c6 c7 c8 : Rat × Rat) (B Ab : Aff) (hB : B.b = 0 ∧ B.d = 0)
    (hAb : Ab.b = 0 ∧ Ab.d = 0) :
    ∃ d0 d1 d2 d3 d4 d5 d6 d7 d8 : Rat × Rat, ∀ u : Rat × Rat,
      Poly2d.evalCC (Poly2d.reshape 3 [d0, d1, d2, d3, d4, d5, d6, d7, d8]) u =
        Ab.apply (Poly2d.evalCC (Poly2d.reshape 3 [c0, c1, c2, c3, c4, c5, c6, c7, c8]) (B.apply u)) :=
  ⟨(_, _), (_, _), (_, _), (_, _), (_, _), (_, _), (_, _), (_, _), (_, _), fun u => by
    rw [evalCC_reshape3, evalCC_reshape3]
    simp only [Aff.apply, hB.1, hB.2, hAb.1, hAb.2, zero_mul, add_zero, zero_add]
    -- bringing each component of the right side into the form `biq d0 … d8 u.1 u.2` determines the coefficients
    rw [biq_subst_y, biq_subst_x, ← biq_out, biq_subst_y, biq_subst_x, ← biq_out]⟩

theorem denorm_cons (c : Rat × Rat) (cs : List (Rat × Rat)) (Ab : Aff) :
    Poly2d.denorm (c :: cs) Ab = (c.1 * Ab.inv.a + Ab.inv.c, c.2 * Ab.inv.a + Ab.inv.f) ::
      cs.map fun c => (c.1 * Ab.inv.a, c.2 * Ab.inv.a) := rfl

/-- `cc.reshape(k, k)` on one output component -/
def rows (k : Nat) (l : List Rat) : List (List Rat) := (List.range k).map fun i => (l.drop (i * k)).take k

theorem reshape_map (k : Nat) (cc : List (Rat × Rat)) (f : Rat × Rat → Rat) :
    (Poly2d.reshape k cc).map (fun row => row.map f) = rows k (cc.map f) := by
  simp only [Poly2d.reshape, rows, List.map_map, Function.comp_def, List.map_take, List.map_drop]

theorem polyval2d_rows_scale (k : Nat) (l : List Rat) (s x y : Rat) :
    polyval2d (rows k (l.map (· * s))) x y = polyval2d (rows k l) x y * s := by
  simp only [polyval2d, rows, List.map_map, Function.comp_def, ← List.map_take, ← List.map_drop, polyval_map_mul]
  rw [← polyval_map_mul, List.map_map]; rfl

theorem polyval2d_rows_shift (k : Nat) (h t : Rat) (l : List Rat) (x y : Rat) :
    polyval2d (rows (k + 1) ((h + t) :: l)) x y = polyval2d (rows (k + 1) (h :: l)) x y + t := by
  have key : ∀ h : Rat, rows (k + 1) (h :: l) =
      (h :: l.take k) :: (List.range k).map fun i => (l.drop (i * (k + 1) + k)).take (k + 1) := by
    intro h
    simp only [rows, List.range_succ_eq_map, List.map_cons, List.map_map, Function.comp_def, Nat.zero_mul,
      List.drop_zero, List.take_succ_cons, Nat.succ_mul, ← Nat.add_assoc, List.drop_succ_cons]
  rw [key, key]
  simp only [polyval2d, List.map_cons, polyval_cons]
  ring

/-- De-normalisation of `_fit3/_fit4/_fit9` (`cc*s; cc[0,:] += (tx,ty)` with `(s,_,tx,_,_,ty) = ~Ab`, `Ab` a uniform
scale + translation), any side `k + 1`: the de-normalised polynomial is `Ab⁻¹ ∘ q`. -/
theorem denorm_eval (k : Nat) (c : Rat × Rat) (cs : List (Rat × Rat)) (Ab : Aff) (hb : Ab.b = 0) (hd : Ab.d = 0)
    (hs : Ab.a = Ab.e) (q : Rat × Rat) :
    Poly2d.evalCC (Poly2d.reshape (k + 1) (Poly2d.denorm (c :: cs) Ab)) q =
      Ab.inv.apply (Poly2d.evalCC (Poly2d.reshape (k + 1) (c :: cs)) q) := by
  obtain ⟨e1, e2⟩ := Aff.inv_of_st hb hd
  have e3 : Ab.inv.e = Ab.inv.a := by simp [Aff.inv, hs]
  have h1 : ∀ f : Rat × Rat → Rat, (f c * Ab.inv.a) :: cs.map (fun c => f c * Ab.inv.a) =
      (f c :: cs.map f).map (· * Ab.inv.a) := fun f => by rw [List.map_cons, List.map_map]; rfl
  simp only [Poly2d.evalCC, reshape_map, denorm_cons, List.map_cons, List.map_map, Function.comp_def]
  rw [polyval2d_rows_shift, polyval2d_rows_shift, h1 (·.1), h1 (·.2), polyval2d_rows_scale, polyval2d_rows_scale]
  simp only [Aff.apply, e1, e2, e3]
  ext <;> simp only [] <;> ring

/-- Hypotheses on the two normalisations as `norm_xy` produces them: scale + translation, non-zero
scales, and a uniform scale on the output side (`_fit*` "assumes `sx == sy`"). -/
structure FitNorms (Ain Ab : Aff) : Prop where
  inb : Ain.b = 0
  ind : Ain.d = 0
  ina : Ain.a ≠ 0
  ine : Ain.e ≠ 0
  outb : Ab.b = 0
  outd : Ab.d = 0
  outs : Ab.a = Ab.e
  outa : Ab.a ≠ 0

end OdcGeo.C20
