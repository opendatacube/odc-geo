/-
C06: scheduler steps of `Spec/C06Schedule.lean` simulate `eval` (`Rel` is kept by `Step`), and where the `i`-th chunk
sits in the byte stream.
-/
import OdcGeo.Lemmas.C06Tree
import OdcGeo.Lemmas.C06Final
import OdcGeo.Spec.C06Schedule


namespace OdcGeo.C06
variable {α : Type}

theorem rel_ofTree (cfg : Cfg) (total : Nat) (t : Tree α) : ∀ idx, Rel cfg total (Run.ofTree t idx) t idx [] := by
  induction t with
  | leaf chunks => intro idx; exact Rel.leafTodo idx chunks
  | node l r ihl ihr =>
    intro idx
    have := Rel.nodeTodo _ _ _ _ idx _ _ (ihl idx) (ihr (idx + l.leaves))
    simpa [Run.ofTree] using this

theorem step_rel (cfg : Cfg) (total : Nat) {s s' : Run α × List (Part α)} (h : Step cfg total s s') :
    ∀ {t : Tree α} {idx : Nat} {ws : List (Part α)}, Rel cfg total s.1 t idx ws →
      ∃ ws' new, Rel cfg total s'.1 t idx ws' ∧ s'.2 = s.2 ++ new ∧ List.Perm ws' (ws ++ new) := by
  induction h with
  | leaf idx chunks c ws0 lg he =>
    intro t idx' ws hrel
    cases hrel with
    | leafTodo _ _ =>
      exact ⟨ws0, ws0, Rel.done c _ _ ws0 ws0 (by simpa [eval] using he) (List.Perm.refl _), rfl, by simp⟩
  | node cl cr m wm lg he =>
    intro t idx' ws hrel
    cases hrel with
    | nodeTodo _ _ tl tr _ wl wr hl hr =>
      cases hl with
      | done _ _ _ wsl _ hel hpl =>
        cases hr with
        | done _ _ _ wsr _ her hpr =>
          refine ⟨wl ++ wr ++ wm, wm, ?_, rfl, List.Perm.refl _⟩
          refine Rel.done m _ _ (wsl ++ wsr ++ wm) _ ?_ ((hpl.append hpr).append_right wm)
          simp only [eval, hel, her, he]
  | left l l' r0 lg lg' hstep ih =>
    intro t idx' ws hrel
    cases hrel with
    | nodeTodo _ _ tl tr _ wl wr hl hr =>
      obtain ⟨wl', new, hl', hlog, hp⟩ := ih hl
      refine ⟨wl' ++ wr, new, Rel.nodeTodo _ _ _ _ _ _ _ hl' hr, hlog, ?_⟩
      -- wl' ++ wr ~ (wl ++ new) ++ wr ~ (wl ++ wr) ++ new
      refine (hp.append_right wr).trans ?_
      simp only [List.append_assoc]
      exact List.Perm.append_left wl List.perm_append_comm
  | right l r0 r0' lg lg' hstep ih =>
    intro t idx' ws hrel
    cases hrel with
    | nodeTodo _ _ tl tr _ wl wr hl hr =>
      obtain ⟨wr', new, hr', hlog, hp⟩ := ih hr
      refine ⟨wl ++ wr', new, Rel.nodeTodo _ _ _ _ _ _ _ hl hr', hlog, ?_⟩
      rw [List.append_assoc]
      exact hp.append_left wl

theorem steps_rel (cfg : Cfg) (total : Nat) {s s' : Run α × List (Part α)}
    (h : Steps cfg total s s') :
    ∀ {t : Tree α} {idx : Nat} {ws : List (Part α)}, Rel cfg total s.1 t idx ws → List.Perm s.2 ws →
      ∃ ws', Rel cfg total s'.1 t idx ws' ∧ List.Perm s'.2 ws' := by
  induction h with
  | refl => intro t idx ws hr hp; exact ⟨ws, hr, hp⟩
  | tail b c hab hbc ih =>
    intro t idx ws hr hp
    obtain ⟨ws1, hr1, hp1⟩ := ih hr hp
    obtain ⟨ws2, new, hr2, hlog, hp2⟩ := step_rel cfg total hbc hr1
    exact ⟨ws2, hr2, hlog ▸ (hp1.append_right new).trans hp2.symm⟩

theorem eval_node_ok {cfg : Cfg} {total : Nat} {l r : Tree α} {idx : Nat} {c : Chunk α} {w : List (Part α)}
    (h : eval cfg total (.node l r) idx = .ok (c, w)) :
    ∃ cl wl cr wr m wm, eval cfg total l idx = .ok (cl, wl) ∧ eval cfg total r (idx + l.leaves) = .ok (cr, wr) ∧
      mergeAndSpill cfg.writer cfg.spill cl cr = .ok (m, wm) := by
  rw [eval] at h
  split at h
  · cases h
  split at h
  · cases h
  split at h
  · cases h
  · exact ⟨_, _, _, _, _, _, ‹_›, ‹_›, ‹_›⟩

/-- payloads of all chunks of a tree in stream order -/
def Tree.chunks : Tree α → List (List α)
  | .leaf cs => cs.map (·.1)
  | .node l r => l.chunks ++ r.chunks

theorem Tree.bytes_eq_flatten (t : Tree α) : t.bytes = t.chunks.flatten := by
  induction t with
  | leaf cs => simp [Tree.bytes, Tree.chunks]
  | node l r ihl ihr => simp [Tree.bytes, Tree.chunks, ihl, ihr]

theorem Tree.obs_sizes (t : Tree α) : t.obs.map (·.1) = t.chunks.map List.length := by
  induction t with
  | leaf cs => simp [Tree.obs, Tree.chunks, Function.comp_def]
  | node l r ihl ihr => simp [Tree.obs, Tree.chunks, ihl, ihr]

theorem slice_flatten (H F : List α) (cs : List (List α)) (i : Nat) (hi : i < cs.length) :
    ((H ++ cs.flatten ++ F).drop (H.length + (cs.take i).flatten.length)).take (cs[i].length) = cs[i] := by
  have hfl : cs.flatten = (cs.take i).flatten ++ (cs[i] ++ (cs.drop (i + 1)).flatten) := by
    rw [← List.flatten_cons, ← List.drop_eq_getElem_cons hi, ← List.flatten_append, List.take_append_drop]
  have : H ++ cs.flatten ++ F = (H ++ (cs.take i).flatten) ++ (cs[i] ++ ((cs.drop (i + 1)).flatten ++ F)) := by
    rw [hfl]; simp only [List.append_assoc]
  rw [this, ← List.length_append, List.drop_left, List.take_left]

end OdcGeo.C06
