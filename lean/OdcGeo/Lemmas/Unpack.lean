/-
Python's `a, b = seq` and `(a,) = seq`, as every argument model writes them: a `match` with one arm for the list of the
right length and a catch-all arm that raises.  What the catch-all arm answers is read off three (two) shapes of list.
-/
namespace OdcGeo

variable {α : Type}

/-- a list that is not a pair is empty, a singleton, or has at least three members -/
@[elab_as_elim]
theorem ne_pair_cases {P : List α → Prop} (l : List α) (h : l.length ≠ 2) (nil : P []) (one : ∀ a, P [a])
    (more : ∀ a b c l, P (a :: b :: c :: l)) : P l :=
  match l, h with
  | [], _ => nil
  | [a], _ => one a
  | [_, _], h => absurd rfl h
  | a :: b :: c :: l, _ => more a b c l

/-- a list that is not a singleton is empty or has at least two members -/
@[elab_as_elim]
theorem ne_single_cases {P : List α → Prop} (l : List α) (h : l.length ≠ 1) (nil : P [])
    (more : ∀ a b l, P (a :: b :: l)) : P l :=
  match l, h with
  | [], _ => nil
  | [_], h => absurd rfl h
  | a :: b :: l, _ => more a b l

end OdcGeo
