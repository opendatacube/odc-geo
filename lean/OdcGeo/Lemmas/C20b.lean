/- Power-of-two alignment: `align_up_pow2`, `align_down_pow2`. -/
import OdcGeo.Model.C20
import Mathlib.Tactic.NormNum

namespace OdcGeo.C20

theorem clog2_spec (x : Nat) (hx : 1 ≤ x) :
    x ≤ 2 ^ clog2 x ∧ ∀ m : Nat, x ≤ 2 ^ m → clog2 x ≤ m := by
  unfold clog2
  split
  · rename_i h
    have : x = 1 := by omega
    subst this
    exact ⟨by simp, fun m _ => Nat.zero_le m⟩
  · rename_i h
    have hne : x - 1 ≠ 0 := by omega
    constructor
    · have := @Nat.lt_log2_self (x - 1)
      omega
    · intro m hm
      have : (x - 1).log2 < m := (Nat.log2_lt hne).mpr (by omega)
      omega

theorem alignUpPow2_least (x : Int) (hx : 1 ≤ x) :
    ∃ n : Nat, alignUpPow2 x = 2 ^ n ∧ x ≤ 2 ^ n ∧ ∀ m : Nat, x ≤ 2 ^ m → (2 : Int) ^ n ≤ 2 ^ m := by
  obtain ⟨k, rfl⟩ := Int.eq_ofNat_of_zero_le (by omega : 0 ≤ x)
  obtain ⟨h1, h2⟩ := clog2_spec k (by omega)
  refine ⟨clog2 k, ?_, by exact_mod_cast h1, fun m hm => pow_le_pow_right₀ (by norm_num) (h2 m (by exact_mod_cast hm))⟩
  unfold alignUpPow2
  rw [if_neg (by omega), Int.toNat_natCast]
  push_cast; rfl

theorem alignDownPow2_greatest (x : Int) (hx : 1 ≤ x) :
    ∃ n : Nat, alignDownPow2 x = 2 ^ n ∧ (2 : Int) ^ n ≤ x ∧
      ∀ m : Nat, (2 : Int) ^ m ≤ x → (2 : Int) ^ m ≤ 2 ^ n := by
  obtain ⟨n, hn, hle, hleast⟩ := alignUpPow2_least x hx
  unfold alignDownPow2
  simp only [hn]
  split
  · rename_i hgt
    -- `2^n > x ≥ 1`, so `n = k + 1`, and `2^k < x` by leastness
    obtain ⟨k, rfl⟩ := Nat.exists_eq_succ_of_ne_zero (n := n) (by rintro rfl; omega)
    have hk : (2 : Int) ^ k < x := not_le.mp fun hxk =>
      absurd (hleast k hxk) (not_le.mpr (pow_lt_pow_right₀ (by norm_num) k.lt_succ_self))
    refine ⟨k, by rw [pow_succ]; omega, hk.le, fun m hm => pow_le_pow_right₀ (by norm_num) ?_⟩
    exact Nat.lt_succ_iff.mp ((pow_lt_pow_iff_right₀ (by norm_num)).mp (hm.trans_lt hgt))
  · exact ⟨n, rfl, by omega, fun m hm => hm.trans hle⟩

end OdcGeo.C20
