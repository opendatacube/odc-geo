/- The invariant of the C09 history theorem, how `wrap` / `assemble` establish it (`inv_of_coords`), how every operation
preserves it and what `recover` returns under it (helper lemmas; the property theorems are in Props/C09*.lean).  The last
three lemmas serve `assemble_ok_form` (Props/C09.lean), the form of what `assemble` returns. -/
import OdcGeo.Model.C09
import OdcGeo.Lemmas.C09
import Mathlib.Tactic.Ring

namespace OdcGeo.C09
open OdcGeo OdcGeo.PySliceStep

/-- label origin and step per original pixel: world labels for an axis-aligned box,
pixel-space labels (`k + ½`) otherwise -/
def baseX (g : GeoBox) : Rat × Rat := if isAffineST g.A then (g.A.c + g.A.a / 2, g.A.a) else (1 / 2, 1)
def baseY (g : GeoBox) : Rat × Rat := if isAffineST g.A then (g.A.f + g.A.e / 2, g.A.e) else (1 / 2, 1)
def xfOf (g : GeoBox) : Option Aff := if isAffineST g.A then none else some g.A
def caOf (g : GeoBox) : Option Crs := if isAffineST g.A then g.crs else none
def ccOf (g : GeoBox) : Option CrsCoord := g.crs.map fun c => ⟨some c, some g.A, none⟩

/-- the CRS coordinate `occ` (none when the box has no CRS) is what both location paths of `_locate_crs_coords`
find: it sits under the name `cn`, which is no dimension, and no other coordinate carries CRS attributes -/
structure CrsInv (cn : String) (occ : Option CrsCoord) (a : XArr) : Prop where
  cnDim : cn ∉ a.dims
  crsLk : a.coords.lookup cn = occ.map Coord.crs
  scan : crsScan a.coords = occ.toList
  crsKeys : ∀ k c, (k, Coord.crs c) ∈ a.coords → k = cn
  gm : a.gridMapping = some cn ∨ a.gridMapping = none

/-- "the labels of both spatial axes are arithmetic progressions of the original pixel centres
(`my`, `mx` say which; no slice that xarray accepts has step 0), the `_transform` encoding and the CRS coordinate are
intact and reachable on both location paths" -/
structure Inv (g : GeoBox) (cn : String) (my mx : AxMap) (a : XArr) : Prop extends CrsInv cn (ccOf g) a where
  sd : guessDims a.dims = some (dimsOf g.crs)
  ylk : a.coords.lookup (dimsOf g.crs).1 =
    some (.axis (labelsFor (baseY g).1 (baseY g).2 my) (xfOf g) (caOf g))
  xlk : a.coords.lookup (dimsOf g.crs).2 =
    some (.axis (labelsFor (baseX g).1 (baseX g).2 mx) (xfOf g) (caOf g))
  stride : my.stride ≠ 0 ∧ mx.stride ≠ 0

def NameOk (cn : String) : Prop :=
  cn ≠ "time" ∧ cn ≠ "band" ∧ cn ≠ "y" ∧ cn ≠ "x" ∧ cn ≠ "latitude" ∧ cn ≠ "longitude"

/-- integer indexing is admitted on the non-spatial axes only (it removes the axis); every other
operation — slices of any axis with any bounds / non-zero step, arithmetic, astype, pickle — is free -/
def Op.admissible : Op → Prop
  | .isel d (.int _) => d = "time" ∨ d = "band"
  | _ => True

variable {g : GeoBox} {cn : String} {occ : Option CrsCoord} {my mx : AxMap} {a a' a0 : XArr} {op : Op}
  {nt nb : Option Nat} {attrs : List String}

theorem CrsInv.locate (h : CrsInv cn occ a) : locateCrsCoords a = occ.toList := by
  unfold locateCrsCoords
  rcases h.gm with hg | hg <;> rw [hg]
  · simp only [h.crsLk]
    cases occ <;> rfl
  · exact h.scan

theorem dimsOf_cases (c : Option Crs) :
    dimsOf c = ("y", "x") ∨ dimsOf c = ("latitude", "longitude") := by
  rcases c with _ | ⟨i, _ | _⟩ <;> simp [dimsOf]

theorem dimsOf_ne (c : Option Crs) : (dimsOf c).1 ≠ (dimsOf c).2 := by
  rcases dimsOf_cases c with h | h <;> rw [h] <;> decide

theorem dimsOf_not_tb (c : Option Crs) (d : String) (hd : d = "time" ∨ d = "band") :
    (dimsOf c).1 ≠ d ∧ (dimsOf c).2 ≠ d := by
  rcases dimsOf_cases c with h | h <;> rw [h] <;> rcases hd with rfl | rfl <;> decide

theorem nameOk_spatial_ref : NameOk "spatial_ref" := by
  unfold NameOk
  decide

theorem NameOk.ne_dimsOf (h : NameOk cn) (c : Option Crs) :
    cn ≠ (dimsOf c).1 ∧ cn ≠ (dimsOf c).2 := by
  obtain ⟨_, _, h3, h4, h5, h6⟩ := h
  rcases dimsOf_cases c with e | e <;> rw [e]
  · exact ⟨h3, h4⟩
  · exact ⟨h5, h6⟩

theorem guessDims_shape {pre post : List String} (c : Option Crs)
    (htb : ∀ d ∈ pre ++ post, d = "time" ∨ d = "band") :
    guessDims (pre ++ [(dimsOf c).1, (dimsOf c).2] ++ post) = some (dimsOf c) := by
  have hno : ∀ s : String, s ≠ "time" → s ≠ "band" → s ∉ pre ∧ s ∉ post := fun s h1 h2 =>
    ⟨fun hm => (htb s (List.mem_append_left _ hm)).elim h1 h2,
     fun hm => (htb s (List.mem_append_right _ hm)).elim h1 h2⟩
  obtain ⟨y1, y2⟩ := hno "y" (by decide) (by decide)
  obtain ⟨x1, x2⟩ := hno "x" (by decide) (by decide)
  rcases dimsOf_cases c with h | h <;> rw [h] <;>
    simp [guessDims, y1, y2, x1, x2]

theorem NameOk.not_mem_dims (h : NameOk cn) {pre post : List String} (c : Option Crs)
    (htb : ∀ d ∈ pre ++ post, d = "time" ∨ d = "band") :
    cn ∉ pre ++ [(dimsOf c).1, (dimsOf c).2] ++ post := by
  obtain ⟨hy, hx⟩ := h.ne_dimsOf c
  have htb' : ∀ d ∈ pre ++ post, cn ≠ d := fun d hd e => (htb d hd).elim (e ▸ h.1) (e ▸ h.2.1)
  simp only [List.mem_append, List.mem_cons, List.not_mem_nil, or_false]
  rintro ((hm | hm | hm) | hm)
  · exact htb' _ (List.mem_append_left _ hm) rfl
  · exact hy hm
  · exact hx hm
  · exact htb' _ (List.mem_append_right _ hm) rfl

theorem guessDims_congr6 (l l' : List String)
    (h : ∀ x ∈ ["y", "x", "latitude", "longitude", "lat", "lon"], (x ∈ l ↔ x ∈ l')) : guessDims l = guessDims l' := by
  have hc : ∀ x ∈ ["y", "x", "latitude", "longitude", "lat", "lon"], l.contains x = l'.contains x := by
    intro x hx
    rw [Bool.eq_iff_iff, List.contains_iff_mem, List.contains_iff_mem]
    exact h x hx
  simp only [guessDims, hc "y" (by simp), hc "x" (by simp), hc "latitude" (by simp), hc "longitude" (by simp),
    hc "lat" (by simp), hc "lon" (by simp)]

theorem guessDims_filter (dims : List String) (d : String) (hd : d = "time" ∨ d = "band") :
    guessDims (dims.filter (· ≠ d)) = guessDims dims := by
  apply guessDims_congr6
  intro x hx
  have hxd : x ≠ d := by
    rintro rfl
    rcases hd with rfl | rfl <;> simp at hx
  rw [List.mem_filter]
  exact ⟨fun h => h.1, fun h => ⟨h, by simpa using hxd⟩⟩

theorem spatialDims_of_guess {dims : List String} {p : String × String} (h : guessDims dims = some p) :
    spatialDims dims = some p := by
  simp [spatialDims, h]

/-- the two axis coordinates `xr_coords` writes -/
def axisPair (d : String × String) (ys xs : List Rat) (xf : Option Aff) (ca : Option Crs) :
    List (String × Coord) :=
  [(d.1, .axis ys xf ca), (d.2, .axis xs xf ca)]

section axisPair
variable {d : String × String} {ys xs : List Rat} {xf : Option Aff} {ca : Option Crs} {rest : List (String × Coord)}

theorem lookup_axisPair_fst : (axisPair d ys xs xf ca ++ rest).lookup d.1 = some (.axis ys xf ca) :=
  List.lookup_cons_self

theorem lookup_axisPair_snd (h : d.1 ≠ d.2) :
    (axisPair d ys xs xf ca ++ rest).lookup d.2 = some (.axis xs xf ca) :=
  (lookup_cons_ne h.symm).trans List.lookup_cons_self

theorem lookup_axisPair_ne {k : String} (h : k ≠ d.1 ∧ k ≠ d.2) :
    (axisPair d ys xs xf ca ++ rest).lookup k = rest.lookup k :=
  (lookup_cons_ne h.1).trans (lookup_cons_ne h.2)

theorem crs?_axisPair : ∀ kc ∈ axisPair d ys xs xf ca, kc.2.crs? = none := by
  intro kc hm
  simp only [axisPair, List.mem_cons, List.not_mem_nil, or_false] at hm
  rcases hm with rfl | rfl <;> rfl

end axisPair

/-- for a linear box: world labels, or pixel labels with the transform in their encoding -/
def axisCoords (g : GeoBox) : List (String × Coord) :=
  axisPair (dimsOf g.crs) (labelsFor (baseY g).1 (baseY g).2 (AxMap.ident g.ny))
    (labelsFor (baseX g).1 (baseX g).2 (AxMap.ident g.nx)) (xfOf g) (caOf g)

theorem xrCoords_lin (g : GeoBox) (cn : String) :
    xrCoords (.lin g) cn = .ok (axisCoords g ++ (ccOf g).toList.map fun c => (cn, Coord.crs c)) := by
  obtain ⟨ny, nx, A, crs⟩ := g
  by_cases hst : isAffineST A = true <;> cases crs <;>
    simp [xrCoords, axisCoords, axisPair, ccOf, baseX, baseY, xfOf, caOf, hst, labelsFor_ident, axisLabels_eq_ap,
      pixelLabels_eq_ap]

/-- for a GCP box: pixel labels; the CRS coordinate carries the control points -/
def pixCoords (g : GcpBox) : List (String × Coord) :=
  axisPair (dimsOf g.crs) (ap (1 / 2) 1 g.ny) (ap (1 / 2) 1 g.nx) none none

theorem xrCoords_gcp (g : GcpBox) (cn : String) :
    xrCoords (.gcp g) cn = (exportGcps g).map fun pts =>
      pixCoords g ++ (g.crs.map fun c => (⟨some c, none, some pts⟩ : CrsCoord)).toList.map fun c => (cn, Coord.crs c) := by
  unfold xrCoords
  cases he : exportGcps g <;> cases hc : g.crs <;>
    simp [pixCoords, axisPair, he, hc, pixelLabels_eq_ap, bind, Except.bind, pure, Except.pure, Except.map]

theorem wrap_ok {s : Src} (hw : wrap s nt nb cn attrs = .ok a0) :
    ∃ cs pre post tb, xrCoords s cn = .ok cs ∧
      a0 = ⟨pre ++ [(srcDims s).1, (srcDims s).2] ++ post, cs ++ tb, some cn, attrs⟩ ∧
      (∀ d ∈ pre ++ post, d = "time" ∨ d = "band") ∧
      ∀ kc ∈ tb, (kc.1 = "time" ∨ kc.1 = "band") ∧ kc.2.crs? = none := by
  obtain ⟨cs, hcs, hw⟩ := bind_ok_iff.mp hw
  cases hw
  refine ⟨cs, nt.toList.map fun _ => "time", nb.toList.map fun _ => "band",
    (nt.toList.map fun n => ("time", Coord.other n)) ++ nb.toList.map fun n => ("band", Coord.other n), hcs,
    ?_, ?_, ?_⟩
  · cases nt <;> cases nb <;> exact congrArg (fun l => (⟨_, l, _, _⟩ : XArr)) (List.append_assoc _ _ _)
  · intro d hd
    rcases List.mem_append.mp hd with h | h <;> obtain ⟨_, _, rfl⟩ := List.mem_map.mp h
    · exact Or.inl rfl
    · exact Or.inr rfl
  · intro kc hm
    rcases List.mem_append.mp hm with h | h <;> obtain ⟨_, _, rfl⟩ := List.mem_map.mp h
    · exact ⟨Or.inl rfl, rfl⟩
    · exact ⟨Or.inr rfl, rfl⟩

theorem lookup_eq_none_of_keys {l : List (String × Coord)} {k : String} (h : ∀ kc ∈ l, kc.1 ≠ k) :
    l.lookup k = none :=
  List.lookup_eq_none_iff.mpr fun kc hm => by simpa using (h kc hm).symm

theorem NameOk.lookup_tb (h : NameOk cn) {tb : List (String × Coord)}
    (htb : ∀ kc ∈ tb, (kc.1 = "time" ∨ kc.1 = "band") ∧ kc.2.crs? = none) : tb.lookup cn = none :=
  lookup_eq_none_of_keys fun kc hm e => (htb kc hm).1.elim (e ▸ h.1) (e ▸ h.2.1)

/-- `front` is what `assemble` keeps of the source's coordinates, `back` the time / band coordinates `wrap` appends. -/
theorem crsInv_of_coords {dims : List String} {front back : List (String × Coord)} {gm : Option String}
    (hcn : cn ∉ dims)
    (hfl : front.lookup cn = none) (hfc : ∀ kc ∈ front, kc.2.crs? = none)
    (hbl : back.lookup cn = none) (hbc : ∀ kc ∈ back, kc.2.crs? = none) (hgm : gm = some cn ∨ gm = none) :
    CrsInv cn occ ⟨dims, front ++ ((occ.toList.map fun c => (cn, Coord.crs c)) ++ back), gm, attrs⟩ := by
  refine ⟨hcn, ?_, ?_, ?_, hgm⟩
  · show List.lookup cn _ = _
    rw [List.lookup_append, hfl, Option.none_or, List.lookup_append, hbl, Option.or_none]
    cases occ <;> simp
  · show crsScan _ = _
    rw [crsScan_append, crsScan_append, crsScan_eq_nil _ hfc, crsScan_eq_nil _ hbc, crsScan_eq]
    cases occ <;> rfl
  · intro k c hm
    simp only [List.mem_append, List.mem_map] at hm
    rcases hm with hm | ⟨c', _, he⟩ | hm
    · cases hfc _ hm
    · exact (Prod.mk.inj he).1.symm
    · cases hbc _ hm

theorem inv_of_coords {dims : List String} {front back : List (String × Coord)} {gm : Option String}
    (hsd : guessDims dims = some (dimsOf g.crs)) (hcn : cn ∉ dims)
    (hne : cn ≠ (dimsOf g.crs).1 ∧ cn ≠ (dimsOf g.crs).2)
    (hfl : ∀ k, k = (dimsOf g.crs).1 ∨ k = (dimsOf g.crs).2 ∨ k = cn → front.lookup k = none)
    (hfc : ∀ kc ∈ front, kc.2.crs? = none)
    (hbl : back.lookup cn = none) (hbc : ∀ kc ∈ back, kc.2.crs? = none)
    (hgm : gm = some cn ∨ gm = none) :
    Inv g cn (AxMap.ident g.ny) (AxMap.ident g.nx)
      ⟨dims, front ++ (axisCoords g ++ (((ccOf g).toList.map fun c => (cn, Coord.crs c)) ++ back)), gm, attrs⟩ := by
  have hC := crsInv_of_coords (occ := ccOf g) (front := front ++ axisCoords g) (gm := gm) (attrs := attrs) hcn
    (by rw [List.lookup_append, hfl cn (Or.inr (Or.inr rfl)), Option.none_or]
        exact lookup_axisPair_ne (rest := []) hne)
    (fun kc hm => (List.mem_append.mp hm).elim (hfc kc) (crs?_axisPair kc)) hbl hbc hgm
  rw [List.append_assoc] at hC
  refine { toCrsInv := hC, sd := hsd, ylk := ?_, xlk := ?_, stride := ⟨one_ne_zero, one_ne_zero⟩ }
  · show List.lookup (dimsOf g.crs).1 _ = _
    rw [List.lookup_append, hfl _ (Or.inl rfl), Option.none_or]
    exact lookup_axisPair_fst
  · show List.lookup (dimsOf g.crs).2 _ = _
    rw [List.lookup_append, hfl _ (Or.inr (Or.inl rfl)), Option.none_or]
    exact lookup_axisPair_snd (dimsOf_ne g.crs)

theorem inv_wrap (hcn : NameOk cn) (hw : wrap (.lin g) nt nb cn attrs = .ok a0) :
    Inv g cn (AxMap.ident g.ny) (AxMap.ident g.nx) a0 := by
  obtain ⟨cs, pre, post, tb, hcs, rfl, htb, htbc⟩ := wrap_ok hw
  cases (xrCoords_lin g cn).symm.trans hcs
  rw [List.append_assoc (axisCoords g)]
  exact inv_of_coords (front := []) (guessDims_shape g.crs htb)
    (hcn.not_mem_dims g.crs htb) (hcn.ne_dimsOf g.crs) (fun _ _ => rfl) (fun _ h => by cases h)
    (hcn.lookup_tb htbc) (fun kc hm => (htbc kc hm).2) (Or.inl rfl)

theorem wrapNoName_eq (s : Src) (nt nb : Option Nat) (attrs : List String) :
    wrapNoName s nt nb attrs = (wrap s nt nb "spatial_ref" attrs).map fun a =>
      { a with coords := a.coords.filter (fun kc => kc.2.crs?.isNone), gridMapping := none } := by
  unfold wrapNoName
  congr
  funext a
  congr
  funext ⟨_, c⟩
  cases c <;> rfl

theorem filter_crs?_isNone (l : List (String × Coord)) (h : ∀ kc ∈ l, kc.2.crs? = none) :
    l.filter (fun kc => kc.2.crs?.isNone) = l :=
  List.filter_eq_self.mpr fun kc hm => by rw [h kc hm]; rfl

theorem wrapNoName_lin_ok (hw : wrapNoName (.lin g) nt nb attrs = .ok a0) :
    ∃ pre post tb, a0 = ⟨pre ++ [(dimsOf g.crs).1, (dimsOf g.crs).2] ++ post, axisCoords g ++ tb, none, attrs⟩ ∧
      (∀ d ∈ pre ++ post, d = "time" ∨ d = "band") ∧
      ∀ kc ∈ tb, (kc.1 = "time" ∨ kc.1 = "band") ∧ kc.2.crs? = none := by
  rw [wrapNoName_eq] at hw
  obtain ⟨a1, hw', rfl⟩ := map_ok_iff.mp hw
  obtain ⟨cs, pre, post, tb, hcs, rfl, htb, htbc⟩ := wrap_ok hw'
  cases (xrCoords_lin g _).symm.trans hcs
  refine ⟨pre, post, tb, ?_, htb, htbc⟩
  have hcrs : ((ccOf g).toList.map fun c => ("spatial_ref", Coord.crs c)).filter (fun kc => kc.2.crs?.isNone)
      = [] := by
    cases ccOf g <;> rfl
  simp only [List.filter_append, filter_crs?_isNone (axisCoords g) crs?_axisPair,
    filter_crs?_isNone tb (fun kc hm => (htbc kc hm).2), hcrs, List.append_nil]
  rfl

theorem wrap_gcp_ok {g : GcpBox} {c : Crs} (hcn : NameOk cn) (hcrs : g.crs = some c)
    (hw : wrap (.gcp g) nt nb cn attrs = .ok a0) :
    ∃ pts, exportGcps g = .ok pts ∧ CrsInv cn (some ⟨some c, none, some pts⟩) a0 ∧
      guessDims a0.dims = some (dimsOf g.crs) ∧
      a0.coords.lookup (dimsOf g.crs).1 = some (.axis (ap (1 / 2) 1 g.ny) none none) ∧
      a0.coords.lookup (dimsOf g.crs).2 = some (.axis (ap (1 / 2) 1 g.nx) none none) := by
  obtain ⟨cs, pre, post, tb, hcs, rfl, htb, htbc⟩ := wrap_ok hw
  rw [xrCoords_gcp, hcrs] at hcs
  obtain ⟨pts, hx, rfl⟩ := map_ok_iff.mp hcs
  rw [List.append_assoc (pixCoords g)]
  exact ⟨pts, hx, crsInv_of_coords (front := pixCoords g) (hcn.not_mem_dims g.crs htb)
      (lookup_axisPair_ne (rest := []) (hcn.ne_dimsOf g.crs)) crs?_axisPair
      (hcn.lookup_tb htbc) (fun kc hm => (htbc kc hm).2) (Or.inl rfl),
    guessDims_shape g.crs htb, lookup_axisPair_fst, lookup_axisPair_snd (dimsOf_ne g.crs)⟩

theorem applyOp_slc_ok {d : String} {s e st : Option Int}
    (h : applyOp a (.isel d (.slc s e st)) = .ok a') :
    d ∈ a.dims ∧ st.getD 1 ≠ 0 ∧
      a' = { a with coords := mapCoord d (iselCoord · s e (st.getD 1)) a.coords } := by
  simp only [applyOp] at h
  split at h
  · cases h
  · rename_i hd
    split at h
    · cases h
    · split at h
      · cases h
      · rename_i hst
        exact ⟨by simpa using hd, hst, (Except.ok.inj h).symm⟩

theorem applyOp_int_ok {d : String} {i : Int} (h : applyOp a (.isel d (.int i)) = .ok a') :
    d ∈ a.dims ∧
      a' = { a with dims := a.dims.filter (· ≠ d), coords := mapCoord d (fun _ => .scalar) a.coords } := by
  simp only [applyOp] at h
  split at h
  · cases h
  · rename_i hd
    split at h
    · cases h
    · split at h
      · cases h
      · exact ⟨by simpa using hd, (Except.ok.inj h).symm⟩

theorem applyOps_foldl_inv {σ : Type} (step : σ → Op → σ) (P : σ → XArr → Prop) (ops : List Op)
    (hstep : ∀ s a a' op, op ∈ ops → P s a → applyOp a op = .ok a' → P (step s op) a') :
    ∀ s a a', P s a → applyOps a ops = .ok a' → P (ops.foldl step s) a' := by
  induction ops with
  | nil =>
    intro s a a' h0 h
    cases h
    exact h0
  | cons op rest ih =>
    intro s a a' h0 h
    simp only [applyOps] at h
    split at h
    · cases h
    · rename_i a1 h1
      exact ih (fun s a a' o ho => hstep s a a' o (List.mem_cons_of_mem _ ho)) _ a1 a'
        (hstep s a a1 op List.mem_cons_self h0 h1) h

theorem applyOps_inv (P : XArr → Prop) (ops : List Op)
    (hstep : ∀ a a' op, op ∈ ops → P a → applyOp a op = .ok a' → P a') (a a' : XArr) (h0 : P a)
    (h : applyOps a ops = .ok a') : P a' :=
  applyOps_foldl_inv (fun (s : Unit) _ => s) (fun _ => P) ops (fun _ => hstep) () a a' h0 h

theorem crs?_iselCoord (c : Coord) (s e : Option Int) (st : Int) : (iselCoord c s e st).crs? = c.crs? := by
  cases c <;> rfl

theorem CrsInv.mapCoord (h : CrsInv cn occ a) {d : String}
    (hd : d ∈ a.dims) (f : Coord → Coord) (hf : ∀ c, c.crs? = none → (f c).crs? = none) (dims' : List String)
    (hdims : ∀ x ∈ dims', x ∈ a.dims) :
    CrsInv cn occ { a with dims := dims', coords := mapCoord d f a.coords } := by
  have hne : cn ≠ d := fun e => h.cnDim (e ▸ hd)
  have hfd : ∀ c, (d, c) ∈ a.coords → (f c).crs? = c.crs? := by
    intro c hm
    cases hc : c.crs? with
    | none => exact hf c hc
    | some c' => exact absurd (h.crsKeys d c' (Coord.crs?_eq_some.mp hc ▸ hm)).symm hne
  exact ⟨fun hm => h.cnDim (hdims _ hm), (lookup_mapCoord_ne hne).trans h.crsLk, (crsScan_mapCoord hfd).trans h.scan,
    fun k c hm => h.crsKeys k c (mem_crs_mapCoord hfd k c hm), h.gm⟩

theorem CrsInv.step (h : CrsInv cn occ a) (hop : applyOp a op = .ok a') : CrsInv cn occ a' := by
  cases op with
  | arith => cases hop; exact { h with gm := Or.inr rfl }
  | astype => cases hop; exact { h with gm := Or.inr rfl }
  | pickle => cases hop; exact h
  | isel d ix =>
    cases ix with
    | slc s e st =>
      obtain ⟨hd, _, rfl⟩ := applyOp_slc_ok hop
      exact h.mapCoord hd _ (fun c hc => (crs?_iselCoord c s e _).trans hc) a.dims (fun _ hx => hx)
    | int i =>
      obtain ⟨hd, rfl⟩ := applyOp_int_ok hop
      exact h.mapCoord hd _ (fun _ _ => rfl) _ (fun _ hx => (List.mem_filter.mp hx).1)

theorem CrsInv.ops {ops : List Op} (h : CrsInv cn occ a) (hops : applyOps a ops = .ok a') : CrsInv cn occ a' :=
  applyOps_inv (CrsInv cn occ) ops (fun _ _ _ _ h hop => h.step hop) a a' h hops

theorem lookup_slc_axis {cs : List (String × Coord)} {k d : String} {c0 r : Rat} {m : AxMap} {xf : Option Aff}
    {ca : Option Crs} (hk : cs.lookup k = some (.axis (labelsFor c0 r m) xf ca)) (s e : Option Int) {st : Int}
    (hst : st ≠ 0) :
    (mapCoord d (iselCoord · s e st) cs).lookup k =
      some (.axis (labelsFor c0 r (if d = k then m.slice s e st else m)) xf ca) := by
  by_cases hd : d = k
  · subst hd
    rw [if_pos rfl, lookup_mapCoord_eq, hk, Option.map_some, iselCoord, pick_labelsFor hst]
  · rw [if_neg hd, lookup_mapCoord_ne (Ne.symm hd), hk]

theorem trackOp_slc {yd xd : String} (hne : yd ≠ xd) (m : AxMap × AxMap) (d : String) (s e st : Option Int) :
    trackOp yd xd m (.isel d (.slc s e st)) =
      (if d = yd then m.1.slice s e (st.getD 1) else m.1, if d = xd then m.2.slice s e (st.getD 1) else m.2) := by
  simp only [trackOp]
  by_cases hy : d = yd
  · rw [if_pos hy, if_pos hy, if_neg (fun hx => hne (hy.symm.trans hx))]
  · rw [if_neg hy, if_neg hy]
    split <;> rfl

theorem slice_stride_ne {m : AxMap} (hm : m.stride ≠ 0) (s e : Option Int) {st : Int} (hst : st ≠ 0) (p : Prop)
    [Decidable p] : (if p then m.slice s e st else m).stride ≠ 0 := by
  split
  · exact Int.mul_ne_zero hm hst
  · exact hm

theorem inv_step (hI : Inv g cn my mx a) (hadm : op.admissible) (hop : applyOp a op = .ok a') :
    Inv g cn (trackOp (dimsOf g.crs).1 (dimsOf g.crs).2 (my, mx) op).1
      (trackOp (dimsOf g.crs).1 (dimsOf g.crs).2 (my, mx) op).2 a' := by
  have hC := hI.toCrsInv.step hop
  cases op with
  | isel d ix =>
    cases ix with
    | slc s e st =>
      obtain ⟨_, hst, rfl⟩ := applyOp_slc_ok hop
      rw [trackOp_slc (dimsOf_ne g.crs)]
      exact { toCrsInv := hC, sd := hI.sd, ylk := lookup_slc_axis hI.ylk s e hst,
              xlk := lookup_slc_axis hI.xlk s e hst,
              stride := ⟨slice_stride_ne hI.stride.1 s e hst _, slice_stride_ne hI.stride.2 s e hst _⟩ }
    | int i =>
      obtain ⟨_, rfl⟩ := applyOp_int_ok hop
      have htb : d = "time" ∨ d = "band" := hadm
      obtain ⟨hyd, hxd⟩ := dimsOf_not_tb g.crs d htb
      exact { toCrsInv := hC, sd := (guessDims_filter _ _ htb).trans hI.sd,
              ylk := (lookup_mapCoord_ne hyd).trans hI.ylk, xlk := (lookup_mapCoord_ne hxd).trans hI.xlk,
              stride := hI.stride }
  | _ => cases hop; exact { hI with toCrsInv := hC }

theorem inv_history {ops : List Op} (hcn : NameOk cn)
    (hw : wrap (.lin g) nt nb cn attrs = .ok a0) (hadm : ∀ op ∈ ops, op.admissible) (hops : applyOps a0 ops = .ok a) :
    Inv g cn (track (dimsOf g.crs).1 (dimsOf g.crs).2 (AxMap.ident g.ny, AxMap.ident g.nx) ops).1
      (track (dimsOf g.crs).1 (dimsOf g.crs).2 (AxMap.ident g.ny, AxMap.ident g.nx) ops).2 a :=
  applyOps_foldl_inv (trackOp (dimsOf g.crs).1 (dimsOf g.crs).2) (fun m a => Inv g cn m.1 m.2 a) ops
    (fun _ _ _ op ho h hop => inv_step h (hadm op ho) hop) (AxMap.ident g.ny, AxMap.ident g.nx) a0 a (inv_wrap hcn hw) hops

section reads
variable {yd xd : String} {ys xs : List Rat} {yxf xf : Option Aff} {ycrs xcrs : Option Crs}

/-- `_locate_geo_info` from what it reads: the two axis coordinates, the located CRS coordinate (without GCPs, or none)
and what `_extract_transform` makes of them -/
theorem recover_lin {T : Option Aff} (hsd : spatialDims a.dims = some (yd, xd))
    (hy : a.coords.lookup yd = some (.axis ys yxf ycrs)) (hx : a.coords.lookup xd = some (.axis xs xf xcrs))
    (hloc : locateCrsCoords a = occ.toList) (hg : occ.bind (·.gcps) = none)
    (hT : extractTransform xs ys xf occ false = .ok T) :
    recover a = .ok (T.elim .nothing fun t =>
      .lin ⟨ys.length, xs.length, t, occ.elim (firstSome ycrs xcrs) CrsCoord.crs⟩) := by
  have hhd : occ.toList.head? = occ := by cases occ <;> rfl
  unfold recover
  rw [hsd]
  simp only [hy, hx, hloc, hhd, hg, Option.isSome_none, hT]
  cases T <;> cases occ <;> rfl

theorem recover_gcp {T : Option Aff} {cc : CrsCoord} {pts : List Gcp} (hsd : spatialDims a.dims = some (yd, xd))
    (hy : a.coords.lookup yd = some (.axis ys yxf ycrs)) (hx : a.coords.lookup xd = some (.axis xs xf xcrs))
    (hloc : locateCrsCoords a = [cc]) (hg : cc.gcps = some pts)
    (hT : extractTransform xs ys xf (some cc) true = .ok T) :
    recover a = .ok (.gcp ⟨ys.length, xs.length, pts, T.getD Aff.id, cc.crs⟩) := by
  unfold recover
  rw [hsd]
  simp only [hy, hx, hloc, List.head?_cons, Option.bind_some, hg, Option.isSome_some, hT]

end reads

/-- the pixel transform `xr_coords` writes down: world labels carry `a`, `c`, `e`, `f` only -/
def writtenA (g : GeoBox) : Aff := if isAffineST g.A then { g.A with b := 0, d := 0 } else g.A

theorem writtenA_of_align (halign : isAffineST g.A = true → g.A.b = 0 ∧ g.A.d = 0) : writtenA g = g.A := by
  unfold writtenA
  split
  · rename_i hst
    obtain ⟨hb, hd⟩ := halign hst
    ext <;> simp only [hb, hd]
  · rfl

/-- the labels of the full axes together with the `_transform` encoding give the written transform -/
theorem composeP2W_frame (g : GeoBox) (T : Aff) :
    composeP2W (xfOf g)
        (⟨(baseX g).2, 0, (baseX g).1 - (baseX g).2 / 2, 0, (baseY g).2, (baseY g).1 - (baseY g).2 / 2⟩ * T)
      = writtenA g * T := by
  cases hst : isAffineST g.A with
  | true =>
    simp only [xfOf, baseX, baseY, writtenA, hst, if_true, composeP2W]
    congr 1
    ext <;> simp only <;> ring
  | false =>
    simp only [xfOf, baseX, baseY, writtenA, hst, Bool.false_eq_true, if_false, composeP2W]
    congr 1
    convert Aff.id_mul T using 2
    ext <;> simp [Aff.id]

theorem recover_labels {ycrs xcrs : Option Crs}
    (hsd : guessDims a.dims = some (dimsOf g.crs))
    (hy : a.coords.lookup (dimsOf g.crs).1 = some (.axis (labelsFor (baseY g).1 (baseY g).2 my) (xfOf g) ycrs))
    (hx : a.coords.lookup (dimsOf g.crs).2 = some (.axis (labelsFor (baseX g).1 (baseX g).2 mx) (xfOf g) xcrs))
    (hloc : locateCrsCoords a = occ.toList) (hg : occ.bind (·.gcps) = none) (hny : 1 ≤ my.len) (hnx : 1 ≤ mx.len)
    (hfb : (2 ≤ my.len ∧ 2 ≤ mx.len) ∨ fallbackRes (xfOf g) occ false = .ok (some ((baseX g).2, (baseY g).2))) :
    recover a = .ok (.lin ⟨my.len, mx.len, writtenA g * idxAff my mx, occ.elim (firstSome ycrs xcrs) CrsCoord.crs⟩) := by
  rw [recover_lin (spatialDims_of_guess hsd) hy hx hloc hg
    (extractTransform_ap hnx hny (gcp := false) (hfb.imp_left And.symm)), labelsFor_length, labelsFor_length]
  simp only [Bool.false_eq_true, if_false, apAff_labels, composeP2W_frame, Option.elim_some]

/-- a fallback resolution for one-element axes is available: the box has a CRS (GeoTransform on the
CRS coordinate) or is rotated/sheared (pixel-space labels) -/
def HasFallback (g : GeoBox) (my mx : AxMap) : Prop :=
  (2 ≤ my.len ∧ 2 ≤ mx.len) ∨ g.crs.isSome = true ∨ isAffineST g.A = false

theorem fallbackRes_written (g : GeoBox) :
    fallbackRes (xfOf g) (ccOf g) false =
      .ok (if g.crs.isSome = true ∨ isAffineST g.A = false then some ((baseX g).2, (baseY g).2) else none) := by
  by_cases hst : isAffineST g.A = true
  · cases hc : g.crs <;> simp [ccOf, hc, xfOf, hst, fallbackRes, resolutionFromAffine, baseX, baseY, Except.map]
  · simp [xfOf, hst, fallbackRes, baseX, baseY]

theorem ccOf_gcps (g : GeoBox) : (ccOf g).bind (·.gcps) = none := by
  cases hc : g.crs <;> simp [ccOf, hc]

section
variable (hI : Inv g cn my mx a)
include hI

/-- what `.odc.geobox` returns under the invariant: the written transform after the index maps of the history … -/
theorem inv_recover (hy : 1 ≤ my.len) (hx : 1 ≤ mx.len) (hfb : HasFallback g my mx) :
    recover a = .ok (.lin ⟨my.len, mx.len, writtenA g * idxAff my mx, g.crs⟩) := by
  rw [recover_labels hI.sd hI.ylk hI.xlk hI.toCrsInv.locate (ccOf_gcps g) hy hx
    (hfb.imp_right fun h => by rw [fallbackRes_written, if_pos h])]
  congr 3
  cases hc : g.crs with
  | none => by_cases hst : isAffineST g.A = true <;> simp [ccOf, hc, caOf, hst, firstSome]
  | some c => simp [ccOf, hc]

/-- … and nothing when an axis is empty or a one-element axis has no resolution to fall back on -/
theorem inv_recover_nothing (h : ¬ (1 ≤ my.len ∧ 1 ≤ mx.len ∧ HasFallback g my mx)) : recover a = .ok .nothing := by
  refine recover_lin (spatialDims_of_guess hI.sd) hI.ylk hI.xlk hI.toCrsInv.locate (ccOf_gcps g)
    (extractTransform_ap_none (gcp := false) (fun h2 => h ⟨by omega, by omega, Or.inl ⟨h2.2, h2.1⟩⟩)
      (fallbackRes_written g) ?_)
  by_cases hl : 1 ≤ my.len ∧ 1 ≤ mx.len
  · left
    rw [if_neg fun hf => h ⟨hl.1, hl.2, Or.inr hf⟩]
  · right
    omega

end

theorem recover_of_inv_ident
    (hI : Inv g cn (AxMap.ident g.ny) (AxMap.ident g.nx) a) (hny : 1 ≤ g.ny) (hnx : 1 ≤ g.nx)
    (hfb : HasFallback g (AxMap.ident g.ny) (AxMap.ident g.nx)) :
    recover a = .ok (.lin { g with A := writtenA g }) := by
  rw [inv_recover hI hny hnx hfb, idxAff_ident, Aff.mul_id]
  rfl

theorem replaceDims_shape {pre : List String} (post : List String) {yd : String} (xd : String) (dd : String × String)
    (hpre : yd ∉ pre) :
    replaceDims (pre ++ [yd, xd] ++ post) (yd, xd) dd = pre ++ [dd.1, dd.2] ++ post := by
  induction pre with
  | nil => simp [replaceDims]
  | cons p ps ih =>
    have hp : p ≠ yd := fun h => hpre (h ▸ List.mem_cons_self)
    have hps : yd ∉ ps := fun h => hpre (List.mem_cons_of_mem _ h)
    have := ih hps
    simp only [List.cons_append, List.append_assoc] at this ⊢
    simp only [replaceDims, hp, if_false]
    rw [this]

theorem lookup_filter_names_none {names : List String} {k : String} (hk : k ∈ names) (l : List (String × Coord)) :
    (l.filter (fun kc => !names.contains kc.1)).lookup k = none :=
  lookup_eq_none_of_keys fun kc hm e => by
    have := (List.mem_filter.mp hm).2
    rw [e] at this
    simp [hk] at this

theorem crs?_of_shouldKeep {sd : String × String} {kc : String × Coord} (h : shouldKeep sd kc = true) :
    kc.2.crs? = none := by
  obtain ⟨k, c⟩ := kc
  cases c <;> first | rfl | cases h

end OdcGeo.C09
