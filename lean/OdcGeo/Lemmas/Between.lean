/- An affine form `a·x + c` on an interval, `a·x + b·y + c` on a rectangle, stays between its end / corner values,
whatever the signs of the coefficients (mirrored and rotated grids).  `Aff.apply_mem_box` (Lemmas/Affine) is the same for
both coordinates of an affine map at once. -/
import Mathlib.Algebra.Order.Field.Rat

namespace OdcGeo

theorem affine_mono {a : Rat} (ha : 0 ≤ a) (c : Rat) : Monotone fun z : Rat => a * z + c :=
  fun _ _ h => add_le_add_left (mul_le_mul_of_nonneg_left h ha) c

theorem affine_anti {a : Rat} (ha : a ≤ 0) (c : Rat) : Antitone fun z : Rat => a * z + c :=
  fun _ _ h => add_le_add_left (mul_le_mul_of_nonpos_left h ha) c

theorem affine_mono_or_anti (a c : Rat) :
    Monotone (fun z : Rat => a * z + c) ∨ Antitone fun z : Rat => a * z + c :=
  (le_total 0 a).imp (affine_mono · c) (affine_anti · c)

theorem lin_between {a c x x0 x1 L R : Rat} (hx : x0 ≤ x ∧ x ≤ x1)
    (h0 : L ≤ a * x0 + c ∧ a * x0 + c ≤ R) (h1 : L ≤ a * x1 + c ∧ a * x1 + c ≤ R) :
    L ≤ a * x + c ∧ a * x + c ≤ R := by
  rcases affine_mono_or_anti a c with m | m
  · exact ⟨h0.1.trans (m hx.1), (m hx.2).trans h1.2⟩
  · exact ⟨h1.1.trans (m hx.2), (m hx.1).trans h0.2⟩

/-- `a·x + b·y + c` on a rectangle stays in every range that holds its four corner values: first along `y`
on the two vertical edges, then along `x` between them -/
theorem affine_between {a b c x y x0 x1 y0 y1 L R : Rat} (hx : x0 ≤ x ∧ x ≤ x1) (hy : y0 ≤ y ∧ y ≤ y1)
    (h00 : L ≤ a * x0 + b * y0 + c ∧ a * x0 + b * y0 + c ≤ R)
    (h10 : L ≤ a * x1 + b * y0 + c ∧ a * x1 + b * y0 + c ≤ R)
    (h11 : L ≤ a * x1 + b * y1 + c ∧ a * x1 + b * y1 + c ≤ R)
    (h01 : L ≤ a * x0 + b * y1 + c ∧ a * x0 + b * y1 + c ≤ R) :
    L ≤ a * x + b * y + c ∧ a * x + b * y + c ≤ R := by
  have e : ∀ u v, a * u + b * v + c = b * v + (a * u + c) := fun u v => by rw [add_comm (a * u), add_assoc]
  rw [e] at h00 h10 h11 h01
  have i0 := lin_between hy h00 h01
  have i1 := lin_between hy h10 h11
  rw [add_left_comm] at i0 i1
  rw [add_assoc]
  exact lin_between hx i0 i1

end OdcGeo
