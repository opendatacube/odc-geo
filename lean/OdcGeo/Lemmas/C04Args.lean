/- `BlockAssembler._verify_shape` in `BlockFits` vocabulary: the loop body, the loop, the function. -/
import OdcGeo.Model.C04Args
import OdcGeo.Lemmas.C04
import OdcGeo.Lemmas.Splice
namespace OdcGeo.C04
open OdcGeo OdcGeo.C17 OdcGeo.NpArray

theorem vstate_of_spliced (axis : Nat) (lead trail : List Int) (cy cx : Int) (hl : lead.length = axis) :
    VState.of axis (lead ++ [cy, cx] ++ trail) = ⟨axis + 2 + trail.length, lead, trail⟩ := by
  rw [VState.of, splice_length hl, splice_take hl, splice_drop hl]

/-- `hw` of the lemmas below holds of every `VState.of axis shape` with a long enough shape -/
theorem vstate_of_wf (axis : Nat) (shape : List Int) (h : axis + 2 ≤ shape.length) :
    (VState.of axis shape).lead.length = axis ∧
      (VState.of axis shape).ndim = axis + 2 + (VState.of axis shape).trail.length :=
  ⟨List.length_take.trans (Nat.min_eq_left (Nat.le_of_add_right_le h)),
    (Nat.add_sub_cancel' h).symm.trans (congrArg _ List.length_drop.symm)⟩

theorem spliced_iff (axis : Nat) (st : VState) (shape : List Int) (cy cx : Int)
    (hw : st.lead.length = axis ∧ st.ndim = axis + 2 + st.trail.length) :
    shape = st.lead ++ [cy, cx] ++ st.trail ↔
      st = VState.of axis shape ∧ (shape.drop axis).take 2 = [cy, cx] := by
  constructor
  · rintro rfl
    exact ⟨by rw [vstate_of_spliced axis st.lead st.trail cy cx hw.1, ← hw.2], splice_mid hw.1 cy cx st.trail⟩
  · rintro ⟨rfl, hyx⟩
    have := take_mid_drop shape axis
    rw [hyx] at this
    exact this.symm

/-- the loop body of `_verify_shape` tests the extra dimensions first, then looks the key up
(`IndexError`), then compares the `Y, X` size -/
theorem checkBlock_spec (chy chx : List Int) (axis : Nat) (st : VState) (b : BlockDesc)
    (hw : st.lead.length = axis ∧ st.ndim = axis + 2 + st.trail.length) :
    (BlockFits chy chx st.lead st.trail b → checkBlock chy chx axis st b = .ok ()) ∧
    (¬ BlockFits chy chx st.lead st.trail b → checkBlock chy chx axis st b =
      .error (if st = VState.of axis b.shape ∧ ¬ KeyInLayout chy chx b then .indexError else .valueError)) := by
  have splice := fun cy cx => spliced_iff axis st b.shape cy cx hw
  unfold checkBlock BlockFits
  by_cases hs : st = VState.of axis b.shape
  · rw [if_neg (not_not.2 hs)]
    by_cases hk : KeyInLayout chy chx b
    · obtain ⟨cy, hy, ey⟩ := (npGet_spec chy b.key.1 _ rfl).1 hk.1
      obtain ⟨cx, hx, ex⟩ := (npGet_spec chx b.key.2 _ rfl).1 hk.2
      simp only [ey, ex, bind, Except.bind]
      by_cases hyx : (b.shape.drop axis).take 2 = [cy, cx]
      · rw [if_neg (not_not.2 hyx)]
        exact ⟨fun _ => rfl, fun hf => absurd ⟨hk, cy, cx, hy, hx, (splice cy cx).2 ⟨hs, hyx⟩⟩ hf⟩
      · rw [if_pos hyx, if_neg fun h => h.2 hk]
        refine ⟨fun ⟨_, cy', cx', hy', hx', hsh⟩ => ?_, fun _ => rfl⟩
        cases hy.symm.trans hy'
        cases hx.symm.trans hx'
        exact absurd ((splice cy cx).1 hsh).2 hyx
    · rw [if_pos ⟨hs, hk⟩]
      refine ⟨fun hf => absurd hf.1 hk, fun _ => ?_⟩
      by_cases ky : 0 ≤ wrapKey chy.length b.key.1 ∧ wrapKey chy.length b.key.1 < chy.length
      · obtain ⟨cy, _, ey⟩ := (npGet_spec chy b.key.1 _ rfl).1 ky
        rw [ey, (npGet_spec chx b.key.2 _ rfl).2 fun kx => hk ⟨ky, kx⟩]
        rfl
      · rw [(npGet_spec chy b.key.1 _ rfl).2 ky]
        rfl
  · rw [if_pos hs, if_neg fun h => hs h.1]
    exact ⟨fun ⟨_, cy, cx, _, _, hsh⟩ => absurd ((splice cy cx).1 hsh).1 hs, fun _ => rfl⟩

theorem verifyLoop_some_ok_iff (chy chx : List Int) (axis : Nat) (st : VState) (bs : List BlockDesc)
    (r : Option VState) (hw : st.lead.length = axis ∧ st.ndim = axis + 2 + st.trail.length) :
    verifyLoop chy chx axis (some st) bs = .ok r ↔
      r = some st ∧ ∀ b ∈ bs, BlockFits chy chx st.lead st.trail b := by
  induction bs with
  | nil => exact ⟨fun h => ⟨by cases h; rfl, nofun⟩, fun h => by rw [h.1]; rfl⟩
  | cons b bs ih =>
    have hb := checkBlock_spec chy chx axis st b hw
    rw [List.forall_mem_cons]
    by_cases hf : BlockFits chy chx st.lead st.trail b
    · simp only [verifyLoop, hb.1 hf, bind, Except.bind]
      rw [ih]
      exact and_congr_right fun _ => (and_iff_right hf).symm
    · simp only [verifyLoop, hb.2 hf, bind, Except.bind]
      exact ⟨nofun, fun h => absurd h.2.1 hf⟩

/-- the loop stops at the first block that does not fit -/
theorem verifyLoop_some_error_iff (chy chx : List Int) (axis : Nat) (st : VState) (bs : List BlockDesc)
    (e : ErrKind) (hw : st.lead.length = axis ∧ st.ndim = axis + 2 + st.trail.length) :
    verifyLoop chy chx axis (some st) bs = .error e ↔
      ∃ pre b post, bs = pre ++ b :: post ∧ (∀ b' ∈ pre, BlockFits chy chx st.lead st.trail b') ∧
        ¬ BlockFits chy chx st.lead st.trail b ∧
        e = if st = VState.of axis b.shape ∧ ¬ KeyInLayout chy chx b then .indexError else .valueError := by
  induction bs with
  | nil => exact ⟨nofun, fun ⟨pre, _, _, h, _⟩ => by cases pre <;> cases h⟩
  | cons b bs ih =>
    have hb := checkBlock_spec chy chx axis st b hw
    by_cases hf : BlockFits chy chx st.lead st.trail b
    · simp only [verifyLoop, hb.1 hf, bind, Except.bind]
      rw [ih]
      constructor
      · rintro ⟨pre, b', post, rfl, hpre, he⟩
        exact ⟨b :: pre, b', post, rfl, List.forall_mem_cons.2 ⟨hf, hpre⟩, he⟩
      · rintro ⟨pre, b', post, h, hpre, he⟩
        rcases List.cons_eq_append_iff.1 h with ⟨rfl, h'⟩ | ⟨pre', rfl, h'⟩
        · cases h'
          exact absurd hf he.1
        · exact ⟨pre', b', post, h', (List.forall_mem_cons.1 hpre).2, he⟩
    · simp only [verifyLoop, hb.2 hf, bind, Except.bind]
      constructor
      · intro h
        cases h
        exact ⟨[], b, bs, rfl, nofun, hf, rfl⟩
      · rintro ⟨pre, b', post, h, hpre, he⟩
        rcases List.cons_eq_append_iff.1 h with ⟨rfl, h'⟩ | ⟨pre', rfl, -⟩
        · cases h'
          rw [he.2]
        · exact absurd (hpre b List.mem_cons_self) hf

theorem verifyShape_nil (chy chx : List Int) (axis : Nat) :
    verifyShape chy chx axis [] = .ok [total chy, total chx] := rfl

theorem verifyShape_few (chy chx : List Int) (axis : Nat) (b0 : BlockDesc) (rest : List BlockDesc)
    (h : b0.shape.length < axis + 2) : verifyShape chy chx axis (b0 :: rest) = .error .valueError := by
  simp only [verifyShape, verifyLoop, if_pos h, bind, Except.bind]

theorem verifyShape_cons_eq (chy chx : List Int) (axis : Nat) (b0 : BlockDesc) (rest : List BlockDesc)
    (h : axis + 2 ≤ b0.shape.length) :
    verifyShape chy chx axis (b0 :: rest) =
      match verifyLoop chy chx axis (some (VState.of axis b0.shape)) (b0 :: rest) with
      | .error e => .error e
      | .ok _ => .ok (b0.shape.take axis ++ [total chy, total chx] ++ b0.shape.drop (axis + 2)) := by
  have hn : ¬ b0.shape.length < axis + 2 := Nat.not_lt.2 h
  have e1 : verifyLoop chy chx axis none (b0 :: rest) =
      verifyLoop chy chx axis (some (VState.of axis b0.shape)) (b0 :: rest) := by
    simp only [verifyLoop, if_neg hn]
  simp only [verifyShape, e1, bind, Except.bind]
  cases hr : verifyLoop chy chx axis (some (VState.of axis b0.shape)) (b0 :: rest) with
  | error e => rfl
  | ok r =>
    have := ((verifyLoop_some_ok_iff _ _ _ _ _ _ (vstate_of_wf axis b0.shape h)).1 hr).1
    subst this
    rfl

theorem verifyShape_cons_ok_iff (chy chx : List Int) (axis : Nat) (b0 : BlockDesc) (rest : List BlockDesc)
    (hge : axis + 2 ≤ b0.shape.length) (s : List Int) :
    verifyShape chy chx axis (b0 :: rest) = .ok s ↔
      (∀ b ∈ b0 :: rest, BlockFits chy chx (b0.shape.take axis) (b0.shape.drop (axis + 2)) b) ∧
      s = b0.shape.take axis ++ [total chy, total chx] ++ b0.shape.drop (axis + 2) := by
  have hL := fun r => verifyLoop_some_ok_iff chy chx axis (VState.of axis b0.shape) (b0 :: rest) r
    (vstate_of_wf axis b0.shape hge)
  rw [verifyShape_cons_eq _ _ _ _ _ hge]
  cases hr : verifyLoop chy chx axis (some (VState.of axis b0.shape)) (b0 :: rest) with
  | error e => exact ⟨nofun, fun h => nomatch hr.symm.trans ((hL _).2 ⟨rfl, h.1⟩)⟩
  | ok r => exact ⟨fun h => ⟨((hL r).1 hr).2, by cases h; rfl⟩, fun h => by rw [h.2]⟩

theorem verifyShape_cons_error_iff (chy chx : List Int) (axis : Nat) (b0 : BlockDesc) (rest : List BlockDesc)
    (hge : axis + 2 ≤ b0.shape.length) (e : ErrKind) :
    verifyShape chy chx axis (b0 :: rest) = .error e ↔
      ∃ pre b post, b0 :: rest = pre ++ b :: post ∧
        (∀ b' ∈ pre, BlockFits chy chx (b0.shape.take axis) (b0.shape.drop (axis + 2)) b') ∧
        ¬ BlockFits chy chx (b0.shape.take axis) (b0.shape.drop (axis + 2)) b ∧
        e = if SameDims axis b0 b ∧ ¬ KeyInLayout chy chx b then .indexError else .valueError := by
  refine Iff.trans ?_ (verifyLoop_some_error_iff chy chx axis _ (b0 :: rest) e
    (vstate_of_wf axis b0.shape hge))
  rw [verifyShape_cons_eq _ _ _ _ _ hge]
  cases verifyLoop chy chx axis (some (VState.of axis b0.shape)) (b0 :: rest) with
  | error e' => exact ⟨fun h => by cases h; rfl, fun h => by cases h; rfl⟩
  | ok r => exact ⟨nofun, nofun⟩

theorem exists_cons_iff {α : Type} {b0 : α} {rest : List α} {P : α → List α → Prop} :
    (∃ b rs, b0 :: rest = b :: rs ∧ P b rs) ↔ P b0 rest :=
  ⟨fun ⟨_, _, h, hp⟩ => by cases h; exact hp, fun hp => ⟨_, _, rfl, hp⟩⟩

end OdcGeo.C04
