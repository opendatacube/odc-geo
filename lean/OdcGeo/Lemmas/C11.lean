/- Helper lemmas for C11: inversion of `compute_output_geobox`; the copy of `snap_grid` in Model/C11.lean is the C20
model, so its contract is C20's; `argmaxFirst`. -/
import OdcGeo.Model.C11
import OdcGeo.Lemmas.C20
import OdcGeo.Lemmas.Except

namespace OdcGeo.C11
open OdcGeo

theorem computeOutput_grid {c : Captured} {mode : ResMode} {shape : ShapeReq} {tight : Bool} {anchor : Anchor}
    {tol : Rat} {rnd : Rounding} {g : Grid} (h : computeOutput c mode shape tight anchor tol rnd = .ok (.grid g)) :
    ∃ res, chooseRes c mode shape rnd = .ok res ∧ fromBbox c.bbox shape res anchor tight tol = .ok g := by
  unfold computeOutput at h
  split at h
  · cases h
  · split at h
    · cases h
    · rename_i res hres
      obtain ⟨g', hf, hg⟩ := map_ok_iff.1 h
      cases hg
      exact ⟨res, hres, hf⟩

theorem truncR_eq (x : Rat) : truncR x = C20.trunc x := rfl

theorem rabs_eq (x : Rat) : rabs x = C20.rabs x := rfl

theorem rabs_eq_abs (x : Rat) : rabs x = |x| := C20.rabs_eq_abs x

theorem splitFloat_eq (x : Rat) : C20.splitFloat x = (((splitFloat x).1 : Rat), (splitFloat x).2) := by
  have hw : x - (x - (truncR x : Rat)) = (truncR x : Rat) := sub_sub_cancel x _
  unfold splitFloat C20.splitFloat C20.fmod1
  simp only [hw, ← truncR_eq]
  split
  · simp only [Int.cast_add, Int.cast_one]
  · split
    · simp only [Int.cast_sub, Int.cast_one]
    · rfl

theorem maybeInt_eq (x tol : Rat) : maybeInt x tol = C20.maybeInt x tol := by
  unfold maybeInt C20.maybeInt C20.maybeInt?
  simp only [splitFloat_eq, C20.trunc_intCast, ← rabs_eq]
  split <;> rfl

theorem snapEdgePos_eq (x0 x1 res tol : Rat) : snapEdgePos x0 x1 res tol = C20.snapEdgePos x0 x1 res tol := by
  unfold snapEdgePos C20.snapEdgePos
  simp only [maybeInt_eq, gt_iff_lt, ge_iff_le]

theorem snapEdge_eq (x0 x1 res tol : Rat) : snapEdge x0 x1 res tol = C20.snapEdge x0 x1 res tol := by
  unfold snapEdge C20.snapEdge
  simp only [snapEdgePos_eq, gt_iff_lt, ge_iff_le]
  split
  · rfl
  · split
    · rfl
    · cases C20.snapEdgePos x0 x1 (-res) tol <;> rfl

/-- the copy of `snap_grid` in Model/C11 is the C20 model, on all inputs, errors included -/
theorem snapGrid_eq (x0 x1 res : Rat) (off : Option Rat) (tol : Rat) :
    snapGrid x0 x1 res off tol = C20.snapGrid x0 x1 res off tol := by
  unfold snapGrid C20.snapGrid
  cases off with
  | none =>
    simp only [maybeInt_eq, gt_iff_lt]
    by_cases h0 : res = 0
    · subst h0; simp
    · by_cases hp : 0 < res
      · simp [h0, hp]
      · simp [h0, hp]
  | some o =>
    simp only [snapEdge_eq, ← rabs_eq]
    split
    · rfl
    · cases C20.snapEdge (x0 - o * rabs res) (x1 - o * rabs res) res tol <;> rfl

/-- the lower / upper world edge of a 1-D grid `(tx, n)` with signed pixel size `res` -/
def gridLo (tx res : Rat) (n : Int) : Rat := if 0 < res then tx else tx + (n : Rat) * res
def gridHi (tx res : Rat) (n : Int) : Rat := if 0 < res then tx + (n : Rat) * res else tx

theorem gridLo_pos {res : Rat} (h : 0 < res) (tx : Rat) (n : Int) : gridLo tx res n = tx := if_pos h
theorem gridHi_pos {res : Rat} (h : 0 < res) (tx : Rat) (n : Int) : gridHi tx res n = tx + (n : Rat) * res := if_pos h
theorem gridLo_neg {res : Rat} (h : res < 0) (tx : Rat) (n : Int) : gridLo tx res n = tx + (n : Rat) * res :=
  if_neg (not_lt.2 h.le)
theorem gridHi_neg {res : Rat} (h : res < 0) (tx : Rat) (n : Int) : gridHi tx res n = tx := if_neg (not_lt.2 h.le)

/-- the contract of `snap_grid` for the copy, for every `tol ≥ 0`: what C08's `snap_cover`, `snap_aligned`, `snap_n_pos` say of
C08's model, here read off `C20.snapGrid_ok` / `C20.snapGrid_ok_cover` through `snapGrid_eq` -/
theorem snapGrid_spec (x0 x1 res tol tx : Rat) (off : Option Rat) (n : Int) (ht : 0 ≤ tol) (_hx : x0 ≤ x1)
    (h : snapGrid x0 x1 res off tol = .ok (tx, n)) :
    gridLo tx res n ≤ x0 + tol * rabs res ∧ x1 - tol * rabs res ≤ gridHi tx res n ∧ 1 ≤ n ∧
      (∀ o, off = some o → ∃ k : Int, gridLo tx res n = ((k : Rat) + o) * rabs res) := by
  rw [snapGrid_eq] at h
  obtain ⟨_, hn, hop, _⟩ := C20.snapGrid_ok h
  obtain ⟨lo, hi⟩ := C20.snapGrid_ok_cover ht h
  rw [rabs_eq_abs]
  -- `gridLo tx res n` is `C20.gridLo res tx n` by unfolding: the same body, the arguments in another order
  exact ⟨lo, hi, hn, fun o ho => (hop o ho).2.2.2⟩

theorem argmaxFirst_cons (x : Nat × Rat) (xs : List (Nat × Rat)) : ∃ c, argmaxFirst (x :: xs) = some c := by
  simp only [argmaxFirst]
  cases argmaxFirst xs with
  | none => exact ⟨x, rfl⟩
  | some y =>
    simp only
    split
    · exact ⟨y, rfl⟩
    · exact ⟨x, rfl⟩

theorem argmaxFirst_spec (l : List (Nat × Rat)) (c : Nat × Rat) (h : argmaxFirst l = some c) :
    c ∈ l ∧ ∀ x ∈ l, x.2 ≤ c.2 := by
  induction l generalizing c with
  | nil => cases h
  | cons x xs ih =>
    cases xs with
    | nil =>
      cases h
      exact ⟨List.mem_cons_self, fun z hz => by rw [List.mem_singleton.1 hz]⟩
    | cons y ys =>
      obtain ⟨m, hm⟩ := argmaxFirst_cons y ys
      obtain ⟨hmem, hmax⟩ := ih m hm
      rw [argmaxFirst, hm] at h
      simp only at h
      split at h
      · rename_i hlt
        cases h
        exact ⟨List.mem_cons_of_mem _ hmem, List.forall_mem_cons.2 ⟨hlt.le, hmax⟩⟩
      · rename_i hnlt
        cases h
        exact ⟨List.mem_cons_self, List.forall_mem_cons.2 ⟨le_rfl, fun z hz => (hmax z hz).trans (not_lt.1 hnlt)⟩⟩

end OdcGeo.C11
