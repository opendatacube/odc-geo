/-
A pair spliced into a list at position `n`: `l1 ++ [y, x] ++ l2` with `l1.length = n`.  This is how every N-d entry point
puts the two spatial axes among the others (`with_yx`, `planes_yx`, `_verify_shape`, the plane of a coordinate); the
lemmas say where the pair and the other members are found again.
-/
namespace OdcGeo

variable {α : Type} {l1 : List α} {n : Nat}

theorem splice_length (hn : l1.length = n) (y x : α) (l2 : List α) :
    (l1 ++ [y, x] ++ l2).length = n + 2 + l2.length := by
  rw [List.length_append, List.length_append, hn]
  rfl

theorem splice_fst (hn : l1.length = n) (y x : α) (l2 : List α) : (l1 ++ [y, x] ++ l2)[n]? = some y := by
  subst hn
  rw [List.append_assoc, List.getElem?_append_right (Nat.le_refl _), Nat.sub_self]
  rfl

theorem splice_snd (hn : l1.length = n) (y x : α) (l2 : List α) : (l1 ++ [y, x] ++ l2)[n + 1]? = some x := by
  subst hn
  rw [List.append_assoc, List.getElem?_append_right (Nat.le_add_right _ _), Nat.add_sub_cancel_left]
  rfl

theorem splice_take (hn : l1.length = n) (y x : α) (l2 : List α) : (l1 ++ [y, x] ++ l2).take n = l1 := by
  subst hn
  rw [List.append_assoc, List.take_left']
  rfl

theorem splice_mid (hn : l1.length = n) (y x : α) (l2 : List α) : ((l1 ++ [y, x] ++ l2).drop n).take 2 = [y, x] := by
  subst hn
  rw [List.append_assoc, List.drop_left' rfl]
  rfl

theorem splice_drop (hn : l1.length = n) (y x : α) (l2 : List α) : (l1 ++ [y, x] ++ l2).drop (n + 2) = l2 := by
  subst hn
  exact List.drop_left' (by simp)

theorem splice_lt {i : Nat} (hn : l1.length = n) (hi : i < n) (y x : α) (l2 : List α) :
    (l1 ++ [y, x] ++ l2)[i]? = l1[i]? := by
  rw [List.append_assoc, List.getElem?_append_left (hn ▸ hi)]

theorem splice_ge {i : Nat} (hn : l1.length = n) (hi : n + 2 ≤ i) (y x : α) (l2 : List α) :
    (l1 ++ [y, x] ++ l2)[i]? = l2[i - (n + 2)]? := by
  subst hn
  rw [List.getElem?_append_right (by simp; omega)]
  simp

/-- every list is its own members before `a`, the two at `a`, and the rest -/
theorem take_mid_drop (l : List α) (a : Nat) : l.take a ++ (l.drop a).take 2 ++ l.drop (a + 2) = l := by
  rw [← List.drop_drop, List.append_assoc, List.take_append_drop, List.take_append_drop]

end OdcGeo
