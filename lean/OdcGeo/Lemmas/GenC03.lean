/-
Bridges between the translator's prelude and the vocabulary of the hand model `OdcGeo/Model/C03.lean`
(which has its own copies of the numeric helpers of `math.py`), used by the tie theorems in `Props/GenC03/*.lean`.
-/
import OdcGeo.Gen.PyPrelude
import OdcGeo.Gen.Tie
import OdcGeo.Model.C03
import OdcGeo.Lemmas.C03Scalar

namespace OdcGeo.C03
open OdcGeo.Gen

theorem py_trunc_eq (x : Rat) : Py.trunc x = trunc x := rfl
theorem py_absR_eq (x : Rat) : Py.absR x = rabs x := rfl

theorem py_fmod_one (x : Rat) : Py.fmod x 1 = fmod1 x := by
  simp [Py.fmod, fmod1, py_trunc_eq]

theorem trunc_intCast (k : Int) : trunc (k : Rat) = k := Py.trunc_intCast k

/-- the whole part `split_float` returns is an integer, so `int(x_whole)` changes nothing -/
theorem trunc_splitFloat_whole (x : Rat) : ((trunc (splitFloat x).1 : Int) : Rat) = (splitFloat x).1 :=
  C20.trunc_splitFloat x

end OdcGeo.C03
