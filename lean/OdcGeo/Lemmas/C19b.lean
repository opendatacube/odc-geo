/- Helper lemmas for C19 part (b) and for CRS equality. -/
import OdcGeo.Model.C19
namespace OdcGeo.C19

theorem equiv_of_key {α κ : Type} {eq : α → α → Bool} (key : α → κ)
    (h : ∀ a b, eq a b = true ↔ key a = key b) :
    (∀ a, eq a a = true) ∧ (∀ a b, eq a b = true → eq b a = true) ∧
    (∀ a b c, eq a b = true → eq b c = true → eq a c = true) :=
  ⟨fun a => (h a a).2 rfl, fun a b e => (h b a).2 ((h a b).1 e).symm,
   fun a b c e g => (h a c).2 (((h a b).1 e).trans ((h b c).1 g))⟩

theorem eqv_of_key {α κ : Type} {eq : α → α → Bool} {Dom : α → Prop} (key : α → κ)
    (h : ∀ a b, Dom a → Dom b → (eq a b = true ↔ key a = key b)) :
    (∀ a b, Dom a → Dom b → eq a b = true → eq b a = true) ∧
    (∀ a b c, Dom a → Dom b → Dom c → eq a b = true → eq b c = true → eq a c = true) :=
  ⟨fun a b ha hb e => (h b a hb ha).2 ((h a b ha hb).1 e).symm,
   fun a b c ha hb hc e g =>
    (h a c ha hc).2 (((h a b ha hb).1 e).trans ((h b c hb hc).1 g))⟩

theorem ne_of_eq_false {α τ : Type} {eq : α → α → Bool} {tok : α → τ} {a b : α}
    (inj : tok a = tok b → eq a b = true) (h : eq a b = false) : tok a ≠ tok b :=
  fun ht => Bool.false_ne_true (h.symm.trans (inj ht))

theorem PyNum.eq_iff (a b : PyNum) : a.eq b = true ↔ a.val = b.val := by
  simp [PyNum.eq]

theorem PyNum.neg_val (a : PyNum) : a.neg.val = -a.val := by
  unfold PyNum.neg
  cases a.kind <;> rfl

theorem numsEq_iff : ∀ (as bs : List PyNum), numsEq as bs = true ↔ as.map (·.val) = bs.map (·.val)
  | [], [] => by simp only [numsEq]
  | [], _ :: _ => by simp [numsEq]
  | _ :: _, [] => by simp [numsEq]
  | a :: as, b :: bs => by simp [numsEq, PyNum.eq_iff, numsEq_iff as bs]

theorem map_num_inj (as bs : List PyNum) (h : as.map Atom.num = bs.map Atom.num) : as = bs :=
  (List.map_inj_right fun _ _ => Atom.num.inj).1 h

theorem map_hv_congr {as bs : List PyNum} (h : as.map (·.val) = bs.map (·.val)) :
    as.map (fun n => hv n.val) = bs.map (fun n => hv n.val) := by
  have := congrArg (List.map hv) h
  rwa [List.map_map, List.map_map] at this

/-- `crsEq` spelled out (`if c then True else x` is `c ∨ x`). -/
theorem crsEq_iff (a b : CrsObj) : crsEq a b = true ↔
    a.obj = b.obj ∨ (if truthy a.epsg = true ∧ truthy b.epsg = true then a.epsg = b.epsg
      else a.str = b.str ∨ a.info.sys = b.info.sys) := by
  simp only [crsEq, Bool.if_true_left, Bool.or_eq_true, decide_eq_true_eq, Bool.ite_eq_true_distrib,
    beq_iff_eq, Bool.and_eq_true]

/-- **EPSG coherence** on a set `D` of CRS instances: the facts about pyproj the code relies
on when it short-cuts `__eq__` through object identity, cached EPSG codes and strings.
`epsg_sys` is the one real CRSs can violate (finding K4: `to_epsg()` accepts a 70 %
match, so a lossy PROJ string reports the code of a system it is not `==` to). -/
structure Coherent (D : CrsObj → Prop) : Prop where
  obj_sys : ∀ a b, D a → D b → a.obj = b.obj → a.info.sys = b.info.sys
  epsg_sys : ∀ a b, D a → D b → truthy a.epsg = true → truthy b.epsg = true →
    (a.epsg = b.epsg ↔ a.info.sys = b.info.sys)
  str_sys : ∀ a b, D a → D b → a.str = b.str → a.info.sys = b.info.sys
  str_ne_none : ∀ a, D a → a.str ≠ "None"

/-- Under coherence `==` is "denotes the same coordinate system". -/
theorem crs_eq_iff_sys {D : CrsObj → Prop} (hD : Coherent D) (a b : CrsObj) (ha : D a) (hb : D b) :
    crsEq a b = true ↔ a.info.sys = b.info.sys := by
  rw [crsEq_iff]
  by_cases h2 : truthy a.epsg = true ∧ truthy b.epsg = true
  · rw [if_pos h2, hD.epsg_sys a b ha hb h2.1 h2.2]
    exact or_iff_right_of_imp (hD.obj_sys a b ha hb)
  · rw [if_neg h2]
    exact ⟨fun h => h.elim (hD.obj_sys a b ha hb) (fun h => h.elim (hD.str_sys a b ha hb) id),
      fun h => Or.inr (Or.inr h)⟩

/-- domain predicate lifted to optional CRS fields -/
def OptD (D : CrsObj → Prop) : Option CrsObj → Prop
  | none => True
  | some c => D c

theorem optCrsEq_iff {D : CrsObj → Prop} (hD : Coherent D) (a b : Option CrsObj)
    (ha : OptD D a) (hb : OptD D b) :
    optCrsEq a b = true ↔ a.map (·.info.sys) = b.map (·.info.sys) := by
  cases a <;> cases b <;> simp [optCrsEq]
  exact crs_eq_iff_sys hD _ _ ha hb

theorem optCrsEq_of_str {D : CrsObj → Prop} (hD : Coherent D) (a b : Option CrsObj)
    (ha : OptD D a) (hb : OptD D b) (h : optCrsStr a = optCrsStr b) : optCrsEq a b = true := by
  cases a with
  | none =>
    cases b with
    | none => rfl
    | some b => exact absurd h.symm (hD.str_ne_none b hb)
  | some a =>
    cases b with
    | none => exact absurd h (hD.str_ne_none a ha)
    | some b =>
      exact (crs_eq_iff_sys hD a b ha hb).2 (hD.str_sys a b ha hb h)

theorem optCrsEq_of_pkl {D : CrsObj → Prop} (hD : Coherent D) (a b : Option CrsObj)
    (ha : OptD D a) (hb : OptD D b) (h : optCrsPkl a = optCrsPkl b) : optCrsEq a b = true :=
  optCrsEq_of_str hD a b ha hb (by cases a <;> cases b <;> simp_all [optCrsPkl, optCrsStr])

theorem optCrsEq_refl (a : Option CrsObj) : optCrsEq a a = true := by
  cases a <;> simp [optCrsEq, crsEq]

end OdcGeo.C19
