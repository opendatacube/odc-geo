/-
Lemmas for C19 part (a): `_crs_cache` never returns the WRONG coordinate system.

The keys of `_crs_cache` collide (a pyproj object equals the string that is its WKT text and
every other object with that WKT), so WHICH entry a spec hits — hence `str(crs)` — depends on
the history.  What does not depend on it is the coordinate system of the result:

`SysInvR R`: every cache entry denotes the system of its key, and object keys stay alive (so their id
cannot be reused for another object).  It is developed once for a reading `R` of "denotes":
`Sound` (never another system; needs `KeySysCoherent`; `SysInv` is this instance) and `Exact` (exactly that
system; also `KeyAcceptCoherent`, which `cxW` shows cannot be dropped).  First, that the keys `keyOfStr` /
`keyOfInt` make are fixed by `keyOfStr` (`Char.toUpper` is idempotent and fixes digits).
-/
import OdcGeo.Lemmas.C19a
import Std.Data.String.ToNat

namespace OdcGeo.C19

theorem char_toUpper_of_not (c : Char) (h : ¬ ((97 : UInt32) ≤ c.val ∧ c.val ≤ 122)) :
    c.toUpper = c := by
  unfold Char.toUpper
  exact dif_neg h

theorem char_toUpper_val (c : Char) (h : (97 : UInt32) ≤ c.val ∧ c.val ≤ 122) :
    c.toUpper.val = c.val + 4294967264 := by
  unfold Char.toUpper
  split
  · rfl
  · next h' => exact absurd h h'

theorem char_toUpper_idem (c : Char) : c.toUpper.toUpper = c.toUpper := by
  by_cases h : (97 : UInt32) ≤ c.val ∧ c.val ≤ 122
  · apply char_toUpper_of_not
    rw [char_toUpper_val c h]
    simp [UInt32.le_iff_toNat_le] at h ⊢
    omega
  · rw [char_toUpper_of_not c h, char_toUpper_of_not c h]

theorem char_toUpper_digit (c : Char) (h : c.isDigit = true) : c.toUpper = c := by
  apply char_toUpper_of_not
  simp [Char.isDigit, UInt32.le_iff_toNat_le] at h ⊢
  omega

theorem toUpper_idem (s : String) : s.toUpper.toUpper = s.toUpper := by
  unfold String.toUpper
  rw [String.map_map]
  apply String.ext
  simp [char_toUpper_idem]

theorem digits_toUpper (n : Nat) :
    List.map Char.toUpper (Nat.repr n).toList = (Nat.repr n).toList := by
  simp only [Nat.repr, String.toList_ofList]
  rw [List.map_congr_left (g := id), List.map_id]
  intro c hc
  exact char_toUpper_digit c (Nat.isDigit_of_mem_toDigits (by decide) (by decide) hc)

theorem keyOfInt_toUpper (n : Nat) : (keyOfInt n).toUpper = keyOfInt n := by
  unfold String.toUpper keyOfInt
  apply String.ext
  simp only [String.toList_map, String.toList_append, List.map_append]
  have h1 : List.map Char.toUpper (toString "EPSG:").toList = (toString "EPSG:").toList := by
    decide +kernel
  rw [h1]
  exact congrArg _ (digits_toUpper n)

theorem keyOfInt_inj {n m : Nat} (h : keyOfInt n = keyOfInt m) : n = m := by
  unfold keyOfInt at h
  exact Nat.repr_injective ((String.append_right_inj _).1 h)

theorem keyOfStr_idem (s : String) : keyOfStr (keyOfStr s) = keyOfStr s := by
  by_cases h : isEpsgLike s = true
  · have h' : isEpsgLike s.toUpper = true := by rwa [isEpsgLike, toUpper_idem]
    simp only [keyOfStr, if_pos h, if_pos h', toUpper_idem]
  · simp only [keyOfStr, if_neg h]

theorem keyOfStr_keyOfInt (n : Nat) : keyOfStr (keyOfInt n) = keyOfInt n := by
  unfold keyOfStr
  split
  · exact keyOfInt_toUpper n
  · rfl

/-- The system a spec denotes according to pyproj (`none`: pyproj rejects it / the variable
does not exist).  For `CRS(other_crs)` it is the system of the instance that is copied. -/
def specSys (W : World) (σ : State) : Spec → Option Nat
  | .int n => (W.fromEpsg n).map (·.sys)
  | .str s => (W.fromText s).map (·.sys)
  | .pyproj pv => (assoc pv σ.pvars).map (fun e => e.2.sys)
  | .dict d => (W.fromText d).map (·.sys)
  | .crs v => (assoc v σ.vars).map (fun c => c.info.sys)

/-- pyproj is coherent on texts that share a cache key: all spellings of one key that pyproj
accepts denote one system (`EPSG:n` in any letter case and the integer `n`). -/
def KeySysCoherent (W : World) : Prop :=
  (∀ s s' p p', keyOfStr s = keyOfStr s' → W.fromText s = some p → W.fromText s' = some p' →
    p.sys = p'.sys) ∧
  (∀ s n p p', keyOfStr s = keyOfInt n → W.fromText s = some p → W.fromEpsg n = some p' →
    p.sys = p'.sys)

/-- pyproj accepts all spellings of one cache key or none of them.  Needed only to say that a
spec that hits the cache is one pyproj would have accepted: on a hit `_make_crs` never asks. -/
def KeyAcceptCoherent (W : World) : Prop :=
  (∀ s s', keyOfStr s = keyOfStr s' → (W.fromText s).isSome = (W.fromText s').isSome) ∧
  (∀ s n, keyOfStr s = keyOfInt n → (W.fromText s).isSome = (W.fromEpsg n).isSome)

/-! ## The two readings of "the entry denotes the system of the spec"

The development is done once, for a relation `R o y` between pyproj's answer `o` for a spec
and the system `y` stored in the entry:
`Sound`: pyproj's answer, if there is one, is `y`;  `Exact`: pyproj's answer is `y`. -/

def Sound (o : Option Nat) (y : Nat) : Prop := ∀ x, o = some x → x = y

def Exact (o : Option Nat) (y : Nat) : Prop := o = some y

/-- Coherence of pyproj over the spellings of one key, read through `R`; an answer denotes
itself (`refl`).  `tt` / `te` / `et`: a text against a text, a text against an int, an int
against a text with the same key. -/
structure Coh (R : Option Nat → Nat → Prop) (W : World) : Prop where
  refl : ∀ y, R (some y) y
  tt : ∀ s s' p', keyOfStr s = keyOfStr s' → W.fromText s' = some p' →
    R ((W.fromText s).map (·.sys)) p'.sys
  te : ∀ s n p', keyOfStr s = keyOfInt n → W.fromEpsg n = some p' →
    R ((W.fromText s).map (·.sys)) p'.sys
  et : ∀ s n p, keyOfStr s = keyOfInt n → W.fromText s = some p →
    R ((W.fromEpsg n).map (·.sys)) p.sys

theorem Sound.map {o : Option PInfo} {y : Nat} (h : ∀ q, o = some q → q.sys = y) :
    Sound (o.map (·.sys)) y := fun _ hx =>
  let ⟨q, hq, e⟩ := Option.map_eq_some_iff.1 hx
  e ▸ h q hq

theorem Exact.of_sound {o : Option Nat} {y : Nat} (hs : o.isSome = true) (h : Sound o y) :
    Exact o y := by
  obtain ⟨x, rfl⟩ := Option.isSome_iff_exists.1 hs
  exact congrArg some (h x rfl)

theorem coh_sound {W : World} (hW : KeySysCoherent W) : Coh Sound W where
  refl _ _ h := (Option.some.inj h).symm
  tt s s' p' hk hp' := .map fun q hq => hW.1 s s' q p' hk hq hp'
  te s n p' hk hp' := .map fun q hq => hW.2 s n q p' hk hq hp'
  et s n p hk hp := .map fun q hq => (hW.2 s n p q hk hp hq).symm

theorem coh_exact {W : World} (hW : KeySysCoherent W) (hA : KeyAcceptCoherent W) :
    Coh Exact W where
  refl _ := rfl
  tt s s' p' hk hp' :=
    .of_sound (by rw [Option.isSome_map, hA.1 s s' hk, hp']; rfl) ((coh_sound hW).tt s s' p' hk hp')
  te s n p' hk hp' :=
    .of_sound (by rw [Option.isSome_map, hA.2 s n hk, hp']; rfl) ((coh_sound hW).te s n p' hk hp')
  et s n p hk hp :=
    .of_sound (by rw [Option.isSome_map, ← hA.2 s n hk, hp]; rfl) ((coh_sound hW).et s n p hk hp)

/-- The string key `k` is normalised and `y` is the system of every spec whose key is `k`. -/
def TxtOk (R : Option Nat → Nat → Prop) (W : World) (k : String) (y : Nat) : Prop :=
  keyOfStr k = k ∧
  (∀ s, keyOfStr s = k → R ((W.fromText s).map (·.sys)) y) ∧
  (∀ n, keyOfInt n = k → R ((W.fromEpsg n).map (·.sys)) y)

/-- A cache entry denotes the system of its key. -/
def EntryOk (R : Option Nat → Nat → Prop) (W : World) (ke : Key × CrsObj) : Prop :=
  match ke.1 with
  | .txt k => TxtOk R W k ke.2.info.sys
  | .obj _ p => ke.2.info.sys = p.sys

/-- Every cache entry denotes the system of its key, and the pyproj objects used as keys are
alive with the attributes recorded in the key. -/
structure SysInvR (R : Option Nat → Nat → Prop) (W : World) (σ : State) : Prop where
  entries : ∀ ke ∈ σ.cache, EntryOk R W ke
  keyLive : ∀ ke ∈ σ.cache, ∀ i q, ke.1 = .obj i q → (i, q) ∈ σ.heap

/-- The invariant in its plain reading (`Sound`). -/
abbrev SysInv (W : World) (σ : State) : Prop := SysInvR Sound W σ

theorem sysInvR_init (R : Option Nat → Nat → Prop) (W : World) : SysInvR R W {} := by
  constructor <;> simp

theorem SysInvR.mono {R W} {σ σ' : State} (h : SysInvR R W σ) (hc : σ'.cache = σ.cache)
    (hh : ∀ e ∈ σ.heap, e ∈ σ'.heap) : SysInvR R W σ' := by
  constructor
  · intro ke hke
    rw [hc] at hke
    exact h.entries ke hke
  · intro ke hke i q hk
    rw [hc] at hke
    exact hh _ (h.keyLive ke hke i q hk)

theorem SysInvR.push {R W} {σ : State} (h : SysInvR R W σ) (k : Key) (e : CrsObj)
    (he : EntryOk R W (k, e)) (hl : ∀ i q, k = .obj i q → (i, q) ∈ σ.heap) :
    SysInvR R W { σ with cache := σ.cache ++ [(k, e)] } :=
  ⟨List.forall_mem_append.2 ⟨h.entries, List.forall_mem_singleton.2 he⟩,
    List.forall_mem_append.2 ⟨h.keyLive, List.forall_mem_singleton.2 hl⟩⟩

theorem SysInvR.alloc {R W} {σ : State} (h : SysInvR R W σ) (pick : Nat) (p : PInfo) :
    SysInvR R W (alloc σ pick p).1 :=
  h.mono (alloc_cache σ pick p) (alloc_heap_mono σ pick p)

/-- Whatever entry a string key hits — an entry stored under that string, or one stored under
a pyproj object whose WKT is that string — it denotes the system of every spelling of the key. -/
theorem hit_txt {R W} (hC : Coh R W) {cache : List (Key × CrsObj)}
    (hE : ∀ ke ∈ cache, EntryOk R W ke) {key : String} {e : CrsObj}
    (hkey : keyOfStr key = key) (hf : cacheFind W (.txt key) cache = some e) :
    TxtOk R W key e.info.sys := by
  obtain ⟨k', hmem, heq⟩ := cacheFind_hit hf
  have hent := hE _ hmem
  cases k' with
  | txt a => exact beq_iff_eq.1 heq ▸ hent
  | obj i p =>
    simp only [keyEq, Bool.and_eq_true, beq_iff_eq] at heq
    obtain ⟨q, hq, hqs⟩ := Option.map_eq_some_iff.1 heq.2
    rw [show e.info.sys = p.sys from hent, ← hqs]
    exact ⟨hkey, fun s hs' => hC.tt s key q (hs'.trans hkey.symm) hq,
      fun n hn => hC.et key n q (hkey.trans hn.symm) hq⟩

/-- Whatever entry a live pyproj object hits — one stored under the same object, under another
object with the same WKT and system, or under the string that is its WKT — it denotes the
object's system.  An entry keyed on the same *id* is keyed on the same object: keys are alive. -/
theorem hit_obj {R W} (hC : Coh R W) {σ : State} (hi : Inv σ) (hS : SysInvR R W σ)
    {id : Nat} {p : PInfo} (hl : (id, p) ∈ σ.heap) {e : CrsObj}
    (hf : cacheFind W (.obj id p) σ.cache = some e) : R (some p.sys) e.info.sys := by
  obtain ⟨k', hmem, heq⟩ := cacheFind_hit hf
  have hent := hS.entries _ hmem
  cases k' with
  | txt t =>
    simp only [keyEq, Bool.and_eq_true, beq_iff_eq] at heq
    have ht : TxtOk R W t e.info.sys := hent
    exact heq.2 ▸ ht.2.1 t ht.1
  | obj j q =>
    rw [show e.info.sys = q.sys from hent]
    simp only [keyEq, Bool.or_eq_true, Bool.and_eq_true, beq_iff_eq] at heq
    rcases heq with rfl | ⟨-, hs⟩
    · rw [hi.heapOk.functional (hS.keyLive _ hmem j q rfl) hl]
      exact hC.refl _
    · rw [hs]
      exact hC.refl _

theorem makeFromObj_sys {R W} (hC : Coh R W) (σ : State) (id : Nat) (p : PInfo) (hi : Inv σ)
    (hS : SysInvR R W σ) (hl : (id, p) ∈ σ.heap) :
    Post (SysInvR R W) (fun _ c => R (some p.sys) c.info.sys) (makeFromObj W σ id p) := by
  unfold makeFromObj
  simp only
  split
  · next e hf => exact .ok hS (hit_obj hC hi hS hl hf)
  · split
    · next e he =>
      have hes : e.info.sys = p.sys := by rw [(entryOf_ok he).2]
      exact .ok (hS.push _ e hes (fun i q hk => by cases hk; exact hl)) (hes ▸ hC.refl _)
    · exact .error hS

theorem makeFromText_sys {R W} (hC : Coh R W) (σ : State) (key : String)
    (parsed : Option PInfo) (e0 pick : Nat) (hS : SysInvR R W σ) (hkey : keyOfStr key = key)
    (hnew : ∀ p, parsed = some p → TxtOk R W key p.sys) :
    Post (SysInvR R W) (fun _ c => TxtOk R W key c.info.sys)
      (makeFromText W σ key parsed e0 pick) := by
  unfold makeFromText
  simp only
  split
  · next e hf => exact .ok hS (hit_txt hC hS.entries hkey hf)
  · split
    · exact .error hS
    · next p =>
      have hA := hS.alloc pick p
      split
      · next e he =>
        have hes : TxtOk R W key e.info.sys := by rw [(entryOf_ok he).2]; exact hnew p rfl
        exact .ok (hA.push _ e hes (fun i q hk => nomatch hk)) hes
      · exact .error hA

/-- `CRS(spec)` keeps the invariant, and the result — whichever entry was hit — denotes the
system of the spec. -/
theorem construct_sys {R W} (hC : Coh R W) (σ : State) (spec : Spec)
    (pick : Nat) (hi : Inv σ) (hS : SysInvR R W σ) :
    Post (SysInvR R W) (fun _ c => R (specSys W σ spec) c.info.sys) (construct W σ spec pick) := by
  cases spec with
  | int n =>
    refine (makeFromText_sys hC σ (keyOfInt n) (W.fromEpsg n) n pick hS (keyOfStr_keyOfInt n)
      fun p hp => ⟨keyOfStr_keyOfInt n, fun s hs => hC.te s n p hs hp, fun n' hn' => ?_⟩).imp
      fun _ c h => h.2.2 n rfl
    rw [keyOfInt_inj hn', hp]
    exact hC.refl _
  | str s =>
    exact (makeFromText_sys hC σ (keyOfStr s) (W.fromText s) 0 pick hS (keyOfStr_idem s)
      fun p hp => ⟨keyOfStr_idem s, fun s' hs' => hC.tt s' s p hs' hp,
        fun n hn => hC.et s n p hn.symm hp⟩).imp fun _ c h => h.2.1 s rfl
  | pyproj pv =>
    simp only [construct, specSys]
    split
    · exact .error hS
    · next id p hpv =>
      rw [hpv]
      exact makeFromObj_sys hC σ id p hi hS (hi.refOk.pvarsLive _ (assoc_mem _ _ _ hpv))
  | dict d =>
    simp only [construct, specSys]
    split
    · exact .error hS
    · next p hp =>
      obtain ⟨a1, a2⟩ := alloc_spec σ pick p hi
      rw [hp]
      exact makeFromObj_sys hC _ _ p a1 (hS.alloc pick p) a2
  | crs v =>
    simp only [construct, specSys]
    split
    · exact .error hS
    · next c hv =>
      rw [hv]
      exact .ok hS (hC.refl _)

/-- The collector never frees a pyproj object that is a key of `_crs_cache`. -/
theorem SysInvR.collect {R W} {σ : State} (h : SysInvR R W σ) : SysInvR R W (collect σ) := by
  constructor
  · exact h.entries
  · intro ke hke i q hk
    exact collect_keep (h.keyLive ke hke i q hk)
      (mem_roots.2 (.inr (.inl ⟨ke, hke, by rw [hk]; rfl⟩)))

theorem step_sysInv {R W} (hC : Coh R W) (σ : State) (op : Op)
    (hop : op.real = true) (hi : Inv σ) (hS : SysInvR R W σ) : SysInvR R W (step W σ op).1 :=
  step_keeps (fun _ _ hc hh h => h.mono hc hh) (fun _ h => h.collect) σ op hop hS
    (fun _ spec pick _ => (construct_sys hC σ spec pick hi hS).1)
    (fun s pick => (construct_sys hC σ (.str s) pick hi hS).1)

theorem sysInvR_run {R W} (hC : Coh R W) (h : List Op)
    (hreal : ∀ op ∈ h, op.real = true) : SysInvR R W (run W h).1 :=
  (runFrom_preserves (P := fun σ => Inv σ ∧ SysInvR R W σ)
    (fun σ op hop hP => ⟨step_inv W σ op hop hP.1, step_sysInv hC σ op hop hP.1 hP.2⟩) h {}
    ⟨inv_init, sysInvR_init R W⟩ hreal).2

/-- **`CRS(spec)` in any state the history model reaches** denotes the system of the spec, in the
reading `R` that pyproj's coherence supports. -/
theorem construct_sys_of_moves {R W} (hC : Coh R W) {σ : State} (hm : Moves W {} σ) (spec : Spec)
    (pick : Nat) (c : CrsObj) (hc : (construct W σ spec pick).2 = .ok c) :
    R (specSys W σ spec) c.info.sys := by
  obtain ⟨h, hreal, rfl⟩ := hm
  exact (construct_sys hC _ spec pick (inv_run W h hreal) (sysInvR_run hC h hreal)).2 c hc

/-- After every history of real operations every `_crs_cache` entry denotes the system of
its key, and every pyproj object used as a key is alive. -/
theorem sysInv_run (W : World) (hW : KeySysCoherent W) (h : List Op)
    (hreal : ∀ op ∈ h, op.real = true) : SysInv W (run W h).1 :=
  sysInvR_run (coh_sound hW) h hreal

theorem sysInv_iff (W : World) (σ : State) : SysInv W σ ↔
    (∀ k e, (Key.txt k, e) ∈ σ.cache →
      (∀ s p, keyOfStr s = k → W.fromText s = some p → p.sys = e.info.sys) ∧
      (∀ n p, keyOfInt n = k → W.fromEpsg n = some p → p.sys = e.info.sys) ∧
      keyOfStr k = k) ∧
    (∀ i p e, (Key.obj i p, e) ∈ σ.cache → e.info.sys = p.sys ∧ (i, p) ∈ σ.heap) := by
  constructor
  · intro h
    refine ⟨fun k e hke => ?_, fun i p e hke => ⟨h.entries _ hke, h.keyLive _ hke i p rfl⟩⟩
    have ht : TxtOk Sound W k e.info.sys := h.entries _ hke
    exact ⟨fun s p hs hp => ht.2.1 s hs p.sys (by rw [hp]; rfl),
      fun n p hn hp => ht.2.2 n hn p.sys (by rw [hp]; rfl), ht.1⟩
  · intro h
    refine ⟨fun ke hke => ?_, fun ke hke i q hk => ?_⟩
    · obtain ⟨k | ⟨i, p⟩, e⟩ := ke
      · obtain ⟨h1, h2, h3⟩ := h.1 k e hke
        exact ⟨h3, fun s hs => .map fun q hq => h1 s q hs hq, fun n hn => .map fun q hq => h2 n q hn hq⟩
      · exact (h.2 i p e hke).1
    · obtain ⟨k, e⟩ := ke
      cases hk
      exact (h.2 i q e hke).2

theorem specSys_some_of_ok (W : World) (σ : State) (spec : Spec) (hs : spec.textual = false)
    (pick : Nat) (c : CrsObj) (hc : (construct W σ spec pick).2 = .ok c) :
    ∃ y, specSys W σ spec = some y := by
  cases spec with
  | int _ | str _ => cases hs
  | pyproj _ | dict _ | crs _ =>
    simp only [construct] at hc
    simp only [specSys]
    split at hc
    · cases hc
    · rename_i heq
      rw [heq]
      exact ⟨_, rfl⟩

theorem mk_sys {R W} (hC : Coh R W) {σ : State} (hm : Moves W {} σ)
    (v : Nat) (spec : Spec) (pick : Nat) (s : String) :
    (step W σ (.mk v spec pick)).2 = .str s →
      ∃ c, assoc v (step W σ (.mk v spec pick)).1.vars = some c ∧ c.str = s ∧
        R (specSys W σ spec) c.info.sys := by
  have hc := construct_sys_of_moves hC hm spec pick
  simp only [step]
  split
  · next σ1 c heq =>
    intro ho
    rw [heq] at hc
    cases ho
    exact ⟨c, assoc_setVar _ _ _, rfl, hc c rfl⟩
  · intro ho
    cases ho

/-! ## `KeyAcceptCoherent` cannot be dropped from `construct_sys_correct`

A pyproj that accepts `"EPSG:1"` only: `KeySysCoherent` holds trivially, yet `CRS("epsg:1")`
succeeds on a cache hit while pyproj assigns no system to `"epsg:1"`. -/

def cxP : PInfo := ⟨7, "x", "W", some 1⟩
def cxW : World := ⟨fun s => if s = "EPSG:1" then some cxP else none, fun _ => none⟩

theorem cxW_coherent : KeySysCoherent cxW := by
  constructor
  · intro s s' p p' _ hp hp'
    simp only [cxW, Option.ite_none_right_eq_some, Option.some.injEq] at hp hp'
    rw [← hp.2, ← hp'.2]
  · intro s n p p' _ _ hp'
    cases hp'

theorem cx_entry : entryOf 0 cxP 0 = .ok ⟨0, cxP, "x", some 0⟩ := by
  have h : ("x".toUpper.startsWith "EPSG:") = false := by decide +kernel
  unfold entryOf
  simp only [cxP, h]
  rfl

theorem cx_cache : (run cxW [.mk 0 (.str "EPSG:1") 0]).1.cache =
    [(.txt "EPSG:1", ⟨0, cxP, "x", some 0⟩)] := by
  have hk : keyOfStr "EPSG:1" = "EPSG:1" := by decide +kernel
  have hf : cxW.fromText "EPSG:1" = some cxP := by simp [cxW]
  simp only [run, runFrom, step, construct, makeFromText, hk, hf, cacheFind, List.find?, alloc,
    List.length_nil, Nat.lt_irrefl, ↓reduceIte, cx_entry, Option.map_none, List.nil_append]

theorem cx_hit : (construct cxW (run cxW [.mk 0 (.str "EPSG:1") 0]).1 (.str "epsg:1") 0).2 =
    .ok ⟨0, cxP, "x", some 0⟩ := by
  have hk : keyOfStr "epsg:1" = "EPSG:1" := by decide +kernel
  simp only [construct]
  rw [hk]
  refine makeFromText_hit _ _ _ ?_
  rw [cx_cache]
  simp only [cacheFind, List.find?, keyEq, beq_self_eq_true, Option.map_some]

end OdcGeo.C19
