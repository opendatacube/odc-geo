/- Pixel-level lemmas for C13: which source pixel a destination pixel samples, and what a chunk task,
the computed dask array and the in-memory call hold there.  Everything is stated for an arbitrary
pixel map (`samplePixM`, `pixMapP proj`); the same-CRS model is the instance `proj = id`. -/
import OdcGeo.Model.C13P
import OdcGeo.Lemmas.C13
import OdcGeo.Lemmas.Affine
import OdcGeo.Lemmas.Py

namespace OdcGeo.C13
open OdcGeo

theorem samplePixM_apply (A : Aff) (h w : Int) (d : Int × Int) :
    samplePixM A.apply h w d = samplePix A h w d := rfl

theorem pixMapP_id (S D : Aff) : pixMapP id S D = (S.inv * D).apply := by
  funext q
  simp [pixMapP, Aff.apply_mul]

theorem samplePixM_id (S D : Aff) (h w : Int) (d : Int × Int) :
    samplePixM (pixMapP id S D) h w d = samplePix (S.inv * D) h w d := by
  rw [pixMapP_id]; rfl

theorem rioReprojectPlaneP_id (V : Variant) (G : Gdal) (k : DKind) (src : Img) (sh sw : Int) (buf : Img)
    (S D : Aff) (srcNd dstNd : Option Val) :
    rioReprojectPlaneP V G k src sh sw buf S D id srcNd dstNd = rioReprojectPlane V G k src sh sw buf S D srcNd dstNd := by
  funext d
  simp only [rioReprojectPlaneP, rioReprojectPlane, pixMapP_id]
  rfl

theorem doChunkedReprojectP_id (c : Cfg) : doChunkedReprojectP c id = doChunkedReproject c := by
  funext G idx blocks
  simp only [doChunkedReprojectP, doChunkedReproject, rioReprojectPlaneP_id]

theorem daskResultP_id (c : Cfg) (G : Gdal) (src : Img) : daskResultP c id G src = daskResult c G src := by
  funext d
  simp only [daskResultP, daskResult, dstBlockP, dstBlock, dstTaskP, dstTask, doChunkedReprojectP_id]

theorem wholeResultP_id (c : Cfg) (G : Gdal) (src buf : Img) :
    wholeResultP c id G src buf = wholeResult c G src buf :=
  rioReprojectPlaneP_id ..

theorem samplePixM_floor (M : Rat × Rat → Rat × Rat) (h w : Int) (d : Int × Int) {p : Rat × Rat}
    (hp : M ((d.2 : Rat) + 1 / 2, (d.1 : Rat) + 1 / 2) = p) :
    samplePixM M h w d =
      if 0 ≤ p.1.floor ∧ p.1.floor < w ∧ 0 ≤ p.2.floor ∧ p.2.floor < h then some (p.2.floor, p.1.floor)
      else none := by
  simp only [samplePixM, hp, Rat.le_floor_iff, Rat.floor_lt_iff, Int.cast_zero]

theorem samplePixM_some {M : Rat × Rat → Rat × Rat} {h w : Int} {d s : Int × Int}
    (hs : samplePixM M h w d = some s) {p : Rat × Rat} (hp : M ((d.2 : Rat) + 1 / 2, (d.1 : Rat) + 1 / 2) = p) :
    (0 ≤ s.1 ∧ s.1 < h) ∧ (0 ≤ s.2 ∧ s.2 < w) ∧
      ((s.1 : Rat) ≤ p.2 ∧ p.2 < (s.1 : Rat) + 1) ∧ ((s.2 : Rat) ≤ p.1 ∧ p.1 < (s.2 : Rat) + 1) := by
  rw [samplePixM_floor M h w d hp] at hs
  split at hs
  · next hin =>
    cases hs
    exact ⟨hin.2.2, ⟨hin.1, hin.2.1⟩, floor_bounds p.2, floor_bounds p.1⟩
  · cases hs

/-- "warp of a window": cropping both geoboxes (source by offset `o`, destination by offset `t`)
conjugates the pixel map by the two offsets, whatever the coordinate transformation in between -/
theorem pixMapP_crop (proj : Proj) (S D : Aff) (hS : S.det ≠ 0) (ox oy tx ty : Rat) (q : Rat × Rat) :
    pixMapP proj (S * Aff.translation ox oy) (D * Aff.translation tx ty) q =
      ((pixMapP proj S D (q.1 + tx, q.2 + ty)).1 - ox, (pixMapP proj S D (q.1 + tx, q.2 + ty)).2 - oy) := by
  unfold pixMapP
  rw [Aff.apply_mul_translation, Aff.inv_mul_translation S hS, Aff.apply_mul, Aff.apply_translation]
  simp only [sub_eq_add_neg]

theorem floor_sub_int (q : Rat) (n : Int) : (q - (n : Rat)).floor = q.floor - n := by
  rw [sub_eq_add_neg, ← Int.cast_neg, Rat.floor_add_intCast, Int.sub_eq_add_neg]

/-- If the chunk-level pixel map `M'` is the full map `M` conjugated by the integer offsets of the
source window `(oy, ox)` (inside the source) and of the destination tile `(y0, x0)`, then the
chunk samples exactly the pixel the whole array samples, provided that pixel lies in the window,
and nothing otherwise. -/
theorem samplePixM_window (M M' : Rat × Rat → Rat × Rat) (H W h' w' oy ox y0 x0 : Int) (d : Int × Int)
    (hA : ∀ q : Rat × Rat, M' q =
      ((M (q.1 + x0, q.2 + y0)).1 - ox, (M (q.1 + x0, q.2 + y0)).2 - oy))
    (hwin : 0 ≤ oy ∧ oy + h' ≤ H ∧ 0 ≤ ox ∧ ox + w' ≤ W) :
    samplePixM M' h' w' d =
      (samplePixM M H W (d.1 + y0, d.2 + x0)).bind fun s =>
        if oy ≤ s.1 ∧ s.1 < oy + h' ∧ ox ≤ s.2 ∧ s.2 < ox + w' then some (s.1 - oy, s.2 - ox) else none := by
  simp only [samplePixM_floor _ _ _ _ rfl, hA, floor_sub_int, Int.cast_add, add_right_comm _ _ (1 / 2 : Rat)]
  generalize (M ((d.2 : Rat) + 1 / 2 + x0, (d.1 : Rat) + 1 / 2 + y0)).1.floor = fx
  generalize (M ((d.2 : Rat) + 1 / 2 + x0, (d.1 : Rat) + 1 / 2 + y0)).2.floor = fy
  by_cases hin : 0 ≤ fx ∧ fx < W ∧ 0 ≤ fy ∧ fy < H
  · rw [if_pos hin]
    exact if_congr (by omega) rfl rfl
  · rw [if_neg hin]
    exact if_neg (by omega)

theorem rioPlaneP_unreached {V : Variant} {G : Gdal} {k : DKind} {src : Img} {sh sw : Int} {buf : Img}
    {S D : Aff} {proj : Proj} {srcNd dstNd : Option Val} {d : Int × Int} (hb : (buf d).isSome)
    (hun : samplePixM (pixMapP proj S D) sh sw d = none) :
    rioReprojectPlaneP V G k src sh sw buf S D proj srcNd dstNd d =
      some (decVal k (initVal (effNodata (encNodata V k dstNd) (encNodata V k srcNd)))) := by
  obtain ⟨v, hv⟩ := Option.isSome_iff_exists.1 hb
  simp only [rioReprojectPlaneP, gdalNearestM, encImg, hv, hun, Option.map_some]

/-- `_do_chunked_reproject` pixel by pixel: it succeeds, and every pixel `d` of the destination tile that
samples nothing, or samples a source pixel lying in one of the listed source tiles, holds
what `_rio_reproject` writes there from the *whole* source (into any buffer that has the pixel). -/
theorem doChunkedP_pixel (c : Cfg) (proj : Proj) (G : Gdal) (src : Img) (idx : TIdx) (blocks : List Img)
    (hsy : Chain 0 c.sy c.srcH) (hsx : Chain 0 c.sx c.srcW) (hS : c.S.det ≠ 0)
    (hvalid : DepsValid c) (hne : lookupDeps c.deps idx ≠ [])
    (hblocks : mapOpt (srcBlock src c.sy c.sx) (lookupDeps c.deps idx) = some blocks)
    (ty tx : Span) (hty : c.dy[idx.1]? = some ty) (htx : c.dx[idx.2]? = some tx) :
    ∃ blk, doChunkedReprojectP c proj G idx blocks = some blk ∧
      ∀ d : Int × Int, ty.1 ≤ d.1 → d.1 < ty.2 → tx.1 ≤ d.2 → d.2 < tx.2 →
        (∀ s, samplePixM (pixMapP proj c.S c.D) c.srcH c.srcW d = some s →
          ∃ i ∈ lookupDeps c.deps idx, InTile c.sy i.1 s.1 ∧ InTile c.sx i.2 s.2) →
        ∀ buf : Img, (buf d).isSome →
          blk (d.1 - ty.1, d.2 - tx.1) = rioReprojectPlaneP c.variant G c.kind src c.srcH c.srcW buf c.S c.D proj
            c.srcNd (chunkDstNodata c.variant c.kind c.srcNd c.dstNd) d := by
  set sel := lookupDeps c.deps idx with hsel
  obtain ⟨y1, y2, oy, ey, cy, hmy, hcy, oy0, eyN, hy⟩ :=
    clipAxis_spec hsy (·.1) hne fun i hi => (hvalid idx i hi).1
  obtain ⟨x1, x2, ox, ex, cx, hmx, hcx, ox0, exN, hx⟩ :=
    clipAxis_spec hsx (·.2) hne fun i hi => (hvalid idx i hi).2
  obtain ⟨asm, hasm, hcov, _⟩ := assemble_spec src c.sy c.sx cy cx y1 x1 oy ox sel blocks
    (full (ey - oy) (ex - ox) (extractFill c.srcNd c.kind)) hblocks
    (fun i hi => ⟨(hy i hi).1, (hx i hi).1, (hy i hi).2.1, (hx i hi).2.1⟩)
  refine ⟨_, by
    unfold doChunkedReprojectP
    simp only [← hsel, hmy, hmx, hcy, hcx, hty, htx, hasm, Option.bind_eq_bind, Option.bind_some,
      Option.pure_def]
    rfl, ?_⟩
  intro d hd1 hd2 hd3 hd4 hcover buf hbuf
  obtain ⟨v, hv⟩ := Option.isSome_iff_exists.1 hbuf
  have hfull : full (ty.2 - ty.1) (tx.2 - tx.1) (.num 0) (d.1 - ty.1, d.2 - tx.1) = some (.num 0) :=
    if_pos (by simp only []; omega)
  simp only [rioReprojectPlaneP, gdalNearestM, encImg, hv, hfull, Option.map_some]
  rw [samplePixM_window (pixMapP proj c.S c.D) _ c.srcH c.srcW (ey - oy) (ex - ox) oy ox ty.1 tx.1 _
      (pixMapP_crop proj c.S c.D hS (ox : Int) (oy : Int) (tx.1 : Int) (ty.1 : Int))
      ⟨oy0, by omega, ox0, by omega⟩]
  simp only [Int.sub_add_cancel]
  cases hs : samplePixM (pixMapP proj c.S c.D) c.srcH c.srcW d with
  | none => rfl
  | some s =>
    obtain ⟨i, hi, hin⟩ := hcover s hs
    have b1 := (hy i hi).2.2 s.1 hin.1
    have b2 := (hx i hi).2.2 s.2 hin.2
    have hv' := hcov (s.1 - oy, s.2 - ox) (by simpa only [Int.sub_add_cancel] using ⟨i, hi, hin⟩)
    simp only [Int.sub_add_cancel] at hv'
    rw [Option.bind_some, if_pos (by omega)]
    simp only [hv']

theorem chunkDstNodata_eq_rio {V : Variant} (hV : V = Variant.repaired) (k : DKind) (sn dn : Option Val)
    (hnd : dn = none → sn = none) : chunkDstNodata V k sn dn = rioNodataDefault k dn := by
  subst hV
  cases dn with
  | some v => cases sn <;> simp [chunkDstNodata, rioNodataDefault]
  | none =>
    rw [hnd rfl]
    simp [chunkDstNodata, rioNodataDefault, Variant.repaired]

attribute [local simp] chunkDstNodata encNodata effNodata initVal decVal resolveFill Variant.repaired encVal in
/-- the value an unreached pixel of a *task* chunk holds is `resolve_fill_value` (F10 repaired,
boolean nodata repaired) — for every nodata setting -/
theorem chunk_fill_eq (k : DKind) (sn dn : Option Val) (hd : NodataOk k dn) (hs : NodataOk k sn) :
    decVal k (initVal (effNodata
      (encNodata Variant.repaired k (chunkDstNodata Variant.repaired k sn dn))
      (encNodata Variant.repaired k sn))) = resolveFill dn sn k := by
  cases k with
  | bool =>
    cases dn with
    | some v => rcases hd rfl v rfl with rfl | rfl <;> cases sn <;> simp
    | none =>
      cases sn with
      | none => simp
      | some v => rcases hs rfl v rfl with rfl | rfl <;> simp
  | _ => cases dn <;> cases sn <;> simp

/-- A pixel `d` of the computed dask array (repaired code) holds what `_rio_reproject` writes there from
the *whole* source (into any buffer `buf` that has the pixel) — provided the dependency map is complete AT `d`
(`hcov`: the source tile of the sampled pixel is listed for the tile of `d`).  Constant chunks
(no dependencies) are covered: completeness says `d` samples nothing there, and the constant is the
fill `_rio_reproject` would write. -/
theorem daskP_pixel (c : Cfg) (proj : Proj) (G : Gdal) (src : Img) (hV : c.variant = Variant.repaired)
    (hsy : Chain 0 c.sy c.srcH) (hsx : Chain 0 c.sx c.srcW)
    (hdy : Chain 0 c.dy c.dstH) (hdx : Chain 0 c.dx c.dstW) (hS : c.S.det ≠ 0)
    (hvalid : DepsValid c) (hnd1 : NodataOk c.kind c.dstNd) (hnd2 : NodataOk c.kind c.srcNd)
    (d : Int × Int) (hd : 0 ≤ d.1 ∧ d.1 < c.dstH ∧ 0 ≤ d.2 ∧ d.2 < c.dstW)
    (hcov : ∀ iy ix, InTile c.dy iy d.1 → InTile c.dx ix d.2 →
      ∀ s, samplePixM (pixMapP proj c.S c.D) c.srcH c.srcW d = some s →
        ∃ i ∈ lookupDeps c.deps (iy, ix), InTile c.sy i.1 s.1 ∧ InTile c.sx i.2 s.2)
    (buf : Img) (hb : (buf d).isSome) :
    daskResultP c proj G src d = rioReprojectPlaneP c.variant G c.kind src c.srcH c.srcW buf c.S c.D proj
      c.srcNd (chunkDstNodata c.variant c.kind c.srcNd c.dstNd) d := by
  obtain ⟨h1, h2, h3, h4⟩ := hd
  obtain ⟨iy, hiy⟩ := Chain.locate_some hdy h1 h2
  obtain ⟨ix, hix⟩ := Chain.locate_some hdx h3 h4
  obtain ⟨ty, hty, t1, t2⟩ := locate_spec hiy
  obtain ⟨tx, htx, t3, t4⟩ := locate_spec hix
  have hcov' := hcov iy ix ⟨ty, hty, t1, t2⟩ ⟨tx, htx, t3, t4⟩
  obtain ⟨blocks, hblocks⟩ := mapOpt_isSome (f := srcBlock src c.sy c.sx) (l := lookupDeps c.deps (iy, ix))
    fun i hi => ⟨_, srcBlock_eq (hvalid _ i hi).1 (hvalid _ i hi).2⟩
  unfold daskResultP
  simp only [hiy, hix, hty, htx, Option.bind_eq_bind, Option.bind_some, dstBlockP, hblocks, dstTaskP]
  by_cases he : lookupDeps c.deps (iy, ix) = []
  · -- constant block: completeness says the pixel samples nothing
    simp only [he, List.isEmpty_nil, if_true, constBlock, hty, htx, Option.bind_eq_bind, Option.bind_some,
      Option.pure_def, full]
    rw [if_pos (by omega)]
    cases hs : samplePixM (pixMapP proj c.S c.D) c.srcH c.srcW d with
    | some s =>
      obtain ⟨i, hi, _⟩ := hcov' s hs
      rw [he] at hi
      cases hi
    | none =>
      rw [rioPlaneP_unreached hb hs, hV]
      exact congrArg some (chunk_fill_eq c.kind c.srcNd c.dstNd hnd1 hnd2).symm
  · obtain ⟨blk, hblk, hpix⟩ := doChunkedP_pixel c proj G src (iy, ix) blocks hsy hsx hS hvalid he hblocks
      ty tx hty htx
    rw [if_neg (by simpa using he), hblk]
    exact hpix d t1 t2 t3 t4 hcov' buf hb

end OdcGeo.C13
