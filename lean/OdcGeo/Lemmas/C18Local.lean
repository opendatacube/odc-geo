/-
C18, in-process protocol (`Local`): invariant, preservation by steps and by crashes, progress.
-/
import OdcGeo.Model.C18

namespace OdcGeo.C18

namespace Local

@[simp] theorem goto_pc_self (s : State) (t : Nat) (p : PC) : (s.goto t p).pc t = p := by
  simp [State.goto]

@[simp] theorem goto_pc_other (s : State) {t t' : Nat} (p : PC) (h : t' ≠ t) :
    (s.goto t p).pc t' = s.pc t' := by
  simp [State.goto, h]

@[simp] theorem goto_uploadId (s : State) (t : Nat) (p : PC) : (s.goto t p).uploadId = s.uploadId := rfl
@[simp] theorem goto_slot (s : State) (t : Nat) (p : PC) : (s.goto t p).slot = s.slot := rfl
@[simp] theorem goto_mylock (s : State) (t : Nat) (p : PC) : (s.goto t p).mylock = s.mylock := rfl
@[simp] theorem goto_locks (s : State) (t : Nat) (p : PC) : (s.goto t p).locks = s.locks := rfl
@[simp] theorem goto_creates (s : State) (t : Nat) (p : PC) : (s.goto t p).creates = s.creates := rfl
@[simp] theorem goto_calls (s : State) (t : Nat) (p : PC) : (s.goto t p).calls = s.calls := rfl

@[simp] theorem setMy_self (s : State) (t l : Nat) : (s.setMy t l).mylock t = l := by simp [State.setMy]
theorem setMy_other (s : State) {t t' : Nat} (l : Nat) (h : t' ≠ t) :
    (s.setMy t l).mylock t' = s.mylock t' := by simp [State.setMy, h]
@[simp] theorem setHolder_self (s : State) (l : Nat) (h : Option Nat) : (s.setHolder l h).locks l = h := by
  simp [State.setHolder]
theorem setHolder_other (s : State) {l l' : Nat} (h : Option Nat) (hne : l' ≠ l) :
    (s.setHolder l h).locks l' = s.locks l' := by simp [State.setHolder, hne]

@[simp] theorem setMy_slot (s : State) (t l : Nat) : (s.setMy t l).slot = s.slot := rfl
@[simp] theorem setMy_locks (s : State) (t l : Nat) : (s.setMy t l).locks = s.locks := rfl
@[simp] theorem setMy_pc (s : State) (t l : Nat) : (s.setMy t l).pc = s.pc := rfl
@[simp] theorem setMy_uploadId (s : State) (t l : Nat) : (s.setMy t l).uploadId = s.uploadId := rfl
@[simp] theorem setMy_creates (s : State) (t l : Nat) : (s.setMy t l).creates = s.creates := rfl
@[simp] theorem setMy_calls (s : State) (t l : Nat) : (s.setMy t l).calls = s.calls := rfl
@[simp] theorem setHolder_slot (s : State) (l : Nat) (h : Option Nat) : (s.setHolder l h).slot = s.slot := rfl
@[simp] theorem setHolder_mylock (s : State) (l : Nat) (h : Option Nat) :
    (s.setHolder l h).mylock = s.mylock := rfl
@[simp] theorem setHolder_pc (s : State) (l : Nat) (h : Option Nat) : (s.setHolder l h).pc = s.pc := rfl
@[simp] theorem setHolder_uploadId (s : State) (l : Nat) (h : Option Nat) :
    (s.setHolder l h).uploadId = s.uploadId := rfl
@[simp] theorem setHolder_creates (s : State) (l : Nat) (h : Option Nat) :
    (s.setHolder l h).creates = s.creates := rfl
@[simp] theorem setHolder_calls (s : State) (l : Nat) (h : Option Nat) :
    (s.setHolder l h).calls = s.calls := rfl

/-- program points inside the `with <lock>:` block -/
def inCS : PC → Bool
  | .recheck | .initAssert | .create | .setId _ | .release _ | .releaseFault => true
  | _ => false

/-- program points at which the thread has been handed its lock object and still uses it -/
def usesLock : PC → Bool
  | .acquire | .recheck | .initAssert | .create | .setId _ | .release _ | .releaseFault => true
  | _ => false

theorem usesLock_of_inCS {p : PC} (h : inCS p = true) : usesLock p = true := by
  cases p <;> simp_all [inCS, usesLock]

/-- What thread `t` may rely on when it is at program point `p` (repaired code). -/
def PCok (cfg : Cfg) (s : State) (t : Nat) : PC → Prop
  | .recheck => s.uploadId = 0 → s.creates = 0
  | .initAssert => s.uploadId = 0 ∧ s.creates = 0
  | .create => s.uploadId = 0 ∧ s.creates = 0
  | .setId id => id = 1 ∧ s.creates = 1 ∧ s.uploadId = 0
  | .release ok => ok = true ∧ s.uploadId = 1
  | .useAssert => s.uploadId = 1
  | .readId => s.uploadId = 1
  | .call id => id = 1 ∧ s.uploadId = 1
  | .askClient2 => s.uploadId = 1 ∧ cfg.kind t = .fin ∧ Call.complete 1 ∈ s.calls
  | .done => s.uploadId = 1 ∧
      (match cfg.kind t with
       | .write p => Call.upload p 1 ∈ s.calls
       | .fin => Call.complete 1 ∈ s.calls)
  | .failed => False
  | .releaseFault => s.uploadId = 0 ∧ s.creates = 0
  | .faulted => True
  | .start => True
  | .askClient => True
  | .lockGet => True
  | .lockSetdefault => True
  | .acquire => True

/-- Lock discipline: every thread that has been handed a lock object was handed the one
stored in `_state`; a thread inside the block holds it; nothing else is ever held. -/
structure LockInv (s : State) : Prop where
  sel : ∀ t, usesLock (s.pc t) = true → s.slot = some (s.mylock t)
  holds : ∀ t, inCS (s.pc t) = true → s.locks (s.mylock t) = some t
  only : ∀ l h, s.locks l = some h → s.slot = some l ∧ inCS (s.pc h) = true

/-- The inductive invariant of the repaired local protocol. -/
structure Inv (cfg : Cfg) (s : State) : Prop where
  ids : (s.uploadId = 0 ∨ s.uploadId = 1) ∧ (s.uploadId = 1 → s.creates = 1) ∧ s.creates ≤ 1
  -- used when a thread takes the lock: lock free and id unset mean that nothing has been created yet
  free : s.held = none → s.uploadId = 0 → s.creates = 0
  lk : LockInv s
  pcs : ∀ t, PCok cfg s t (s.pc t)
  calls : ∀ c ∈ s.calls, c.id = 1
  count : s.calls.countP Call.isCreate = s.creates

/-- Any state in which an attempt starts: nothing written or held yet, every thread at its
first instruction; `_state` may or may not already hold a lock object. -/
structure Fresh (s : State) : Prop where
  uploadId : s.uploadId = 0
  creates : s.creates = 0
  calls : s.calls = []
  locks : ∀ l, s.locks l = none
  pc : ∀ t, s.pc t = .start

theorem inv_fresh (cfg : Cfg) (s : State) (h : Fresh s) : Inv cfg s := by
  refine ⟨?_, ?_, ⟨?_, ?_, ?_⟩, ?_, ?_, ?_⟩
  · simp [h.uploadId, h.creates]
  · intro _ _; exact h.creates
  · intro t; simp [h.pc t, usesLock]
  · intro t; simp [h.pc t, inCS]
  · intro l t hl; rw [h.locks l] at hl; cases hl
  · intro t; rw [h.pc t]; trivial
  · intro c hc; rw [h.calls] at hc; cases hc
  · simp [h.calls, h.creates]

theorem inv_init (cfg : Cfg) : Inv cfg init :=
  inv_fresh cfg init ⟨rfl, rfl, rfl, fun _ => rfl, fun _ => rfl⟩

theorem LockInv.mutex {s : State} (hL : LockInv s) {t t' : Nat}
    (h : inCS (s.pc t) = true) (h' : inCS (s.pc t') = true) : t = t' := by
  have hm : s.mylock t = s.mylock t' :=
    Option.some.inj ((hL.sel t (usesLock_of_inCS h)).symm.trans (hL.sel t' (usesLock_of_inCS h')))
  have l1 := hL.holds t h
  rw [hm, hL.holds t' h'] at l1
  exact (Option.some.inj l1).symm

theorem LockInv.others_outside {s : State} (hL : LockInv s) {t : Nat} (h : inCS (s.pc t) = true)
    (t' : Nat) (hne : t' ≠ t) : inCS (s.pc t') = false :=
  Bool.eq_false_iff.2 fun hc => hne (hL.mutex hc h)

theorem LockInv.held_of_inCS {s : State} (hL : LockInv s) {t : Nat} (h : inCS (s.pc t) = true) :
    s.held = some t := by
  have e1 := hL.sel t (usesLock_of_inCS h)
  simp only [State.held, e1]
  exact hL.holds t h

/-- `PCok` only looks at the upload id, the create counter and membership in the call log. -/
theorem PCok_mono {cfg : Cfg} {s s' : State} {t : Nat} {p : PC}
    (hu : s'.uploadId = s.uploadId) (hc : s'.creates = s.creates)
    (hcalls : ∀ c, c ∈ s.calls → c ∈ s'.calls) (h : PCok cfg s t p) : PCok cfg s' t p := by
  cases p <;> simp only [PCok, hu, hc] at * <;> try exact h
  · exact ⟨h.1, h.2.1, hcalls _ h.2.2⟩
  · refine ⟨h.1, ?_⟩
    have h2 := h.2
    split <;> rename_i hk <;> rw [hk] at h2 <;> exact hcalls _ h2

/-- Outside the critical section nothing is assumed while the upload has not started. -/
theorem PCok_outside_zero {cfg : Cfg} {s s' : State} {t : Nat} {p : PC}
    (hcs : inCS p = false) (hz : s.uploadId = 0) (h : PCok cfg s t p) : PCok cfg s' t p := by
  cases p <;> simp [PCok, inCS, hz] at *

theorem lockinv_frame {s s' : State} {t : Nat} {p : PC} (hL : LockInv s)
    (hslot : s'.slot = s.slot) (hmy : s'.mylock = s.mylock) (hlocks : s'.locks = s.locks)
    (hpc : s'.pc = (s.goto t p).pc)
    (hcs : inCS p = inCS (s.pc t)) (hul : usesLock p = true → usesLock (s.pc t) = true) : LockInv s' := by
  refine ⟨?_, ?_, ?_⟩
  · intro t'
    rw [hpc, hslot, hmy]
    by_cases h : t' = t
    · rw [h, goto_pc_self]; exact fun hu => hL.sel t (hul hu)
    · rw [goto_pc_other _ _ h]; exact hL.sel t'
  · intro t'
    rw [hpc, hmy, hlocks]
    by_cases h : t' = t
    · rw [h, goto_pc_self, hcs]; exact hL.holds t
    · rw [goto_pc_other _ _ h]; exact hL.holds t'
  · intro l h
    rw [hpc, hslot, hlocks]
    intro hl
    have := hL.only l h hl
    refine ⟨this.1, ?_⟩
    by_cases e : h = t
    · rw [e, goto_pc_self, hcs]; rw [e] at this; exact this.2
    · rw [goto_pc_other _ _ e]; exact this.2

theorem pcs_goto {cfg : Cfg} {s s' : State} {t : Nat} {p : PC} (hpc : s'.pc = (s.goto t p).pc)
    (hu : s'.uploadId = s.uploadId) (hc : s'.creates = s.creates) (hcalls : s'.calls = s.calls)
    (hI : ∀ t', PCok cfg s t' (s.pc t')) (hp : PCok cfg s t p) : ∀ t', PCok cfg s' t' (s'.pc t') := by
  intro t'
  rw [hpc]
  by_cases h : t' = t
  · rw [h, goto_pc_self]; exact PCok_mono hu hc (fun _ hm => hcalls ▸ hm) hp
  · rw [goto_pc_other _ _ h]; exact PCok_mono hu hc (fun _ hm => hcalls ▸ hm) (hI t')

theorem inv_goto {cfg : Cfg} {s : State} {t : Nat} {p q : PC} (hI : Inv cfg s) (hq : s.pc t = q)
    (hcs : inCS p = inCS q) (hul : usesLock p = true → usesLock q = true) (hp : PCok cfg s t p) :
    Inv cfg (s.goto t p) :=
  ⟨hI.ids, hI.free, lockinv_frame hI.lk rfl rfl rfl rfl (hq ▸ hcs) (hq ▸ hul), pcs_goto rfl rfl rfl rfl hI.pcs hp,
    hI.calls, hI.count⟩

theorem inv_take_existing {cfg : Cfg} {s : State} {t l : Nat} {q : PC} (hI : Inv cfg s) (hq : s.pc t = q)
    (hout : usesLock q = false) (hslot : s.slot = some l) :
    Inv cfg ((s.setMy t l).goto t .acquire) := by
  subst hq
  have hncs : inCS (s.pc t) = false :=
    Bool.eq_false_iff.2 fun hc => Bool.false_ne_true (hout.symm.trans (usesLock_of_inCS hc))
  refine ⟨hI.ids, hI.free, ⟨?_, ?_, ?_⟩, pcs_goto rfl rfl rfl rfl hI.pcs trivial, hI.calls, hI.count⟩
  · intro t'
    by_cases h : t' = t
    · intro _; rw [h]; simpa using hslot
    · simp only [goto_pc_other _ _ h, goto_mylock, goto_slot, setMy_other _ _ h]
      exact hI.lk.sel t'
  · intro t'
    by_cases h : t' = t
    · rw [h]; simp [inCS]
    · simp only [goto_pc_other _ _ h, goto_mylock, goto_locks, setMy_other _ _ h]
      exact hI.lk.holds t'
  · intro l' h hl
    have := hI.lk.only l' h hl
    refine ⟨this.1, ?_⟩
    by_cases e : h = t
    · rw [e, hncs] at this; exact absurd this.2 (by simp)
    · simp only [goto_pc_other _ _ e]; exact this.2

/-- Thread `t` takes or gives back its lock object - the one in `_state`, held by nobody else; `hd` is the new holder. -/
theorem inv_setHolder {cfg : Cfg} {s : State} {t : Nat} {p : PC} {hd : Option Nat} (hI : Inv cfg s)
    (hsel : s.slot = some (s.mylock t)) (hown : ∀ h, s.locks (s.mylock t) = some h → h = t)
    (hin : inCS p = true → hd = some t) (hout : inCS p = false → hd = none)
    (hfree : hd = none → s.uploadId = 0 → s.creates = 0) (hp : PCok cfg s t p) :
    Inv cfg ((s.setHolder (s.mylock t) hd).goto t p) := by
  have hL := hI.lk
  refine ⟨hI.ids, fun h => hfree ?_, ⟨?_, ?_, ?_⟩, pcs_goto rfl rfl rfl rfl hI.pcs hp, hI.calls, hI.count⟩
  · simpa [State.held, State.setHolder, State.goto, hsel] using h
  · intro t'
    by_cases h : t' = t
    · intro _; rw [h]; exact hsel
    · rw [goto_pc_other _ _ h]; exact hL.sel t'
  · intro t'
    by_cases h : t' = t
    · rw [h, goto_pc_self]
      intro hc
      rw [hin hc]; exact setHolder_self s _ _
    · rw [goto_pc_other _ _ h]
      intro hc
      have hold := hL.holds t' hc
      have hne : s.mylock t' ≠ s.mylock t := fun e => h (hown t' (e ▸ hold))
      exact (setHolder_other s _ hne).trans hold
  · intro l' h hl'
    rw [goto_locks] at hl'
    by_cases e : l' = s.mylock t
    · subst e
      rw [setHolder_self] at hl'
      cases hc : inCS p with
      | true =>
        rw [hin hc] at hl'
        rw [← Option.some.inj hl', goto_pc_self]
        exact ⟨hsel, hc⟩
      | false => rw [hout hc] at hl'; cases hl'
    · rw [setHolder_other _ _ e] at hl'
      exact absurd (Option.some.inj ((hL.only l' h hl').1.symm.trans hsel)) e

theorem inv_release {cfg : Cfg} {s : State} {t : Nat} {p q : PC} (hI : Inv cfg s) (hq : s.pc t = q)
    (hcs : inCS q = true) (hout : inCS p = false) (hfree : s.uploadId = 0 → s.creates = 0)
    (hp : PCok cfg s t p) : Inv cfg ((s.setHolder (s.mylock t) none).goto t p) :=
  have hold := hI.lk.holds t (hq ▸ hcs)
  inv_setHolder hI (hI.lk.sel t (usesLock_of_inCS (hq ▸ hcs))) (fun _ e => Option.some.inj (e.symm.trans hold))
    (fun hc => nomatch hout.symm.trans hc) (fun _ => rfl) (fun _ => hfree) hp

theorem inv_call {cfg : Cfg} {s : State} {t : Nat} {c : Call} {p q : PC} (hI : Inv cfg s) (hq : s.pc t = q)
    (hid : c.id = 1) (hnc : c.isCreate = false) (hcs : inCS p = inCS q) (hul : usesLock p = usesLock q)
    (hp : PCok cfg { s with calls := c :: s.calls } t p) :
    Inv cfg ({ s with calls := c :: s.calls }.goto t p) := by
  subst hq
  refine ⟨hI.ids, hI.free, lockinv_frame hI.lk rfl rfl rfl rfl hcs (fun h => hul ▸ h), ?_, ?_, ?_⟩
  · intro t'
    by_cases h : t' = t
    · rw [h, goto_pc_self]; exact PCok_mono rfl rfl (fun _ hm => hm) hp
    · rw [goto_pc_other _ _ h]
      exact PCok_mono (s := s) rfl rfl (fun _ hm => List.mem_cons_of_mem _ hm) (hI.pcs t')
  · exact List.forall_mem_cons.2 ⟨hid, hI.calls⟩
  · show (c :: s.calls).countP Call.isCreate = s.creates
    rw [List.countP_cons_of_neg (by simp [hnc])]; exact hI.count

theorem step_inv (cfg : Cfg) (hr : cfg.recheck = true) (ha : cfg.atomicLock = true) (s : State) (t : Nat)
    (hI : Inv cfg s) : Inv cfg (step cfg s t) := by
  have hpt := hI.pcs t
  have hL := hI.lk
  have hids := hI.ids.1
  unfold step
  generalize hpc : s.pc t = q at hpt
  cases q with
  | start =>
    refine inv_goto hI hpc (by split <;> rfl) (by split <;> exact id) ?_
    split
    · show s.uploadId = 1
      omega
    · trivial
  | askClient => exact inv_goto hI hpc rfl id trivial
  | lockGet =>
    cases hs : s.slot with
    | some l => exact inv_take_existing hI hpc rfl hs
    | none => exact inv_goto hI hpc rfl id trivial
  | lockSetdefault =>
    simp only [ha]
    cases hs : s.slot with
    | some l => exact inv_take_existing hI hpc rfl hs
    | none =>
      -- `_state` was empty: storing a fresh lock object keeps the invariant; the thread then takes it like any other
      have hnone : ∀ l h, s.locks l = some h → False := fun l h hl => by
        have := (hL.only l h hl).1; rw [hs] at this; cases this
      have hnou : ∀ t', usesLock (s.pc t') = true → False := fun t' hu => by
        have := hL.sel t' hu; rw [hs] at this; cases this
      have hheld : s.held = none := by simp [State.held, hs]
      have h1 : Inv cfg { s with slot := some t } :=
        ⟨hI.ids, fun _ => hI.free hheld,
          ⟨fun t' hu => (hnou t' hu).elim, fun t' hc => (hnou t' (usesLock_of_inCS hc)).elim,
            fun l h hl => (hnone l h hl).elim⟩,
          fun t' => PCok_mono rfl rfl (fun _ h => h) (hI.pcs t'), hI.calls, hI.count⟩
      exact inv_take_existing h1 hpc rfl rfl
  | acquire =>
    cases hl : s.locks (s.mylock t) with
    | some h => exact hI
    | none =>
      simp only [hr, if_true]
      have hsel := hL.sel t (by rw [hpc]; rfl)
      exact inv_setHolder hI hsel (fun _ e => nomatch hl.symm.trans e) (fun _ => rfl) nofun nofun
        (hI.free (by simp [State.held, hsel, hl]))
  | recheck =>
    refine inv_goto hI hpc (by split <;> rfl) (by split <;> exact id) ?_
    split
    · exact ⟨rfl, by omega⟩
    · have h0 : s.uploadId = 0 := by omega
      exact ⟨h0, hpt h0⟩
  | initAssert =>
    dsimp only
    rw [if_pos hpt.1]
    exact inv_goto hI hpc rfl id hpt
  | create =>
    have hcs : inCS (s.pc t) = true := by rw [hpc]; rfl
    dsimp only
    by_cases hf : cfg.faultCreate t = true
    · rw [if_pos hf]
      exact inv_goto hI hpc rfl id hpt
    rw [if_neg hf]
    obtain ⟨hu0, hc0⟩ := hpt
    refine ⟨?_, ?_, lockinv_frame hL rfl rfl rfl rfl (by rw [hpc]; rfl) (fun _ => by rw [hpc]; rfl), ?_, ?_, ?_⟩
    · simp [hu0, hc0]
    · exact fun h => nomatch (hL.held_of_inCS hcs).symm.trans h
    · intro t'
      by_cases h : t' = t
      · subst h; simp [PCok, hu0, hc0]
      · simp only [goto_pc_other _ _ h]
        exact PCok_outside_zero (s := s) (hL.others_outside hcs t' h) hu0 (hI.pcs t')
    · exact List.forall_mem_cons.2 ⟨by simp [Call.id, hc0], hI.calls⟩
    · simp [List.countP_cons, Call.isCreate, hI.count]
  | setId id =>
    obtain ⟨rfl, hc1, hu0⟩ := hpt
    have hcs : inCS (s.pc t) = true := by rw [hpc]; rfl
    refine ⟨?_, ?_, lockinv_frame hL rfl rfl rfl rfl (by rw [hpc]; rfl) (fun _ => by rw [hpc]; rfl), ?_, hI.calls, hI.count⟩
    · simp [hc1]
    · intro _ h0; simp at h0
    · intro t'
      by_cases h : t' = t
      · subst h; simp [PCok]
      · simp only [goto_pc_other _ _ h]
        exact PCok_outside_zero (s := s) (hL.others_outside hcs t' h) hu0 (hI.pcs t')
  | release ok =>
    obtain ⟨rfl, hu1⟩ := hpt
    exact inv_release hI hpc rfl rfl (fun h0 => by omega) hu1
  | releaseFault =>
    exact inv_release hI hpc rfl rfl (fun _ => hpt.2) trivial
  | useAssert =>
    have hu1 : s.uploadId = 1 := hpt
    dsimp only
    rw [if_pos (show s.uploadId ≠ 0 by omega)]
    exact inv_goto hI hpc rfl id hu1
  | readId => exact inv_goto hI hpc rfl id ⟨hpt, hpt⟩
  | call id =>
    obtain ⟨rfl, hu1⟩ := hpt
    dsimp only
    by_cases hf : cfg.faultCall t = true
    · rw [if_pos hf]
      exact inv_goto hI hpc rfl id trivial
    rw [if_neg hf]
    -- the record of the call is in the log; a crashed thread assumes nothing
    by_cases hcr : cfg.crashCall t = true
    · rw [if_pos hcr]
      cases cfg.kind t <;> exact inv_call hI hpc rfl rfl rfl rfl trivial
    · rw [if_neg hcr]
      cases hk : cfg.kind t
      · exact inv_call hI hpc rfl rfl rfl rfl (by simp [PCok, hk, hu1])
      · exact inv_call hI hpc rfl rfl rfl rfl (by simp [PCok, hk, hu1])
  | askClient2 =>
    obtain ⟨hu1, hk, hm⟩ := hpt
    refine inv_goto hI hpc rfl id ⟨hu1, ?_⟩
    rw [hk]; exact hm
  | done | failed | faulted => exact hI

theorem runFrom_inv (cfg : Cfg) (hr : cfg.recheck = true) (ha : cfg.atomicLock = true) (sched : List Nat)
    (s : State) (h : Inv cfg s) : Inv cfg (runFrom cfg s sched) :=
  List.foldlRecOn (motive := Inv cfg) sched (step cfg) h fun s hs t _ => step_inv cfg hr ha s t hs

/-- rank of a program point: an upper bound on the steps a thread at `p` can still take (14 from `start`); every
enabled step lowers it (`step_decreases`), shortcuts such as `start → useAssert` by more than one -/
def remaining : PC → Nat
  | .start => 14 | .askClient => 13 | .lockGet => 12 | .lockSetdefault => 11 | .acquire => 10
  | .recheck => 9 | .initAssert => 8
  | .create => 7 | .setId _ => 6 | .release _ => 5 | .useAssert => 4 | .readId => 3
  | .call _ => 2 | .askClient2 => 1 | .releaseFault => 5 | .done => 0 | .failed => 0 | .faulted => 0

/-- The one case analysis of `step` for what it does to the program counters: a thread that is not enabled stutters;
an enabled one moves to a program point of lower rank, and whatever else changes (`x`), nobody else's program point
does. -/
theorem step_cases (cfg : Cfg) (s : State) (t : Nat) {motive : State → Prop}
    (stutter : enabled s t = false → motive s)
    (move : ∀ (x : State) (p : PC), x.pc = s.pc → enabled s t = true → remaining p < remaining (s.pc t) →
      motive (x.goto t p)) :
    motive (step cfg s t) := by
  unfold step
  unfold enabled at stutter move
  generalize s.pc t = q at stutter move ⊢
  cases q with
  | done | failed | faulted => exact stutter rfl
  | acquire =>
    cases hl : s.locks (s.mylock t) with
    | some _ => exact stutter (by rw [hl]; rfl)
    | none => exact move _ _ rfl (by rw [hl]; rfl) (by split <;> decide)
  | start | recheck | initAssert | useAssert => exact move _ _ rfl rfl (by split <;> decide)
  | release _ => exact move _ _ rfl rfl (by split <;> simp [remaining])
  | lockGet => cases s.slot <;> exact move _ _ rfl rfl (by decide)
  | lockSetdefault => cases cfg.atomicLock <;> cases s.slot <;> exact move _ _ rfl rfl (by decide)
  | create => cases cfg.faultCreate t <;> exact move _ _ rfl rfl (by simp [remaining])
  | call _ =>
    cases cfg.faultCall t <;> cases cfg.crashCall t <;> cases cfg.kind t <;>
      exact move _ _ rfl rfl (by simp [remaining])
  | _ => exact move _ _ rfl rfl (by simp [remaining])

theorem step_pc_other (cfg : Cfg) (s : State) {t t' : Nat} (h : t' ≠ t) :
    (step cfg s t).pc t' = s.pc t' :=
  step_cases cfg s t (motive := fun s' => s'.pc t' = s.pc t') (fun _ => rfl)
    fun x p hx _ _ => (goto_pc_other x p h).trans (congrFun hx t')

theorem runFrom_pc_unscheduled (cfg : Cfg) (sched : List Nat) (t : Nat) (ht : t ∉ sched) (s : State) :
    (runFrom cfg s sched).pc t = s.pc t :=
  List.foldlRecOn (motive := fun s' => s'.pc t = s.pc t) sched (step cfg) rfl
    fun s' hs u hu => (step_pc_other cfg s' fun e : t = u => ht (e ▸ hu)).trans hs

theorem step_of_not_enabled (cfg : Cfg) (s : State) (t : Nat) (h : enabled s t = false) :
    step cfg s t = s :=
  step_cases cfg s t (motive := fun s' => s' = s) (fun _ => rfl) fun _ _ _ he => nomatch h.symm.trans he

theorem enabled_of_inCS (s : State) (t : Nat) (h : inCS (s.pc t) = true) : enabled s t = true := by
  unfold enabled
  revert h
  cases s.pc t <;> first | exact fun _ => rfl | exact nofun

theorem all_done_of_stuck (cfg : Cfg) (s : State) (hI : Inv cfg s) (T : List Nat)
    (hT : ∀ t, s.pc t ≠ .start → t ∈ T) (hmax : ∀ t ∈ T, enabled s t = false) :
    ∀ t ∈ T, s.pc t = .done ∨ s.pc t = .faulted := by
  intro t ht
  have hen := hmax t ht
  have hok := hI.pcs t
  unfold enabled at hen
  generalize s.pc t = q at hen hok ⊢
  cases q with
  | done => exact .inl rfl
  | faulted => exact .inr rfl
  | failed => exact hok.elim
  | acquire =>
    -- blocked: the holder is inside the block, hence in `T` and enabled
    cases hl : s.locks (s.mylock t) with
    | none => rw [hl] at hen; cases hen
    | some h =>
      have hcs : inCS (s.pc h) = true := (hI.lk.only _ h hl).2
      have hh : h ∈ T := hT h fun e => by rw [e] at hcs; cases hcs
      exact absurd ((hmax h hh).symm.trans (enabled_of_inCS s h hcs)) nofun
  | _ => cases hen

theorem step_decreases (cfg : Cfg) (s : State) (t : Nat) (h : enabled s t = true) :
    remaining ((step cfg s t).pc t) < remaining (s.pc t) :=
  step_cases cfg s t (motive := fun s' => remaining (s'.pc t) < remaining (s.pc t))
    (fun hn => nomatch hn.symm.trans h) fun x p _ _ hr => (goto_pc_self x t p).symm ▸ hr

/-- An exception ending thread `t` anywhere but between the service's answer and the assignment of the id keeps the
invariant of the in-process protocol (the `with` block releases the lock on the way out). -/
theorem crash_inv (cfg : Cfg) (s : State) (t : Nat) (hI : Inv cfg s) (hw : inWindow (s.pc t) = false) :
    Inv cfg (crash s t) := by
  have hL := hI.lk
  have hpt := hI.pcs t
  unfold crash
  by_cases hcs : inCS (s.pc t) = true
  · have hfree : s.uploadId = 0 → s.creates = 0 := by
      intro hu
      generalize s.pc t = q at hpt hcs hw
      cases q with
      | recheck => exact hpt hu
      | initAssert | create | releaseFault => exact hpt.2
      | release _ => rw [hpt.2] at hu; cases hu
      | setId _ => cases hw
      | _ => cases hcs
    rw [if_pos (hL.holds t hcs)]
    exact inv_release hI rfl hcs rfl hfree trivial
  · have hcs' : inCS (s.pc t) = false := by simpa using hcs
    have hnh : s.locks (s.mylock t) ≠ some t := fun h => nomatch hcs'.symm.trans (hL.only _ _ h).2
    rw [if_neg hnh]
    exact inv_goto hI rfl hcs'.symm nofun trivial

theorem runEv_inv (cfg : Cfg) (hr : cfg.recheck = true) (ha : cfg.atomicLock = true) (evs : List Ev) :
    ∀ s, Inv cfg s → crashesOutsideWindow cfg s evs = true → Inv cfg (runEv cfg s evs) := by
  induction evs with
  | nil => intro s h _; exact h
  | cons e rest ih =>
    intro s h hc
    cases e with
    | step t => exact ih _ (step_inv cfg hr ha s t h) hc
    | crash t =>
      simp only [crashesOutsideWindow, Bool.and_eq_true, Bool.not_eq_true'] at hc
      exact ih _ (crash_inv cfg s t h hc.1) hc.2

end Local

end OdcGeo.C18
