/- For C01: symmetry of the CRS comparisons, the guard as a proposition on the operand list (`AllEq`) and each walk of `Model/C01` against it:
all CRSs agree → the computation on the raw shapes, otherwise an error. -/
import OdcGeo.Model.C01
namespace OdcGeo.C01

/-- `Nodup` of a table of names from a hypothesis that `decide` evaluates cheaply: two strings are compared only
when their byte sizes agree (comparing strings is what costs the kernel) -/
theorem nodup_of_sized {l : List String}
    (h : l.Pairwise fun a b => a.utf8ByteSize ≠ b.utf8ByteSize ∨ a ≠ b) : l.Nodup :=
  h.imp fun h e => h.elim (fun hs => hs (congrArg _ e)) (fun hn => hn e)

theorem crsEq_symm' (a b : CrsRec) : crsEq a b = crsEq b a := by
  simp only [crsEq, eq_comm (a := a.objId), and_comm (a := a.epsg ≠ 0), eq_comm (a := a.epsg), eq_comm (a := a.str),
    eq_comm (a := a.cls)]

theorem tagEq_refl (t : Tag) : tagEq t t = true := by
  cases t with
  | none => rfl
  | some a => exact if_pos rfl

theorem tagEq_symm (a b : Tag) : tagEq a b = tagEq b a := by
  cases a <;> cases b <;> first | rfl | exact crsEq_symm' _ _

theorem tagNe_symm (a b : Tag) : tagNe a b = tagNe b a := congrArg (!·) (tagEq_symm a b)

theorem tagNe_false_iff (a b : Tag) : tagNe a b = false ↔ tagEq a b = true := by
  unfold tagNe; cases tagEq a b <;> decide

theorem tagNe_true_iff (a b : Tag) : tagNe a b = true ↔ tagEq a b = false := by
  unfold tagNe; cases tagEq a b <;> decide

/-- well-formedness (`WF`) lifted to optional CRSs -/
def TagWF : Tag → Tag → Prop
  | some a, some b => WF a b
  | _, _ => True

variable {S R : Type}

/-- the guard as a proposition on the operand list -/
def AllEq (t0 : Tag) (xs : List (Obj S)) : Prop := ∀ x ∈ xs, tagEq t0 x.crs = true

theorem allEq_nil (t0 : Tag) : AllEq t0 ([] : List (Obj S)) := fun _ h => nomatch h

theorem allEq_cons {t0 : Tag} {x : Obj S} {xs : List (Obj S)} :
    AllEq t0 (x :: xs) ↔ tagEq t0 x.crs = true ∧ AllEq t0 xs := List.forall_mem_cons

theorem not_allEq_of_mismatch {t0 : Tag} {xs : List (Obj S)} (h : ∃ x ∈ xs, tagNe t0 x.crs = true) :
    ¬ AllEq t0 xs := fun hall =>
  let ⟨x, hx, hne⟩ := h
  Bool.false_ne_true ((tagNe_true_iff _ _).mp hne ▸ hall x hx)

theorem guard_cond (rev : Bool) (t0 : Tag) (x : Obj S) :
    (if rev then tagNe x.crs t0 else tagNe t0 x.crs) = tagNe t0 x.crs := by
  cases rev
  · rfl
  · exact tagNe_symm x.crs t0

/-- every loop compares `t0` with the next operand first: either they differ and the loop raises, or
they agree and the loop goes on -/
theorem step_cases {P : Prop} (t0 : Tag) (x : Obj S) (xs : List (Obj S))
    (hne : tagNe t0 x.crs = true → ¬ AllEq t0 (x :: xs) → P)
    (heq : tagNe t0 x.crs = false → (AllEq t0 (x :: xs) ↔ AllEq t0 xs) → P) : P := by
  cases h : tagNe t0 x.crs
  · have hx := (tagNe_false_iff _ _).mp h
    exact heq h ⟨fun ha => (allEq_cons.mp ha).2, fun ha => allEq_cons.mpr ⟨hx, ha⟩⟩
  · exact hne h fun ha => Bool.false_ne_true ((tagNe_true_iff _ _).mp h ▸ (allEq_cons.mp ha).1)

theorem guardAll_spec (rev : Bool) (e : Err) (t0 : Tag) (xs : List (Obj S)) :
    (AllEq t0 xs → guardAll rev e t0 xs = .ok ()) ∧ (¬ AllEq t0 xs → guardAll rev e t0 xs = .error e) := by
  induction xs with
  | nil => exact ⟨fun _ => rfl, fun h => absurd (allEq_nil t0) h⟩
  | cons x xs ih =>
    unfold guardAll
    rw [guard_cond]
    refine step_cases t0 x xs (fun hne hna => ?_) (fun heq hiff => ?_)
    · rw [hne]; exact ⟨fun h => absurd h hna, fun _ => rfl⟩
    · rw [heq, hiff]; exact ih

theorem reduceGo_spec (D : Delegate S R) (name : String) (e : Err) (t0 : Tag) (xs : List (Obj S)) :
    ∀ acc : R, (AllEq t0 xs → reduceGo D name e t0 acc xs = rawReduce D name acc (xs.map (·.raw))) ∧
      (¬ AllEq t0 xs → ∃ e', reduceGo D name e t0 acc xs = .error e' ∧
        ((∀ acc s, ∃ acc', D.step name acc s = .ok acc') → e' = e)) := by
  induction xs with
  | nil => exact fun acc => ⟨fun _ => rfl, fun h => absurd (allEq_nil t0) h⟩
  | cons x xs ih =>
    intro acc
    unfold reduceGo
    refine step_cases t0 x xs (fun hne hna => ?_) (fun heq hiff => ?_)
    · rw [hne]; exact ⟨fun h => absurd h hna, fun _ => ⟨e, rfl, fun _ => rfl⟩⟩
    · rw [heq, hiff, List.map_cons, rawReduce]
      cases hs : D.step name acc x.raw with
      | error e' => exact ⟨fun _ => rfl, fun _ => ⟨e', rfl, fun htot => by
          obtain ⟨_, h⟩ := htot acc x.raw; rw [hs] at h; cases h⟩⟩
      | ok acc' => exact ih acc'

theorem foldGo_spec (D : Delegate S R) (name : String) (e : Err) (t0 : Tag) (xs : List (Obj S)) :
    ∀ acc : R, (AllEq t0 xs → foldGo D name e t0 acc xs = .ok (rawFold D name acc (xs.map (·.raw)))) ∧
      (¬ AllEq t0 xs → foldGo D name e t0 acc xs = .error e) := by
  induction xs with
  | nil => exact fun acc => ⟨fun _ => rfl, fun h => absurd (allEq_nil t0) h⟩
  | cons x xs ih =>
    intro acc
    unfold foldGo
    refine step_cases t0 x xs (fun hne hna => ?_) (fun heq hiff => ?_)
    · rw [hne]; exact ⟨fun h => absurd h hna, fun _ => rfl⟩
    · rw [heq, hiff]; exact ih _

theorem pixGo_spec (D : Delegate S R) (name : String) (e : Err) (ref : Obj S) (xs : List (Obj S)) :
    (AllEq ref.crs xs → pixGo D name e ref xs = rawPix D name ref.raw (xs.map (·.raw))) ∧
      (¬ AllEq ref.crs xs → ∃ e', pixGo D name e ref xs = .error e' ∧
        ((∀ s r, ∃ b, D.pix name s r = .ok b) → e' = e)) := by
  induction xs with
  | nil => exact ⟨fun _ => rfl, fun h => absurd (allEq_nil _) h⟩
  | cons x xs ih =>
    unfold pixGo
    rw [tagNe_symm]
    refine step_cases ref.crs x xs (fun hne hna => ?_) (fun heq hiff => ?_)
    · rw [hne]; exact ⟨fun h => absurd h hna, fun _ => ⟨e, rfl, fun _ => rfl⟩⟩
    · rw [heq, hiff, List.map_cons, rawPix]
      cases hp : D.pix name x.raw ref.raw with
      | error e' => exact ⟨fun _ => rfl, fun _ => ⟨e', rfl, fun htot => by
          obtain ⟨_, h⟩ := htot x.raw ref.raw; rw [hp] at h; cases h⟩⟩
      | ok b =>
        refine ⟨fun h => by rw [ih.1 h]; rfl, fun h => ?_⟩
        obtain ⟨e', he, htot⟩ := ih.2 h
        exact ⟨e', by rw [he]; rfl, htot⟩

end OdcGeo.C01
