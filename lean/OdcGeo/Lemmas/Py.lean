/-
Python's scalar builtins as the models use them: `math.floor` / `math.ceil` on exact rationals, `abs`, `int(x)`, `round(x)`
(in the spelling of the translator prelude, `Gen/PyPrelude.lean`; a model's own copy is that definition, by `rfl` or by
`trunc_eq_neg_floor_neg`, wherever a proof needs it), an integer within half a unit, and `min(xs)` / `max(xs)` as a left fold.
-/
import OdcGeo.Gen.PyPrelude
import Mathlib.Tactic.Linarith
import Mathlib.Algebra.Order.Field.Rat
import Mathlib.Algebra.Order.Group.Abs

namespace OdcGeo

theorem floor_bounds (x : Rat) : (x.floor : Rat) ≤ x ∧ x < x.floor + 1 :=
  ⟨Rat.floor_le x, by exact_mod_cast Rat.lt_floor_add_one x⟩

theorem ceil_bounds (x : Rat) : x ≤ x.ceil ∧ (x.ceil : Rat) < x + 1 := ⟨Rat.le_ceil, Rat.ceil_lt⟩

theorem floor_eq_iff {x : Rat} {k : Int} : x.floor = k ↔ (k : Rat) ≤ x ∧ x < (k : Rat) + 1 := by
  rw [← Rat.le_floor_iff, ← Int.cast_one, ← Int.cast_add, ← Rat.floor_lt_iff]; omega

theorem ceil_eq_iff {x : Rat} {k : Int} : x.ceil = k ↔ (k : Rat) - 1 < x ∧ x ≤ (k : Rat) := by
  rw [← Rat.ceil_le_iff, ← Int.cast_one, ← Int.cast_sub, ← Rat.lt_ceil_iff]; omega

/-- the ceiling of a quotient of integers, in integer terms -/
theorem ceil_intCast_div_eq_iff {N n T : Int} (hn : 0 < n) :
    ((N : Rat) / n).ceil = T ↔ (T - 1) * n < N ∧ N ≤ T * n := by
  have hnq : (0 : Rat) < n := Int.cast_pos.mpr hn
  rw [ceil_eq_iff, lt_div_iff₀ hnq, div_le_iff₀ hnq]
  norm_cast

/-- the pixel that holds a pixel centre -/
theorem floor_add_half (k : Int) : ((k : Rat) + 1 / 2).floor = k :=
  floor_eq_iff.mpr ⟨le_add_of_nonneg_right (by norm_num), add_lt_add_right (by norm_num) _⟩

/-! ### an integer within half a unit -/

theorem one_le_abs_intCast {k : Int} (hk : k ≠ 0) : (1 : Rat) ≤ |(k : Rat)| := by
  exact_mod_cast Int.one_le_abs hk

theorem intCast_eq_of_abs_sub_lt {k j : Int} (h : |(k : Rat) - j| < 1) : k = j := by
  by_contra hne
  have := one_le_abs_intCast (sub_ne_zero.mpr hne)
  rw [Int.cast_sub] at this
  exact this.not_gt h

/-- an integer within `1/2` of `x` is a nearest one -/
theorem abs_sub_intCast_le {x : Rat} {k : Int} (hk : |x - k| ≤ 1 / 2) (n : Int) : |x - k| ≤ |x - n| := by
  rcases eq_or_ne k n with rfl | hn
  · exact le_rfl
  · have h1 := one_le_abs_intCast (sub_ne_zero.mpr hn)
    rw [Int.cast_sub] at h1
    linarith only [h1, abs_sub_le (k : Rat) x n, abs_sub_comm (k : Rat) x, hk]

/-- … and the only one, if one of the two is closer than `1/2` -/
theorem intCast_eq_of_near {x : Rat} {k j : Int} (hk : |x - k| ≤ 1 / 2) (hj : |x - j| < 1 / 2) : k = j :=
  intCast_eq_of_abs_sub_lt (by linarith only [abs_sub_le (k : Rat) x j, abs_sub_comm (k : Rat) x, hk, hj])

/-! ### `min(xs)`, `max(xs)`: the fold attains a bound of the seed and the list -/

theorem foldl_min_spec {α : Type} [LinearOrder α] (l : List α) (a : α) :
    l.foldl min a ∈ a :: l ∧ ∀ x ∈ a :: l, l.foldl min a ≤ x := by
  induction l generalizing a with
  | nil => exact ⟨List.mem_cons_self, fun x hx => (List.mem_singleton.mp hx).ge⟩
  | cons y ys ih =>
    obtain ⟨hm, hl⟩ := ih (min a y)
    have h0 := hl _ List.mem_cons_self
    refine ⟨?_, List.forall_mem_cons.mpr ⟨h0.trans (min_le_left a y), List.forall_mem_cons.mpr
      ⟨h0.trans (min_le_right a y), fun x hx => hl x (List.mem_cons_of_mem _ hx)⟩⟩⟩
    rcases List.mem_cons.mp hm with h | h
    · rw [List.foldl_cons, h]
      rcases min_choice a y with e | e <;> rw [e]
      · exact List.mem_cons_self
      · exact List.mem_cons_of_mem _ List.mem_cons_self
    · exact List.mem_cons_of_mem _ (List.mem_cons_of_mem _ h)

/-- `max` is `min` in the dual order -/
theorem foldl_max_spec {α : Type} [LinearOrder α] (l : List α) (a : α) :
    l.foldl max a ∈ a :: l ∧ ∀ x ∈ a :: l, x ≤ l.foldl max a :=
  foldl_min_spec (α := αᵒᵈ) l a

namespace Gen.Py

theorem absR_eq_abs (x : Rat) : absR x = |x| := by
  unfold absR
  split
  · rw [abs_of_neg ‹_›]
  · rw [abs_of_nonneg (not_lt.mp ‹_›)]

/-! ### `int(x)` -/

theorem trunc_of_nonneg {x : Rat} (h : 0 ≤ x) : trunc x = x.floor := if_pos h

theorem trunc_of_neg {x : Rat} (h : x < 0) : trunc x = x.ceil := if_neg (not_le.mpr h)

theorem trunc_intCast (k : Int) : trunc (k : Rat) = k := by
  unfold trunc; split
  · exact Rat.floor_intCast k
  · exact Rat.ceil_intCast k

/-- the other spelling of truncation the models use: `-⌊-x⌋` below zero -/
theorem trunc_eq_neg_floor_neg (x : Rat) : trunc x = if x < 0 then -((-x).floor) else x.floor := by
  split
  · rw [trunc_of_neg ‹_›, Rat.ceil_eq_neg_floor_neg]
  · exact trunc_of_nonneg (not_lt.mp ‹_›)

/-- `int(x)` has the sign of `x` and lies less than one from it, towards zero -/
theorem trunc_spec (x : Rat) :
    (0 ≤ x → 0 ≤ trunc x ∧ (trunc x : Rat) ≤ x ∧ x < (trunc x : Rat) + 1) ∧
    (x < 0 → trunc x ≤ 0 ∧ x ≤ (trunc x : Rat) ∧ (trunc x : Rat) < x + 1) := by
  refine ⟨fun h => ?_, fun h => ?_⟩
  · rw [trunc_of_nonneg h]
    exact ⟨Rat.le_floor_iff.mpr (by rwa [Int.cast_zero]), floor_bounds x⟩
  · rw [trunc_of_neg h]
    exact ⟨Rat.ceil_le_iff.mpr (by rw [Int.cast_zero]; exact h.le), ceil_bounds x⟩

/-! ### `round(x)` -/

/-- Python `round`: a nearest integer, the even one on a tie -/
theorem roundHalfEven_spec (x : Rat) :
    |x - roundHalfEven x| ≤ 1 / 2 ∧ (|x - roundHalfEven x| = 1 / 2 → roundHalfEven x % 2 = 0) := by
  unfold roundHalfEven
  have f1 := sub_nonneg.mpr (floor_bounds x).1
  have f2 := (floor_bounds x).2
  simp only
  split_ifs with h1 h2 h3
  · rw [abs_of_nonneg f1]
    exact ⟨h1.le, fun h => absurd h h1.ne⟩
  · rw [Int.cast_add, Int.cast_one, abs_of_nonpos (sub_nonpos.mpr f2.le)]
    exact ⟨by linarith, fun h => by linarith⟩
  · rw [abs_of_nonneg f1]
    exact ⟨not_lt.mp h2, fun _ => h3⟩
  · rw [Int.cast_add, Int.cast_one, abs_of_nonpos (sub_nonpos.mpr f2.le)]
    exact ⟨by linarith, fun _ => by omega⟩

theorem roundHalfEven_err (x : Rat) : |(roundHalfEven x : Rat) - x| ≤ 1 / 2 :=
  abs_sub_comm x _ ▸ (roundHalfEven_spec x).1

/-- … so `round` returns the integer that is less than half a unit away -/
theorem roundHalfEven_near {x : Rat} {k : Int} (h : |x - k| < 1 / 2) : roundHalfEven x = k :=
  intCast_eq_of_near (roundHalfEven_spec x).1 h

theorem roundHalfEven_intCast (k : Int) : roundHalfEven (k : Rat) = k :=
  roundHalfEven_near (by rw [sub_self, abs_zero]; norm_num)

end Gen.Py
end OdcGeo
