/- Link lemmas between the C08 model (`from_bbox`, `snap_grid`) and the C02 model's own tight-snapping
helper used by `zoom_to(resolution=)`. -/
import OdcGeo.Model.C02
import OdcGeo.Lemmas.C08

namespace OdcGeo.C08
open OdcGeo.C20 (maybeInt maybeInt? snapGrid)

/-- C02's `snapCeil` ("drop a fractional part below `tol`, else round up") is `ceil(maybe_int(q, tol))`
for `tol ≤ ½`, whatever the sign of `q`. -/
theorem snapCeil_eq (q tol : Rat) (ht : tol ≤ 1 / 2) : C02.snapCeil q tol = (maybeInt q tol).ceil := by
  unfold C02.snapCeil
  cases hm : maybeInt? q tol with
  | none =>
    rw [C20.maybeInt_of_none hm]
    have h := C20.maybeInt?_none hm q.floor
    rw [abs_of_nonneg (sub_nonneg.mpr (Rat.floor_le q))] at h
    rw [if_neg (not_lt.mpr h)]
  | some k =>
    rw [C20.maybeInt_of_some hm, Rat.ceil_intCast]
    obtain ⟨lo, hi⟩ := abs_lt.mp (C20.maybeInt?_some hm).2.1
    rcases le_or_gt (k : Rat) q with hkq | hkq
    · -- `k` is the floor, the fractional part is the distance to it
      have hf : q.floor = k := floor_eq_iff.2 ⟨hkq, by linarith only [hi, ht]⟩
      rw [hf, if_pos hi]
    · -- `k` is the ceiling, the floor is `k - 1` and the fractional part is above `½`
      have hf : q.floor = k - 1 :=
        floor_eq_iff.2 ⟨by push_cast; linarith only [lo, ht], by push_cast; linarith only [hkq]⟩
      have hc : q.ceil = k := ceil_eq_iff.2 ⟨by linarith only [lo, ht], hkq.le⟩
      rw [hf, hc, if_neg]
      push_cast
      linarith only [lo, ht]

theorem snapGridTight_eq (x0 x1 res tol : Rat) (ht : tol ≤ 1 / 2) :
    C02.snapGridTight x0 x1 res tol = snapGrid x0 x1 res none tol := by
  unfold C02.snapGridTight snapGrid
  simp only
  split
  · rw [snapCeil_eq _ _ ht]
  · split
    · rfl
    · rw [snapCeil_eq _ _ ht]

theorem min4_le_max4 (a b c d : Rat) : C02.min4 a b c d ≤ C02.max4 a b c d := by
  unfold C02.min4 C02.max4
  exact le_trans (min_le_left _ _) (le_trans (min_le_left _ _) (le_trans (le_max_left _ _) (le_max_left _ _)))

theorem boundingbox_valid (g : C02.GeoBox) :
    (C02.boundingbox g).left ≤ (C02.boundingbox g).right ∧ (C02.boundingbox g).bottom ≤ (C02.boundingbox g).top :=
  ⟨min4_le_max4 _ _ _ _, min4_le_max4 _ _ _ _⟩

theorem tolSnap_bounds : 0 < C02.tolSnap ∧ C02.tolSnap < 1 / 2 := by decide +kernel

/-- **Composition with C02: `GeoBox.zoom_to(resolution=(rx, ry))` *is* `from_bbox`** of the geobox's bounding box with
`tight=True` (so whatever anchor: it is ignored) and the default `tol = 0.01`.  C02 models the call with its own
tight-snapping helper; this identifies it with the C08 model of `from_bbox`, for every geobox (rotated ones included:
the bounding box is the hull of the four corner images) and every resolution (zero components raise
`ZeroDivisionError` on both sides). -/
theorem zoom_to_resolution_is_from_bbox (g : C02.GeoBox) (rx ry : Rat) (anchor : AnchorArg) :
    C02.zoomToRes g rx ry =
      (fromBbox ⟨(C02.boundingbox g).left, (C02.boundingbox g).bottom, (C02.boundingbox g).right,
                 (C02.boundingbox g).top⟩ true .none (.xy rx ry) anchor C02.tolSnap).map
        (fun h => (⟨h.ny, h.nx, h.affine, g.crs⟩ : C02.GeoBox)) := by
  have hsn : snapOf true (normAnchor anchor) = none := rfl
  rw [fromBbox_res_eq (rx := rx) (ry := ry) none_not_int rfl, hsn]
  unfold C02.zoomToRes
  simp only [Option.map_none, snapGridTight_eq _ _ _ _ tolSnap_bounds.2.le]
  cases snapGrid (C02.boundingbox g).left (C02.boundingbox g).right rx none C02.tolSnap with
  | error e => rfl
  | ok p => cases snapGrid (C02.boundingbox g).bottom (C02.boundingbox g).top ry none C02.tolSnap <;> rfl

end OdcGeo.C08
