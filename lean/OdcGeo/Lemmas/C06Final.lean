/-
C06: the finaliser (footer, header, final `flush`) and what the writer is owed.
-/
import OdcGeo.Lemmas.C06Inv


namespace OdcGeo.C06
variable {α : Type}

/-- what `flush` needs of the root chunk; weaker than `Inv` (the header merge resets `lhs_keep`) -/
structure PreFlush (W : Writer) (c : Chunk α) (lo : Nat) : Prop where
  unstarted : c.parts = [] → c.left = []
  left_len : c.parts ≠ [] → W.minWrite ≤ c.left.length
  credit : c.parts ≠ [] → c.data ≠ [] → 1 ≤ c.credits ∧ (c.next : Int) + c.credits ≤ W.maxPart + 1
  next_le : c.parts ≠ [] → c.next ≤ W.maxPart + 1
  ids : PartsOk lo c.next c.parts
  sizes : ∀ p ∈ c.parts, W.minWrite ≤ p.data.length

theorem PreFlush.of_unstarted (W : Writer) (lo : Nat) {c : Chunk α} (hp : c.parts = []) (hl : c.left = []) :
    PreFlush W c lo :=
  ⟨fun _ => hl, fun h => absurd hp h, fun h => absurd hp h, fun h => absurd hp h, hp ▸ PartsOk.nil _ _,
    fun p h => by rw [hp] at h; cases h⟩

variable {W : Writer} {c : Chunk α} {lo hi : Nat} {B : List α} {O : List (Nat × Int)} {fin : Bool}

theorem Inv.preFlush (h : Inv W c lo hi B O fin) (hhi : hi ≤ W.maxPart + 1) : PreFlush W c lo where
  unstarted hs := (h.unstarted hs).1
  left_len := h.left_len
  credit hs hd := by
    have := h.range
    refine ⟨?_, by omega⟩
    cases hf : c.isFinal
    · exact (h.started_nonfinal hs hf).1
    · exact h.started_final hs hf hd
  next_le _ := by
    have := h.range
    have := h.cred_nonneg
    omega
  ids := h.ids
  sizes := h.sizes

/-- what the writer is owed by the parts `fp` handed to `finalise` and the calls `wsAll` made -/
structure Written (W : Writer) (B : List α) (fp wsAll : List (Part α)) : Prop where
  bytes : partsBytes fp = B
  incr : fp.Pairwise (fun a b => a.id < b.id)
  range : ∀ p ∈ fp, W.minPart ≤ p.id ∧ p.id ≤ W.maxPart
  sizes : ∀ p ∈ fp.dropLast, W.minWrite ≤ p.data.length
  perm : List.Perm wsAll fp
  ne : fp ≠ []

theorem flush_spec (h : PreFlush W c lo) (hlo : W.minPart < lo)
    (hmm : W.minPart ≤ W.maxPart) :
    ∃ ws fp, flush W c (some W.minPart) = .ok (ws, fp) ∧
      Written W (c.left ++ partsBytes c.parts ++ c.data) fp (c.parts ++ ws) := by
  obtain ⟨h0, hl, hc, hnext, hids, hsz⟩ := h
  by_cases hs : c.parts = []
  · have e : flush W c (some W.minPart) = .ok ([⟨W.minPart, c.data⟩], c.parts ++ [⟨W.minPart, c.data⟩]) := by
      rw [flush, (started_eq_false_iff c).2 hs, h0 hs]; rfl
    exact ⟨_, _, e, by simp [hs, h0 hs], by simp [hs], by simp [hs, hmm], by simp [hs], by simp [hs], by simp⟩
  · -- first stage of `flush` (its `flush_rhs` call): the pending data, if any, becomes the part after the last one
    -- written; the second stage puts `left_data` in front as part `min_part`
    obtain ⟨c1, w1, nx, e1, hleft, hparts, hbytes, hok, hnx, hdl⟩ : ∃ c1 w1 nx,
        (if c.data.length ≠ 0 then flushRhs (some W) { c with isFinal := true } [] else .ok (c, [])) = .ok (c1, w1) ∧
        c1.left = c.left ∧ c1.parts = c.parts ++ w1 ∧ partsBytes w1 = c.data ∧ PartsOk lo nx (c.parts ++ w1) ∧
        nx ≤ W.maxPart + 1 ∧ ∀ p ∈ (c.parts ++ w1).dropLast, W.minWrite ≤ p.data.length := by
      by_cases hd : c.data.length = 0
      · refine ⟨c, [], c.next, if_neg (not_not.2 hd), rfl, (List.append_nil _).symm,
          (List.length_eq_zero_iff.1 hd).symm, by rwa [List.append_nil], hnext hs, fun p hp => ?_⟩
        rw [List.append_nil] at hp
        exact hsz p (List.dropLast_subset _ hp)
      · obtain ⟨hc1, hc2⟩ := hc hs (fun e => hd (by rw [e]; rfl))
        have hcf : canFlush W { c with isFinal := true } ((c.data ++ []).length) = true := by
          have : ¬ c.credits < 1 := by omega
          simp [canFlush, Chunk.started, this, hs]
        have hlon : lo ≤ c.next := by
          obtain ⟨p, hp⟩ := List.exists_mem_of_ne_nil _ hs
          have := hids.2 p hp; omega
        have e := flushRhs_of_canFlush (W := W) (c := { c with isFinal := true }) [] h0
          (show W.minPart ≤ c.next ∧ c.next ≤ W.maxPart by omega) hcf
        rw [keepLeft_started (c := { c with isFinal := true }) hs, List.append_nil, List.drop_zero] at e
        refine ⟨_, _, c.next + 1, (if_pos hd).trans e, by simp [Chunk.wrote], by simp [Chunk.wrote], by simp,
          PartsOk.snoc hids _ hlon, by omega, fun p hp => ?_⟩
        rw [List.dropLast_concat] at hp
        exact hsz p hp
    have hidr : ∀ p ∈ c.parts ++ w1, W.minPart < p.id ∧ p.id ≤ W.maxPart := fun p hp => by
      have := hok.2 p hp; omega
    have hne : c.parts ++ w1 ≠ [] := fun e => hs (List.append_eq_nil_iff.1 e).1
    have hb : partsBytes (c.parts ++ w1) = partsBytes c.parts ++ c.data := by rw [partsBytes_append, hbytes]
    rw [flush, (started_eq_true_iff c).2 hs, if_neg (by decide), e1]
    dsimp only
    rw [hleft, hparts]
    by_cases hlf : c.left.length = 0
    · rw [if_neg (not_not.2 hlf)]
      refine ⟨_, _, rfl, ?_⟩
      refine ⟨?_, hok.1, fun p hp => ⟨(hidr p hp).1.le, (hidr p hp).2⟩, hdl, List.Perm.refl _, hne⟩
      rw [hb, List.length_eq_zero_iff.1 hlf]; simp
    · have hlt : ¬ c.left.length < W.minWrite := by have := hl hs; omega
      rw [if_pos hlf, if_neg hlt]
      refine ⟨_, _, rfl, ?_⟩
      refine ⟨?_, List.pairwise_cons.2 ⟨fun p hp => (hidr p hp).1, hok.1⟩, fun p hp => ?_, fun p hp => ?_, ?_,
        List.cons_ne_nil _ _⟩
      · rw [partsBytes_cons, hb]; simp
      · rcases List.mem_cons.1 hp with rfl | hp
        · exact ⟨le_refl _, hmm⟩
        · exact ⟨(hidr p hp).1.le, (hidr p hp).2⟩
      · rw [List.dropLast_cons_of_ne_nil hne] at hp
        rcases List.mem_cons.1 hp with rfl | hp
        · exact hl hs
        · exact hdl p hp
      · simpa using (List.perm_append_singleton (⟨W.minPart, c.left⟩ : Part α) (c.parts ++ w1))

/-- the header stage of `_finalizer_dask_op` -/
def addHeader (root1 : Chunk α) (hdr : Option (List α)) : Res (Chunk α × List (Part α)) :=
  match hdr with
  | some h =>
    if h.length ≠ 0 then merge none ((mkChunk 1 1 false 0 : Chunk α).append h (-1)) root1
    else .ok (root1, [])
  | none => .ok (root1, [])

/-- the footer stage of `_finalizer_dask_op` -/
def addFooter (root : Chunk α) (ftr : Option (List α)) : Chunk α :=
  match ftr with
  | some f => if f.length ≠ 0 then root.append f (-1) else root
  | none => root

def optBytes : Option (List α) → List α
  | none => []
  | some b => b

theorem finalizer_eq (w : Option Writer) (root : Chunk α) (hdr ftr : Option (List α)) :
    finalizer w root hdr ftr =
      match addHeader (addFooter root ftr) hdr with
      | .error e => .error e
      | .ok (root2, w0) =>
        match w with
        | none => .ok (.chunk root2, w0)
        | some W =>
          match flush W root2 (some W.minPart) with
          | .error e => .error e
          | .ok (ws, fin) => .ok (.written ws fin, w0 ++ ws) := by
  unfold finalizer addHeader addFooter
  cases hdr <;> cases ftr <;> rfl

theorem addFooter_inv {root : Chunk α} (h : Inv W root lo hi B O fin) (ftr : Option (List α)) (hf : ftr ≠ none → fin = false) :
    ∃ O', Inv W (addFooter root ftr) lo hi (B ++ optBytes ftr) O' fin := by
  cases ftr with
  | none => exact ⟨O, by simpa [addFooter, optBytes] using h⟩
  | some f =>
    have hfin : fin = false := hf (by simp)
    subst hfin
    by_cases hl : f.length = 0
    · have : f = [] := List.length_eq_zero_iff.mp hl
      subst this
      exact ⟨O, by simpa [addFooter, optBytes] using h⟩
    · exact ⟨_, by simpa [addFooter, optBytes, hl] using append_inv h f (-1)⟩

theorem addHeader_spec {root1 : Chunk α} (h : PreFlush W root1 lo) (hdr : Option (List α)) :
    ∃ root2, addHeader root1 hdr = .ok (root2, []) ∧
      root2.left ++ partsBytes root2.parts ++ root2.data =
        optBytes hdr ++ (root1.left ++ partsBytes root1.parts ++ root1.data) ∧
      root2.parts = root1.parts ∧ PreFlush W root2 lo := by
  have base : ∃ root2, (.ok (root1, []) : Res (Chunk α × List (Part α))) = .ok (root2, []) ∧
      root2.left ++ partsBytes root2.parts ++ root2.data = [] ++ (root1.left ++ partsBytes root1.parts ++ root1.data) ∧
      root2.parts = root1.parts ∧ PreFlush W root2 lo := ⟨root1, rfl, rfl, rfl, h⟩
  rcases hdr with _ | hb
  · exact base
  by_cases hl : hb.length = 0
  · rw [List.length_eq_zero_iff.1 hl]; exact base
  have hlen : ¬ ([(hb.length, (-1 : Int))] ++ root1.observed).length = 0 := by simp
  have hH : (mkChunk 1 1 false 0 : Chunk α).append hb (-1) = ⟨1, 1, hb, [], [], [(hb.length, -1)], false, 0⟩ := rfl
  unfold addHeader
  dsimp only
  rw [if_pos hl, hH, merge]
  dsimp only
  rw [if_neg hlen]
  by_cases hs : root1.parts = []
  · rw [(started_eq_false_iff root1).2 hs, h.unstarted hs]
    exact ⟨_, rfl, by simp [optBytes, hs], hs.symm, .of_unstarted W lo rfl rfl⟩
  · rw [(started_eq_true_iff root1).2 hs]
    refine ⟨_, rfl, by simp [optBytes], rfl, { h with
      unstarted := fun hp => absurd hp hs
      left_len := fun _ => ?_ }⟩
    show W.minWrite ≤ ([] ++ ([] ++ hb ++ root1.left)).length
    have := h.left_len hs
    simp only [List.nil_append, List.length_append]; omega

theorem addFooter_fields (root : Chunk α) (ftr : Option (List α)) :
    (addFooter root ftr).parts = root.parts ∧ (addFooter root ftr).left = root.left ∧
      (addFooter root ftr).data = root.data ++ optBytes ftr := by
  rcases ftr with _ | f
  · exact ⟨rfl, rfl, (List.append_nil _).symm⟩
  · unfold addFooter
    dsimp only
    split
    · exact ⟨rfl, rfl, rfl⟩
    · rename_i h
      rw [optBytes, List.length_eq_zero_iff.1 (not_not.1 h)]
      exact ⟨rfl, rfl, (List.append_nil _).symm⟩

end OdcGeo.C06
