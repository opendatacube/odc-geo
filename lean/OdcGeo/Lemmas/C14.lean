/- Helper lemmas for C14: grid edges, floors and `pow2`, then `Bin1D` and `GridSpec` at exact arithmetic (`fl := id`); the constructors,
   the scan order and the `geobox_cache` for any rounding. -/
import OdcGeo.Model.C14
import OdcGeo.Model.C14Args
import OdcGeo.Lemmas.Py
import Mathlib.Tactic.Linarith
import Mathlib.Tactic.Ring
import Mathlib.Algebra.Order.Field.Basic
import Mathlib.Algebra.Order.Field.Rat
import Mathlib.Data.List.Nodup

namespace OdcGeo.C14

theorem floor_eq_of_abs_sub_le {q q' d : Rat} (h : |q' - q| ≤ d) (hlo : d ≤ q - (q.floor : Rat))
    (hhi : d < (q.floor : Rat) + 1 - q) : q'.floor = q.floor := by
  obtain ⟨h1, h2⟩ := abs_le.mp h
  exact floor_eq_iff.mpr ⟨by linarith, by linarith⟩

theorem edge_le_iff {T : Rat} (hT : 0 < T) (L x : Rat) (n : Int) :
    L + (n : Rat) * T ≤ x ↔ n ≤ ((x - L) / T).floor := by
  rw [Rat.le_floor_iff, le_div_iff₀ hT, le_sub_iff_add_le, add_comm]

theorem lt_edge_iff {T : Rat} (hT : 0 < T) (L x : Rat) (n : Int) :
    x < L + (n : Rat) * T ↔ ((x - L) / T).floor < n := by
  rw [← not_le, edge_le_iff hT, not_le]

theorem mem_rangeI (a b x : Int) : x ∈ rangeI a b ↔ a ≤ x ∧ x < b := by
  unfold rangeI
  simp only [List.mem_map, List.mem_range]
  constructor
  · rintro ⟨i, hi, rfl⟩; omega
  · intro h; exact ⟨(x - a).toNat, by omega, by omega⟩

theorem rangeI_nodup (a b : Int) : (rangeI a b).Nodup := by
  unfold rangeI
  exact List.Nodup.map (fun i j h => by simpa using h) (List.nodup_range)

/-- one axis of `idx_bounds`: the query `[l, r]` is probed at `l + tol` and `r - tol`, which may come in either order -/
theorem probe_mid (l r tol : Rat) :
    min (l + tol) (r - tol) ≤ (l + r) / 2 ∧ (l + r) / 2 ≤ max (l + tol) (r - tol) := by
  rcases le_total (l + tol) (r - tol) with h | h
  · rw [min_eq_left h, max_eq_right h]; constructor <;> linarith
  · rw [min_eq_right h, max_eq_left h]; constructor <;> linarith

theorem probe_span {l r tol : Rat} (ht : 0 ≤ tol) (hlr : l ≤ r) :
    l - tol ≤ min (l + tol) (r - tol) ∧ max (l + tol) (r - tol) ≤ r + tol :=
  ⟨le_min ((sub_le_self l ht).trans (le_add_of_nonneg_right ht)) (sub_le_sub_right hlr tol),
    max_le (add_le_add hlr le_rfl) ((sub_le_self r ht).trans (le_add_of_nonneg_right ht))⟩

theorem pow2_eq_zpow (e : Int) : pow2 e = (2 : Rat) ^ e := by
  unfold pow2
  split_ifs with h
  · rw [Nat.cast_pow, Nat.cast_ofNat, ← zpow_natCast, Int.toNat_of_nonneg h]
  · rw [Nat.cast_pow, Nat.cast_ofNat, one_div, ← zpow_natCast, Int.toNat_of_nonneg (by omega), ← zpow_neg, neg_neg]

theorem pow2_pos (e : Int) : 0 < pow2 e := pow2_eq_zpow e ▸ zpow_pos two_pos e

theorem pow2_nat (j : Nat) : pow2 (j : Int) = (2 : Rat) ^ j := by rw [pow2_eq_zpow, zpow_natCast]

theorem pow2_negNat (j : Nat) : pow2 (-(j : Int)) = 1 / (2 : Rat) ^ j := by
  rw [pow2_eq_zpow, zpow_neg, zpow_natCast, one_div]

theorem pow2_add_nat (e : Int) (n : Nat) : pow2 (e + n) = 2 ^ n * pow2 e := by
  rw [pow2_eq_zpow, pow2_eq_zpow, zpow_add₀ (by norm_num : (2 : Rat) ≠ 0), zpow_natCast, mul_comm]

theorem pow2_sub (a b : Int) : pow2 (a - b) = pow2 a / pow2 b := by
  rw [pow2_eq_zpow, pow2_eq_zpow, pow2_eq_zpow, zpow_sub₀ (by norm_num : (2 : Rat) ≠ 0)]

theorem pyFloatMod_pos {a b : Rat} (hb : 0 < b) :
    ∃ r, pyFloatMod id a b = .ok r ∧ 0 ≤ r ∧ r < b ∧ ∃ n : Int, a = (n : Rat) * b + r := by
  unfold pyFloatMod
  simp only [if_neg hb.ne', id, decide_eq_false (not_lt.mpr hb.le), Bool.false_bne, decide_eq_true_eq]
  -- truncated division leaves a remainder `m` with `|m| < b`; a negative one is moved into `[0, b)` by the sign fix-up
  generalize ht : (if 0 ≤ a / b then (a / b).floor else (a / b).ceil) = t
  have hq : a / b * b = a := div_mul_cancel₀ a hb.ne'
  have h : -b < a - t * b ∧ a - t * b < b := by
    subst ht; split
    · have h1 := mul_le_mul_of_nonneg_right (floor_bounds (a / b)).1 hb.le
      have h2 := mul_lt_mul_of_pos_right (floor_bounds (a / b)).2 hb
      constructor <;> linarith
    · have h1 := mul_lt_mul_of_pos_right (Rat.ceil_lt (x := a / b)) hb
      have h2 := mul_le_mul_of_nonneg_right (Rat.le_ceil (x := a / b)) hb.le
      constructor <;> linarith
  generalize hm : a - t * b = m at h ⊢
  by_cases h0 : m < 0
  · exact ⟨_, if_pos ⟨h0.ne, h0⟩, (neg_lt_iff_pos_add.mp h.1).le, add_lt_of_neg_left b h0, t - 1,
      by rw [← hm]; push_cast; ring⟩
  · exact ⟨_, if_neg fun c => h0 c.2, not_lt.mp h0, h.2, t, by rw [← hm]; ring⟩

namespace Bin1D

theorem lo_id (b : Bin1D) (k : Int) : b.lo id k = (k : Rat) * b.sz * (b.dir : Rat) + b.origin := rfl

theorem hi_id (b : Bin1D) (k : Int) :
    b.hi id k = (k : Rat) * b.sz * (b.dir : Rat) + b.origin + b.sz := rfl

theorem bin_id (b : Bin1D) (x : Rat) : b.bin id x = b.dir * ((x - b.origin) / b.sz).floor := rfl

theorem new_eq (sz o : Rat) (d : Int) :
    Bin1D.new sz o d = if (d = -1 ∨ d = 1) ∧ 0 < sz then .ok ⟨sz, o, d⟩ else .error .assertion := by
  unfold Bin1D.new
  by_cases hd : d = -1 ∨ d = 1 <;> by_cases hs : 0 < sz <;> simp [hd, hs]

theorem new_ok {sz o : Rat} {d : Int} {b : Bin1D} (h : Bin1D.new sz o d = .ok b) :
    b = ⟨sz, o, d⟩ ∧ b.WF := by
  rw [new_eq] at h
  split at h
  · cases h; rename_i hw; exact ⟨rfl, hw.2, hw.1.symm⟩
  · cases h

theorem new_of_wf (b : Bin1D) (h : b.WF) : Bin1D.new b.sz b.origin b.dir = .ok b := by
  rw [new_eq, if_pos ⟨h.dir.symm, h.sz_pos⟩]

theorem hi_eq_lo_add (b : Bin1D) (k : Int) : b.hi id k = b.lo id k + b.sz := rfl

/-- `dir * k` is the position of bin `k` counted left to right: its edges are edges `dir * k` and `dir * k + 1` of the
    grid of step `sz` from the origin -/
theorem lo_eq_pos (b : Bin1D) (k : Int) : b.lo id k = b.origin + ((b.dir * k : Int) : Rat) * b.sz := by
  rw [lo_id]; push_cast; ring

theorem hi_eq_pos (b : Bin1D) (k : Int) : b.hi id k = b.origin + ((b.dir * k + 1 : Int) : Rat) * b.sz := by
  rw [hi_id]; push_cast; ring

theorem lo_le_iff (b : Bin1D) (h : b.WF) (x : Rat) (k : Int) :
    b.lo id k ≤ x ↔ b.dir * k ≤ ((x - b.origin) / b.sz).floor := by
  rw [lo_eq_pos, edge_le_iff h.sz_pos]

theorem lt_hi_iff (b : Bin1D) (h : b.WF) (x : Rat) (k : Int) :
    x < b.hi id k ↔ ((x - b.origin) / b.sz).floor < b.dir * k + 1 := by
  rw [hi_eq_pos, lt_edge_iff h.sz_pos]

theorem bin_eq_iff (b : Bin1D) (h : b.WF) (x : Rat) (k : Int) :
    b.bin id x = k ↔ b.lo id k ≤ x ∧ x < b.hi id k := by
  rw [bin_id, lo_le_iff b h, lt_hi_iff b h]
  rcases h.dir with hd | hd <;> rw [hd] <;> omega

theorem hi_eq_lo_next (b : Bin1D) (h : b.WF) (k : Int) : b.hi id k = b.lo id (k + b.dir) := by
  rw [hi_id, lo_id]
  rcases h.dir with hd | hd <;> rw [hd] <;> push_cast <;> ring

theorem lo_lt_hi (b : Bin1D) (h : b.WF) (k : Int) : b.lo id k < b.hi id k :=
  lt_add_of_pos_right _ h.sz_pos

theorem bin_inside (b : Bin1D) (h : b.WF) {tol : Rat} (ht : 0 < tol) (hs : 2 * tol ≤ b.sz) (j : Int) :
    b.bin id (b.lo id j + tol) = j ∧ b.bin id (b.hi id j - tol) = j := by
  rw [bin_eq_iff b h, bin_eq_iff b h, hi_eq_lo_add]
  refine ⟨⟨?_, ?_⟩, ?_, ?_⟩ <;> linarith

theorem floor_mono (b : Bin1D) (h : b.WF) {x y : Rat} (hxy : x ≤ y) :
    ((x - b.origin) / b.sz).floor ≤ ((y - b.origin) / b.sz).floor :=
  (edge_le_iff h.sz_pos _ y _).mp (le_trans ((edge_le_iff h.sz_pos _ x _).mpr le_rfl) hxy)

theorem meets_iff (b : Bin1D) (h : b.WF) {p q : Rat} (hpq : p ≤ q) (k : Int) :
    (∃ x, p ≤ x ∧ x ≤ q ∧ b.lo id k ≤ x ∧ x < b.hi id k) ↔
      ((p - b.origin) / b.sz).floor ≤ b.dir * k ∧ b.dir * k ≤ ((q - b.origin) / b.sz).floor := by
  constructor
  · rintro ⟨x, hpx, hxq, h1, h2⟩
    have := (lo_le_iff b h x k).mp h1
    have := (lt_hi_iff b h x k).mp h2
    have := floor_mono b h hpx
    have := floor_mono b h hxq
    omega
  · rintro ⟨h1, h2⟩
    exact ⟨max p (b.lo id k), le_max_left _ _, max_le hpq ((lo_le_iff b h q k).mpr h2), le_max_right _ _,
      max_lt ((lt_hi_iff b h p k).mpr (by omega)) (lo_lt_hi b h k)⟩

theorem fromSampleBin_ok {idx : Int} {x0 x1 : Rat} {d : Int} (hd : d = 1 ∨ d = -1) (hx : x0 < x1) :
    Bin1D.fromSampleBin id idx x0 x1 d
      = .ok ⟨x1 - x0, x0 - (x1 - x0) * (idx : Rat) * (d : Rat), d⟩ := by
  unfold Bin1D.fromSampleBin
  simp only [id, hx, not_true, if_false, Bin1D.new_eq, hd.symm, sub_pos.mpr hx, and_self, if_true]

theorem fromSampleBin_err {idx : Int} {x0 x1 : Rat} {d : Int} (hx : ¬ x0 < x1) :
    Bin1D.fromSampleBin id idx x0 x1 d = .error .assertion := by
  unfold Bin1D.fromSampleBin
  simp [hx]

theorem rebuild_eq (b : Bin1D) (j : Int) :
    (⟨b.hi id j - b.lo id j, b.lo id j - (b.hi id j - b.lo id j) * (j : Rat) * (b.dir : Rat), b.dir⟩ : Bin1D) = b := by
  obtain ⟨sz, o, d⟩ := b
  simp only [hi_id, lo_id]
  congr 1 <;> ring

/-- 1-D core of `idx_bounds`: sorted bin indices of the two (possibly unordered) ends -/
theorem range_iff (b : Bin1D) (h : b.WF) (a a' : Rat) (k : Int) :
    (min (b.bin id a) (b.bin id a') ≤ k ∧ k < max (b.bin id a) (b.bin id a') + 1) ↔
      ∃ x, min a a' ≤ x ∧ x ≤ max a a' ∧ b.lo id k ≤ x ∧ x < b.hi id k := by
  -- the indices `d·u`, `d·v` of two positions `u ≤ v`, sorted, span the positions from `u` to `v`
  have sorted : ∀ u v : Int, u ≤ v →
      ((min (b.dir * u) (b.dir * v) ≤ k ∧ k < max (b.dir * u) (b.dir * v) + 1) ↔ (u ≤ b.dir * k ∧ b.dir * k ≤ v)) := by
    intro u v huv
    rcases h.dir with hd | hd <;> rw [hd]
    · rw [one_mul, one_mul, one_mul, min_eq_left huv, max_eq_right huv]; omega
    · rw [neg_one_mul, neg_one_mul, neg_one_mul, min_eq_right (neg_le_neg huv), max_eq_left (neg_le_neg huv)]; omega
  rcases le_total a a' with hle | hle
  · rw [min_eq_left hle, max_eq_right hle, meets_iff b h hle]
    exact sorted _ _ (floor_mono b h hle)
  · rw [min_eq_right hle, max_eq_left hle, meets_iff b h hle, min_comm, max_comm]
    exact sorted _ _ (floor_mono b h hle)

theorem eq_of_bins (b b' : Bin1D) (w : b.WF) (h0 : b.lo id 0 = b'.lo id 0) (h0h : b.hi id 0 = b'.hi id 0)
    (h1 : b.lo id 1 = b'.lo id 1) : b = b' := by
  obtain ⟨s, o, d⟩ := b
  obtain ⟨s', o', d'⟩ := b'
  simp only [Bin1D.lo_id, Bin1D.hi_id, Int.cast_zero, Int.cast_one, zero_mul, zero_add, one_mul] at h0 h0h h1
  subst h0
  obtain rfl := add_left_cancel h0h
  obtain rfl := Int.cast_injective (mul_left_cancel₀ w.sz_pos.ne' (add_right_cancel h1))
  rfl

end Bin1D

structure GridSpec.WF (g : GridSpec) : Prop where
  x : g.xbin.WF
  y : g.ybin.WF
  szx : g.xbin.sz = (g.nx : Rat) * rabs g.rx
  szy : g.ybin.sz = (g.ny : Rat) * rabs g.ry

namespace GridSpec

theorem rabs_eq_abs (r : Rat) : rabs r = |r| := Gen.Py.absR_eq_abs r

theorem rabs_nonneg (r : Rat) : 0 ≤ rabs r := rabs_eq_abs r ▸ abs_nonneg r

theorem rabs_of_pos {r : Rat} (h : 0 < r) : rabs r = r := if_neg (not_lt.mpr h.le)

theorem rabs_of_neg {r : Rat} (h : r < 0) : rabs r = -r := if_pos h

theorem res_pos_or_neg {sz r : Rat} {n : Int} (hsz : 0 < sz) (hn : sz = (n : Rat) * rabs r) : 0 < r ∨ r < 0 := by
  rw [hn, rabs_eq_abs] at hsz
  exact lt_or_gt_of_ne (abs_ne_zero.mp (right_ne_zero_of_mul hsz.ne')).symm

theorem n_pos_of_sz {n : Int} {r : Rat} (h : 0 < (n : Rat) * rabs r) : 0 < n :=
  Int.cast_pos.mp (pos_of_mul_pos_left h (rabs_nonneg r))

theorem rabs_pos_of_sz {n : Int} {r : Rat} (h : 0 < (n : Rat) * rabs r) : 0 < rabs r :=
  (rabs_nonneg r).lt_of_ne' (right_ne_zero_of_mul h.ne')

theorem dirOf_cases (f : Bool) : dirOf f = 1 ∨ dirOf f = -1 := by
  cases f <;> simp [dirOf]

/-- `GridSpec.__init__` for any rounding: the y tile size is asserted first, then the x tile size -/
theorem new_eq (fl : Rnd) (ny nx : Int) (rx ry ox oy : Rat) (fx fy : Bool) :
    GridSpec.new fl ny nx rx ry ox oy fx fy =
      if 0 < fl ((ny : Rat) * rabs ry) ∧ 0 < fl ((nx : Rat) * rabs rx) then
        .ok ⟨ny, nx, rx, ry, ox, oy, ⟨fl ((nx : Rat) * rabs rx), ox, dirOf fx⟩, ⟨fl ((ny : Rat) * rabs ry), oy, dirOf fy⟩⟩
      else .error .assertion := by
  unfold GridSpec.new
  simp only [Bin1D.new_eq, (dirOf_cases fx).symm, (dirOf_cases fy).symm, true_and, bind, Except.bind, pure, Except.pure]
  by_cases hy : 0 < fl ((ny : Rat) * rabs ry) <;> by_cases hx : 0 < fl ((nx : Rat) * rabs rx) <;> simp [hy, hx]

theorem new_ok {ny nx : Int} {rx ry ox oy : Rat} {fx fy : Bool} {g : GridSpec}
    (h : GridSpec.new id ny nx rx ry ox oy fx fy = .ok g) :
    g = ⟨ny, nx, rx, ry, ox, oy, ⟨(nx : Rat) * rabs rx, ox, dirOf fx⟩, ⟨(ny : Rat) * rabs ry, oy, dirOf fy⟩⟩
      ∧ g.WF := by
  rw [new_eq] at h
  split at h
  · cases h; rename_i hw; exact ⟨rfl, ⟨hw.2, dirOf_cases fx⟩, ⟨hw.1, dirOf_cases fy⟩, rfl, rfl⟩
  · cases h

theorem new_eq_ok {ny nx : Int} {rx ry : Rat} (ox oy : Rat) (fx fy : Bool)
    (h1 : 0 < (nx : Rat) * rabs rx) (h2 : 0 < (ny : Rat) * rabs ry) :
    GridSpec.new id ny nx rx ry ox oy fx fy =
      .ok ⟨ny, nx, rx, ry, ox, oy, ⟨(nx : Rat) * rabs rx, ox, dirOf fx⟩,
        ⟨(ny : Rat) * rabs ry, oy, dirOf fy⟩⟩ := by
  rw [new_eq]; exact if_pos ⟨h2, h1⟩

theorem new_err_y {fl : Rnd} {ny nx : Int} {rx ry ox oy : Rat} {fx fy : Bool}
    (h : ¬ 0 < fl ((ny : Rat) * rabs ry)) : GridSpec.new fl ny nx rx ry ox oy fx fy = .error .assertion := by
  rw [new_eq, if_neg fun hh => h hh.1]

theorem new_pos {ny nx : Int} {rx ry ox oy : Rat} {fx fy : Bool} {g : GridSpec}
    (h : GridSpec.new id ny nx rx ry ox oy fx fy = .ok g) : 0 < nx ∧ 0 < ny ∧ 0 < rabs rx ∧ 0 < rabs ry := by
  obtain ⟨rfl, w⟩ := new_ok h
  exact ⟨n_pos_of_sz w.x.sz_pos, n_pos_of_sz w.y.sz_pos, rabs_pos_of_sz w.x.sz_pos, rabs_pos_of_sz w.y.sz_pos⟩

/-! One axis of a tile: the pixel→world map `u ↦ r·u + t`, `t` the bin edge chosen by the sign of the resolution `r`,
takes the pixel range `[0, n]` onto the bin `[lo k, hi k]`, ends to ends (`n·|r|` is the bin size). -/

theorem axis_minmax (b : Bin1D) (w : b.WF) {r : Rat} {n : Int} (hn : b.sz = (n : Rat) * rabs r) (k : Int) :
    min (if 0 < r then b.lo id k else b.hi id k) ((n : Rat) * r + (if 0 < r then b.lo id k else b.hi id k)) = b.lo id k ∧
    max (if 0 < r then b.lo id k else b.hi id k) ((n : Rat) * r + (if 0 < r then b.lo id k else b.hi id k)) = b.hi id k := by
  have hsz := w.sz_pos
  rw [Bin1D.hi_eq_lo_add]
  generalize b.lo id k = lo
  rcases res_pos_or_neg hsz hn with hr | hr
  · rw [rabs_of_pos hr] at hn
    rw [if_pos hr, ← hn, add_comm b.sz]
    exact ⟨min_eq_left (by linarith), max_eq_right (by linarith)⟩
  · rw [rabs_of_neg hr] at hn
    rw [if_neg (not_lt.mpr hr.le), show (n : Rat) * r + (lo + b.sz) = lo by linarith]
    exact ⟨min_eq_right (by linarith), max_eq_left (by linarith)⟩

theorem footprint_eq (g : GridSpec) (h : g.WF) (k : Int × Int) :
    g.footprint k = ⟨g.xbin.lo id k.1, g.ybin.lo id k.2, g.xbin.hi id k.1, g.ybin.hi id k.2⟩ := by
  have hx := axis_minmax g.xbin h.x h.szx k.1
  have hy := axis_minmax g.ybin h.y h.szy k.2
  unfold GridSpec.footprint GeoBox.bbox GridSpec.tileGeobox GridSpec.tileTxy applyF
  -- the four corners `(0,0), (0,ny), (nx,ny), (nx,0)` have only two distinct coordinates per axis
  simp only [id, zero_mul, mul_zero, add_zero, zero_add, min_self, max_self, min_assoc, max_assoc]
  rw [min_comm (_ + _), max_comm (_ + _), ← min_assoc, ← max_assoc, min_self, max_self, hx.1, hx.2, hy.1, hy.2]

theorem axis_image (b : Bin1D) (w : b.WF) {r : Rat} {n : Int} (hn : b.sz = (n : Rat) * rabs r) (k : Int) (x : Rat) :
    (∃ u : Rat, 0 ≤ u ∧ u ≤ (n : Rat) ∧ r * u + (if 0 < r then b.lo id k else b.hi id k) = x) ↔
      b.lo id k ≤ x ∧ x ≤ b.hi id k := by
  have hsz := w.sz_pos
  rw [Bin1D.hi_eq_lo_add]
  generalize b.lo id k = lo
  generalize b.sz = sz at hn hsz
  rcases res_pos_or_neg hsz hn with hr | hr
  · rw [rabs_of_pos hr] at hn
    rw [if_pos hr]
    constructor
    · rintro ⟨u, h0, h1, rfl⟩
      have := mul_le_mul_of_nonneg_left h1 hr.le
      have := mul_nonneg hr.le h0
      constructor <;> linarith
    · rintro ⟨h1, h2⟩
      refine ⟨(x - lo) / r, div_nonneg (by linarith) hr.le, (div_le_iff₀ hr).mpr (by linarith), ?_⟩
      rw [mul_div_cancel₀ _ hr.ne']; ring
  · rw [rabs_of_neg hr] at hn
    rw [if_neg (not_lt.mpr hr.le)]
    constructor
    · rintro ⟨u, h0, h1, rfl⟩
      have := mul_le_mul_of_nonpos_left h1 hr.le
      have := mul_nonpos_of_nonpos_of_nonneg hr.le h0
      constructor <;> linarith
    · rintro ⟨h1, h2⟩
      refine ⟨(x - (lo + sz)) / r, div_nonneg_of_nonpos (by linarith) hr.le,
        (div_le_iff_of_neg hr).mpr (by linarith), ?_⟩
      rw [mul_div_cancel₀ _ hr.ne]; ring

/-- one axis of the pixel shift: the tile `j` bins further on has its pixel origin `∓j·dir` tile widths (`n` pixels each) away -/
theorem axis_pixel_shift (b : Bin1D) {n : Int} {r : Rat} (hsz : b.sz = (n : Rat) * rabs r) (k j : Int) (u : Rat) :
    r * (u + ((if 0 < r then -(j * b.dir) else j * b.dir : Int) : Rat) * (n : Rat)) +
        (if 0 < r then b.lo id (k + j) else b.hi id (k + j)) =
      r * u + (if 0 < r then b.lo id k else b.hi id k) := by
  simp only [Bin1D.hi_eq_lo_add, Bin1D.lo_id, hsz]
  by_cases hr : 0 < r
  · rw [if_pos hr, if_pos hr, if_pos hr, rabs_of_pos hr]; push_cast; ring
  · have : rabs r = -r := by
      rcases (not_lt.mp hr).lt_or_eq with h | h
      · exact rabs_of_neg h
      · rw [h]; rfl
    rw [if_neg hr, if_neg hr, if_neg hr, this]; push_cast; ring

theorem scan_nodup (fl : Rnd) (g : GridSpec) (tol : Rat) (q : BBox) : (g.tiles fl tol q).Nodup := by
  unfold GridSpec.tiles
  rw [List.nodup_flatMap]
  refine ⟨fun iy _ => List.Nodup.map (fun i j h => by simpa using h) (rangeI_nodup _ _), ?_⟩
  apply List.Pairwise.imp_of_mem _ (rangeI_nodup _ _)
  intro a b _ _ hab
  simp only [Function.onFun, List.disjoint_left, List.mem_map]
  rintro k ⟨i, _, rfl⟩ ⟨j, _, h⟩
  exact hab (by simpa using (congrArg Prod.snd h).symm)

theorem tileGeobox_congr {fl fl' : Rnd} (g : GridSpec) {k : Int × Int}
    (hxl : g.xbin.lo fl k.1 = g.xbin.lo fl' k.1) (hxh : g.xbin.hi fl k.1 = g.xbin.hi fl' k.1)
    (hyl : g.ybin.lo fl k.2 = g.ybin.lo fl' k.2) (hyh : g.ybin.hi fl k.2 = g.ybin.hi fl' k.2) :
    g.tileGeobox fl k = g.tileGeobox fl' k := by
  unfold GridSpec.tileGeobox GridSpec.tileTxy
  rw [hxl, hxh, hyl, hyh]

theorem idxBounds_congr {fl : Rnd} {tol : Rat} {g : GridSpec} {q : BBox}
    (h1 : g.pt2idx fl (fl (q.left + tol)) (fl (q.bottom + tol)) = g.pt2idx id (q.left + tol) (q.bottom + tol))
    (h2 : g.pt2idx fl (fl (q.right - tol)) (fl (q.top - tol)) = g.pt2idx id (q.right - tol) (q.top - tol)) :
    g.idxBounds fl tol q = g.idxBounds id tol q ∧ g.tiles fl tol q = g.tiles id tol q := by
  have h : g.idxBounds fl tol q = g.idxBounds id tol q := by
    unfold GridSpec.idxBounds
    rw [h1, h2]
    rfl
  exact ⟨h, by unfold GridSpec.tiles; rw [h]⟩

theorem mul_rabs_div {n : Int} (hn : 0 < n) {w : Rat} (hw : 0 < w) : (n : Rat) * rabs (w / (n : Rat)) = w := by
  have hn' : (0 : Rat) < (n : Rat) := by exact_mod_cast hn
  rw [rabs_of_pos (div_pos hw hn'), mul_div_cancel₀ _ hn'.ne']

theorem mul_rabs_neg_div {n : Int} (hn : 0 < n) {w : Rat} (hw : 0 < w) : (n : Rat) * rabs (-w / (n : Rat)) = w := by
  rw [neg_div, rabs_eq_abs, abs_neg, ← rabs_eq_abs, mul_rabs_div hn hw]

/-- the numeric model of `from_sample_tile` used by the theorems of `Props/C14.lean` is the sentinel test on an
    integer pair followed by the core of the raw-argument model (`Model/C14Args.lean`) -/
theorem fromSampleTile_eq_core (fl : Rnd) (q : BBox) (ny nx ix iy : Int) (fx fy : Bool) :
    GridSpec.fromSampleTile fl q ny nx ix iy fx fy =
      if ny = -1 ∧ nx = -1 then .error .valueError else GridSpec.fromSampleTileCore fl q ny nx ix iy fx fy := by
  unfold GridSpec.fromSampleTile GridSpec.fromSampleTileCore
  by_cases h : ny = -1 ∧ nx = -1
  · simp only [h, and_self, if_true]; rfl
  · simp only [h, if_false]

theorem fromSampleTile_eq_core_of_pos (fl : Rnd) (q : BBox) {ny : Int} (nx ix iy : Int) (fx fy : Bool) (hny : 0 < ny) :
    GridSpec.fromSampleTile fl q ny nx ix iy fx fy = GridSpec.fromSampleTileCore fl q ny nx ix iy fx fy :=
  (fromSampleTile_eq_core fl q ny nx ix iy fx fy).trans (if_neg (by omega))

theorem fromSampleTileCore_eq_new {q : BBox} {ny nx : Int} (ix iy : Int) (fx fy : Bool)
    (hx : q.left < q.right) (hy : q.bottom < q.top) (hnx : nx ≠ 0) (hny : ny ≠ 0) :
    GridSpec.fromSampleTileCore id q ny nx ix iy fx fy =
      GridSpec.new id ny nx ((q.right - q.left) / (nx : Rat)) (-(q.top - q.bottom) / (ny : Rat))
        (q.left - (q.right - q.left) * (ix : Rat) * (dirOf fx : Rat))
        (q.bottom - (q.top - q.bottom) * (iy : Rat) * (dirOf fy : Rat)) fx fy := by
  unfold GridSpec.fromSampleTileCore
  rw [Bin1D.fromSampleBin_ok (dirOf_cases fx) hx, Bin1D.fromSampleBin_ok (dirOf_cases fy) hy]
  simp only [hny, hnx, id, bind, Except.bind, if_false]

theorem fromSampleTileCore_err_x {q : BBox} (ny nx ix iy : Int) (fx fy : Bool) (hx : ¬ q.left < q.right) :
    GridSpec.fromSampleTileCore id q ny nx ix iy fx fy = .error .assertion := by
  unfold GridSpec.fromSampleTileCore
  rw [Bin1D.fromSampleBin_err hx]
  rfl

theorem fromSampleTile_spec {q : BBox} {ny nx : Int} (ix iy : Int) (fx fy : Bool)
    (hx : q.left < q.right) (hy : q.bottom < q.top) (hnx : 0 < nx) (hny : 0 < ny) :
    ∃ g', GridSpec.fromSampleTile id q ny nx ix iy fx fy = .ok g' ∧ g'.WF ∧ g'.ny = ny ∧ g'.nx = nx ∧
      g'.rx = (q.right - q.left) / (nx : Rat) ∧ g'.ry = -(q.top - q.bottom) / (ny : Rat) ∧
      g'.xbin = ⟨q.right - q.left, q.left - (q.right - q.left) * (ix : Rat) * (dirOf fx : Rat), dirOf fx⟩ ∧
      g'.ybin = ⟨q.top - q.bottom, q.bottom - (q.top - q.bottom) * (iy : Rat) * (dirOf fy : Rat), dirOf fy⟩ := by
  have hw : 0 < q.right - q.left := sub_pos.mpr hx
  have hh : 0 < q.top - q.bottom := sub_pos.mpr hy
  have e1 := mul_rabs_div hnx hw
  have e2 := mul_rabs_neg_div hny hh
  have e := (fromSampleTile_eq_core_of_pos id q nx ix iy fx fy hny).trans
    (fromSampleTileCore_eq_new ix iy fx fy hx hy hnx.ne' hny.ne')
  have h := e.trans (new_eq_ok _ _ fx fy (by rw [e1]; exact hw) (by rw [e2]; exact hh))
  rw [e1, e2] at h
  have w := (new_ok (e.symm.trans h)).2
  exact ⟨_, h, w, rfl, rfl, rfl, rfl, rfl, rfl⟩

/-- the web-tile grid is an ordinary `GridSpec` (so every theorem about constructed grids applies to it): x index left to
    right from `-P`, y index top to bottom from `+P`, square tiles of side `P·2^(1-z)`, `npix` pixels -/
theorem webTiles_eq_new {P : Rat} (hP : 0 < P) (z : Int) {npix : Int} (hn : 0 < npix) :
    GridSpec.webTiles id P z npix =
      GridSpec.new id npix npix (P * pow2 (1 - z) / (npix : Rat)) (-(P * pow2 (1 - z)) / (npix : Rat))
        (-P) (P - P * pow2 (1 - z)) false true := by
  have ht : 0 < P * pow2 (1 - z) := mul_pos hP (pow2_pos _)
  unfold GridSpec.webTiles boxBounds
  simp only [id]
  have h1 : -P ≤ -P + P * pow2 (1 - z) := le_add_of_nonneg_right ht.le
  have h2 : P - P * pow2 (1 - z) ≤ P := sub_le_self P ht.le
  rw [min_eq_left h1, max_eq_right h1, min_eq_left h2, max_eq_right h2,
    fromSampleTile_eq_core_of_pos id _ npix 0 0 false true hn,
    fromSampleTileCore_eq_new 0 0 false true (by simp only; linarith) (by simp only; linarith) hn.ne' hn.ne']
  simp only [Int.cast_zero, mul_zero, zero_mul, sub_zero, add_sub_cancel_left, sub_sub_cancel]

theorem webTiles_isOk {P : Rat} (hP : 0 < P) (z : Int) {npix : Int} (hn : 0 < npix) :
    ∃ g, GridSpec.webTiles id P z npix = .ok g := by
  have ht : 0 < P * pow2 (1 - z) := mul_pos hP (pow2_pos _)
  rw [webTiles_eq_new hP z hn]
  exact ⟨_, new_eq_ok _ _ _ _ (by rw [mul_rabs_div hn ht]; exact ht) (by rw [mul_rabs_neg_div hn ht]; exact ht)⟩

theorem lookup_cons_isSome (c : Cache) (k k' : Int × Int) (gb : GeoBox) :
    (List.lookup k' ((k, gb) :: c)).isSome ↔ ((c.lookup k').isSome ∨ k' = k) := by
  rw [List.lookup_cons]
  by_cases e : k' = k
  · rw [beq_iff_eq.mpr e]; exact ⟨fun _ => Or.inr e, fun _ => rfl⟩
  · rw [beq_eq_false_iff_ne.mpr e]; exact (or_iff_left e).symm

theorem Coherent.cons {fl : Rnd} {g : GridSpec} {c : Cache} (hc : g.Coherent fl c) (k : Int × Int) :
    g.Coherent fl ((k, g.tileGeobox fl k) :: c) := by
  intro k' gb' h'
  rw [List.lookup_cons] at h'
  by_cases e : k' = k
  · rw [beq_iff_eq.mpr e] at h'; rw [e]; exact (Option.some.inj h').symm
  · rw [beq_eq_false_iff_ne.mpr e] at h'; exact hc k' gb' h'

theorem geoboxC_spec (fl : Rnd) (g : GridSpec) (c : Cache) (hc : g.Coherent fl c) (k : Int × Int) :
    (g.geoboxC fl c k).1 = g.tileGeobox fl k ∧ g.Coherent fl (g.geoboxC fl c k).2 ∧
    ∀ k', ((g.geoboxC fl c k).2.lookup k').isSome ↔ ((c.lookup k').isSome ∨ k' = k) := by
  unfold GridSpec.geoboxC
  cases h : c.lookup k with
  | some gb => exact ⟨hc k gb h, hc, fun k' => ⟨Or.inl, fun h' => h'.elim id (fun e => by rw [e, h]; rfl)⟩⟩
  | none => exact ⟨rfl, hc.cons k, fun k' => lookup_cons_isSome c k k' _⟩

theorem tilesGo_spec (fl : Rnd) (g : GridSpec) : ∀ (ks : List (Int × Int)) (c : Cache), g.Coherent fl c →
    (g.tilesGo fl ks c).1 = ks.map (fun k => (k, g.tileGeobox fl k)) ∧ g.Coherent fl (g.tilesGo fl ks c).2 ∧
    ∀ k', ((g.tilesGo fl ks c).2.lookup k').isSome ↔ ((c.lookup k').isSome ∨ k' ∈ ks) := by
  intro ks
  induction ks with
  | nil => exact fun c hc => ⟨rfl, hc, fun k' => (or_iff_left (List.not_mem_nil)).symm⟩
  | cons k ks ih =>
    intro c hc
    obtain ⟨h1, h2, h3⟩ := geoboxC_spec fl g c hc k
    obtain ⟨i1, i2, i3⟩ := ih (g.geoboxC fl c k).2 h2
    simp only [GridSpec.tilesGo, List.map_cons]
    refine ⟨by rw [h1, i1], i2, fun k' => ?_⟩
    rw [i3 k', h3 k', List.mem_cons, or_assoc]

end GridSpec

end OdcGeo.C14
