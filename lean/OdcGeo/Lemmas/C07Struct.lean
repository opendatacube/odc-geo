/- C07 — what `densify` / `segmented` / `to_crs` compute, as equations: `densify` is `densPts` behind the
check of the resolution (`densify_eq`), `segmented(r)` with `r > 0` is `mapRings` of `densPts`
(`segmentize_of_pos`), `to_crs` between two CRSs is the transformer on every vertex of `densified`
(`toCrs_of_ne`); with the facts about `mapRings` this needs.  Stated over the operations the model itself
uses (no field axioms are needed): instance search is then immediate, where from `Field K` every mention of
a model function costs a search per operation.  The facts that need an order (`minK` / `maxK`, `boundsOf`,
`0 < r`) assume a linear order and nothing else. -/
import OdcGeo.Model.C07
import Mathlib.Data.List.Forall2
import Mathlib.Order.Basic

namespace OdcGeo.C07

section
variable {K : Type}

theorem map_eq_self_of_mem {α : Type} (f : α → α) (l : List α) (h : ∀ x ∈ l, f x = x) : l.map f = l :=
  (List.map_congr_left h).trans (List.map_id l)

mutual
theorem vertices_mapPts (f : Pt K → Pt K) : ∀ g : Geom K, vertices (mapPts f g) = (vertices g).map f
  | .point _ | .multiPoint _ | .lineString _ | .linearRing _ => rfl
  | .polygon ext holes => by simp only [mapPts, vertices, List.map_append, List.map_flatten]
  | .multiLineString gs | .multiPolygon gs | .collection gs => vertices_mapPts_list f gs
theorem vertices_mapPts_list (f : Pt K → Pt K) :
    ∀ gs : List (Geom K), verticesList (mapPtsList f gs) = (verticesList gs).map f
  | [] => rfl
  | g :: gs =>
    (congrArg₂ (· ++ ·) (vertices_mapPts f g) (vertices_mapPts_list f gs)).trans List.map_append.symm
end

mutual
theorem skel_mapPts (f : Pt K → Pt K) : ∀ g : Geom K, skel (mapPts f g) = skel g
  | .point _ | .lineString _ | .linearRing _ => rfl
  | .multiPoint _ => congrArg Skel.multiPoint (List.length_map f)
  | .polygon _ _ => congrArg Skel.polygon (List.length_map _)
  | .multiLineString gs => congrArg Skel.multiLineString (skel_mapPts_list f gs)
  | .multiPolygon gs => congrArg Skel.multiPolygon (skel_mapPts_list f gs)
  | .collection gs => congrArg Skel.collection (skel_mapPts_list f gs)
theorem skel_mapPts_list (f : Pt K → Pt K) : ∀ gs : List (Geom K), skelList (mapPtsList f gs) = skelList gs
  | [] => rfl
  | g :: gs => congrArg₂ List.cons (skel_mapPts f g) (skel_mapPts_list f gs)
end

mutual
theorem mapRings_id (f : List (Pt K) → List (Pt K)) :
    ∀ g : Geom K, (∀ c ∈ rings g, f c = c) → mapRings f g = g
  | .point p, h => by rw [mapRings, h [p] (List.mem_singleton_self _)]
  | .multiPoint ps, h => by
    rw [mapRings]
    exact congrArg Geom.multiPoint (map_eq_self_of_mem _ ps fun p hp => by
      rw [h [p] (List.mem_map_of_mem hp)])
  | .lineString cs, h => by rw [mapRings, h cs (List.mem_singleton_self _)]
  | .linearRing cs, h => by rw [mapRings, h cs (List.mem_singleton_self _)]
  | .polygon ext holes, h => by
    rw [mapRings, h ext (List.mem_cons_self ..),
      map_eq_self_of_mem f holes fun c hc => h c (List.mem_cons_of_mem _ hc)]
  | .multiLineString gs, h => by rw [mapRings, mapRings_id_list f gs h]
  | .multiPolygon gs, h => by rw [mapRings, mapRings_id_list f gs h]
  | .collection gs, h => by rw [mapRings, mapRings_id_list f gs h]
theorem mapRings_id_list (f : List (Pt K) → List (Pt K)) :
    ∀ gs : List (Geom K), (∀ c ∈ ringsList gs, f c = c) → mapRingsList f gs = gs
  | [], _ => rfl
  | g :: gs, h => by
    rw [mapRingsList, mapRings_id f g fun c hc => h c (List.mem_append_left _ hc),
      mapRings_id_list f gs fun c hc => h c (List.mem_append_right _ hc)]
end

mutual
/-- `clip_lon180`, `segmented` (any per-sequence edit) keep geometry type and ring / part structure -/
theorem skel_mapRings (f : List (Pt K) → List (Pt K)) : ∀ g : Geom K, skel (mapRings f g) = skel g
  | .point p => by rw [mapRings]; split <;> rfl
  | .lineString _ | .linearRing _ => rfl
  | .multiPoint _ => congrArg Skel.multiPoint (List.length_map _)
  | .polygon _ _ => congrArg Skel.polygon (List.length_map f)
  | .multiLineString gs => congrArg Skel.multiLineString (skel_mapRings_list f gs)
  | .multiPolygon gs => congrArg Skel.multiPolygon (skel_mapRings_list f gs)
  | .collection gs => congrArg Skel.collection (skel_mapRings_list f gs)
theorem skel_mapRings_list (f : List (Pt K) → List (Pt K)) :
    ∀ gs : List (Geom K), skelList (mapRingsList f gs) = skelList gs
  | [] => rfl
  | g :: gs => congrArg₂ List.cons (skel_mapRings f g) (skel_mapRings_list f gs)
end

mutual
/-- a per-sequence edit that sends a single coordinate to a single coordinate (as `ops.transform` needs
it to) acts on the list of coordinate sequences as `List.map` -/
theorem rings_mapRings (f : List (Pt K) → List (Pt K)) (hf : ∀ p, ∃ q, f [p] = [q]) :
    ∀ g : Geom K, rings (mapRings f g) = (rings g).map f
  | .point p => by obtain ⟨q, hq⟩ := hf p; simp only [mapRings, rings, hq, List.map]
  | .multiPoint ps => by
    simp only [mapRings, rings, List.map_map]
    refine List.map_congr_left fun p _ => ?_
    obtain ⟨q, hq⟩ := hf p
    simp only [Function.comp, hq]
  | .lineString _ | .linearRing _ | .polygon _ _ => rfl
  | .multiLineString gs | .multiPolygon gs | .collection gs => rings_mapRings_list f hf gs
theorem rings_mapRings_list (f : List (Pt K) → List (Pt K)) (hf : ∀ p, ∃ q, f [p] = [q]) :
    ∀ gs : List (Geom K), ringsList (mapRingsList f gs) = (ringsList gs).map f
  | [] => rfl
  | g :: gs =>
    (congrArg₂ (· ++ ·) (rings_mapRings f hf g) (rings_mapRings_list f hf gs)).trans List.map_append.symm
end

end

section
variable {K : Type} [Zero K] [Add K] [Sub K] [Mul K] [Div K] [LT K] [LE K] [DecidableLT K] [DecidableLE K]

/-- what `densify` returns when it returns: the coordinates with the vertices added on every edge -/
def densPts (short : K → Pt K → Pt K → Bool) (E : Env K) (r : K) : List (Pt K) → List (Pt K)
  | [] => []
  | p :: rest => p :: densifyFrom short E r p rest

theorem densify_eq (E : Env K) (r : K) (coords : List (Pt K)) :
    densify E r coords = if r ≤ 0 then .error .valueError else .ok (densPts shortEnough E r coords) := by
  cases coords <;> rfl

theorem densify_ok {E : Env K} {r : K} {coords out : List (Pt K)} (h : densify E r coords = .ok out) :
    ¬ r ≤ 0 ∧ out = densPts shortEnough E r coords := by
  rw [densify_eq] at h
  by_cases hr : r ≤ 0
  · rw [if_pos hr] at h; cases h
  · rw [if_neg hr] at h; cases h; exact ⟨hr, rfl⟩

theorem densifyWith_ok {short : K → Pt K → Pt K → Bool} {E : Env K} {r : K} {coords out : List (Pt K)}
    (h : densifyWith short E r coords = .ok out) : ¬ r ≤ 0 ∧ out = densPts short E r coords := by
  by_cases hr : r ≤ 0
  · cases coords <;> rw [densifyWith, if_pos hr] at h <;> cases h
  · cases coords <;> rw [densifyWith, if_neg hr] at h <;> cases h
    exact ⟨hr, rfl⟩

theorem densPts_cons_cons (short : K → Pt K → Pt K → Bool) (E : Env K) (r : K) (p q : Pt K) (rest : List (Pt K)) :
    densPts short E r (p :: q :: rest) =
      (p :: if short r p q then [] else loopPts p q (E.len p q) r (E.fuel r p q) r) ++
        densPts short E r (q :: rest) := by
  rw [densPts, densifyFrom, edge, List.append_assoc]
  rfl

theorem densPts_retains (short : K → Pt K → Pt K → Bool) (E : Env K) (r : K) :
    ∀ cs : List (Pt K), List.Sublist cs (densPts short E r cs) ∧
      (densPts short E r cs).head? = cs.head? ∧ (densPts short E r cs).getLast? = cs.getLast?
  | [] => ⟨.slnil, rfl, rfl⟩
  | [_] => ⟨.refl _, rfl, rfl⟩
  | p :: q :: rest => by
    have ih := densPts_retains short E r (q :: rest)
    rw [densPts_cons_cons]
    refine ⟨(ih.1.trans (List.sublist_append_right _ _)).cons_cons p, rfl, ?_⟩
    rw [List.getLast?_append, ih.2.2, List.getLast?_cons_cons]
    rfl

theorem densifyRings_of_pos (E : Env K) {r : K} (hr : ¬ r ≤ 0) :
    ∀ cs : List (List (Pt K)), densifyRings E r cs = .ok (cs.map (densPts shortEnough E r))
  | [] => rfl
  | c :: cs => by
    rw [densifyRings, densify_eq, if_neg hr, densifyRings_of_pos E hr cs]
    rfl

mutual
/-- **with a resolution that passes `densify`'s check `segmented` cannot fail**: it is `densify` on every
coordinate sequence (a point is a sequence of one coordinate, which `densPts` hands back) -/
theorem segmentize_of_pos (E : Env K) {r : K} (hr : ¬ r ≤ 0) :
    ∀ g : Geom K, segmentize E r g = .ok (mapRings (densPts shortEnough E r) g)
  | .point _ => rfl
  | .multiPoint ps => congrArg (fun l => Except.ok (Geom.multiPoint l)) (List.map_id' ps).symm
  | .lineString cs | .linearRing cs => by
    unfold segmentize
    rw [densify_eq, if_neg hr]
    rfl
  | .polygon ext holes => by
    unfold segmentize
    rw [densify_eq, if_neg hr, densifyRings_of_pos E hr]
    rfl
  | .multiLineString gs | .multiPolygon gs | .collection gs => by
    unfold segmentize
    rw [segmentizeList_of_pos E hr gs]
    rfl
theorem segmentizeList_of_pos (E : Env K) {r : K} (hr : ¬ r ≤ 0) :
    ∀ gs : List (Geom K), segmentizeList E r gs = .ok (mapRingsList (densPts shortEnough E r) gs)
  | [] => rfl
  | g :: gs => by
    unfold segmentizeList
    rw [segmentize_of_pos E hr g, segmentizeList_of_pos E hr gs]
    rfl
end

mutual
/-- with `r ≤ 0` every `densify` call is a `ValueError`: only a geometry made of points alone gets
through, unchanged -/
theorem segmentize_of_nonpos (E : Env K) {r : K} (hr : r ≤ 0) :
    ∀ g : Geom K, segmentize E r g = .error .valueError ∨
      (segmentize E r g = .ok g ∧ ∀ c ∈ rings g, ∃ p, c = [p])
  | .point p => .inr ⟨rfl, fun _ hc => ⟨p, List.mem_singleton.mp hc⟩⟩
  | .multiPoint ps => .inr ⟨rfl, fun _ hc => (List.mem_map.mp hc).imp fun _ hp => hp.2.symm⟩
  | .lineString cs | .linearRing cs | .polygon cs _ => by
    left
    unfold segmentize
    rw [densify_eq, if_pos hr]
  | .multiLineString gs | .multiPolygon gs | .collection gs => by
    unfold segmentize
    rcases segmentizeList_of_nonpos E hr gs with h | ⟨h, hp⟩
    · left; rw [h]
    · right; rw [h]; exact ⟨rfl, hp⟩
theorem segmentizeList_of_nonpos (E : Env K) {r : K} (hr : r ≤ 0) :
    ∀ gs : List (Geom K), segmentizeList E r gs = .error .valueError ∨
      (segmentizeList E r gs = .ok gs ∧ ∀ c ∈ ringsList gs, ∃ p, c = [p])
  | [] => .inr ⟨rfl, nofun⟩
  | g :: gs => by
    unfold segmentizeList
    rcases segmentize_of_nonpos E hr g with hg | ⟨hg, a⟩
    · left; rw [hg]
    · rcases segmentizeList_of_nonpos E hr gs with hl | ⟨hl, b⟩
      · left; rw [hg, hl]
      · right; rw [hg, hl]; exact ⟨rfl, fun c hc => (List.mem_append.mp hc).elim (a c) (b c)⟩
end

/-- a successful `segmented` is `densify` on every coordinate sequence, whatever the resolution; and
`densify` did run with a positive resolution on every sequence that is not a single point -/
theorem segmentize_ok {E : Env K} {r : K} {g g' : Geom K} (h : segmentize E r g = .ok g') :
    g' = mapRings (densPts shortEnough E r) g ∧ ∀ c ∈ rings g, (∃ p, c = [p]) ∨ ¬ r ≤ 0 := by
  by_cases hr : r ≤ 0
  · rcases segmentize_of_nonpos E hr g with he | ⟨hg, hp⟩
    · rw [he] at h; cases h
    · rw [hg] at h; cases h
      refine ⟨(mapRings_id _ g fun c hc => ?_).symm, fun c hc => .inl (hp c hc)⟩
      obtain ⟨p, rfl⟩ := hp c hc; rfl
  · rw [segmentize_of_pos E hr] at h; cases h
    exact ⟨rfl, fun _ _ => .inr hr⟩

theorem segmentize_rings {E : Env K} {r : K} {g g' : Geom K} (h : segmentize E r g = .ok g') :
    List.Forall₂ (fun c c' => c' = densPts shortEnough E r c ∧ ((∃ p, c = [p]) ∨ ¬ r ≤ 0))
      (rings g) (rings g') := by
  obtain ⟨rfl, hp⟩ := segmentize_ok h
  rw [rings_mapRings _ fun p => ⟨p, rfl⟩]
  exact List.forall₂_map_right_iff.mpr (List.forall₂_same.mpr fun c hc => ⟨rfl, hp c hc⟩)

/-- the list form of a statement about `segmented`, through the collection of the list -/
theorem segmentize_collection {E : Env K} {r : K} {gs gs' : List (Geom K)} (h : segmentizeList E r gs = .ok gs') :
    segmentize E r (.collection gs) = .ok (.collection gs') := by
  unfold segmentize; rw [h]

/-- the geometry `to_crs` projects: `segmented(r)` of the input for a positive finite resolution
(`"auto"`: the automatic one), the input itself otherwise -/
def densified (E : Env K) (autoRes : Geom K → K) (res : Resolution K) (geom : Geom K) : Geom K :=
  let r? : Option K := match res with
    | .none => Option.none
    | .nonfinite => Option.none
    | .auto => some (autoRes geom)
    | .val r => some r
  match r? with
  | Option.none => geom
  | some r => if 0 < r then mapRings (densPts shortEnough E r) geom else geom

theorem densified_val_nonpos (E : Env K) (autoRes : Geom K → K) (r : K) (hr : ¬ 0 < r) (geom : Geom K) :
    densified E autoRes (.val r) geom = geom := if_neg hr

theorem densified_val_pos (E : Env K) (autoRes : Geom K → K) (r : K) (hr : 0 < r) (geom : Geom K) :
    densified E autoRes (.val r) geom = mapRings (densPts shortEnough E r) geom := if_pos hr

end

section order
variable {K : Type} [LinearOrder K]

theorem minK_le_left (a b : K) : minK a b ≤ a := by
  unfold minK; split
  · exact le_of_lt ‹_›
  · exact le_refl a

theorem minK_le_right (a b : K) : minK a b ≤ b := by
  unfold minK; split
  · exact le_refl b
  · exact not_lt.mp ‹_›

theorem le_maxK_left (a b : K) : a ≤ maxK a b := by
  unfold maxK; split
  · exact le_of_lt ‹_›
  · exact le_refl a

theorem le_maxK_right (a b : K) : b ≤ maxK a b := by
  unfold maxK; split
  · exact le_refl b
  · exact not_lt.mp ‹_›

theorem minK_le_maxK (a b : K) : minK a b ≤ maxK a b :=
  (minK_le_left a b).trans (le_maxK_left a b)

theorem minK_maxK_sorted (a b : K) (h : a ≤ b) : minK a b = a ∧ maxK a b = b := by
  refine ⟨if_neg (not_lt.mpr h), ?_⟩
  unfold maxK; split
  · rfl
  · exact le_antisymm h (not_lt.mp ‹_›)

theorem boundsOf_fold_contains (ps : List (Pt K)) :
    ∀ (b : K × K × K × K) (v : Pt K),
      ((b.1 ≤ v.x ∧ v.x ≤ b.2.2.1 ∧ b.2.1 ≤ v.y ∧ v.y ≤ b.2.2.2) ∨ v ∈ ps) →
      let r := ps.foldl (fun (b : K × K × K × K) q =>
        (minK b.1 q.x, minK b.2.1 q.y, maxK b.2.2.1 q.x, maxK b.2.2.2 q.y)) b
      r.1 ≤ v.x ∧ v.x ≤ r.2.2.1 ∧ r.2.1 ≤ v.y ∧ v.y ≤ r.2.2.2 := by
  induction ps with
  | nil => exact fun _ _ h => h.elim id fun h => absurd h List.not_mem_nil
  | cons q ps ih =>
    intro b v h
    simp only [List.foldl_cons]
    apply ih
    rcases h with h | h
    · left
      exact ⟨(minK_le_left _ _).trans h.1, h.2.1.trans (le_maxK_left _ _), (minK_le_left _ _).trans h.2.2.1,
        h.2.2.2.trans (le_maxK_left _ _)⟩
    · rcases List.mem_cons.mp h with rfl | h
      · left
        exact ⟨minK_le_right _ _, le_maxK_right _ _, minK_le_right _ _, le_maxK_right _ _⟩
      · right; exact h

theorem boundsOf_contains (vs : List (Pt K)) (b : K × K × K × K) (h : boundsOf vs = some b) :
    ∀ v ∈ vs, b.1 ≤ v.x ∧ v.x ≤ b.2.2.1 ∧ b.2.1 ≤ v.y ∧ v.y ≤ b.2.2.2 := by
  cases vs with
  | nil => cases h
  | cons p ps =>
    cases h
    intro v hv
    refine boundsOf_fold_contains ps _ v ((List.mem_cons.mp hv).imp ?_ id)
    rintro rfl
    exact ⟨le_rfl, le_rfl, le_rfl, le_rfl⟩

variable [Zero K] [Add K] [Sub K] [Mul K] [Div K]

theorem densify_pos {E : Env K} {r : K} {coords out : List (Pt K)} (h : densify E r coords = .ok out) : 0 < r :=
  not_le.mp (densify_ok h).1

/-- `self.segmented(resolution)` behind the gate `resolution > 0` of `to_crs` never fails -/
theorem segmentize_gate (E : Env K) (r : K) (geom : Geom K) :
    (if 0 < r then segmentize E r geom else .ok geom) =
      .ok (if 0 < r then mapRings (densPts shortEnough E r) geom else geom) := by
  by_cases hr : 0 < r
  · rw [if_pos hr, if_pos hr, segmentize_of_pos E (not_le.mpr hr)]
  · rw [if_neg hr, if_neg hr]

theorem densified_ok (E : Env K) (autoRes : Geom K → K) (res : Resolution K) (geom : Geom K) :
    densified E autoRes res geom = geom ∨
      ∃ r, 0 < r ∧ segmentize E r geom = .ok (densified E autoRes res geom) := by
  have ite : ∀ r, (if 0 < r then mapRings (densPts shortEnough E r) geom else geom) = geom ∨
      ∃ r', 0 < r' ∧ segmentize E r' geom =
        .ok (if 0 < r then mapRings (densPts shortEnough E r) geom else geom) := fun r =>
    if hr : 0 < r then .inr ⟨r, hr, by rw [if_pos hr]; exact segmentize_of_pos E (not_le.mpr hr) geom⟩
    else .inl (if_neg hr)
  cases res with
  | none | nonfinite => exact .inl rfl
  | auto | val r => exact ite _

/-- **between two different CRSs `to_crs` cannot fail** (the transformer and shapely being total functions
here): it is the transformer on every vertex of the densified geometry -/
theorem toCrs_of_ne (E : Env K) (proj : C01.CrsRec → C01.CrsRec → Pt K → Pt K) (autoRes : Geom K → K)
    (s t : C01.CrsRec) (geom : Geom K) (res : Resolution K) (hne : C01.tagEq (some s) (some t) = false) :
    toCrs E proj autoRes ⟨some s, geom⟩ (some t) res =
      .ok ⟨some t, mapPts (proj s t) (densified E autoRes res geom)⟩ := by
  have hne' : ¬ C01.tagEq (some s) (some t) = true := by rw [hne]; exact Bool.false_ne_true
  unfold toCrs densified
  dsimp only
  rw [if_neg hne']
  cases res with
  | none | nonfinite => rfl
  | auto | val r => dsimp only; rw [segmentize_gate]

end order

end OdcGeo.C07
