/- The binary64 rounding `fl64` of `Model/C14.lean` satisfies the standard error model on positive rationals. -/
import OdcGeo.Lemmas.C14Fl
namespace OdcGeo.C14

theorem roundHalfEven_err (r : Rat) : |((roundHalfEven r : Int) : Rat) - r| ≤ 1 / 2 := Gen.Py.roundHalfEven_err r

theorem fl64_error_pos (a : Rat) (ha : 0 < a) : |fl64 a - a| ≤ 1 / 2 ^ 53 * a + pow2 (-1074) / 2 := by
  obtain ⟨e, h1, h3⟩ := fl64_spec a ha
  have hp : 0 < pow2 e := pow2_pos e
  have : fl64 a - a = ((roundHalfEven (a / pow2 e) : Rat) - a / pow2 e) * pow2 e := by
    rw [h1, sub_mul, div_mul_cancel₀ _ hp.ne']
  rw [this, abs_mul, abs_of_pos hp]
  have := mul_le_mul_of_nonneg_right (roundHalfEven_err (a / pow2 e)) hp.le
  linarith

end OdcGeo.C14
