/- What the one-axis tiling functions compute on valid arguments (`Tiles`: `getItem`, `tileShape`,
`locate`; `VariableSizedTiles`: `vgetItem`, `vtileShape`, `vlocate`), and the two kinds behind one
interface: tile `i` of a `Tiling` has a pixel region, an int index is answered with it, the regions
lie in index order inside the image, `locate` finds the region that holds a pixel.  At the end `zip2_ok_iff`: the
lift to two axes (`zip2`) through which the 2-D statements use all this. -/
import OdcGeo.Lemmas.C04
import OdcGeo.Lemmas.C17
import OdcGeo.Lemmas.Except
namespace OdcGeo.C04
open OdcGeo OdcGeo.C17 OdcGeo.NpArray

/-- the tile an int index addresses once `_norm_slice` / `_sz` have counted a negative one from the end -/
def wrapIdx (T i : Int) : Int := if i < 0 then T + i else i

theorem wrapIdx_of_neg {T i : Int} (h : i < 0) : wrapIdx T i = T + i := if_pos h

theorem wrapIdx_of_nonneg {T i : Int} (h : 0 ≤ i) : wrapIdx T i = i := if_neg (Int.not_lt.2 h)

theorem normSlice_idx (T i : Int) :
    normSlice (.idx i) T = ⟨wrapIdx T i, wrapIdx T i + 1⟩ := rfl

theorem wrapped_inrange_iff (T i : Int) :
    (0 ≤ wrapIdx T i ∧ wrapIdx T i < T) ↔ ¬ (i < -T ∨ T ≤ i) := by
  unfold wrapIdx
  split <;> omega

theorem error_iff_wrapped {α : Type} {r : Res α} {T i : Int}
    (hin : 0 ≤ wrapIdx T i ∧ wrapIdx T i < T → ∃ v, r = .ok v)
    (hout : ¬ (0 ≤ wrapIdx T i ∧ wrapIdx T i < T) → r = .error .indexError) :
    r = .error .indexError ↔ (i < -T ∨ T ≤ i) :=
  (error_iff_of_refused hout fun h => hin (not_not.1 h)).trans
    ((and_iff_right rfl).trans (not_iff_comm.1 (wrapped_inrange_iff T i).symm))

theorem getItem_of_norm (N n : Int) (idx : PIdx) (a b : Int)
    (h : normSlice idx (count N n) = ⟨a, b⟩) :
    getItem N n idx = if 0 ≤ a * n ∧ a * n < N ∧ b * n < N + n then .ok ⟨a * n, min (b * n) N⟩
      else .error .indexError := by
  simp only [getItem, h]

theorem getItem_block (N n : Int) (hn : 0 < n) (idx : PIdx) (a b : Int)
    (hr : normSlice idx (count N n) = ⟨a, b⟩) (hab : 0 ≤ a ∧ a < b ∧ b ≤ count N n) :
    getItem N n idx = .ok ⟨a * n, min (b * n) N⟩ := by
  have h1 := (mul_lt_iff_lt_count N n a hn).2 (Int.lt_of_lt_of_le hab.2.1 hab.2.2)
  have h2 := (mul_lt_iff_lt_count N n (b - 1) hn).2 (Int.sub_one_lt_of_le hab.2.2)
  rw [Int.sub_mul, Int.one_mul] at h2
  rw [getItem_of_norm N n idx a b hr,
    if_pos ⟨Int.mul_nonneg hab.1 (Int.le_of_lt hn), h1, Int.lt_add_of_sub_right_lt h2⟩]

theorem tileShape_of (N n i : Int) :
    tileShape N n i =
      if 0 ≤ wrapIdx (count N n) i ∧ wrapIdx (count N n) i < count N n - 1
      then .ok n
      else if 0 ≤ wrapIdx (count N n) i ∧ wrapIdx (count N n) i = count N n - 1
        then .ok (N - wrapIdx (count N n) i * n)
        else .error .indexError := rfl

theorem getItem_nonneg (N n : Int) (hn : 0 < n) (idx : PIdx) (s : NSlice)
    (h : getItem N n idx = .ok s) : 0 ≤ s.start ∧ 0 ≤ s.stop := by
  simp only [getItem] at h
  split at h
  · next hc =>
    cases h
    refine ⟨hc.1, ?_⟩
    -- the stop tile index is positive (int index: start + 1) or a wrapped slice bound
    have : 0 ≤ (normSlice idx (count N n)).stop * n := by
      cases idx with
      | idx i =>
        rw [normSlice_idx] at hc ⊢
        simp only [Int.add_mul, Int.one_mul] at hc ⊢
        omega
      | slc a b => exact Int.mul_nonneg (wrapNeg_nonneg _ _) (Int.le_of_lt hn)
    simp only []
    omega
  · cases h

theorem getItem_idx (N n : Int) (hn : 0 < n) (i : Int) (hi : 0 ≤ i ∧ i < count N n) :
    getItem N n (.idx i) = .ok ⟨i * n, min ((i + 1) * n) N⟩ :=
  getItem_block N n hn (.idx i) i (i + 1) (by rw [normSlice_idx, wrapIdx_of_nonneg hi.1])
    ⟨hi.1, Int.lt_succ_self i, Int.add_one_le_of_lt hi.2⟩

theorem getItem_idx_ok (N n i : Int) (s : NSlice) (h : getItem N n (.idx i) = .ok s) :
    (0 ≤ wrapIdx (count N n) i * n ∧ wrapIdx (count N n) i * n < N) ∧
      s = ⟨wrapIdx (count N n) i * n, min ((wrapIdx (count N n) i + 1) * n) N⟩ := by
  rw [getItem_of_norm N n _ _ _ (normSlice_idx _ i)] at h
  split at h
  · next hc => cases h; exact ⟨⟨hc.1, hc.2.1⟩, rfl⟩
  · cases h

theorem idx_valid_of_start (N n j : Int) (hn : 0 < n) (h : 0 ≤ j * n ∧ j * n < N) :
    0 ≤ j ∧ j < count N n :=
  ⟨Int.le_of_mul_le_mul_right (by rw [Int.zero_mul]; exact h.1) hn, (mul_lt_iff_lt_count N n j hn).1 h.2⟩

theorem tile_len (N n : Int) (hn : 0 < n) (j : Int) (hj : j < count N n) :
    min ((j + 1) * n) N - j * n = if j < count N n - 1 then n else N - j * n := by
  by_cases h1 : j < count N n - 1
  · have := (mul_lt_iff_lt_count N n (j + 1) hn).2 (Int.add_lt_of_lt_sub_right h1)
    rw [if_pos h1, Int.min_eq_left (Int.le_of_lt this), Int.add_mul, Int.one_mul, add_sub_cancel_left]
  · have hle := (count_is_ceil N n hn).2
    rw [Int.le_antisymm (Int.le_add_of_sub_right_le (Int.not_lt.1 h1)) (Int.add_one_le_of_lt hj)] at hle
    rw [if_neg h1, Int.min_eq_right hle]

theorem tileShape_wrapped (N n : Int) (i : Int)
    (hj : 0 ≤ wrapIdx (count N n) i ∧ wrapIdx (count N n) i < count N n) :
    tileShape N n i = .ok (if wrapIdx (count N n) i < count N n - 1 then n
      else N - wrapIdx (count N n) i * n) := by
  rw [tileShape_of]
  by_cases h : wrapIdx (count N n) i < count N n - 1
  · rw [if_pos ⟨hj.1, h⟩, if_pos h]
  · rw [if_neg (fun hc => h hc.2),
      if_pos ⟨hj.1, Int.le_antisymm (Int.le_sub_one_of_lt hj.2) (Int.not_lt.1 h)⟩, if_neg h]

theorem tileShape_idx (N n : Int) (i : Int) (hi : 0 ≤ i ∧ i < count N n) :
    tileShape N n i = .ok (if i < count N n - 1 then n else N - i * n) := by
  have := tileShape_wrapped N n i
  rwa [wrapIdx_of_nonneg hi.1, imp_iff_right hi] at this

/-- `locate` divides by the tile size, or by the image size when there is one tile only: the
quotient is the same -/
theorem locate_eq_ediv (N n : Int) (hn : 0 < n) (y : Int) (hy : 0 ≤ y ∧ y < N) :
    locate N n y = .ok (y / n) := by
  have hT := count_pos N n hn (Int.lt_of_le_of_lt hy.1 hy.2)
  simp only [locate, tileShape_idx N n 0 ⟨Int.le_refl 0, hT⟩, bind, Except.bind, pure, Except.pure]
  rw [if_neg (not_or.2 ⟨Int.not_lt.2 hy.1, Int.not_le.2 hy.2⟩)]
  by_cases h1 : (0:Int) < count N n - 1
  · rw [if_pos h1]
  · have hle := (count_is_ceil N n hn).2
    rw [show count N n = 1 by omega, Int.one_mul] at hle
    rw [if_neg h1, Int.zero_mul, Int.sub_zero, Int.ediv_eq_zero_of_lt hy.1 hy.2,
      Int.ediv_eq_zero_of_lt hy.1 (Int.lt_of_lt_of_le hy.2 hle)]

theorem vgetItem_of_norm (ch : List Int) (idx : PIdx) (a b : Int)
    (h : normSlice idx (vcount ch) = ⟨a, b⟩) :
    vgetItem ch idx = if a < 0 then .error .indexError else
      (npGet (offsets ch) a).bind fun x => (npGet (offsets ch) b).bind fun y => .ok ⟨x, y⟩ := by
  simp only [vgetItem, h, bind, pure, Except.pure]

theorem vtileShape_of (ch : List Int) (i : Int) :
    vtileShape ch i = if wrapIdx (vcount ch) i < 0 ∨ wrapIdx (vcount ch) i ≥ vcount ch then .error .indexError
      else (npGet (offsets ch) (wrapIdx (vcount ch) i)).bind fun a =>
        (npGet (offsets ch) (wrapIdx (vcount ch) i + 1)).bind fun b => .ok (b - a) := rfl

theorem vgetItem_nonneg (ch : List Int) (hok : ChunksOK ch) (idx : PIdx) (s : NSlice)
    (h : vgetItem ch idx = .ok s) : 0 ≤ s.start ∧ 0 ≤ s.stop := by
  have key : ∀ j v, npGet (offsets ch) j = .ok v → 0 ≤ v := by
    intro j v hv
    obtain ⟨k, hw⟩ := npGet_ok_mem _ _ _ hv
    have hlt := (List.getElem?_eq_some_iff.1 hw).1
    rw [offsets_length] at hlt
    rw [offsets_getElem? ch hok _ (Nat.le_of_lt_succ hlt)] at hw
    cases hw
    exact pre_nonneg ch hok.1 _
  revert h
  unfold vgetItem
  dsimp only
  split
  · exact nofun
  · cases ha : npGet (offsets ch) (normSlice idx (vcount ch)).start with
    | error e => exact nofun
    | ok a =>
      cases hb : npGet (offsets ch) (normSlice idx (vcount ch)).stop with
      | error e => exact nofun
      | ok b => rintro ⟨⟩; exact ⟨key _ _ ha, key _ _ hb⟩

theorem vgetItem_block (ch : List Int) (hok : ChunksOK ch) (idx : PIdx) (a b : Nat)
    (hr : normSlice idx (vcount ch) = ⟨a, b⟩) (hab : a ≤ ch.length ∧ b ≤ ch.length) :
    vgetItem ch idx = .ok ⟨pre ch a, pre ch b⟩ := by
  rw [vgetItem_of_norm ch idx a b hr, if_neg (Int.not_lt.2 (Int.natCast_nonneg a)),
    npGet_offsets ch hok a hab.1, npGet_offsets ch hok b hab.2]
  rfl

theorem vgetItem_idx (ch : List Int) (hok : ChunksOK ch) (i : Nat) (hi : i < ch.length) :
    vgetItem ch (.idx i) = .ok ⟨pre ch i, pre ch (i + 1)⟩ :=
  vgetItem_block ch hok (.idx i) i (i + 1) (by rw [normSlice_idx, wrapIdx_of_nonneg (Int.natCast_nonneg i)]; rfl)
    ⟨Nat.le_of_lt hi, hi⟩

theorem vidx_inrange (ch : List Int) (i : Int)
    (hj : 0 ≤ wrapIdx ch.length i ∧ wrapIdx ch.length i < ch.length) :
    ∃ x y, vgetItem ch (.idx i) = .ok ⟨x, y⟩ ∧ vtileShape ch i = .ok (y - x) := by
  rw [vgetItem_of_norm ch _ _ _ (normSlice_idx _ i)]
  rw [vtileShape_of, vcount_eq]
  generalize wrapIdx ch.length i = j at hj ⊢
  have hL : ((offsets ch).length : Int) = ch.length + 1 := by rw [offsets_length]; rfl
  obtain ⟨x, _, hx⟩ := npGet_inrange (offsets ch) j
    ⟨hj.1, by rw [hL]; exact Int.lt_add_one_of_le (Int.le_of_lt hj.2)⟩
  obtain ⟨y, _, hy⟩ := npGet_inrange (offsets ch) (j + 1)
    ⟨Int.add_nonneg hj.1 Int.one_nonneg, by rw [hL]; exact Int.add_lt_add_right hj.2 1⟩
  rw [if_neg (Int.not_lt.2 hj.1), if_neg (not_or.2 ⟨Int.not_lt.2 hj.1, Int.not_le.2 hj.2⟩), hx, hy]
  exact ⟨x, y, rfl, rfl⟩

theorem vidx_outofrange (ch : List Int) (i : Int)
    (hj : ¬ (0 ≤ wrapIdx ch.length i ∧ wrapIdx ch.length i < ch.length)) :
    vgetItem ch (.idx i) = .error .indexError ∧ vtileShape ch i = .error .indexError := by
  rw [vgetItem_of_norm ch _ _ _ (normSlice_idx _ i), vtileShape_of, vcount_eq]
  generalize wrapIdx ch.length i = j at hj ⊢
  refine ⟨?_, if_pos ((not_and_or.1 hj).imp Int.not_le.1 Int.not_lt.1)⟩
  by_cases h0 : j < 0
  · rw [if_pos h0]
  · have hL : ((offsets ch).length : Int) = ch.length + 1 := by rw [offsets_length]; rfl
    rw [if_neg h0]
    by_cases h2 : j = ch.length
    · obtain ⟨x, _, hx⟩ := npGet_inrange (offsets ch) j
        ⟨Int.not_lt.1 h0, by rw [hL, h2]; exact Int.lt_succ_self _⟩
      rw [hx, npGet_outofrange (offsets ch) (j + 1) (by rw [hL, h2])]
      rfl
    · rw [npGet_outofrange (offsets ch) j (by omega)]
      rfl

theorem exists_tile (ch : List Int) (hok : ChunksOK ch) (y : Int) (hy : 0 ≤ y ∧ y < vbase ch) :
    ∃ i, i < ch.length ∧ pre ch i ≤ y ∧ y < pre ch (i + 1) := by
  rw [vbase_eq_total ch hok, ← pre_length] at hy
  exact exists_interval (pre ch) y ch.length (by rw [pre_zero]; exact hy.1) hy.2

/-- `offsets[1:]` holds the tile ends, so the search stops at the tile that holds `y` -/
theorem vlocate_of_has (ch : List Int) (hok : ChunksOK ch) (i : Nat) (hi : i < ch.length) (y : Int)
    (h : pre ch i ≤ y ∧ y < pre ch (i + 1)) : vlocate ch y = .ok (i : Int) := by
  obtain ⟨_, r2, r3⟩ := searchsorted_split (cumsum32 0 ch) y (sorted_cumsum32 ch hok)
  have hr : searchsortedRight (cumsum32 0 ch) y = i := by
    generalize searchsortedRight (cumsum32 0 ch) y = r at r2 r3
    have el : ∀ k, k < ch.length → (cumsum32 0 ch)[k]? = some (pre ch (k + 1)) := fun k hk => by
      rw [cumsum32_getElem? 0 ch hok.noWrap k hk, Int.zero_add]
    rcases Nat.lt_trichotomy r i with hlt | heq | hgt
    · have hi1 : 1 ≤ i := Nat.lt_of_le_of_lt (Nat.zero_le r) hlt
      have := r3 (i - 1) _ (Nat.le_sub_one_of_lt hlt) (el (i - 1) (Nat.lt_of_le_of_lt (Nat.sub_le i 1) hi))
      rw [Nat.sub_add_cancel hi1] at this
      exact absurd this (Int.not_lt.2 h.1)
    · exact heq
    · exact absurd (r2 i _ hgt (el i hi)) (Int.not_le.2 h.2)
  rw [← hr]
  refine if_neg (not_or.2 ⟨Int.not_lt.2 (Int.le_trans (pre_nonneg ch hok.1 i) h.1), Int.not_le.2 ?_⟩)
  rw [vbase_eq_total ch hok]
  exact Int.lt_of_lt_of_le h.2 (pre_le_total ch hok.1 _)

theorem vgetItem_tileReg (ch : List Int) (hok : ChunksOK ch) (i : Int)
    (hi : 0 ≤ i ∧ i < (ch.length : Int)) : vgetItem ch (.idx i) = .ok (tileReg ch i) := by
  obtain ⟨k, rfl⟩ := Int.eq_ofNat_of_zero_le hi.1
  exact vgetItem_idx ch hok k (Int.ofNat_lt.1 hi.2)

theorem tileReg_ok (ch : List Int) (hok : ChunksOK ch) (i : Int) :
    0 ≤ (tileReg ch i).start ∧ (tileReg ch i).start ≤ (tileReg ch i).stop :=
  ⟨pre_nonneg ch hok.1 _, pre_mono_step ch hok.1 _⟩

/-- the pixel region of tile `i` -/
def Tiling.region : Tiling → Int → NSlice
  | .reg N n, i => ⟨i * n, min ((i + 1) * n) N⟩
  | .var ch, i => tileReg ch i

theorem Tiling.getItem_idx (t : Tiling) (hw : t.WF) {i : Int} (hi : 0 ≤ i ∧ i < t.count) :
    t.getItem (.idx i) = .ok (t.region i) := by
  cases t with
  | reg N n => exact C04.getItem_idx N n hw i hi
  | var ch => exact vgetItem_tileReg ch hw i ⟨hi.1, vcount_eq ch ▸ hi.2⟩

theorem Tiling.region_le (t : Tiling) (hw : t.WF) {i j : Int} (hi : 0 ≤ i) (hij : i < j) :
    (t.region i).stop ≤ (t.region j).start := by
  cases t with
  | reg N n =>
    exact Int.le_trans (Int.min_le_left _ _)
      (Int.mul_le_mul_of_nonneg_right (Int.add_one_le_of_lt hij) (Int.le_of_lt hw))
  | var ch => exact pre_mono ch hw.1 _ _ (Int.lt_toNat.2 ((Int.toNat_of_nonneg hi).symm ▸ hij))

theorem Tiling.region_mono (t : Tiling) (hw : t.WF) {i i' y y' : Int} (hi' : 0 ≤ i')
    (hy : (t.region i).Has y) (hy' : (t.region i').Has y') (h : y ≤ y') : i ≤ i' :=
  Int.not_lt.1 fun hlt =>
    absurd (Int.lt_of_lt_of_le hy'.2 (t.region_le hw hi' hlt)) (Int.not_lt.2 (Int.le_trans hy.1 h))

theorem Tiling.region_unique (t : Tiling) (hw : t.WF) {i j y : Int} (hi : 0 ≤ i) (hj : 0 ≤ j)
    (h1 : (t.region i).Has y) (h2 : (t.region j).Has y) : i = j :=
  Int.le_antisymm (t.region_mono hw hj h1 h2 (Int.le_refl y)) (t.region_mono hw hi h2 h1 (Int.le_refl y))

theorem Tiling.region_within (t : Tiling) (hw : t.WF) {i : Int} (hi : 0 ≤ i ∧ i < t.count) :
    0 ≤ (t.region i).start ∧ (t.region i).start ≤ (t.region i).stop ∧ (t.region i).stop ≤ t.base := by
  cases t with
  | reg N n =>
    have hn := Int.le_of_lt hw
    exact ⟨Int.mul_nonneg hi.1 hn,
      Int.le_min.2 ⟨Int.mul_le_mul_of_nonneg_right (Int.le_add_one (Int.le_refl i)) hn,
        Int.le_of_lt ((mul_lt_iff_lt_count N n i hw).2 hi.2)⟩,
      Int.min_le_right _ _⟩
  | var ch =>
    exact ⟨(tileReg_ok ch hw i).1, (tileReg_ok ch hw i).2,
      (pre_le_total ch hw.1 _).trans_eq (vbase_eq_total ch hw).symm⟩

theorem Tiling.locate_spec (t : Tiling) (hw : t.WF) (y : Int) (hy : 0 ≤ y ∧ y < t.base) :
    ∃ i, t.locate y = .ok i ∧ (0 ≤ i ∧ i < t.count) ∧ (t.region i).Has y := by
  cases t with
  | reg N n =>
    obtain ⟨b1, b2⟩ := ediv_bounds y n hw
    exact ⟨_, locate_eq_ediv N n hw y hy,
      ⟨Int.ediv_nonneg hy.1 (Int.le_of_lt hw), (mul_lt_iff_lt_count N n _ hw).1 (Int.lt_of_le_of_lt b1 hy.2)⟩,
      b1, Int.lt_min.2 ⟨b2, hy.2⟩⟩
  | var ch =>
    obtain ⟨i, hi, h12⟩ := exists_tile ch hw y hy
    exact ⟨i, vlocate_of_has ch hw i hi y h12,
      ⟨Int.natCast_nonneg i, (Int.ofNat_lt.2 hi).trans_eq (vcount_eq ch).symm⟩, h12⟩

theorem Tiling.partition (t : Tiling) (hw : t.WF) (y : Int) (hy : 0 ≤ y ∧ y < t.base) :
    ∃! i : Int, (0 ≤ i ∧ i < t.count) ∧ ∃ s, t.getItem (.idx i) = .ok s ∧ s.Has y := by
  obtain ⟨i, _, hi, hs⟩ := t.locate_spec hw y hy
  refine ⟨i, ⟨hi, _, t.getItem_idx hw hi, hs⟩, ?_⟩
  rintro j ⟨hj, s, hs', hys⟩
  rw [t.getItem_idx hw hj] at hs'
  cases hs'
  exact t.region_unique hw hj.1 hi.1 hys hs

theorem Tiling.getItem_nonneg (t : Tiling) (hw : t.WF) (idx : PIdx) (s : NSlice)
    (h : t.getItem idx = .ok s) : 0 ≤ s.start ∧ 0 ≤ s.stop := by
  cases t with
  | reg N n => exact C04.getItem_nonneg N n hw idx s h
  | var ch => exact vgetItem_nonneg ch hw idx s h

theorem zip2_ok_iff {α : Type} {a b : Res α} {x y : α} :
    zip2 a b = .ok (x, y) ↔ a = .ok x ∧ b = .ok y := by
  cases a <;> cases b <;> simp [zip2, bind, Except.bind, pure, Except.pure]

end OdcGeo.C04
