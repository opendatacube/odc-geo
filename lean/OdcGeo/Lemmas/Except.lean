/-
`Except` as every model uses it (`Res α = Except ErrKind α` and the glue models' own error types): when a `>>=`, a `map`,
a guard or a `List.mapM` answers `.ok`, and when and with what a `>>=` raises.  Stated for any error type, so that each
model's result monad is an instance.
-/
import Batteries.Data.List.Basic

namespace OdcGeo

variable {ε α β : Type}

theorem bind_ok_iff {x : Except ε α} {f : α → Except ε β} {b : β} :
    x >>= f = .ok b ↔ ∃ a, x = .ok a ∧ f a = .ok b := by
  cases x with
  | error e => exact ⟨nofun, nofun⟩
  | ok a => exact ⟨fun h => ⟨a, rfl, h⟩, fun ⟨_, rfl, h⟩ => h⟩

theorem map_ok_iff {x : Except ε α} {f : α → β} {b : β} : x.map f = .ok b ↔ ∃ a, x = .ok a ∧ f a = b := by
  cases x with
  | error e => exact ⟨nofun, nofun⟩
  | ok a => exact ⟨fun h => ⟨a, rfl, Except.ok.inj h⟩, fun ⟨_, rfl, h⟩ => congrArg _ h⟩

theorem pure_ok (a : α) : (pure a : Except ε α) = .ok a := rfl

/-- a guard in front of `x` -/
theorem ite_error_eq_ok_iff {c : Prop} [Decidable c] (e : ε) (x : Except ε α) (a : α) :
    (if c then .error e else x) = .ok a ↔ ¬ c ∧ x = .ok a := by
  by_cases h : c
  · rw [if_pos h]
    exact ⟨nofun, fun h' => absurd h h'.1⟩
  · rw [if_neg h, and_iff_right h]

/-- the error of a `>>=` is that of its first step, or that of the rest on the value the first step returned -/
theorem bind_eq_error_iff {x : Except ε α} {f : α → Except ε β} {e : ε} :
    x >>= f = .error e ↔ x = .error e ∨ ∃ a, x = .ok a ∧ f a = .error e := by
  cases x with
  | error e' =>
    show (Except.error e' : Except ε β) = .error e ↔ _
    rw [Except.error.injEq, Except.error.injEq]
    exact ⟨.inl, fun h => h.elim id fun ⟨_, h, _⟩ => nomatch h⟩
  | ok a => exact ⟨fun h => .inr ⟨a, rfl, h⟩, fun h => h.elim nofun fun ⟨_, h, h'⟩ => Except.ok.inj h ▸ h'⟩

/-- the same for "raises" (`∃ e, … = .error e`), the form the `raises_*` lemmas below speak in -/
theorem raises_bind_iff (x : Except ε α) (f : α → Except ε β) :
    (∃ e, x >>= f = .error e) ↔ (∃ e, x = .error e) ∨ ∃ a, x = .ok a ∧ ∃ e, f a = .error e := by
  cases x with
  | error e => exact ⟨fun _ => .inl ⟨e, rfl⟩, fun _ => ⟨e, rfl⟩⟩
  | ok a =>
    exact ⟨fun ⟨e, h⟩ => .inr ⟨a, rfl, e, h⟩,
      fun h => h.elim (fun ⟨_, h⟩ => nomatch h) fun ⟨_, h, e, h'⟩ => ⟨e, Except.ok.inj h ▸ h'⟩⟩

theorem bind_isOk_iff (x : Except ε α) (f : α → Except ε β) :
    (∃ b, x >>= f = .ok b) ↔ ∃ a, x = .ok a ∧ ∃ b, f a = .ok b :=
  ⟨fun ⟨b, h⟩ => (bind_ok_iff.1 h).elim fun a h' => ⟨a, h'.1, b, h'.2⟩,
    fun ⟨a, h1, b, h2⟩ => ⟨b, bind_ok_iff.2 ⟨a, h1, h2⟩⟩⟩

/-- a `do` block raises as soon as each value its first step can return makes the rest raise -/
theorem raises_bind {x : Except ε α} {f : α → Except ε β} (h : ∀ a, x = .ok a → ∃ e, f a = .error e) :
    ∃ e, x >>= f = .error e := by
  cases x with
  | error e => exact ⟨e, rfl⟩
  | ok a => exact h a rfl

theorem raises_bind_left {x : Except ε α} (f : α → Except ε β) (h : ∃ e, x = .error e) : ∃ e, x >>= f = .error e :=
  (raises_bind_iff x f).2 (.inl h)

/-- two steps evaluated one after the other, whatever is done with their values: either one raising is enough -/
theorem seq_rejected {γ : Type} {x : Except ε α} {y : Except ε β} (k : α → β → Except ε γ)
    (h : (∃ e, x = .error e) ∨ (∃ e, y = .error e)) : ∃ e, (x >>= fun p => y >>= fun q => k p q) = .error e :=
  h.elim (raises_bind_left _) fun hy => raises_bind fun _ _ => raises_bind_left _ hy

/-- a call that raises `e₀` exactly on the arguments with `P` and answers on all others -/
theorem error_iff_of_refused {r : Except ε α} {e e₀ : ε} {P : Prop}
    (hP : P → r = .error e₀) (hn : ¬ P → ∃ a, r = .ok a) : r = .error e ↔ e = e₀ ∧ P := by
  by_cases h : P
  · rw [hP h, and_iff_left h]
    exact ⟨fun he => (Except.error.inj he).symm, fun he => he ▸ rfl⟩
  · obtain ⟨a, ha⟩ := hn h
    rw [ha]
    exact ⟨nofun, fun he => absurd he.2 h⟩

theorem mapM_cons_ok_iff {f : α → Except ε β} {a : α} {l : List α} {ys : List β} :
    (a :: l).mapM f = .ok ys ↔ ∃ b bs, f a = .ok b ∧ l.mapM f = .ok bs ∧ ys = b :: bs := by
  rw [List.mapM_cons, bind_ok_iff]
  refine exists_congr fun b => ⟨fun ⟨hb, h⟩ => ?_, fun ⟨bs, hb, hbs, hy⟩ => ⟨hb, ?_⟩⟩
  · obtain ⟨bs, hbs, h⟩ := bind_ok_iff.1 h
    exact ⟨bs, hb, hbs, (Except.ok.inj h).symm⟩
  · exact bind_ok_iff.2 ⟨bs, hbs, congrArg _ hy.symm⟩

/-- `mapM` answers `.ok ys` exactly when `f` answers `.ok` element by element, with `ys` the answers in order -/
theorem mapM_ok_iff {f : α → Except ε β} {l : List α} {ys : List β} :
    l.mapM f = .ok ys ↔ List.Forall₂ (fun a b => f a = .ok b) l ys := by
  induction l generalizing ys with
  | nil => exact ⟨fun h => Except.ok.inj h ▸ .nil, fun h => by cases h; rfl⟩
  | cons a l ih =>
    rw [mapM_cons_ok_iff]
    constructor
    · rintro ⟨b, bs, hb, hbs, rfl⟩
      exact .cons hb (ih.1 hbs)
    · rintro (_ | ⟨hb, hbs⟩)
      exact ⟨_, _, hb, ih.2 hbs, rfl⟩

theorem mapM_ok_mem {f : α → Except ε β} {l : List α} {out : List β} (h : l.mapM f = .ok out) :
    ∀ y ∈ out, ∃ x ∈ l, f x = .ok y := by
  have H := mapM_ok_iff.mp h
  clear h
  induction H with
  | nil => exact fun _ hy => nomatch hy
  | cons hb _ ih =>
    rw [List.forall_mem_cons]
    exact ⟨⟨_, List.mem_cons_self, hb⟩, fun y hy => (ih y hy).imp fun x hx => ⟨List.mem_cons_of_mem _ hx.1, hx.2⟩⟩

theorem mapM_ok_of_forall {f : α → Except ε β} (g : α → β) {l : List α} (h : ∀ x ∈ l, f x = .ok (g x)) :
    l.mapM f = .ok (l.map g) := by
  induction l with
  | nil => rfl
  | cons a l ih =>
    exact mapM_cons_ok_iff.2 ⟨_, _, h a List.mem_cons_self, ih fun x hx => h x (List.mem_cons_of_mem a hx), rfl⟩

end OdcGeo
