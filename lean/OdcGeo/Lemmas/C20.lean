/- One-axis grid snapping of odc/geo/math.py: `_snap_edge_pos`, `_snap_edge`, `snap_grid`. -/
import OdcGeo.Lemmas.C20Scalar
import Mathlib.Tactic.Ring
import Mathlib.Tactic.LinearCombination
import Mathlib.Algebra.Order.Field.Rat
import Mathlib.Algebra.Order.AbsoluteValue.Basic

namespace OdcGeo.C20

/-- The arithmetic core of `_snap_edge_pos` in pixel units. -/
theorem snap_core {u0 u1 tol : Rat} (i n : Int) (hi : i = (maybeInt u0 tol).floor)
    (hn : n = max 1 ((maybeInt u1 tol).ceil - i)) :
    1 ≤ n ∧ u0 - i < 1 ∧ (0 ≤ tol → (i : Rat) ≤ u0 + tol ∧ u1 - tol ≤ (i : Rat) + n ∧
      (u0 ≤ u1 → (i : Rat) + n - u1 ≤ 1 + tol ∧ ((0 < tol ∨ u0 < u1) → (i : Rat) + n - u1 < 1 + tol) ∧
        (tol < 1 → 1 ≤ u1 - u0 → (i : Rat) + n - u1 < 1))) := by
  obtain ⟨f1, f2, f3⟩ := floor_maybeInt u0 tol
  obtain ⟨c1, c2⟩ := ceil_maybeInt u1 tol
  rw [← hi] at f1 f2 f3
  generalize (maybeInt u1 tol).ceil = j at c1 c2 hn
  -- the upper edge is the snapped ceiling, or one pixel above the lower edge where that is higher
  have he : (i : Rat) + n = max ((i : Rat) + 1) j := by
    rw [hn, Int.cast_max, ← max_add_add_left, Int.cast_one, Int.cast_sub, add_sub_cancel]
  rw [he]
  refine ⟨hn ▸ le_max_left 1 _, by linear_combination f2, fun ht => ⟨f1 ht, le_max_of_le_right (c1 ht), fun hu =>
    ⟨sub_le_iff_le_add.mpr (max_le (by linear_combination f1 ht + hu) (by linear_combination c2.le + ht)),
     fun h => sub_lt_iff_lt_add.mpr (max_lt ?_ (by linear_combination c2 + ht)),
     fun h1 hw => sub_lt_iff_lt_add.mpr (max_lt (by linear_combination f1 ht + hw + h1) (by linear_combination c2))⟩⟩⟩
  rcases h with h | h
  · linear_combination f3 h + hu
  · linear_combination f1 ht + h

/-- `snap_core` in world units, for a pixel of size `a`. -/
theorem snap_core_world {y0 y1 a tol : Rat} (ha : 0 < a) (i n : Int) (hi : i = (maybeInt (y0 / a) tol).floor)
    (hn : n = max 1 ((maybeInt (y1 / a) tol).ceil - i)) :
    1 ≤ n ∧ y0 - i * a < a ∧ (0 ≤ tol → (i : Rat) * a ≤ y0 + tol * a ∧ y1 - tol * a ≤ ((i : Rat) + n) * a ∧
      (y0 ≤ y1 → ((i : Rat) + n) * a - y1 ≤ a * (1 + tol) ∧
        ((0 < tol ∨ y0 < y1) → ((i : Rat) + n) * a - y1 < a * (1 + tol)) ∧
        (tol < 1 → a ≤ y1 - y0 → ((i : Rat) + n) * a - y1 < a))) := by
  obtain ⟨h1, h2, h⟩ := snap_core i n hi hn
  have e0 : y0 / a * a = y0 := div_mul_cancel₀ _ ha.ne'
  have e1 : y1 / a * a = y1 := div_mul_cancel₀ _ ha.ne'
  refine ⟨h1, by linear_combination mul_lt_mul_of_pos_right h2 ha - e0, fun ht => ?_⟩
  obtain ⟨h3, h4, h⟩ := h ht
  refine ⟨by linear_combination mul_le_mul_of_nonneg_right h3 ha.le + e0,
    by linear_combination mul_le_mul_of_nonneg_right h4 ha.le - e1, fun hy => ?_⟩
  obtain ⟨h5, h6, h7⟩ := h (div_le_div_of_nonneg_right hy ha.le)
  refine ⟨by linear_combination mul_le_mul_of_nonneg_right h5 ha.le + e1,
    fun hs => by linear_combination mul_lt_mul_of_pos_right (h6 (hs.imp_right fun h => div_lt_div_of_pos_right h ha)) ha + e1,
    fun ht1 hw => by linear_combination mul_lt_mul_of_pos_right (h7 ht1 (by rw [← sub_div, one_le_div ha]; exact hw)) ha + e1⟩

theorem mul_le_of_le_div {a u r : Rat} (hr : 0 < r) (h : a ≤ u) : a * r ≤ u * r :=
  mul_le_mul_of_nonneg_right h hr.le

theorem gridHi_eq (res tx : Rat) (n : Int) : gridHi res tx n = gridLo res tx n + n * |res| := by
  unfold gridHi gridLo
  split
  · rw [abs_of_pos ‹_›]
  · rw [abs_of_nonpos (not_lt.mp ‹_›)]; ring

theorem snapEdgePos_ok_iff {x0 x1 res tol tx : Rat} {n : Int} :
    snapEdgePos x0 x1 res tol = .ok (tx, n) ↔ 0 < res ∧ x0 ≤ x1 ∧
      tx = ((maybeInt (x0 / res) tol).floor : Rat) * res ∧
      n = max 1 ((maybeInt (x1 / res) tol).ceil - (maybeInt (x0 / res) tol).floor) := by
  unfold snapEdgePos
  by_cases hr : res > 0
  · by_cases hx : x1 ≥ x0
    · rw [if_neg (not_not.mpr hr), if_neg (not_not.mpr hx)]
      exact ⟨fun h => by cases h; exact ⟨hr, hx, rfl, rfl⟩, fun ⟨_, _, h1, h2⟩ => by rw [h1, h2]⟩
    · rw [if_neg (not_not.mpr hr), if_pos hx]
      exact ⟨nofun, fun h => absurd h.2.1 hx⟩
  · rw [if_pos hr]
    exact ⟨nofun, fun h => absurd h.1 hr⟩

/-- `snap_grid` with an anchor fraction is `_snap_edge_pos` with pixel size `|res|` on the interval moved down by the
anchor; for `res < 0` the origin returned is the upper edge. -/
theorem snapGrid_some_eq {op : Rat} (hop : 0 ≤ op ∧ op < 1) (x0 x1 res tol : Rat) :
    snapGrid x0 x1 res (some op) tol =
      (snapEdgePos (x0 - op * |res|) (x1 - op * |res|) |res| tol).map fun r =>
        ((if 0 < res then r.1 else r.1 + r.2 * |res|) + op * |res|, r.2) := by
  unfold snapGrid snapEdge
  simp only [rabs_eq_abs]
  rw [if_neg (not_not.mpr hop)]
  by_cases hx : x1 - op * |res| ≥ x0 - op * |res|
  · rw [if_neg (not_not.mpr hx)]
    by_cases hr : 0 < res
    · simp only [if_pos hr, abs_of_pos hr]
      cases snapEdgePos (x0 - op * res) (x1 - op * res) res tol <;> rfl
    · simp only [if_neg hr, abs_of_nonpos (not_lt.mp hr)]
      cases snapEdgePos (x0 - op * -res) (x1 - op * -res) (-res) tol <;> rfl
  · rw [if_pos hx]
    unfold snapEdgePos
    rw [if_pos hx, ite_self]
    rfl

/-- What success of `snap_grid` with an anchor fraction says: the lower edge is `(i + op)·|res|` with the `i`, `n` of
`_snap_edge_pos` in pixels of size `|res|`, counted from the anchor. -/
theorem snapGrid_some_ok {x0 x1 res op tol tx : Rat} {n : Int} (h : snapGrid x0 x1 res (some op) tol = .ok (tx, n)) :
    (0 ≤ op ∧ op < 1) ∧ res ≠ 0 ∧ x0 ≤ x1 ∧ ∃ i : Int, i = (maybeInt ((x0 - op * |res|) / |res|) tol).floor ∧
      n = max 1 ((maybeInt ((x1 - op * |res|) / |res|) tol).ceil - i) ∧ gridLo res tx n = (i + op) * |res| := by
  by_cases hop : 0 ≤ op ∧ op < 1
  swap
  · rw [snapGrid, if_pos hop] at h; cases h
  rw [snapGrid_some_eq hop] at h
  cases hs : snapEdgePos (x0 - op * |res|) (x1 - op * |res|) |res| tol with
  | error e => rw [hs] at h; cases h
  | ok r =>
    rw [hs] at h
    obtain ⟨rfl, rfl⟩ := Prod.mk.inj (Except.ok.inj h)
    obtain ⟨hr, hx, h1, h2⟩ := snapEdgePos_ok_iff.mp hs
    refine ⟨hop, abs_pos.mp hr, (sub_le_sub_iff_right _).mp hx, _, rfl, h2, ?_⟩
    rw [h1]
    unfold gridLo
    split
    · ring
    · rw [abs_of_nonpos (not_lt.mp ‹_›)]; ring

theorem snapGrid_none_eq {x0 x1 res tol : Rat} (hr : res ≠ 0) :
    snapGrid x0 x1 res none tol =
      .ok (if 0 < res then x0 else x1, max 1 (maybeInt ((x1 - x0) / |res|) tol).ceil) := by
  unfold snapGrid
  simp only
  rcases lt_or_gt_of_ne hr with hneg | hpos
  · rw [if_neg (not_lt.mpr hneg.le), if_neg hr, if_neg (not_lt.mpr hneg.le), max_comm, abs_of_neg hneg]
  · rw [if_pos hpos, if_pos hpos, abs_of_pos hpos]

/-- **The contract of `snap_grid`, read off from success alone**: the resolution is not zero and there is at least one
pixel; with an anchor fraction it lies in `[0, 1)`, the interval is not inverted, the lower edge sits on the anchored
lattice less than a pixel below `x0`.  For `0 ≤ tol` the excess `e` of the grid over `[x0, x1]` on either side is at
least `-tol·|res|` (cover) and, for `x0 ≤ x1` (which the floating branch does not check), at most a pixel plus `tol`:
strictly unless the interval is a point and `tol = 0`, less than a pixel when the interval is at least a pixel long and
`tol < 1`. -/
theorem snapGrid_ok {x0 x1 res tol tx : Rat} {n : Int} {off : Option Rat}
    (h : snapGrid x0 x1 res off tol = .ok (tx, n)) :
    res ≠ 0 ∧ 1 ≤ n ∧
      (∀ op, off = some op → (0 ≤ op ∧ op < 1) ∧ x0 ≤ x1 ∧ x0 - gridLo res tx n < |res| ∧
        ∃ i : Int, gridLo res tx n = (i + op) * |res|) ∧
      (0 ≤ tol → ∀ e, e = x0 - gridLo res tx n ∨ e = gridHi res tx n - x1 → -(tol * |res|) ≤ e ∧
        (x0 ≤ x1 → e ≤ |res| * (1 + tol) ∧ ((0 < tol ∨ x0 < x1) → e < |res| * (1 + tol)) ∧
          (tol < 1 → |res| ≤ x1 - x0 → e < |res|))) := by
  cases off with
  | some op =>
    obtain ⟨hop, hr, hx, i, hi, hn, hlo⟩ := snapGrid_some_ok h
    have ha := abs_pos.mpr hr
    obtain ⟨h1, h2, hc⟩ := snap_core_world ha i n hi hn
    rw [gridHi_eq, hlo]
    refine ⟨hr, h1, fun _ ho => Option.some.inj ho ▸ ⟨hop, hx, by linear_combination h2, i, rfl⟩, fun ht => ?_⟩
    obtain ⟨h3, h4, he⟩ := hc ht
    obtain ⟨h5, h6, h7⟩ := he (sub_le_sub_right hx _)
    have hE : |res| ≤ |res| * (1 + tol) := by linear_combination mul_nonneg ha.le ht
    rintro e (rfl | rfl)
    · have h2' : x0 - (i + op) * |res| < |res| := by linear_combination h2
      exact ⟨by linear_combination h3, fun _ => ⟨(h2'.trans_le hE).le, fun _ => h2'.trans_le hE, fun _ _ => h2'⟩⟩
    · exact ⟨by linear_combination h4, fun _ => ⟨by linear_combination h5,
        fun hs => by linear_combination h6 (hs.imp_right fun h => sub_lt_sub_right h _),
        fun ht1 hw => by linear_combination h7 ht1 (by linear_combination hw)⟩⟩
  | none =>
    have hr : res ≠ 0 := by
      rintro rfl
      simp [snapGrid] at h
    have ha := abs_pos.mpr hr
    rw [snapGrid_none_eq hr] at h
    obtain ⟨rfl, hn⟩ := Prod.mk.inj (Except.ok.inj h)
    -- the floating branch counts pixels as the snapped one does on `[0, x1 - x0]`, where the lower edge is `0`
    have h0 : (0 : Int) = (maybeInt (0 / |res|) tol).floor := by
      rw [zero_div, ← Int.cast_zero (R := Rat), maybeInt_intCast, Rat.floor_intCast]
    obtain ⟨h1, -, hc⟩ := snap_core_world (y0 := 0) ha 0 n h0 (by rw [← hn, sub_zero])
    refine ⟨hr, h1, nofun, fun ht => ?_⟩
    obtain ⟨-, h4, he⟩ := hc ht
    have hT : 0 ≤ tol * |res| := mul_nonneg ht ha.le
    -- one edge is pinned to its end of the interval (excess `0`), the other carries all of `n·|res| - (x1 - x0)`
    have key : ∀ e, e = 0 ∨ e = n * |res| - (x1 - x0) → -(tol * |res|) ≤ e ∧
        (x0 ≤ x1 → e ≤ |res| * (1 + tol) ∧ ((0 < tol ∨ x0 < x1) → e < |res| * (1 + tol)) ∧
          (tol < 1 → |res| ≤ x1 - x0 → e < |res|)) := by
      rintro e (rfl | rfl)
      · exact ⟨by linear_combination hT, fun _ => ⟨by linear_combination hT + ha.le,
          fun _ => by linear_combination hT + ha, fun _ _ => ha⟩⟩
      · refine ⟨by linear_combination h4, fun hx => ?_⟩
        obtain ⟨h5, h6, h7⟩ := he (sub_nonneg.mpr hx)
        exact ⟨by linear_combination h5, fun hs => by linear_combination h6 (hs.imp_right sub_pos.mpr),
          fun ht1 hw => by linear_combination h7 ht1 (by linear_combination hw)⟩
    rw [gridHi_eq]
    rcases lt_or_gt_of_ne hr with hneg | hpos
    · have hlo : gridLo res (if 0 < res then x0 else x1) n = x1 - n * |res| := by
        rw [gridLo, if_neg hneg.not_gt, if_neg hneg.not_gt, abs_of_neg hneg]; ring
      rw [hlo]
      rintro e (rfl | rfl)
      · exact key _ (.inr (by ring))
      · exact key _ (.inl (by ring))
    · have hlo : gridLo res (if 0 < res then x0 else x1) n = x0 := by rw [gridLo, if_pos hpos, if_pos hpos]
      rw [hlo]
      rintro e (rfl | rfl)
      · exact key _ (.inl (by ring))
      · exact key _ (.inr (by ring))

theorem snapGrid_ok_cover {x0 x1 res tol tx : Rat} {n : Int} {off : Option Rat} (ht : 0 ≤ tol)
    (h : snapGrid x0 x1 res off tol = .ok (tx, n)) :
    gridLo res tx n ≤ x0 + tol * |res| ∧ x1 - tol * |res| ≤ gridHi res tx n :=
  have hc := (snapGrid_ok h).2.2.2 ht
  ⟨by linear_combination (hc _ (.inl rfl)).1, by linear_combination (hc _ (.inr rfl)).1⟩

theorem snapGrid_ok_excess {x0 x1 res tol tx : Rat} {n : Int} {off : Option Rat} (ht : 0 ≤ tol) (hx : x0 ≤ x1)
    (h : snapGrid x0 x1 res off tol = .ok (tx, n)) :
    x0 - gridLo res tx n ≤ |res| * (1 + tol) ∧ gridHi res tx n - x1 ≤ |res| * (1 + tol) ∧
      ((0 < tol ∨ x0 < x1) →
        x0 - gridLo res tx n < |res| * (1 + tol) ∧ gridHi res tx n - x1 < |res| * (1 + tol)) ∧
      (tol < 1 → |res| ≤ x1 - x0 → x0 - gridLo res tx n < |res| ∧ gridHi res tx n - x1 < |res|) :=
  have hc := (snapGrid_ok h).2.2.2 ht
  have hl := (hc _ (.inl rfl)).2 hx
  have hh := (hc _ (.inr rfl)).2 hx
  ⟨hl.1, hh.1, fun hs => ⟨hl.2.1 hs, hh.2.1 hs⟩, fun ht1 hw => ⟨hl.2.2 ht1 hw, hh.2.2 ht1 hw⟩⟩

/-- With an anchor fraction `snap_grid` returns as soon as its three assertions hold. -/
theorem snapGrid_some_isOk {x0 x1 res op : Rat} (hr : res ≠ 0) (hx : x0 ≤ x1) (hop : 0 ≤ op ∧ op < 1) (tol : Rat) :
    ∃ tx n, snapGrid x0 x1 res (some op) tol = .ok (tx, n) := by
  rw [snapGrid_some_eq hop, snapEdgePos_ok_iff.mpr ⟨abs_pos.mpr hr, sub_le_sub_right hx _, rfl, rfl⟩]
  exact ⟨_, _, rfl⟩

end OdcGeo.C20
