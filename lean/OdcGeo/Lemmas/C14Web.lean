/- Nested regular grids on the line and in the plane: a half-open cell of step `m·T` is the union of `m` cells of step `T`
   (helper lemmas for the web-tile refinement theorems of Props/C14Web2.lean). -/
import OdcGeo.Lemmas.C14

namespace OdcGeo.C14

theorem cells_union {T : Rat} (hT : 0 < T) (L x : Rat) (m c : Int) :
    (L + (c : Rat) * T ≤ x ∧ x < L + ((c + m : Int) : Rat) * T) ↔
      ∃ a : Int, (0 ≤ a ∧ a < m) ∧ L + ((c + a : Int) : Rat) * T ≤ x ∧ x < L + ((c + a + 1 : Int) : Rat) * T := by
  simp only [edge_le_iff hT, lt_edge_iff hT]
  exact ⟨fun h => ⟨((x - L) / T).floor - c, by omega⟩, fun ⟨a, h⟩ => by omega⟩

theorem halfOpen_refine {T : Rat} (hT : 0 < T) (m : Int) (L U : Rat) (i j : Int) (p : Rat × Rat) :
    (⟨L + (i : Rat) * ((m : Rat) * T), U - ((j : Rat) + 1) * ((m : Rat) * T),
      L + ((i : Rat) + 1) * ((m : Rat) * T), U - (j : Rat) * ((m : Rat) * T)⟩ : BBox).memHalfOpen p ↔
      ∃ a b : Int, (0 ≤ a ∧ a < m) ∧ (0 ≤ b ∧ b < m) ∧
        (⟨L + ((m * i + a : Int) : Rat) * T, U - (((m * j + b : Int) : Rat) + 1) * T,
          L + (((m * i + a : Int) : Rat) + 1) * T, U - ((m * j + b : Int) : Rat) * T⟩ : BBox).memHalfOpen p := by
  -- columns `m·i + a` upwards from `L`; rows downwards from `U`: row `m·j + b` is cell `−(m·j + m) + (m − 1 − b)` upwards
  have hx := cells_union hT L p.1 m (m * i)
  have hy := cells_union hT U p.2 m (-(m * j + m))
  have e1 : (i : Rat) * ((m : Rat) * T) = (m : Rat) * i * T := by ring
  have e2 : ((i : Rat) + 1) * ((m : Rat) * T) = ((m : Rat) * i + m) * T := by ring
  have e3 : U - ((j : Rat) + 1) * ((m : Rat) * T) = U + -((m : Rat) * j + m) * T := by ring
  have e4 : U - (j : Rat) * ((m : Rat) * T) = U + (-((m : Rat) * j + m) + m) * T := by ring
  push_cast at hx hy
  unfold BBox.memHalfOpen
  push_cast
  rw [e1, e2, e3, e4, ← and_assoc, hx, hy]
  constructor
  · rintro ⟨⟨a, ha, a1, a2⟩, b, hb, b1, b2⟩
    exact ⟨a, m - 1 - b, ha, by omega, a1, a2, by push_cast; linarith, by push_cast; linarith⟩
  · rintro ⟨a, b, ha, hb, h1, h2, h3, h4⟩
    exact ⟨⟨a, ha, h1, h2⟩, m - 1 - b, by omega, by push_cast; linarith, by push_cast; linarith⟩

end OdcGeo.C14
