/- `np.ndindex` as `Model/C04.lean` writes it: no index vector twice, each as long as the shape. -/
import OdcGeo.Model.C04
import Mathlib.Data.List.Nodup
namespace OdcGeo.C04

theorem ndindex_nodup (shape : List Nat) : (ndindex shape).Nodup := by
  induction shape with
  | nil => simp [ndindex]
  | cons n ns ih =>
    simp only [ndindex]
    rw [List.nodup_flatMap]
    refine ⟨?_, ?_⟩
    · intro i _
      exact (List.nodup_map_iff_inj_on ih).2 (fun a _ b _ h => by simpa using h)
    · apply List.Pairwise.imp _ (List.nodup_range (n := n))
      intro i j hij l h1 h2
      obtain ⟨r1, _, e1⟩ := List.mem_map.1 h1
      obtain ⟨r2, _, e2⟩ := List.mem_map.1 h2
      rw [← e2] at e1
      exact hij (by simpa using (List.cons.inj e1).1)

theorem ndindex_length (shape idx : List Nat) (h : idx ∈ ndindex shape) : idx.length = shape.length := by
  induction shape generalizing idx with
  | nil => simp [ndindex] at h; simp [h]
  | cons n ns ih =>
    simp only [ndindex, List.mem_flatMap, List.mem_map] at h
    obtain ⟨i, _, rest, hr, rfl⟩ := h
    simp [ih rest hr]

end OdcGeo.C04
