/-
Lemmas behind C10.  One axis: for scale `±1` and a whole-pixel offset `compute_axis_overlap` has a closed form
(`axisPos_unit`, `axis_unit`), from which the paste index of a destination pixel is the nearest-neighbour index of any
point within half a pixel of its snapped image (`paste_axis`).  Planning: `_can_paste` as one equation (`canPaste_eq`)
and `_can_paste = True` as a proposition (`PasteCond`), the regions of a pasting plan for every read-shrink
(`readShape`, `plan_paste_box`), what `snap_affine` returns for a pasteable pair (`UnitSnap`), the half-pixel budget
(`close_of_budget`).  Last, two facts about the backend warp model used for the int8 / bool detour.
-/
import OdcGeo.Model.C10
import OdcGeo.Lemmas.C03
import OdcGeo.Lemmas.C03Scalar
import OdcGeo.Lemmas.Except

namespace OdcGeo.C10
open OdcGeo.C17 OdcGeo.C03

theorem floor_eq_of (x : Rat) (k : Int) (h1 : (k : Rat) ≤ x) (h2 : x < (k : Rat) + 1) : x.floor = k :=
  C03.floor_eq_of h1 h2

theorem ceil_eq_of (x : Rat) (k : Int) (h1 : (k : Rat) - 1 < x) (h2 : x ≤ (k : Rat)) : x.ceil = k :=
  ceil_eq_iff.mpr ⟨h1, h2⟩

theorem axisPos_unit (Ns Nd t : Int) :
    axisPos Ns Nd 1 (t : Rat) =
      (⟨if t < 0 then 0 else min t Ns, if Nd + t ≤ Ns then max (Nd + t) 0 else Ns⟩,
       ⟨if t < 0 then min (-t) Nd else 0, if Nd + t ≤ Ns then Nd else max 0 (Ns - t)⟩) := by
  have e1 : -(t : Rat) * (1 / 1) = ((-t : Int) : Rat) := by push_cast; ring
  have e3 : (Nd : Rat) * 1 + (t : Rat) = ((Nd + t : Int) : Rat) := by push_cast; ring
  have e4 : (Ns : Rat) * (1 / 1) + ((-t : Int) : Rat) = ((Ns - t : Int) : Rat) := by push_cast; ring
  have e5 : ((t : Rat) < 0) ↔ t < 0 := Int.cast_lt_zero
  simp only [axisPos, e1, e3, e4, e5, Rat.floor_intCast, Rat.ceil_intCast, apply_ite Prod.fst, apply_ite Prod.snd]

theorem axisPos_unit_spec (Ns Nd t : Int) (hNs : 0 ≤ Ns) (hNd : 0 ≤ Nd) (r : NSlice × NSlice)
    (h : axisPos Ns Nd 1 (t : Rat) = r) (d : Int) :
    ((r.2.start ≤ d ∧ d < r.2.stop) ↔ (0 ≤ d ∧ d < Nd ∧ 0 ≤ d + t ∧ d + t < Ns)) ∧
    (r.2.start < r.2.stop → r.1.start - r.2.start = t) ∧
    r.1.stop - r.1.start = r.2.stop - r.2.start := by
  rw [← h, axisPos_unit]
  dsimp only
  split_ifs <;> omega

/-- the source pixel onto whose centre the unit transform `x ↦ s·x + t` sends the centre of destination pixel `d` -/
def unitImage (s : Rat) (t d : Int) : Int := if s < 0 then t - d - 1 else d + t

theorem unitImage_centre (s : Rat) (t d : Int) (hs : s = 1 ∨ s = -1) :
    s * ((d : Rat) + 1 / 2) + t = (unitImage s t d : Rat) + 1 / 2 := by
  unfold unitImage
  rcases hs with rfl | rfl
  · rw [if_neg (by norm_num)]; push_cast; ring
  · rw [if_pos (by norm_num)]; push_cast; ring

/-- A mirrored axis is the identity scale with offset `Ns - t` and the source slice counted from the far end (so the code
computes it, and so it is proved). -/
theorem axis_unit (Ns Nd : Int) (s : Rat) (t : Int) (hs : s = 1 ∨ s = -1) (hNs : 0 ≤ Ns) (hNd : 0 ≤ Nd)
    (r : NSlice × NSlice) (h : axisOverlap Ns Nd s t = .ok r) :
    (∀ d, 0 ≤ d → d < Nd →
      ((r.2.start ≤ d ∧ d < r.2.stop) ↔ (0 ≤ unitImage s t d ∧ unitImage s t d < Ns)) ∧
      (r.2.start ≤ d ∧ d < r.2.stop → pasteIndex (decide (s < 0)) r.1 r.2 d = unitImage s t d)) ∧
    r.1.stop - r.1.start = r.2.stop - r.2.start := by
  unfold unitImage pasteIndex
  rcases hs with rfl | rfl
  · have hs : ¬ ((1 : Rat) < 0) := by norm_num
    have u := axisPos_unit_spec Ns Nd t hNs hNd _ rfl
    simp only [axisOverlap, hs, if_false, show (1 : Rat) > 0 by norm_num, if_true, Except.ok.injEq] at h
    subst h
    simp only [hs, decide_false, Bool.false_eq_true, if_false]
    refine ⟨fun d h0 h1 => ?_, (u 0).2.2⟩
    have := u d
    omega
  · have hs : (-1 : Rat) < 0 := by norm_num
    have u := axisPos_unit_spec Ns Nd (Ns - t) hNs hNd _ rfl
    have e : (Ns : Rat) - (t : Rat) = ((Ns - t : Int) : Rat) := (Int.cast_sub Ns t).symm
    simp only [axisOverlap, hs, if_true, neg_neg, e, Except.ok.injEq] at h
    subst h
    simp only [hs, decide_true, if_true]
    refine ⟨fun d h0 h1 => ?_, by have := (u 0).2.2; omega⟩
    have := u d
    omega

theorem nnIndex_near (Ns m : Int) (y : Rat) (h : rabs (y - ((m : Rat) + 1 / 2)) < 1 / 2) :
    Warp.nnIndex Ns y = if 0 ≤ m ∧ m < Ns then some m else none := by
  rw [rabs_eq_abs] at h
  have hfy : y.floor = m := floor_of_near_centre h
  have hin : (0 ≤ y ∧ y < Ns) ↔ (0 ≤ m ∧ m < Ns) := by
    rw [← hfy, Rat.le_floor_iff, Rat.floor_lt_iff, Int.cast_zero]
  unfold Warp.nnIndex
  rw [hfy]
  exact if_congr hin rfl rfl

/-- One axis of "paste = nearest-neighbour warp"; `y` is the true source coordinate of the centre of pixel `d`. -/
theorem paste_axis (Ns Nd : Int) (s : Rat) (t : Int) (hs : s = 1 ∨ s = -1) (hNs : 0 ≤ Ns) (hNd : 0 ≤ Nd)
    (r : NSlice × NSlice) (h : axisOverlap Ns Nd s t = .ok r) (d : Int) (hd : 0 ≤ d ∧ d < Nd) (y : Rat)
    (hnear : rabs (y - (s * ((d : Rat) + 1 / 2) + t)) < 1 / 2) :
    Warp.nnIndex Ns y =
      if r.2.start ≤ d ∧ d < r.2.stop then some (pasteIndex (decide (s < 0)) r.1 r.2 d) else none := by
  obtain ⟨hmem, hidx⟩ := (axis_unit Ns Nd s t hs hNs hNd r h).1 d hd.1 hd.2
  rw [unitImage_centre s t d hs] at hnear
  rw [nnIndex_near Ns _ y hnear]
  by_cases hm : r.2.start ≤ d ∧ d < r.2.stop
  · rw [if_pos hm, if_pos (hmem.mp hm), hidx hm]
  · rw [if_neg hm, if_neg (fun hc => hm (hmem.mpr hc))]

/-- a snapped paste transform: no rotation/shear, unit scale of either sign, whole-pixel shift -/
structure IsUnitST (S : Aff) (tx ty : Int) : Prop where
  b0 : S.b = 0
  d0 : S.d = 0
  a1 : S.a = 1 ∨ S.a = -1
  e1 : S.e = 1 ∨ S.e = -1
  c : S.c = tx
  f : S.f = ty

theorem IsUnitST.apply_eq {S : Aff} {tx ty : Int} (h : IsUnitST S tx ty) (u v : Rat) :
    S.apply (u, v) = (S.a * u + tx, S.e * v + ty) := by
  rw [Aff.apply_of_st h.b0 h.d0, h.c, h.f]

/-- the transform into the `rs`-fold overview: `Affine.scale(1/rs) * A` -/
def overviewTr (A : Aff) (rs : Int) : Aff := Aff.scale (1 / (rs : Rat)) (1 / (rs : Rat)) * A

/-- what `_can_paste` checks, as a proposition -/
structure PasteCond (A : Aff) (n stol ttol : Rat) (rs : Int) : Prop where
  st : isAffineST A = true
  scaleInt : isAlmostInt (min (scale2 A n).1 (scale2 A n).2) stol = true
  hrs : pickReadScale (min (scale2 A n).1 (scale2 A n).2) = .ok rs
  sx : rabs (rabs (overviewTr A rs).a - 1) < stol
  sy : rabs (rabs (overviewTr A rs).e - 1) < stol
  tx : isAlmostInt (overviewTr A rs).c ttol = true
  ty : isAlmostInt (overviewTr A rs).f ttol = true

theorem canPaste_eq (A : Aff) (n stol ttol : Rat) :
    canPaste A n stol ttol =
      if isAffineST A = true ∧ isAlmostInt (min (scale2 A n).1 (scale2 A n).2) stol = true then
        (pickReadScale (min (scale2 A n).1 (scale2 A n).2)).map fun rs =>
          decide (rabs (rabs (overviewTr A rs).a - 1) < stol ∧ rabs (rabs (overviewTr A rs).e - 1) < stol ∧
            isAlmostInt (overviewTr A rs).c ttol = true ∧ isAlmostInt (overviewTr A rs).f ttol = true)
      else .ok false := by
  unfold canPaste overviewTr
  by_cases h1 : isAffineST A = true
  · by_cases h2 : isAlmostInt (min (scale2 A n).1 (scale2 A n).2) stol = true
    · rw [if_neg (not_not.mpr h1), if_neg (not_not.mpr h2), if_pos ⟨h1, h2⟩]
      cases pickReadScale (min (scale2 A n).1 (scale2 A n).2) with
      | error e => rfl
      | ok rs =>
        simp only [Except.map]
        split_ifs with c1 c2
        · rw [decide_eq_false (fun h => c1.elim (not_le.mpr h.1) (not_le.mpr h.2.1))]
        · rw [decide_eq_true ⟨not_le.mp (not_or.mp c1).1, not_le.mp (not_or.mp c1).2, c2⟩]
        · rw [decide_eq_false (fun h => c2 h.2.2)]
    · rw [if_neg (not_not.mpr h1), if_pos h2, if_neg (fun h => h2 h.2)]
  · rw [if_pos h1, if_neg (fun h => h1 h.1)]

theorem canPaste_true_iff (A : Aff) (n stol ttol : Rat) :
    canPaste A n stol ttol = .ok true ↔ ∃ rs, PasteCond A n stol ttol rs := by
  rw [canPaste_eq]
  split_ifs with hg
  · rw [map_ok_iff]
    simp only [decide_eq_true_eq]
    exact ⟨fun ⟨rs, hrs, c⟩ => ⟨rs, hg.1, hg.2, hrs, c.1, c.2.1, c.2.2.1, c.2.2.2⟩,
      fun ⟨rs, hc⟩ => ⟨rs, hc.hrs, hc.sx, hc.sy, hc.tx, hc.ty⟩⟩
  · exact ⟨nofun, fun ⟨rs, hc⟩ => absurd ⟨hc.st, hc.scaleInt⟩ hg⟩

/-- C20's contract for `maybe_int` / `is_almost_int`, for the planning model's copies of the two functions
(`Lemmas/C03Scalar`). -/
theorem maybeInt_spec (x tol : Rat) :
    ∃ k : Int, rabs (x - k) ≤ 1 / 2 ∧ (isAlmostInt x tol = true ↔ rabs (x - k) < tol) ∧
      maybeInt x tol = if rabs (x - k) < tol then (k : Rat) else x := by
  obtain ⟨k, _, hhalf, he⟩ := C20.maybeInt?_eq x tol
  simp only [rabs_eq_abs]
  refine ⟨k, hhalf, ?_, ?_⟩
  · show C20.isAlmostInt x tol = true ↔ _
    rw [C20.isAlmostInt_eq, he, Option.isSome_ite]
  · rw [maybeInt_eq_C20]
    by_cases h : |x - k| < tol
    · rw [if_pos h] at he ⊢
      exact C20.maybeInt_of_some he
    · rw [if_neg h] at he ⊢
      exact C20.maybeInt_of_none he

theorem isAlmostInt_spec (x tol : Rat) (h : isAlmostInt x tol = true) :
    ∃ k : Int, rabs (x - k) < tol ∧ maybeInt x tol = (k : Rat) := by
  obtain ⟨k, _, hi, hm⟩ := maybeInt_spec x tol
  have hk := hi.mp h
  exact ⟨k, hk, by rw [hm, if_pos hk]⟩

theorem maybeInt_of_near (x tol : Rat) (j : Int) (htol : tol ≤ 1 / 2) (h : rabs (x - j) < tol) :
    maybeInt x tol = (j : Rat) := by
  rw [maybeInt_eq_C20]
  exact C20.maybeInt_of_some (C20.maybeInt?_of_near htol (rabs_eq_abs _ ▸ h))

theorem abs_sub_unit (a : Rat) : |a - (if a < 0 then -1 else 1)| = |(|a| - 1)| := by
  split_ifs with h
  · rw [abs_of_neg h, ← abs_neg]; congr 1; ring
  · rw [abs_of_nonneg (not_lt.mp h)]

theorem overviewTr_entries (A : Aff) (rs : Int) :
    (overviewTr A rs).a = A.a / rs ∧ (overviewTr A rs).b = A.b / rs ∧ (overviewTr A rs).c = A.c / rs ∧
    (overviewTr A rs).d = A.d / rs ∧ (overviewTr A rs).e = A.e / rs ∧ (overviewTr A rs).f = A.f / rs := by
  refine ⟨?_, ?_, ?_, ?_, ?_, ?_⟩ <;> simp only [overviewTr, Aff.scale, Aff.mul_def, Aff.mul] <;> ring

theorem overviewTr_one (A : Aff) : overviewTr A 1 = A := by
  obtain ⟨ea, eb, ec, ed, ee, ef⟩ := overviewTr_entries A 1
  simp only [Int.cast_one, div_one] at ea eb ec ed ee ef
  exact Aff.ext' ea eb ec ed ee ef

/-- the raster a pasting plan with read-shrink `rs` takes its block from: the source itself, or its `rs`-fold overview
(`compute_reproject_roi` computes the overlap against `src.zoom_out(rs)` only when `rs ≠ 1`) -/
def readShape (src : Shape) (rs : Int) : Shape := if rs = 1 then src else (zoomOutDim src.1 rs, zoomOutDim src.2 rs)

theorem readShape_one (src : Shape) : readShape src 1 = src := if_pos rfl

theorem readShape_of_ne (src : Shape) {rs : Int} (h : rs ≠ 1) :
    readShape src rs = (zoomOutDim src.1 rs, zoomOutDim src.2 rs) := if_neg h

theorem zoomOutDim_nonneg (src : Shape) (k : Int) : 0 ≤ zoomOutDim src.1 k ∧ 0 ≤ zoomOutDim src.2 k := by
  constructor <;> simp only [zoomOutDim] <;> omega

theorem readShape_nonneg {src : Shape} (hs : 0 ≤ src.1 ∧ 0 ≤ src.2) (rs : Int) :
    0 ≤ (readShape src rs).1 ∧ 0 ≤ (readShape src rs).2 := by
  unfold readShape
  split_ifs
  · exact hs
  · exact zoomOutDim_nonneg src rs

theorem scaledUpROI_one (r : ROI) : scaledUpROI r 1 = r := by
  simp only [scaledUpROI, scaledUpSlice, mul_one]

theorem plan_paste_box {src dst : Shape} {fwd A : Aff} {n ttol stol : Rat} {padding align : Option Int} {p : Plan}
    (h : reprojectLinear src dst fwd A n ttol stol padding align = .ok p) (hp : p.pasteOk = true) :
    canPaste A n stol ttol = .ok true ∧
    ∃ r' : ROI, boxOverlap (readShape src p.readShrink) dst (snapAffine (overviewTr A p.readShrink) ttol stol) =
      .ok (r', p.roiDst) ∧ p.roiSrc = scaledUpROI r' p.readShrink := by
  obtain ⟨_, _, _, hc⟩ := reprojectLinear_cases h
  rcases hc with ⟨hf, _⟩ | ⟨_, hcp, _, _, hbox⟩
  · rw [hp] at hf; cases hf
  refine ⟨hcp, ?_⟩
  rcases hbox with ⟨h1, hb⟩ | ⟨hne, r', hb, hsrc⟩
  · exact ⟨p.roiSrc, by rw [h1, readShape_one, overviewTr_one]; exact hb, by rw [h1, scaledUpROI_one]⟩
  · exact ⟨r', by rw [readShape_of_ne src hne]; exact hb, hsrc⟩

theorem rabs_div_le (v : Rat) (rs : Int) (h : 1 ≤ rs) : rabs (v / rs) ≤ rabs v := by
  have hrq : (1 : Rat) ≤ rs := by exact_mod_cast h
  rw [rabs_eq_abs, rabs_eq_abs, abs_div, abs_of_pos (zero_lt_one.trans_le hrq)]
  exact div_le_self (abs_nonneg v) hrq

theorem PasteCond.ov_st {A : Aff} {n stol ttol : Rat} {rs : Int} (hc : PasteCond A n stol ttol rs) :
    rabs (overviewTr A rs).b < tol1em10 ∧ rabs (overviewTr A rs).d < tol1em10 := by
  obtain ⟨_, eb, _, ed, _, _⟩ := overviewTr_entries A rs
  have hst := hc.st
  simp only [isAffineST, Bool.and_eq_true, decide_eq_true_eq] at hst
  have hrs := pickReadScale_pos hc.hrs
  rw [eb, ed]
  exact ⟨lt_of_le_of_lt (rabs_div_le _ _ hrs) hst.1, lt_of_le_of_lt (rabs_div_le _ _ hrs) hst.2⟩

theorem snapAffine_of_st (B : Aff) (ttol stol : Rat) (hb : rabs B.b < tol1em10) (hd : rabs B.d < tol1em10) :
    snapAffine B ttol stol =
      ⟨snapScale B.a stol, 0, maybeInt B.c ttol, 0, snapScale B.e stol, maybeInt B.f ttol⟩ := by
  have htol : tol1em10 < tol1em8 := by decide +kernel
  unfold snapAffine
  rw [if_neg]
  rintro (hh | hh)
  · exact lt_asymm hh (hb.trans htol)
  · exact lt_asymm hh (hd.trans htol)

/-- `S` is `B` snapped to a unit transform: no rotation / shear, scales `±1` with the signs of `B`, whole-pixel
offsets within `ttol` of those of `B`. -/
structure UnitSnap (B S : Aff) (ttol : Rat) (tx ty : Int) : Prop where
  unit : IsUnitST S tx ty
  sa : S.a = if B.a < 0 then -1 else 1
  se : S.e = if B.e < 0 then -1 else 1
  cx : rabs (B.c - tx) < ttol
  cy : rabs (B.f - ty) < ttol

theorem decide_neg_of_sign {b s : Rat} (hs : s = if b < 0 then -1 else 1) : decide (s < 0) = decide (b < 0) := by
  rw [hs]; split <;> simp [*]

/-- half-pixel budget ⇒ the true image of a pixel centre is within half a pixel of the snapped one (one axis) -/
theorem close_of_budget (a b c : Rat) (t : Int) (ttol : Rat) (nx ny : Int) (u v : Rat)
    (hu : 0 < u ∧ u < nx) (hv : 0 < v ∧ v < ny) (hc : rabs (c - t) < ttol)
    (hbud : rabs (rabs a - 1) * nx + rabs b * ny + ttol ≤ 1 / 2) :
    rabs (a * u + b * v + c - ((if a < 0 then -1 else 1) * u + (t : Rat))) < 1 / 2 := by
  simp only [rabs_eq_abs] at hc hbud ⊢
  have key : a * u + b * v + c - ((if a < 0 then -1 else 1) * u + (t : Rat)) =
      (a - (if a < 0 then -1 else 1)) * u + b * v + (c - t) := by ring
  rw [key]
  calc |(a - (if a < 0 then -1 else 1)) * u + b * v + (c - t)|
      ≤ |(a - (if a < 0 then -1 else 1)) * u| + |b * v| + |c - t| := abs_add_three _ _ _
    _ = |(|a| - 1)| * u + |b| * v + |c - t| := by rw [abs_mul, abs_mul, abs_sub_unit, abs_of_pos hu.1, abs_of_pos hv.1]
    _ < |(|a| - 1)| * nx + |b| * ny + ttol :=
        add_lt_add_of_le_of_lt (add_le_add (mul_le_mul_of_nonneg_left hu.2.le (abs_nonneg _))
          (mul_le_mul_of_nonneg_left hv.2.le (abs_nonneg _))) hc
    _ ≤ 1 / 2 := hbud

/-- every value the nearest-neighbour warp produces is a source pixel, the previous destination pixel or the fill
(a nodata value or 0): what holds of all of those holds of the result -/
theorem gdalNN_range (P : Int → Prop) (src dst : Int → Int → Int) (shape : Int × Int) (A : Aff) (sn dn : Option Int)
    (init : Bool) (dy dx : Int) (h0 : P 0) (hs : ∀ i j, P (src i j)) (hd : P (dst dy dx))
    (hsn : ∀ v, sn = some v → P v) (hdn : ∀ v, dn = some v → P v) :
    P (gdalNN src dst shape A sn dn init dy dx) := by
  have hrest : P (if init = true then effFill sn dn else dst dy dx) := by
    unfold effFill
    split
    · cases dn with
      | some v => exact hdn v rfl
      | none => cases sn with
        | some v => exact hsn v rfl
        | none => exact h0
    · exact hd
  unfold gdalNN
  cases nnPick shape A dy dx with
  | none => exact hrest
  | some p =>
    simp only
    split
    · exact hrest
    · exact hs _ _

/-- the warp only moves values around (`hinj`: the nodata test `sn = some (src p)` must survive applying `f`) -/
theorem gdalNN_map (f : Int → Int) (h0 : f 0 = 0) (src dst : Int → Int → Int) (shape : Int × Int) (A : Aff)
    (sn dn : Option Int) (init : Bool) (dy dx : Int)
    (hinj : ∀ v i j, sn = some v → f v = f (src i j) → v = src i j) :
    gdalNN (fun i j => f (src i j)) (fun i j => f (dst i j)) shape A (sn.map f) (dn.map f) init dy dx =
      f (gdalNN src dst shape A sn dn init dy dx) := by
  have hrest : (if init = true then effFill (sn.map f) (dn.map f) else f (dst dy dx)) =
      f (if init = true then effFill sn dn else dst dy dx) := by
    have hfill : effFill (sn.map f) (dn.map f) = f (effFill sn dn) := by
      cases dn <;> cases sn <;> simp [effFill, h0]
    rw [hfill]; split <;> rfl
  unfold gdalNN
  simp only [hrest]
  cases nnPick shape A dy dx with
  | none => rfl
  | some p =>
    have hiff : sn.map f = some (f (src p.1 p.2)) ↔ sn = some (src p.1 p.2) := by
      cases sn with
      | none => simp
      | some v =>
        simp only [Option.map_some, Option.some.injEq]
        exact ⟨hinj v _ _ rfl, fun h => by rw [h]⟩
    by_cases hm : sn = some (src p.1 p.2)
    · simp only [if_pos hm, if_pos (hiff.mpr hm)]
    · simp only [if_neg hm, if_neg (fun h => hm (hiff.mp h))]

theorem wrap8_id (v : Int) (h : -128 ≤ v ∧ v ≤ 127) : wrap8 v = v := by
  unfold wrap8; omega

end OdcGeo.C10
