/-
The scalar snapping helpers of odc/geo/math.py: `split_float`, `maybe_int`, `is_almost_int`, `snap_scale`, `snap_affine`
(the functions that other models carry copies of; light imports, so that a link file can afford this module).
-/
import OdcGeo.Model.C20
import OdcGeo.Lemmas.Py
import Mathlib.Tactic.Linarith
import Mathlib.Tactic.Ring
import Mathlib.Tactic.LinearCombination
import Mathlib.Algebra.Order.Field.Basic
import Mathlib.Algebra.Order.AbsoluteValue.Basic

namespace OdcGeo.C20

/-! `rabs` and `trunc` are the prelude's `abs` and `int()`, by `rfl`. -/

theorem rabs_eq_abs (x : Rat) : rabs x = |x| := Gen.Py.absR_eq_abs x

theorem trunc_intCast (k : Int) : trunc (k : Rat) = k := Gen.Py.trunc_intCast k

theorem fmod1_nonneg {x : Rat} (h : 0 ≤ x) : 0 ≤ fmod1 x ∧ fmod1 x < 1 := by
  unfold fmod1 trunc; rw [if_pos h]
  have := floor_bounds x
  constructor <;> linarith

theorem fmod1_neg {x : Rat} (h : x < 0) : -1 < fmod1 x ∧ fmod1 x ≤ 0 := by
  unfold fmod1 trunc; rw [if_neg (not_le.mpr h)]
  have h1 := @Rat.le_ceil x
  have h2 := @Rat.ceil_lt x
  constructor <;> linarith

theorem fmod1_bounds (x : Rat) : -1 < fmod1 x ∧ fmod1 x < 1 := by
  rcases le_or_gt 0 x with h | h
  · exact ⟨by linarith [(fmod1_nonneg h).1], (fmod1_nonneg h).2⟩
  · exact ⟨(fmod1_neg h).1, by linarith [(fmod1_neg h).2]⟩

theorem fmod1_sign (x : Rat) : (0 ≤ x → 0 ≤ fmod1 x) ∧ (x ≤ 0 → fmod1 x ≤ 0) := by
  constructor
  · intro h; exact (fmod1_nonneg h).1
  · intro h
    rcases lt_or_eq_of_le h with h | h
    · exact (fmod1_neg h).2
    · subst h
      have : trunc (0 : Rat) = 0 := by simpa using trunc_intCast 0
      simp [fmod1, this]

theorem splitFloat_spec (x : Rat) :
    (∃ k : Int, (splitFloat x).1 = (k : Rat)) ∧ (splitFloat x).1 + (splitFloat x).2 = x ∧
      -(1 / 2) ≤ (splitFloat x).2 ∧ (splitFloat x).2 ≤ 1 / 2 := by
  have hb := fmod1_bounds x
  have hw : x - fmod1 x = (trunc x : Rat) := sub_sub_cancel x _
  unfold splitFloat
  simp only
  split
  · rename_i h
    exact ⟨⟨trunc x + 1, by rw [hw]; push_cast; rfl⟩, by ring, by linear_combination h, by linear_combination hb.2⟩
  · split
    · rename_i h
      exact ⟨⟨trunc x - 1, by rw [hw]; push_cast; rfl⟩, by ring, by linear_combination hb.1, by linear_combination h⟩
    · rename_i h1 h2
      exact ⟨⟨trunc x, hw⟩, by ring, not_lt.mp h2, not_lt.mp h1⟩

theorem trunc_splitFloat (x : Rat) : ((trunc (splitFloat x).1 : Int) : Rat) = (splitFloat x).1 := by
  obtain ⟨⟨k, hk⟩, _⟩ := splitFloat_spec x
  rw [hk, trunc_intCast]

/-- `|x_part|` is the `min(f, 1-f)` that `is_almost_int` computes. -/
theorem splitFloat_abs_part (x : Rat) :
    |(splitFloat x).2| = if |fmod1 x| > 1 / 2 then 1 - |fmod1 x| else |fmod1 x| := by
  have hb := fmod1_bounds x
  unfold splitFloat
  simp only
  split
  · rename_i h
    rw [abs_of_pos (by linear_combination h : 0 < fmod1 x), if_pos h,
      abs_of_neg (by linear_combination hb.2 : fmod1 x - 1 < 0)]
    ring
  · split
    · rename_i h
      rw [abs_of_neg (by linear_combination h : fmod1 x < 0), if_pos (by linear_combination h),
        abs_of_pos (by linear_combination hb.1 : 0 < fmod1 x + 1)]
      ring
    · rename_i h1 h2
      rw [if_neg (not_lt.mpr (abs_le.mpr ⟨not_lt.mp h2, not_lt.mp h1⟩))]

/-- `maybe_int` looks at one integer `k`, the whole part of `split_float`, which is a nearest one, and
takes it when `|x - k| < tol`. -/
theorem maybeInt?_eq (x tol : Rat) : ∃ k : Int, (k : Rat) = (splitFloat x).1 ∧ |x - k| ≤ 1 / 2 ∧
    maybeInt? x tol = if |x - k| < tol then some k else none := by
  obtain ⟨⟨k, hk⟩, hsum, hlo, hhi⟩ := splitFloat_spec x
  have hp : (splitFloat x).2 = x - k := by rw [← hk]; linear_combination hsum
  refine ⟨k, hk.symm, by rw [← hp]; exact abs_le.mpr ⟨hlo, hhi⟩, ?_⟩
  unfold maybeInt?
  simp only [rabs_eq_abs, hp, hk, trunc_intCast]

theorem maybeInt?_some {x tol : Rat} {k : Int} (h : maybeInt? x tol = some k) :
    (k : Rat) = (splitFloat x).1 ∧ |x - k| < tol ∧ |x - k| ≤ 1 / 2 := by
  obtain ⟨j, hj, hhalf, he⟩ := maybeInt?_eq x tol
  rw [he] at h
  split at h
  · cases h; exact ⟨hj, ‹_›, hhalf⟩
  · cases h

theorem maybeInt?_none {x tol : Rat} (h : maybeInt? x tol = none) (n : Int) : tol ≤ |x - n| := by
  obtain ⟨j, _, hhalf, he⟩ := maybeInt?_eq x tol
  rw [he] at h
  split at h
  · cases h
  · exact (not_lt.mp ‹_›).trans (abs_sub_intCast_le hhalf n)

theorem maybeInt?_of_near {x tol : Rat} {k : Int} (ht : tol ≤ 1 / 2) (h : |x - k| < tol) : maybeInt? x tol = some k := by
  obtain ⟨j, _, hhalf, he⟩ := maybeInt?_eq x tol
  obtain rfl : j = k := intCast_eq_of_near hhalf (h.trans_le ht)
  rw [he, if_pos h]

theorem maybeInt?_isSome_iff (x tol : Rat) :
    (maybeInt? x tol).isSome = true ↔ ∃ n : Int, |x - n| < tol := by
  constructor
  · intro h
    obtain ⟨k, hk⟩ := Option.isSome_iff_exists.mp h
    exact ⟨k, (maybeInt?_some hk).2.1⟩
  · rintro ⟨n, hn⟩
    cases hm : maybeInt? x tol with
    | some k => rfl
    | none => exact absurd hn (not_lt.mpr (maybeInt?_none hm n))

theorem isAlmostInt_eq (x tol : Rat) : isAlmostInt x tol = (maybeInt? x tol).isSome := by
  unfold isAlmostInt maybeInt?
  simp only [rabs_eq_abs]
  rw [splitFloat_abs_part]
  generalize (if |fmod1 x| > 1 / 2 then 1 - |fmod1 x| else |fmod1 x|) = f
  by_cases h : f < tol
  · rw [if_pos h]; simp [h]
  · rw [if_neg h]; simp [h]

theorem maybeInt_of_some {x tol : Rat} {k : Int} (h : maybeInt? x tol = some k) : maybeInt x tol = k := by
  unfold maybeInt; rw [h]
theorem maybeInt_of_none {x tol : Rat} (h : maybeInt? x tol = none) : maybeInt x tol = x := by
  unfold maybeInt; rw [h]

theorem maybeInt_close (x tol : Rat) : maybeInt x tol = x ∨ |x - maybeInt x tol| < tol := by
  cases h : maybeInt? x tol with
  | none => left; exact maybeInt_of_none h
  | some k => right; rw [maybeInt_of_some h]; exact (maybeInt?_some h).2.1

theorem maybeInt?_intCast (k : Int) {tol : Rat} (ht : 0 < tol) : maybeInt? (k : Rat) tol = some k := by
  obtain ⟨j, _, hhalf, he⟩ := maybeInt?_eq (k : Rat) tol
  obtain rfl := intCast_eq_of_abs_sub_lt (hhalf.trans_lt one_half_lt_one)
  rw [he, sub_self, abs_zero, if_pos ht]

theorem maybeInt_intCast (k : Int) (tol : Rat) : maybeInt (k : Rat) tol = k := by
  cases h : maybeInt? (k : Rat) tol with
  | none => exact maybeInt_of_none h
  | some j => rw [maybeInt_of_some h, ← intCast_eq_of_abs_sub_lt ((maybeInt?_some h).2.2.trans_lt one_half_lt_one)]

theorem maybeInt_idem (x tol : Rat) : maybeInt (maybeInt x tol) tol = maybeInt x tol := by
  cases h : maybeInt? x tol with
  | none => rw [maybeInt_of_none h, maybeInt_of_none h]
  | some k => rw [maybeInt_of_some h, maybeInt_intCast]

theorem floor_maybeInt (u tol : Rat) :
    (0 ≤ tol → ((maybeInt u tol).floor : Rat) ≤ u + tol) ∧ u - 1 < (maybeInt u tol).floor ∧
      (0 < tol → ((maybeInt u tol).floor : Rat) < u + tol) := by
  cases h : maybeInt? u tol with
  | none =>
    rw [maybeInt_of_none h]
    obtain ⟨h1, h2⟩ := floor_bounds u
    exact ⟨fun ht => by linear_combination h1 + ht, by linear_combination h2, fun h => by linear_combination h1 + h⟩
  | some k =>
    rw [maybeInt_of_some h, Rat.floor_intCast]
    obtain ⟨_, h1, h2⟩ := maybeInt?_some h
    have h1' := (abs_lt.mp h1).1
    exact ⟨fun _ => by linear_combination h1'.le, by linarith only [(abs_le.mp h2).2], fun _ => by linear_combination h1'⟩

theorem ceil_maybeInt (u tol : Rat) :
    (0 ≤ tol → u - tol ≤ ((maybeInt u tol).ceil : Rat)) ∧ ((maybeInt u tol).ceil : Rat) < u + 1 := by
  cases h : maybeInt? u tol with
  | none =>
    rw [maybeInt_of_none h]
    exact ⟨fun ht => by linear_combination @Rat.le_ceil u + ht, by linear_combination @Rat.ceil_lt u⟩
  | some k =>
    rw [maybeInt_of_some h, Rat.ceil_intCast]
    obtain ⟨_, h1, h2⟩ := maybeInt?_some h
    exact ⟨fun _ => by linear_combination (abs_lt.mp h1).2.le, by linarith only [(abs_le.mp h2).1]⟩

theorem snapScale_of_ge {s tol : Rat} (h : 1 - tol ≤ |s|) : snapScale s tol = .ok (maybeInt s tol) := by
  unfold snapScale; rw [rabs_eq_abs, if_pos h]

theorem snapScale_of_lt {s tol : Rat} (h1 : |s| < 1 - tol) (h2 : |s| < tol) : snapScale s tol = .ok s := by
  unfold snapScale; rw [rabs_eq_abs, if_neg (not_le.mpr h1), if_pos h2]

/-- Between the two thresholds `1 / s` has modulus above one, so it does not snap to `0`. -/
theorem maybeInt?_inv_ne_zero {s tol : Rat} {k : Int} (h1 : |s| < 1 - tol) (h2 : tol ≤ |s|) (hs : s ≠ 0)
    (hm : maybeInt? (1 / s) tol = some k) : k ≠ 0 := by
  rintro rfl
  have h3 := (maybeInt?_some hm).2.1
  rw [Int.cast_zero, sub_zero, abs_div, abs_one, div_lt_iff₀ (abs_pos.mpr hs)] at h3
  rcases le_or_gt tol 0 with ht | ht
  · linarith only [h3, mul_nonpos_of_nonpos_of_nonneg ht (abs_nonneg s)]
  · linarith only [h3, h1, h2, mul_lt_mul_of_pos_left (by linarith only [h1, ht] : |s| < 1) ht]

theorem snapScale_mid {s tol : Rat} (h1 : |s| < 1 - tol) (h2 : tol ≤ |s|) (hs : s ≠ 0) :
    snapScale s tol = .ok (match maybeInt? (1 / s) tol with | none => s | some k => 1 / (k : Rat)) := by
  unfold snapScale
  rw [rabs_eq_abs, if_neg (not_le.mpr h1), if_neg (not_lt.mpr h2), if_neg hs]
  cases hm : maybeInt? (1 / s) tol with
  | none => rfl
  | some k => simp only [if_neg (maybeInt?_inv_ne_zero h1 h2 hs hm)]

theorem snapScale_cases {s tol r : Rat} (h : snapScale s tol = .ok r) :
    r = s ∨ (∃ k : Int, r = k ∧ |s - k| < tol) ∨
      (∃ k : Int, k ≠ 0 ∧ s ≠ 0 ∧ r = 1 / (k : Rat) ∧ |1 / s - k| < tol ∧ tol < 1 / 2 ∧ |s| < 1 - tol) := by
  rcases le_or_gt (1 - tol) |s| with h1 | h1
  · rw [snapScale_of_ge h1] at h
    obtain rfl := Except.ok.inj h
    cases hm : maybeInt? s tol with
    | none => exact .inl (maybeInt_of_none hm)
    | some k => exact .inr (.inl ⟨k, maybeInt_of_some hm, (maybeInt?_some hm).2.1⟩)
  · rcases lt_or_ge |s| tol with h2 | h2
    · rw [snapScale_of_lt h1 h2] at h
      exact .inl (Except.ok.inj h).symm
    · rcases eq_or_ne s 0 with rfl | hs
      · unfold snapScale at h
        rw [rabs_eq_abs, if_neg (not_le.mpr h1), if_neg (not_lt.mpr h2), if_pos rfl] at h
        cases h
      · rw [snapScale_mid h1 h2 hs] at h
        obtain rfl := Except.ok.inj h
        cases hm : maybeInt? (1 / s) tol with
        | none => exact .inl rfl
        | some k =>
          exact .inr (.inr ⟨k, maybeInt?_inv_ne_zero h1 h2 hs hm, hs, rfl, (maybeInt?_some hm).2.1,
            by linarith only [h1, h2], h1⟩)

/-- With a positive tolerance `snap_scale` never divides by zero. -/
theorem snapScale_total (s : Rat) {tol : Rat} (ht : 0 < tol) : ∃ r, snapScale s tol = .ok r := by
  rcases le_or_gt (1 - tol) |s| with h1 | h1
  · exact ⟨_, snapScale_of_ge h1⟩
  · rcases lt_or_ge |s| tol with h2 | h2
    · exact ⟨_, snapScale_of_lt h1 h2⟩
    · exact ⟨_, snapScale_mid h1 h2 (abs_pos.mp (ht.trans_le h2))⟩

/-- reciprocal branch of `snap_scale`: `1/s = w + p` with `|p| < tol`, `|s| < 1 - tol` ⇒ `|1/w - s| < tol`:
`1/w − s = s·p/w`, and `|w| ≥ |1/s| − |p| > (1 + tol) − tol = 1` (as `(1 + tol)(1 − tol) < 1`) -/
theorem recip_snap_close (s w p tol : Rat) (ht : 0 < tol) (hs0 : s ≠ 0) (hs : |s| < 1 - tol)
    (hz : 1 / s = w + p) (hp : |p| < tol) : |1 / w - s| < tol := by
  have hspos : 0 < |s| := abs_pos.2 hs0
  have hz1 : 1 + tol < |1 / s| := by
    rw [abs_div, abs_one, lt_div_iff₀ hspos]
    have h1 := mul_lt_mul_of_pos_left hs (add_pos one_pos ht)
    have h2 := mul_pos ht ht
    linarith only [h1, h2]
  have hw1 : 1 < |w| := by
    have h : |1 / s| ≤ |w| + |p| := by rw [hz]; exact abs_add_le w p
    linarith only [h, hz1, hp]
  have hw : 0 < |w| := zero_lt_one.trans hw1
  have hw0 : w ≠ 0 := abs_pos.1 hw
  have e : 1 / w - s = s * p / w := by
    have h1 : s * (w + p) = 1 := by rw [← hz]; exact mul_one_div_cancel hs0
    rw [eq_div_iff hw0, sub_mul, one_div_mul_cancel hw0]
    exact sub_eq_of_eq_add' (by rw [← mul_add]; exact h1.symm)
  rw [e, abs_div, abs_mul, div_lt_iff₀ hw]
  calc |s| * |p| ≤ 1 * |p| := mul_le_mul_of_nonneg_right (hs.trans (sub_lt_self 1 ht)).le (abs_nonneg p)
    _ < tol * |w| := by rw [one_mul]; exact lt_trans hp (lt_mul_of_one_lt_right ht hw1)

theorem snapScale_close {s tol r : Rat} (ht : 0 < tol) (h : snapScale s tol = .ok r) : |r - s| < tol := by
  rcases snapScale_cases h with rfl | ⟨k, rfl, hk⟩ | ⟨k, _, hs0, rfl, hk, _, hs⟩
  · rwa [sub_self, abs_zero]
  · rwa [abs_sub_comm]
  · exact recip_snap_close s k (1 / s - k) tol ht hs0 hs (add_sub_cancel _ _).symm hk

theorem snapScale_intCast (k : Int) {tol : Rat} (ht : 0 < tol) : snapScale (k : Rat) tol = .ok (k : Rat) := by
  rcases le_or_gt (1 - tol) |(k : Rat)| with h1 | h1
  · rw [snapScale_of_ge h1, maybeInt_intCast]
  · obtain rfl : k = 0 := by
      by_contra hk
      linarith only [one_le_abs_intCast hk, h1, ht]
    exact snapScale_of_lt h1 (by rwa [Int.cast_zero, abs_zero])

theorem snapScale_inv_intCast {k : Int} (hk : k ≠ 0) {tol : Rat} (ht : 0 < tol) (ht2 : tol < 1 / 2) :
    snapScale (1 / (k : Rat)) tol = .ok (1 / (k : Rat)) := by
  have hkq : (k : Rat) ≠ 0 := by exact_mod_cast hk
  by_cases hone : |k| = 1
  · have : (1 : Rat) / k = k := by
      rcases (abs_eq (by norm_num : (0 : Int) ≤ 1)).mp hone with h | h <;> rw [h] <;> norm_num
    rw [this]; exact snapScale_intCast k ht
  · have hk2 : (2 : Rat) ≤ |(k : Rat)| := by
      have : (2 : Int) ≤ |k| := by have := Int.one_le_abs hk; omega
      exact_mod_cast this
    have h1 : |(1 : Rat) / k| < 1 - tol := by
      rw [abs_div, abs_one, div_lt_iff₀ (by linarith only [hk2])]
      linarith only [mul_le_mul_of_nonneg_left hk2 (by linarith only [ht2] : 0 ≤ 1 - tol), ht2]
    rcases lt_or_ge |(1 : Rat) / k| tol with h2 | h2
    · exact snapScale_of_lt h1 h2
    · rw [snapScale_mid h1 h2 (one_div_ne_zero hkq), one_div_one_div, maybeInt?_intCast k ht]

theorem snapAffine_inv {A B : Aff} {ttol stol tol : Rat} (hr : ¬ (tol < |A.b| ∨ tol < |A.d|))
    (h : snapAffine A ttol stol tol = .ok B) :
    ∃ sx sy, snapScale A.a stol = .ok sx ∧ snapScale A.e stol = .ok sy ∧
      B = ⟨sx, 0, maybeInt A.c ttol, 0, sy, maybeInt A.f ttol⟩ := by
  unfold snapAffine at h
  rw [if_neg (by simpa [rabs_eq_abs] using hr)] at h
  cases h1 : snapScale A.a stol with
  | error e => rw [h1] at h; cases h
  | ok sx =>
    cases h2 : snapScale A.e stol with
    | error e => rw [h1, h2] at h; cases h
    | ok sy => rw [h1, h2] at h; cases h; exact ⟨sx, sy, rfl, rfl, rfl⟩

end OdcGeo.C20
