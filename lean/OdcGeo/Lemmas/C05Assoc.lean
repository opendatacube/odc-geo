/-
Association lists with string keys, as both option models write them (`C15.Dict`, `C05.CArgs`): lookup of the first entry and
the update that keeps an existing key in its place; the per-model lemmas are instances (the models' `get` / `set` have
these very bodies, so the instances hold by unfolding).
-/
namespace OdcGeo.Assoc
variable {α : Type}

/-- `c[k]` when present: the first entry wins -/
def get (c : List (String × α)) (k : String) : Option α := (c.find? (·.1 == k)).map (·.2)

/-- `c[k] = v`: an existing key keeps its position -/
def set (c : List (String × α)) (k : String) (v : α) : List (String × α) :=
  if c.any (·.1 == k) then c.map fun p => if p.1 == k then (k, v) else p else c ++ [(k, v)]

theorem get_cons (p : String × α) (c : List (String × α)) (k : String) :
    get (p :: c) k = if p.1 = k then some p.2 else get c k := by
  unfold get
  by_cases h : p.1 = k <;> simp [h]

theorem get_append (c e : List (String × α)) (k : String) :
    get (c ++ e) k = (get c k).or (get e k) := by
  rw [get, List.find?_append, Option.map_or]; rfl

theorem get_isSome (c : List (String × α)) (k : String) : (get c k).isSome = c.any (·.1 == k) := by
  rw [get, Option.isSome_map, Bool.eq_iff_iff, List.find?_isSome, List.any_eq_true]

theorem get_map (g : String → α → α) (c : List (String × α)) (k : String) :
    get (c.map fun p => (p.1, g p.1 p.2)) k = (get c k).map (g k) := by
  induction c with
  | nil => rfl
  | cons p c ih =>
    rw [List.map_cons, get_cons, get_cons, ih]
    by_cases h : p.1 = k
    · rw [if_pos h, if_pos h, h]; rfl
    · rw [if_neg h, if_neg h]

theorem get_set (c : List (String × α)) (k : String) (v : α) (k' : String) :
    get (set c k v) k' = if k' = k then some v else get c k' := by
  unfold set
  have hm : (fun p : String × α => if p.1 == k then (k, v) else p) = fun p => (p.1, if p.1 = k then v else p.2) := by
    funext p; by_cases h : p.1 = k <;> simp [h]
  rw [← get_isSome, hm]
  cases hg : get c k with
  | none =>
    rw [Option.isSome_none, if_neg Bool.false_ne_true, get_append, get_cons]
    by_cases h : k' = k
    · rw [h, hg, if_pos rfl, if_pos rfl]; rfl
    · rw [if_neg (Ne.symm h), if_neg h]; cases get c k' <;> rfl
  | some x =>
    rw [Option.isSome_some, if_pos rfl, get_map (fun k0 x => if k0 = k then v else x)]
    by_cases h : k' = k
    · rw [h, hg, if_pos rfl]; simp
    · rw [if_neg h]; cases get c k' <;> simp [h]
end OdcGeo.Assoc
