/- For C03: `decomposeRWS` (Model/C03Top) in closed form, `rwsClosed`, from which Props/C03Top reads its theorems. -/
import OdcGeo.Model.C03Top
import Mathlib.Tactic.Ring
import Mathlib.Tactic.FieldSimp
import Mathlib.Tactic.LinearCombination
import Mathlib.Algebra.Order.Field.Rat
namespace OdcGeo.C03
open OdcGeo.C17

/-- Second column of `A · (W S)⁻¹` for `A = [[a, b], [d, e]]`: `n` is the length of the first column, `h = |det A| / n`,
`σ` the sign of the determinant; the result is `σ` times the unit first column turned by a right angle. -/
theorem rws_cols (a b d e n h σ : Rat) (hn : n ≠ 0) (hh : h ≠ 0) (hroot : n * n = a * a + d * d)
    (hσ : h * n = σ * (a * e - b * d)) (hσ2 : σ * σ = 1) :
    a * (-((a * b + d * e) / n) / (n * h)) + b / h = -σ * d / n ∧
    d * (-((a * b + d * e) / n) / (n * h)) + e / h = σ * a / n := by
  constructor
  · field_simp
    linear_combination b * hroot + d * σ * hσ + d * (a * e - b * d) * hσ2
  · field_simp
    linear_combination e * hroot - a * σ * hσ - a * (a * e - b * d) * hσ2

/-- `-1` for negative `x`, `1` otherwise (applied to `det A ≠ 0`) -/
def sgn (x : Rat) : Rat := if x < 0 then -1 else 1

theorem sgn_sq (x : Rat) : sgn x * sgn x = 1 := by unfold sgn; split_ifs <;> norm_num
theorem rabs_eq_sgn_mul (x : Rat) : rabs x = sgn x * x := by unfold rabs sgn; split_ifs <;> ring

theorem sgn_lt_zero (x : Rat) : sgn x < 0 ↔ x < 0 := by unfold sgn; split_ifs with h <;> simp [h]

theorem rws_second_col {A : Aff} {n : Rat} (hn : 0 < n) (hroot : n * n = A.a * A.a + A.d * A.d) (hdet : A.det ≠ 0) :
    rwsR12 A n = -(sgn A.det) * A.d / n ∧ rwsR22 A n = sgn A.det * A.a / n := by
  have hn0 : n ≠ 0 := ne_of_gt hn
  have hh : rwsH A n ≠ 0 := by
    unfold rwsH
    apply div_ne_zero _ hn0
    rw [rabs_eq_sgn_mul]; apply mul_ne_zero _ hdet
    unfold sgn; split_ifs <;> norm_num
  have := rws_cols A.a A.b A.d A.e n (rwsH A n) (sgn A.det) hn0 hh hroot
    (by unfold rwsH; rw [rabs_eq_sgn_mul]; unfold Aff.det; field_simp) (sgn_sq _)
  exact this

theorem rwsFlip_iff {A : Aff} {n : Rat} (hn : 0 < n) (hroot : n * n = A.a * A.a + A.d * A.d) (hdet : A.det ≠ 0) :
    rwsFlip A n = decide (A.det < 0) := by
  obtain ⟨c1, c2⟩ := rws_second_col hn hroot hdet
  have hn0 : n ≠ 0 := ne_of_gt hn
  have : A.a / n * (sgn A.det * A.a / n) - -sgn A.det * A.d / n * (A.d / n) = sgn A.det := by
    field_simp
    linear_combination (-sgn A.det) * hroot
  rw [rwsFlip, c1, c2, this, decide_eq_decide, sgn_lt_zero]

/-- closed form of `decompose_rws`: `R` the rotation by the direction of the first column, `W` a unit shear, `S` the
scales `(n, det A / n)` (the second one negative for mirrored `A`) -/
def rwsClosed (A : Aff) (n : Rat) : RWS :=
  ⟨⟨A.a / n, -A.d / n, A.c, A.d / n, A.a / n, A.f⟩,
   ⟨1, (A.a * A.b + A.d * A.e) / A.det, 0, 0, 1, 0⟩, ⟨n, 0, 0, 0, A.det / n, 0⟩⟩

theorem decomposeRWS_closed {A : Aff} {n : Rat} (hn : 0 < n) (hroot : n * n = A.a * A.a + A.d * A.d)
    (hdet : A.det ≠ 0) :
    decomposeRWS A n = .ok (rwsClosed A n) := by
  have hn0 : n ≠ 0 := ne_of_gt hn
  obtain ⟨c1, c2⟩ := rws_second_col hn hroot hdet
  have hs : (if rwsFlip A n = true then (-1 : Rat) else 1) = sgn A.det := by
    rw [rwsFlip_iff hn hroot hdet, sgn]; simp only [decide_eq_true_eq]
  have hh : sgn A.det * rwsH A n = A.det / n := by
    rw [rwsH, rabs_eq_sgn_mul, ← mul_div_assoc, ← mul_assoc, sgn_sq, one_mul]
  have hh0 : A.det / n ≠ 0 := div_ne_zero hdet hn0
  have r12 : sgn A.det * (-sgn A.det * A.d / n) = -A.d / n := by
    rw [← mul_div_assoc, neg_mul, mul_neg, ← mul_assoc, sgn_sq, one_mul]
  have r22 : sgn A.det * (sgn A.det * A.a / n) = A.a / n := by
    rw [← mul_div_assoc, ← mul_assoc, sgn_sq, one_mul]
  have w12 : rwsM A n * (1 / (A.det / n)) = (A.a * A.b + A.d * A.e) / A.det := by
    rw [rwsM, one_div_div, div_mul_div_comm, mul_comm n, mul_div_mul_right _ _ hn0]
  rw [decomposeRWS, if_neg (by rintro (h | h); exact hn0 h; exact hdet h)]
  simp only [hs, hh, c1, c2, r12, r22, w12, mul_one_div_cancel hn0, mul_one_div_cancel hh0, rwsClosed]

theorem decomposeRWS_ok {A : Aff} {n : Rat} (hn : 0 < n) (hroot : n * n = A.a * A.a + A.d * A.d) {f : RWS}
    (h : decomposeRWS A n = .ok f) :
    A.det ≠ 0 ∧ f = rwsClosed A n := by
  have hdet : A.det ≠ 0 := fun hd => by rw [decomposeRWS, if_pos (Or.inr hd)] at h; cases h
  exact ⟨hdet, (Except.ok.inj ((decomposeRWS_closed hn hroot hdet).symm.trans h)).symm⟩

end OdcGeo.C03
