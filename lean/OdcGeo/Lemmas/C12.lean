/- Membership in `irange` / `product`; small facts on `clamp`, `min4` / `max4` (an affine form over a box lies between its corner
values: `affine_form_between`), pixel interiors (`within_of_pixel`), `rabs`; the closed box as a point set (`BBox.Has`). -/
import OdcGeo.Model.C12
import OdcGeo.Lemmas.Py
import OdcGeo.Lemmas.Between
import Mathlib.Algebra.Order.Field.Rat
namespace OdcGeo.C12
open OdcGeo OdcGeo.C17 OdcGeo.C04

theorem clamp_ok (x lo up : Int) (h : lo ≤ up) : clamp x lo up = .ok (max lo (min x up)) := by
  simp only [clamp, if_pos h]
  congr 1
  omega

theorem mem_irange (a b k : Int) : k ∈ irange a b ↔ a ≤ k ∧ k ≤ b := by
  simp only [irange, List.mem_map, List.mem_range]
  constructor
  · rintro ⟨n, hn, rfl⟩; omega
  · intro h; exact ⟨(k - a).toNat, by omega, by omega⟩

theorem mem_product (yy xx : List Int) (p : Int × Int) : p ∈ product yy xx ↔ p.1 ∈ yy ∧ p.2 ∈ xx := by
  simp only [product, List.mem_flatMap, List.mem_map]
  constructor
  · rintro ⟨y, hy, x, hx, rfl⟩; exact ⟨hy, hx⟩
  · rintro ⟨hy, hx⟩; exact ⟨p.1, hy, p.2, hx, rfl⟩

theorem min4_le (a b c d : Rat) : min4 a b c d ≤ a ∧ min4 a b c d ≤ b ∧ min4 a b c d ≤ c ∧ min4 a b c d ≤ d := by
  unfold min4
  exact ⟨le_trans (min_le_left _ _) (min_le_left _ _), le_trans (min_le_left _ _) (min_le_right _ _),
    le_trans (min_le_right _ _) (min_le_left _ _), le_trans (min_le_right _ _) (min_le_right _ _)⟩

theorem le_max4 (a b c d : Rat) : a ≤ max4 a b c d ∧ b ≤ max4 a b c d ∧ c ≤ max4 a b c d ∧ d ≤ max4 a b c d := by
  unfold max4
  exact ⟨le_trans (le_max_left _ _) (le_max_left _ _), le_trans (le_max_right _ _) (le_max_left _ _),
    le_trans (le_max_left _ _) (le_max_right _ _), le_trans (le_max_right _ _) (le_max_right _ _)⟩

theorem affine_form_between (a b c x1 x2 y1 y2 u v : Rat) (hu : x1 ≤ u ∧ u ≤ x2) (hv : y1 ≤ v ∧ v ≤ y2) :
    let f := fun x y => a * x + b * y + c
    min4 (f x1 y1) (f x1 y2) (f x2 y1) (f x2 y2) ≤ f u v ∧ f u v ≤ max4 (f x1 y1) (f x1 y2) (f x2 y1) (f x2 y2) := by
  intro f
  have m := min4_le (f x1 y1) (f x1 y2) (f x2 y1) (f x2 y2)
  have M := le_max4 (f x1 y1) (f x1 y2) (f x2 y1) (f x2 y2)
  exact affine_between hu hv ⟨m.1, M.1⟩ ⟨m.2.2.1, M.2.2.1⟩ ⟨m.2.2.2, M.2.2.2⟩ ⟨m.2.1, M.2.1⟩

theorem within_of_pixel {a b j : Int} {x : Rat} (h : a ≤ j ∧ j < b) (hx : (j : Rat) < x ∧ x < j + 1) :
    (a : Rat) ≤ x ∧ x ≤ b := by
  have h2 : (j : Rat) + 1 ≤ b := by exact_mod_cast h.2
  exact ⟨le_trans (Int.cast_le.2 h.1) hx.1.le, le_trans hx.2.le h2⟩

theorem rabs_eq_abs (x : Rat) : rabs x = |x| := Gen.Py.absR_eq_abs x

def BBox.Has (b : BBox) (p : Rat × Rat) : Prop := (b.x1 ≤ p.1 ∧ p.1 ≤ b.x2) ∧ (b.y1 ≤ p.2 ∧ p.2 ≤ b.y2)

end OdcGeo.C12
