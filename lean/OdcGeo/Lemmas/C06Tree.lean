/-
C06: the invariant along every merge tree, with and without a writer.
-/
import OdcGeo.Lemmas.C06Inv


namespace OdcGeo.C06
variable {α : Type}

/-- `chunksBytes` / `chunksObs` are `Tree.bytes` / `Tree.obs` of `.leaf chunks` by definition; the leaf case of `eval_inv`
uses that silently -/
def chunksBytes (chunks : List (List α × Int)) : List α := (chunks.map (·.1)).flatten
def chunksObs (chunks : List (List α × Int)) : List (Nat × Int) := chunks.map (fun ch => (ch.1.length, ch.2))

variable {W : Writer} {spill : Nat} {c : Chunk α} {lo hi : Nat} {B : List α} {O : List (Nat × Int)}

theorem appendStep_inv {ws : List (Part α)}
    (h : Inv W c lo hi B O false) (hp : c.parts = ws) (ch : List α × Int) :
    ∃ c' ws', appendStep (some W) spill (.ok (c, ws)) ch = .ok (c', ws') ∧
      Inv W c' lo hi (B ++ ch.1) (O ++ [(ch.1.length, ch.2)]) false ∧ c'.parts = ws' := by
  have h1 := append_inv h ch.1 ch.2
  obtain ⟨c2, ws2, e, h2, hp2⟩ := maybeWrite_inv spill h1
  simp only [appendStep, e]
  split
  · exact ⟨_, _, rfl, h1, hp⟩
  · exact ⟨_, _, rfl, h2, hp2.trans (congrArg (· ++ ws2) hp)⟩

theorem foldl_appendStep_inv {ws : List (Part α)} (chunks : List (List α × Int))
    (h : Inv W c lo hi B O false) (hp : c.parts = ws) :
    ∃ c' ws', chunks.foldl (appendStep (some W) spill) (.ok (c, ws)) = .ok (c', ws') ∧
      Inv W c' lo hi (B ++ chunksBytes chunks) (O ++ chunksObs chunks) false ∧ c'.parts = ws' := by
  induction chunks generalizing c ws B O with
  | nil => exact ⟨c, ws, rfl, by simpa [chunksBytes, chunksObs] using h, hp⟩
  | cons ch rest ih =>
    obtain ⟨c1, ws1, e1, h1, hp1⟩ := appendStep_inv (spill := spill) h hp ch
    obtain ⟨c2, ws2, e2, h2, hp2⟩ := ih h1 hp1
    exact ⟨c2, ws2, by rw [List.foldl_cons, e1, e2], by simpa [chunksBytes, chunksObs, List.append_assoc] using h2, hp2⟩

theorem mkChunk_inv (W : Writer) (lo : Nat) (wpc : Nat) (fin : Bool) :
    Inv W ({ (mkChunk lo wpc fin W.minWrite : Chunk α) with isFinal := false }) lo (lo + wpc) [] [] false :=
  ⟨rfl, rfl, rfl, rfl, (Int.natCast_add lo wpc).symm, le_refl lo, Int.natCast_nonneg wpc, fun _ => ⟨rfl, rfl⟩,
    fun h => absurd rfl h, fun h => absurd rfl h, fun h => absurd rfl h, PartsOk.nil lo lo, fun _ hp => nomatch hp⟩

theorem setFinal_inv (h : Inv W c lo hi B O false) (fin : Bool) :
    Inv W { c with isFinal := fin } lo hi B O fin :=
  { h with
    fin_eq := rfl
    started_nonfinal := fun hs _ => h.started_nonfinal hs h.fin_eq
    started_final := fun hs _ _ => (h.started_nonfinal hs h.fin_eq).1 }

theorem appendChunksOp_inv (W : Writer) (spill lo wpc : Nat) (fin : Bool) (chunks : List (List α × Int)) :
    ∃ c ws, appendChunksOp (some W) spill (mkChunk lo wpc fin W.minWrite : Chunk α) chunks = .ok (c, ws) ∧
      Inv W c lo (lo + wpc) (chunksBytes chunks) (chunksObs chunks) fin ∧ c.parts = ws := by
  obtain ⟨c', ws', e, h, hp⟩ :=
    foldl_appendStep_inv (spill := spill) (ws := []) chunks (mkChunk_inv (α := α) W lo wpc fin) rfl
  simp only [appendChunksOp, e]
  exact ⟨_, _, rfl, by simpa [mkChunk] using setFinal_inv h fin, hp⟩

/-- every partition holds at least one chunk (the property's quantifier) -/
def Tree.NonEmpty : Tree α → Prop
  | .leaf chunks => chunks ≠ []
  | .node l r => l.NonEmpty ∧ r.NonEmpty

theorem Tree.leaves_pos (t : Tree α) : 1 ≤ t.leaves := by
  induction t with
  | leaf _ => simp [Tree.leaves]
  | node l r ihl ihr => simp only [Tree.leaves]; omega

theorem Tree.obs_ne_nil (t : Tree α) (h : t.NonEmpty) : t.obs.length ≠ 0 := by
  induction t with
  | leaf chunks => simp only [Tree.obs, List.length_map]; cases chunks <;> simp_all [Tree.NonEmpty]
  | node l r ihl ihr => simp only [Tree.obs, List.length_append]; have := ihl h.1; omega

theorem perm4 {β : Type} (a b c d : List β) : List.Perm (a ++ b ++ (c ++ d)) (a ++ c ++ b ++ d) := by
  simp only [List.append_assoc]
  apply List.Perm.append_left
  rw [← List.append_assoc, ← List.append_assoc]
  apply List.Perm.append_right
  exact List.perm_append_comm

/-- partition `i` owns the part numbers `[base i, base (i + 1))`: `n` partitions take `n * wpc` numbers -/
theorem base_add (cfg : Cfg) (i n : Nat) : cfg.base (i + n) = cfg.base i + n * cfg.wpc := by
  rw [Cfg.base, Cfg.base, Nat.add_mul, ← Nat.add_assoc]

theorem base_succ (cfg : Cfg) (i : Nat) : cfg.base (i + 1) = cfg.base i + cfg.wpc := by
  rw [base_add, Nat.one_mul]

theorem base_mono (cfg : Cfg) {i j : Nat} (h : i ≤ j) : cfg.base i ≤ cfg.base j := by
  obtain ⟨n, rfl⟩ := Nat.exists_eq_add_of_le h
  rw [base_add]
  exact Nat.le_add_right _ _

theorem mergeAndSpill_inv {l r : Chunk α} {mid : Nat} {Bl Br : List α} {Ol Or : List (Nat × Int)} {fin : Bool}
    (hl : Inv W l lo mid Bl Ol false) (hr : Inv W r mid hi Br Or fin)
    (hminP : W.minPart < lo) (hmax : mid ≤ W.maxPart + 1) (hobs : (Ol ++ Or).length ≠ 0) :
    ∃ m wm ws', mergeAndSpill (some W) spill l r = .ok (m, wm ++ ws') ∧
      Inv W m lo hi (Bl ++ Br) (Ol ++ Or) fin ∧ m.parts = l.parts ++ wm ++ r.parts ++ ws' := by
  obtain ⟨m, wm, e, hm, hp⟩ := merge_inv hl hr hminP hmax hobs
  obtain ⟨m', ws', e', hm', hp'⟩ := maybeWrite_inv spill hm
  simp only [mergeAndSpill, e, e']
  split
  · exact ⟨m, wm, [], by rw [List.append_nil], hm, by rw [hp, List.append_nil]⟩
  · exact ⟨m', wm, ws', rfl, hm', by rw [hp', hp]⟩

/-- The writer calls of a subtree are a permutation of the chunk's parts, not equal to them: a merge node calls in the
order left, right, merge, spill, while the merged chunk stores left parts, merge parts, right parts, spill parts. -/
theorem eval_inv (cfg : Cfg) (W : Writer) (hW : cfg.writer = some W) (total : Nat)
    (hcap : cfg.base total ≤ W.maxPart + 1) (t : Tree α) :
    ∀ idx, idx + t.leaves ≤ total → t.NonEmpty →
    ∃ c ws, eval cfg total t idx = .ok (c, ws) ∧
      Inv W c (cfg.base idx) (cfg.base (idx + t.leaves)) t.bytes t.obs
        (cfg.markFinal && decide (idx + t.leaves = total)) ∧ List.Perm ws c.parts := by
  have hmp : cfg.minPart = W.minPart := by rw [Cfg.minPart, hW]
  induction t with
  | leaf chunks =>
    intro idx hle hne
    obtain ⟨c, ws, e, h, hp⟩ := appendChunksOp_inv (α := α) W cfg.spill (cfg.base idx) cfg.wpc
      (cfg.markFinal && decide (idx + 1 = total)) chunks
    refine ⟨c, ws, ?_, ?_, by rw [hp]⟩
    · rw [eval, hW, Cfg.lhsKeep, hW]; exact e
    · rw [← base_succ] at h; exact h
  | node l r ihl ihr =>
    intro idx hle hne
    simp only [Tree.leaves] at hle
    have hlp := l.leaves_pos
    have hrp := r.leaves_pos
    obtain ⟨cl, wl, el, hl, pl⟩ := ihl idx (by omega) hne.1
    obtain ⟨cr, wr, er, hr, pr⟩ := ihr (idx + l.leaves) (by omega) hne.2
    rw [decide_eq_false (by omega), Bool.and_false] at hl
    have hminP : W.minPart < cfg.base idx := by rw [Cfg.base, hmp]; omega
    have hmax : cfg.base (idx + l.leaves) ≤ W.maxPart + 1 := le_trans (base_mono _ (by omega)) hcap
    have hobs : (l.obs ++ r.obs).length ≠ 0 := (Tree.node l r).obs_ne_nil hne
    obtain ⟨m, wm, ws', e, hm, hp⟩ := mergeAndSpill_inv (spill := cfg.spill) hl hr hminP hmax hobs
    refine ⟨m, wl ++ wr ++ (wm ++ ws'), ?_, ?_, ?_⟩
    · simp only [eval, el, er, hW, e]
    · rw [Nat.add_assoc] at hm; exact hm
    · rw [hp]
      refine List.Perm.trans ?_ (perm4 cl.parts cr.parts wm ws')
      exact List.Perm.append (List.Perm.append pl pr) (List.Perm.refl _)

/-- invariant without a writer: nothing is ever written, everything stays in `data` -/
def NInv (c : Chunk α) (B : List α) (O : List (Nat × Int)) : Prop :=
  c.parts = [] ∧ c.left = [] ∧ c.data = B ∧ c.observed = O

theorem foldl_appendStep_none (spill : Nat) (chunks : List (List α × Int)) (c : Chunk α) :
    chunks.foldl (appendStep none spill) (.ok (c, [])) =
      .ok ({ c with data := c.data ++ chunksBytes chunks, observed := c.observed ++ chunksObs chunks }, []) := by
  induction chunks generalizing c with
  | nil => simp [chunksBytes, chunksObs]
  | cons ch rest ih =>
    rw [List.foldl_cons, show appendStep none spill (.ok (c, [])) ch = .ok (c.append ch.1 ch.2, []) from rfl, ih]
    simp [Chunk.append, chunksBytes, chunksObs, List.append_assoc]

theorem eval_none (spill wpc : Nat) (markFinal : Bool) (total : Nat) (t : Tree α) :
    ∀ idx, t.NonEmpty →
    ∃ c, eval ⟨none, spill, wpc, markFinal⟩ total t idx = .ok (c, []) ∧ NInv c t.bytes t.obs := by
  induction t with
  | leaf chunks =>
    intro idx _
    refine ⟨_, by simp only [eval, appendChunksOp, foldl_appendStep_none]; rfl, ?_⟩
    simp [NInv, mkChunk, Tree.bytes, Tree.obs, chunksBytes, chunksObs]
  | node l r ihl ihr =>
    intro idx hne
    obtain ⟨cl, el, hl1, hl2, hl3, hl4⟩ := ihl idx hne.1
    obtain ⟨cr, er, hr1, hr2, hr3, hr4⟩ := ihr (idx + l.leaves) hne.2
    have hobs : (cl.observed ++ cr.observed).length ≠ 0 := hl4 ▸ hr4 ▸ (Tree.node l r).obs_ne_nil hne
    refine ⟨_, by simp only [eval, el, er, mergeAndSpill, merge_of_unstarted none hobs hr1 hr2]; rfl, ?_⟩
    simp [NInv, hl1, hl2, hl3, hl4, hr3, hr4, Tree.bytes, Tree.obs]

end OdcGeo.C06
